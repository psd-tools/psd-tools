/-
C09, second half — "saving and reopening gives a tree with the same names, kinds, nesting, order".

Composition, at the level of record lists, of
  * the edit model (C09 / C10): the id-indexed store `TreeSt.State`, its invariant `Inv`, `history_refines`;
  * `Model/Reopen.lean`: `flattenState` = `_build_record_tree` run on the store, `forestOf` = the store read
    as an inductive forest, `storeRebuilt` / `storedPayloads` = where `_update_record` puts the rebuilt
    records and where `PSD._iter_layers` takes them from, `saveReopen` = `PSDImage.open(save(psd))`;
  * the parse / flatten model (C08): `parse` = `PSDImage._init`, `parse_flatten`, `kind_follows_blocks`.

Payload ids stand for the record object and its channel list (name, attributes, pixels: C16 / C07 / C01):
a node of the reopened tree carrying payload `x` carries the very record of the in-memory layer `x`.
The bytes between `save` and `open` (records → file → records) are C01's (`psd_roundtrip`):
`save_reopen_bytes` composes the two for a document that keeps its layers in `layer_info`, for any
reading of C01's record values that ignores the channel table (values have no identity: the payload
ids are supplied positionally). For `Lr16` / `Lr32` documents the records sit inside a tagged block
whose payload is opaque bytes in C01's skeleton; there the composition stays at the level of record
lists (`save_reopen_doc`).
-/
import PsdVerif.Props.C08
import PsdVerif.Props.C01
import PsdVerif.Lemmas.ReopenBytes
import PsdVerif.Lemmas.ReopenBridge
import PsdVerif.Lemmas.TreeRefine
import PsdVerif.Generated.Reopen

namespace PsdVerif.C09Reopen
open PsdVerif PsdVerif.Tree PsdVerif.TreeSt PsdVerif.Reopen

/-! ### The store read as a forest is faithful (the fuel — the number of live objects — suffices) -/

/-- **Fuel-free reading.** In a well-formed state the node read from the store for a live object `x`
is `x`'s own payload with, for a group, its bounding record, its class and the readings of its
children in list order. -/
theorem forest_node (E : RecEnv) (s : State) (i : Inv s) (x : Id) (hx : x < s.next) :
    nodeOf E s x =
      if s.cont x then .group x (boundId E x) (isArtboard s x) (forestOf E s x) else .layer x :=
  nodeOf_unfold i hx

/-- the nodes of the forest are exactly the objects listed below the document -/
theorem forest_nodes (E : RecEnv) (s : State) (i : Inv s) (d : Id) (n : Node) :
    Occurs n (forestOf E s d) ↔ ∃ x, Reach s d x ∧ n = nodeOf E s x :=
  ⟨fun h => occurs_forestOf i h d rfl, fun ⟨_, r, e⟩ => e ▸ reach_occurs i r⟩

/-- **Store bridge** (C08's `childrenOf`): the forest has the lists of the store — the document's
own list, and for every group listed below the document exactly its list, in order. -/
theorem forest_lists (E : RecEnv) (s : State) (i : Inv s) (d : Id) :
    childrenOf (forestOf E s d) none = some (s.children d) ∧
    ∀ g, Reach s d g → s.cont g = true → childrenOf (forestOf E s d) (some g) = some (s.children g) :=
  ⟨childrenOf_root i d, fun _ r hg => childrenOf_group i r hg⟩

/-! ### `_build_record_tree` on the store = `flatten` on the forest -/

/-- What `_build_record_tree(psd)` emits from the object graph is the flattening of the tree: for
every group its bounding record, its children bottom to top, then its own record. In particular
the traversal terminates (no `RecursionError` from a cycle) in every well-formed state. -/
theorem flatten_is_forest (E : RecEnv) (s : State) (d : Id) (i : Inv s) (ok : DocOk E s d) :
    flattenState E s d = .ok (flatten (forestOf E s d)) := flattenState_eq i ok

/-- **Save, then reopen** (record lists): the records `save` rebuilds from a well-formed tree are
accepted by the constructor, and the tree it builds is the in-memory tree: same nesting, same order,
every node carrying the payload (record + channels: name, kind-deciding blocks, attributes, pixels)
of the layer it came from. -/
theorem save_reopen (E : RecEnv) (s : State) (d : Id) (i : Inv s) (ok : DocOk E s d) :
    ∃ rs, flattenState E s d = .ok rs ∧ parse rs = .ok (forestOf E s d) :=
  ⟨_, flattenState_eq i ok, C08.parse_flatten _⟩

/-- The bounding-record hypothesis is needed: a group whose `_bounding_record` is `None` (only the bare
constructor `Group(psd, record, channels, parent)` makes one) is listed like any other, and `save` fails. -/
theorem save_needs_bounding_record :
    let s := runState .current (State.empty 50) [.newDoc ⟨0, 0, 8, 8⟩, .newGroup (some 0)]
    flattenState ⟨fun _ => none, fun _ => ⟨none, none, false⟩, fun _ _ => false, fun _ => false⟩ s 0 =
      .error .attributeError := by decide +kernel

/-- The invariant is needed: in the state the unrepaired `g.extend([g])` left behind (a group listed in
itself, C10 `legacy_extend_self_cycle`) `_build_record_tree` does not terminate (`RecursionError`). -/
theorem save_needs_acyclic :
    let s := (step .legacy (runState .current (State.empty 50) [.newDoc ⟨0, 0, 8, 8⟩, .newGroup (some 0)])
      (.extend 1 [1])).1
    flattenState ⟨fun x => some (100 + x), fun _ => ⟨none, none, false⟩, fun _ _ => false, fun _ => false⟩ s 0 =
      .error .recursionError := by decide +kernel

/-! ### Where the rebuilt records are stored -/

/-- what `Model/Reopen.lean` assumes about `save`, `_update_record`, `PSD._get_layer_info`,
`PSD._iter_layers` and the loop head of `_init` is what the source says now (regenerated every run) -/
theorem storage_tied :
    Generated.Reopen.readerKeys = ["LAYER_16", "LAYER_32"] ∧
    Generated.Reopen.readerFallback = "self.layer_and_mask_information.layer_info" ∧
    Generated.Reopen.iterSource = "self._get_layer_info()" ∧
    Generated.Reopen.initSource = "self._record._iter_layers()" ∧
    Generated.Reopen.saveFirst = "self._update_record()" ∧
    Generated.Reopen.rebuildGuard = "not self._updated_layers" ∧
    Generated.Reopen.rebuildCall = "_build_record_tree(self)" ∧
    Generated.Reopen.createsLayerInfo = true ∧
    Generated.Reopen.writerStores = [("layer_records", "layer_records"),
      ("channel_image_data", "channel_image_data"), ("layer_count", "len(layer_records)")] :=
  ⟨rfl, rfl, rfl, rfl, rfl, rfl, rfl, rfl, rfl⟩

/-- … and about `_build_record_tree`: for a `Group` / `Artboard` the bounding record, the recursive
call's records, then — for every layer — its own record; the channel lists move in parallel -/
theorem build_record_tree_tied :
    Generated.Reopen.loopOver = "for layer in layer_group" ∧
    Generated.Reopen.groupClasses = ["Group", "Artboard"] ∧
    Generated.Reopen.recordSteps = ["group:append(layer._bounding_record)", "group:recurse(layer)",
      "group:extend(tmp_layer_records)", "append(layer._record)"] ∧
    Generated.Reopen.channelSteps = ["group:append(layer._bounding_channels)", "group:recurse(layer)",
      "group:extend(tmp_channel_image_data)", "append(layer._channels)"] ∧
    Generated.Reopen.returns = "(layer_records, channel_image_data)" :=
  ⟨rfl, rfl, rfl, rfl, rfl⟩

/-- **Stored where read.** Whatever the section looks like (no `layer_info` yet, an `Lr16` or `Lr32`
block, both), the records `_update_record` stores are the records `_iter_layers` yields — for the
accessor the source uses now. -/
theorem stored_where_read (m : Sections) (ps : List Nat) :
    storedPayloads (storeRebuilt Generated.Reopen.writerViaReader m ps) = ps := by
  rw [show Generated.Reopen.writerViaReader = true from rfl]
  obtain ⟨li, a, b⟩ := m
  cases li <;> cases a <;> cases b <;> rfl

/-- Before 5290e33 the rebuilt records always went to `layer_info`: in a document that keeps its layers
in `Lr16` the reader went on seeing the old ones (three layers, not four: every structural edit of a
16 / 32-bit document was dropped by `save()`) … -/
theorem legacy_stored_elsewhere :
    storedPayloads (storeRebuilt false ⟨some [], some [1, 2, 3], none⟩ [1, 2, 3, 4]) = [1, 2, 3] := by decide +kernel

/-- … and was right exactly for the documents without such a block (8-bit). -/
theorem legacy_stored_where_read_partial (m : Sections) (ps : List Nat) (h16 : m.lr16 = none) (h32 : m.lr32 = none) :
    storedPayloads (storeRebuilt false m ps) = ps := by
  obtain ⟨li, a, b⟩ := m
  simp only at h16 h32
  subst h16 h32
  cases li <;> rfl

/-! ### The whole of `PSDImage.open(save(psd))` on record lists -/

/-- **Save + reopen of a document.** `save` rebuilds the records when the document was edited
(`_updated_layers`), stores them, and `open` reads them from the same place, classifies every record
by its divider blocks and runs the stack algorithm: the result is the in-memory tree. For a document
that was not edited the stored records are left alone; they are still those of the tree (`hsync`:
nothing but the operations that set the flag changes the lists). -/
theorem save_reopen_doc (E : RecEnv) (s : State) (d : Id) (m : Sections) (i : Inv s) (ok : DocOk E s d)
    (cl : Classified E s d)
    (hsync : s.dirty d = false → storedPayloads m = (flatten (forestOf E s d)).map Rec.payload) :
    saveReopen Generated.Reopen.writerViaReader E s d m = .ok (forestOf E s d) := by
  unfold saveReopen saveDoc
  cases hd : s.dirty d with
  | true =>
    simp only [if_true, flattenState_eq i ok, openDoc, stored_where_read, reread_flatten i ok cl]
    exact C08.parse_flatten _
  | false =>
    simp only [Bool.false_eq_true, if_false, openDoc, hsync hd, reread_flatten i ok cl]
    exact C08.parse_flatten _

/-- the same pipeline with the pre-5290e33 writer loses the edit on the `Lr16` witness: the reopened
tree is the old one -/
theorem legacy_save_drops_edit :
    let s := runState .current (State.empty 50)
      [.newDoc ⟨0, 0, 8, 8⟩, .newLayer (some 0) ⟨0, 0, 2, 2⟩, .newLayer (some 0) ⟨0, 0, 2, 2⟩, .append 0 1, .append 0 2]
    let E : RecEnv := ⟨fun _ => none, fun _ => ⟨none, none, false⟩, fun _ _ => false, fun _ => false⟩
    (flattenState E s 0 = .ok [.leaf 1, .leaf 2]) ∧
    (saveReopen false E s 0 ⟨some [], some [1], none⟩).toOption.map flatten = some [.leaf 1] ∧
    (saveReopen true E s 0 ⟨some [], some [1], none⟩).toOption.map flatten = some [.leaf 1, .leaf 2] := by
  decide +kernel

/-! ### Through the bytes (C01) -/

/-- **Save + reopen through the file** (8-bit layout). Let the well-formed C01 document `x` hold, in
`layer_info`, the records `save` rebuilt: record values `rs` which — read by any classification `role`
that ignores the channel table, the `k`-th value being given the payload id `ps[k]` — are the rebuilt
record list. Then the written bytes are read back (`psd_roundtrip`) to a document whose records, read
the same way, parse to the in-memory tree, with the same channel data. (The writer refreshes
`channel_info.length` in place; nothing else of a record changes.) -/
theorem save_reopen_bytes (role : Psd.LayerRecord → Nat → Rec) (hrole : ChannelBlind role)
    (E : RecEnv) (s : State) (d : Id) (i : Inv s) (ok : DocOk E s d)
    (pad : Nat) (x : Psd.PSD) (hwf : x.WF pad) (li : Psd.LayerInfo) (rs : List Psd.LayerRecord) (ps : List Nat)
    (hli : x.layerAndMask.layerInfo = some li) (hrs : li.records = some rs)
    (hstored : flattenState E s d = .ok (List.zipWith role rs ps))
    (bs : List UInt8) (henc : Psd.PSD.enc pad x = .ok bs) :
    ∃ x' li' rs', Psd.PSD.read bs 0 = .ok (x', bs.length) ∧ x'.layerAndMask.layerInfo = some li' ∧
      li'.records = some rs' ∧ li'.channels = li.channels ∧
      parse (List.zipWith role rs' ps) = .ok (forestOf E s d) := by
  obtain ⟨rs', h1, h2, h3⟩ := refresh_records_role hrole li rs hrs
  refine ⟨x.refresh, li.refresh, rs', C01.psd_roundtrip pad x hwf bs henc, ?_, h1, h2, ?_⟩
  · simp [Psd.PSD.refresh, hli]
  · rw [h3 ps]
    have := flattenState_eq i ok
    rw [hstored] at this
    rw [Except.ok.inj this]
    exact C08.parse_flatten _

/-! ### After an edit history -/

/-- **Edit history, save, reopen.** After any guarded history from a well-formed tree (C09
`history_refines`, C10 `inv_history`) the saved records reopen, and the nesting of the reopened tree
is the replay of the accepted operations on plain lists: the document's list, and the list of every
group of the reopened tree, are the lists of the replay, in order. -/
theorem save_reopen_after_history (E : RecEnv) (s : State) (ops : List Op) (d : Id) (i : Inv s)
    (hg : Guarded .current s ops) (ok : DocOk E (runState .current s ops) d) :
    ∃ t rs F, Spec.runLists (abs s) (acceptedOps .current s ops) = .ok t ∧
      flattenState E (runState .current s ops) d = .ok rs ∧ parse rs = .ok F ∧
      idsOf F = t.lists d ∧
      ∀ c b a ch, Occurs (.group c b a ch) F → idsOf ch = t.lists c := by
  have i' := inv_run s ops i hg
  refine ⟨_, _, _, run_refines s ops i hg, flattenState_eq i' ok, C08.parse_flatten _, idsOf_forestOf i' d, ?_⟩
  intro c b a ch ho
  obtain ⟨x, rx, ex⟩ := occurs_forestOf i' ho d rfl
  obtain ⟨p, hp, _⟩ := rx.last
  rw [nodeOf_unfold i' (i'.live p x hp).2] at ex
  split at ex
  · cases ex
    exact idsOf_forestOf i' c
  · cases ex

/-! ### Kinds -/

/-- **Kinds after reopening.** A node of the reopened tree is a group / artboard exactly when the
in-memory object is one; for every other layer the kind the constructor chooses is a function of
the blocks of its (unchanged) record — C08's priority list. -/
theorem reopen_kinds (E : RecEnv) (s : State) (d : Id) (i : Inv s) (n : Node) (h : Occurs n (forestOf E s d)) :
    (∀ p, n = .layer p → s.cont p = false ∧
      kindAfterOpen Generated.TreeKinds.tables E n = C08.Spec.kind (E.has p) (E.pdi p)) ∧
    (∀ c b a ch, n = .group c b a ch → s.cont c = true ∧
      kindAfterOpen Generated.TreeKinds.tables E n = if s.kind c = .artboard then "artboard" else "group") := by
  obtain ⟨x, rx, ex⟩ := occurs_forestOf i h d rfl
  obtain ⟨q, hq, _⟩ := rx.last
  rw [nodeOf_unfold i (i.live q x hq).2] at ex
  refine ⟨?_, ?_⟩
  · intro p hp
    subst hp
    split at ex
    · cases ex
    · rename_i hc
      cases ex
      exact ⟨by simpa using hc, C08.kind_follows_blocks _ _⟩
  · intro c b a ch hn
    subst hn
    split at ex
    · rename_i hc
      cases ex
      refine ⟨hc, ?_⟩
      simp only [kindAfterOpen, isArtboard]
      cases hk : s.kind x <;> rfl
    · cases ex

/-! ### Non-vacuity -/

/-- document 0 lists [1, 2]; group 2 lists [4, 3] (4 an empty group made by `Group.new`, 3 a layer) -/
def demoOps : List Op :=
  [.newDoc ⟨0, 0, 8, 8⟩, .newLayer (some 0) ⟨0, 0, 2, 2⟩, .newGroup (some 0), .newLayer (some 0) ⟨1, 1, 3, 3⟩,
   .moveToGroup 1 0, .newGroup (some 2), .moveToGroup 3 2, .moveDown 1 1]

def demo : State := runState .current (State.empty 50) demoOps

/-- every group has a bounding record (payload `100 + id`); the own records of the groups carry an
open-folder divider, the bounding records a bounding divider, the other records none -/
def demoEnv : RecEnv :=
  ⟨fun x => some (100 + x),
   fun p => if p ≥ 100 then ⟨some .bounding, none, false⟩ else if p = 2 ∨ p = 4 then ⟨some .openFolder, none, false⟩
            else ⟨none, none, false⟩,
   fun _ _ => false, fun _ => false⟩

theorem demo_guarded : Guarded .current (State.empty 50) demoOps :=
  ⟨trivial, by decide, trivial, by decide, trivial, by decide, trivial, by decide, trivial, by decide,
   trivial, by decide, trivial, by decide, trivial, by decide, trivial⟩

theorem demo_inv : Inv demo := inv_run _ _ (inv_empty 50) demo_guarded

theorem demo_docOk : DocOk demoEnv demo 0 := fun _ _ _ => rfl

/-- the hypotheses of `save_reopen` / `save_reopen_after_history` are satisfiable, and this is what they give -/
example : (demo.children 0, demo.children 2, demo.children 4) = ([1, 2], [4, 3], []) ∧
    flattenState demoEnv demo 0 =
      .ok [.leaf 1, .bounding 102, .bounding 104, .closing 4 false, .leaf 3, .closing 2 false] := by decide +kernel

example : parse [.leaf 1, .bounding 102, .bounding 104, .closing 4 false, .leaf 3, .closing 2 false] =
    .ok [.layer 1, .group 2 102 false [.group 4 104 false [], .layer 3]] := by rfl

example : ∃ rs, flattenState demoEnv demo 0 = .ok rs ∧ parse rs = .ok (forestOf demoEnv demo 0) :=
  save_reopen demoEnv demo 0 demo_inv demo_docOk

/-- `Classified` is satisfiable: the records of `demo` carry the dividers that go with their classes -/
theorem demo_classified : Classified demoEnv demo 0 := by
  have hreach : ∀ x, Reach demo 0 x → x = 1 ∨ x = 2 ∨ x = 3 ∨ x = 4 := by
    intro x r
    obtain ⟨c, hc, _⟩ := r.last
    have hx5 : x < 5 := (demo_inv.live c x hc).2
    have h0 : x ≠ 0 := by
      intro e; subst e
      exact demo_inv.layerOnly c 0 hc (by decide)
    match x, hx5, h0 with
    | 0, _, h => exact absurd rfl h
    | 1, _, _ => exact .inl rfl
    | 2, _, _ => exact .inr (.inl rfl)
    | 3, _, _ => exact .inr (.inr (.inl rfl))
    | 4, _, _ => exact .inr (.inr (.inr rfl))
    | n + 5, h, _ => exact absurd h (Nat.not_lt.mpr (Nat.le_add_left 5 n))
  have mem : ∀ x, Reach demo 0 x → x ∈ [1, 2, 3, 4] := by
    intro x r
    rcases hreach x r with rfl | rfl | rfl | rfl <;> simp
  have all : ∀ x ∈ [1, 2, 3, 4],
      (demo.cont x = false → reread demoEnv x = .leaf x) ∧
      (demo.cont x = true → reread demoEnv x = .closing x (isArtboard demo x) ∧
        reread demoEnv (100 + x) = .bounding (100 + x)) := by
    decide +kernel
  refine ⟨fun x r hc => (all x (mem x r)).1 hc, fun x r hc => ((all x (mem x r)).2 hc).1, ?_⟩
  intro x b r hc hb
  cases hb
  exact ((all x (mem x r)).2 hc).2

example : saveReopen Generated.Reopen.writerViaReader demoEnv demo 0 ⟨none, some [7], none⟩ =
    .ok (forestOf demoEnv demo 0) :=
  save_reopen_doc demoEnv demo 0 _ demo_inv demo_docOk demo_classified (fun h => absurd h (by decide))

/-! non-vacuity of `save_reopen_bytes`: C01's sample document (a PSB; two nested groups, a masked layer)
holds the records of this tree -/

/-- the divider rule on C01's record values: the `lsct` block's kind (last byte of the big-endian
`u32`; 3 = bounding, 1 / 2 = open / closed folder) -/
def lsctRole (r : Psd.LayerRecord) (p : Nat) : Rec :=
  match r.taggedBlocks.find? (fun t => t.key == Psd.Samples.kLsct) with
  | some t => match t.data with
    | [0, 0, 0, 3] => .bounding p
    | 0 :: 0 :: 0 :: 1 :: _ => .closing p false
    | 0 :: 0 :: 0 :: 2 :: _ => .closing p false
    | _ => .leaf p
  | none => .leaf p

theorem lsctRole_channelBlind : ChannelBlind lsctRole := fun _ _ _ => rfl

/-- document 0 lists [1]; group 1 lists [2, 4]; group 2 lists [3] -/
def sampleOps : List Op :=
  [.newDoc ⟨0, 0, 4, 4⟩, .newGroup (some 0), .newGroup (some 1), .newLayer (some 0) ⟨1, 1, 2, 2⟩, .moveToGroup 3 2,
   .newLayer (some 0) ⟨0, 0, 4, 4⟩, .moveToGroup 4 1]

theorem sample_guarded : Guarded .current (State.empty 50) sampleOps :=
  ⟨trivial, by decide, trivial, by decide, trivial, by decide, trivial, by decide, trivial, by decide,
   trivial, by decide, trivial, by decide, trivial⟩

example : ∃ bs x' li' rs', Psd.PSD.enc 4 Psd.Samples.sampleDoc = .ok bs ∧ Psd.PSD.read bs 0 = .ok (x', bs.length) ∧
    x'.layerAndMask.layerInfo = some li' ∧ li'.records = some rs' ∧
    parse (List.zipWith lsctRole rs' [101, 102, 3, 2, 4, 1]) =
      .ok (forestOf demoEnv (runState .current (State.empty 50) sampleOps) 0) := by
  have henc := Psd.PSD.enc_of_wf C01.sample_wf
  obtain ⟨x', li', rs', h1, h2, h3, _, h5⟩ := save_reopen_bytes lsctRole lsctRole_channelBlind demoEnv
    (runState .current (State.empty 50) sampleOps) 0 (inv_run _ _ (inv_empty 50) sample_guarded) (fun _ _ _ => rfl)
    4 Psd.Samples.sampleDoc C01.sample_wf _ _ [101, 102, 3, 2, 4, 1] rfl rfl (by decide) _ henc
  exact ⟨_, x', li', rs', henc, h1, h2, h3, h5⟩

end PsdVerif.C09Reopen
