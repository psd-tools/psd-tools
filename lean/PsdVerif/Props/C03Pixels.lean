/-
C03 — the clauses about pixel data and section sizes, proved by COMPOSING the models of C03 (writer
skeleton + specification walker), C04 (`encode_rle` / `decode_rle`, containers), C05 (PackBits) and
C17 (merged image after an edit):

1. `rle_rowtable_shape` (+ `rle_rows_expand`, `channel_set_data_rle`, `image_set_data_rle`): what
   `encode_rle` emits is a table of exactly `h` big-endian entries (2 bytes in a PSD, 4 in a PSB), entry
   `i` = size of the PackBits encoding of row `i`, followed by the rows; the entries sum to the
   compressed size; each row expands (specification decoder of C05) to `rowSize` bytes.
2. `channel_length_is_stored_size`, `walker_channel_boundaries`: after `_update_channel_length` every
   `ChannelInfo.length` is 2 + the stored channel data, and the walker, stepping by these lengths,
   delimits exactly `compression ++ data` of each channel and lands on the next one.
3. `sections_add_up`, `lengths_truthful`, `prefix_*`: the five sections add up to the file size; every
   `(offset, length, kind)` the walker reports delimits exactly the encoding of the corresponding
   sub-value; every length prefix is the size of what follows it, up to the documented padding.
4. `merged_rle_table`: the merged image written after a structural edit with RLE has
   `header.channels · height` table entries.

The lemmas are in `Lemmas/C03Pixels*.lean` and `Lemmas/Walker*.lean`.
-/
import PsdVerif.Lemmas.C03PixelsRle
import PsdVerif.Lemmas.C03PixelsLengths
import PsdVerif.Props.C03
import PsdVerif.Props.C04
import PsdVerif.Props.C05
import PsdVerif.Props.C17
import PsdVerif.Generated.C03Save

namespace PsdVerif.C03Pixels
open PsdVerif

section RowTables
open PsdVerif.Rle PsdVerif.Compression

/-- **rle_rowtable_shape.** Whenever `encode_rle` returns (`bs`): the stream is a table followed by the
rows; the table has exactly `h` entries of 2 (version 1) or 4 (version 2) bytes; entry `i`, read as
`decode_rle` reads it, is the size of the PackBits encoding of raw row `i` (and fits the item); the
entries sum to the size of what follows the table, i.e. `bs.length − h · k`; and each row is a
stream the *specification* decoder expands to raw row `i`. No hypothesis. -/
theorem rle_rowtable_shape (d : BList) (w h depth version : Nat) (bs : BList)
    (he : encodeRle d w h depth version = .ok bs) :
    ∃ k, tableItem version = .ok k ∧ (version = 1 → k = 2) ∧ (version = 2 → k = 4) ∧
      RowTableStream k h (packedRows (rowSize w depth) h d) bs ∧
      (∀ i, i < h → tableEntry k bs i = (encPy (rawRow (rowSize w depth) d i).toArray).length) ∧
      (∀ i, i < h → specDec (encPy (rawRow (rowSize w depth) d i).toArray) = some (rawRow (rowSize w depth) d i)) := by
  obtain ⟨k, hk, hfit, rfl⟩ := encodeRle_ok he
  obtain ⟨v1, v2, _⟩ := tableItem_version hk
  have hs := rowTableStream_intro k (packedRows (rowSize w depth) h d) hfit
  rw [length_packedRows] at hs
  refine ⟨k, hk, v1, v2, hs, ?_, ?_⟩
  · intro i hi
    apply hs.2.2.2.2.2.1 i
    simp [packedRows, List.getElem?_map, List.getElem?_range hi]
  · intro i _
    simpa using C05.spec_decodes_enc (rawRow (rowSize w depth) d i).toArray

/-- … for a raster that follows the row geometry (the hypothesis `rle_image_roundtrip` of C04 carries):
each of the `h` rows expands to exactly `rowSize w depth` bytes, the expansions joined are the raster,
and `decode_rle` returns it. -/
theorem rle_rows_expand (d : BList) (w h depth version : Nat) (bs : BList)
    (he : encodeRle d w h depth version = .ok bs) (hl : d.length = rowSize w depth * h) :
    (∀ i, i < h → ∃ row, specDec (encPy (rawRow (rowSize w depth) d i).toArray) = some row ∧
        row.length = rowSize w depth) ∧
      ((List.range h).map (rawRow (rowSize w depth) d)).flatten = d ∧
      decodeRle bs w h depth version = .ok d := by
  refine ⟨?_, rawRows_flatten _ h d hl, ?_⟩
  · intro i hi
    exact ⟨_, by simpa using C05.spec_decodes_enc (rawRow (rowSize w depth) d i).toArray,
      length_rawRow _ h d hl i hi⟩
  · obtain ⟨k, hk, hfit, _⟩ := encodeRle_ok he
    obtain ⟨e, h1, h2⟩ := C04.rle_image_roundtrip d w h depth version hl
      ⟨k, hk, by rw [encRows_eq_packedRows]; exact hfit⟩
    rw [he] at h1
    injection h1 with h1
    rw [h1]; exact h2

/-- the hypothesis of `rle_rows_expand` is needed: on a raster shorter than the geometry (`fp.read`
returns what is left) `encode_rle` still returns, and the last row expands to fewer bytes -/
theorem rle_short_raster_row :
    encodeRle [1, 2, 3] 2 2 8 1 = .ok [0, 3, 0, 2, 1, 1, 2, 0, 3] ∧
      specDec (encPy (rawRow (rowSize 2 8) [1, 2, 3] 1).toArray) = some [3] ∧ rowSize 2 8 = 2 := by
  decide +kernel

/-- the stream exists under the hypotheses of C04 (`rowsFit`: every row fits the table item) -/
theorem rle_rowtable_exists (d : BList) (w h depth version : Nat) (hl : d.length = rowSize w depth * h)
    (hfit : C04.rowsFit d w h depth version) : ∃ bs, encodeRle d w h depth version = .ok bs := by
  obtain ⟨e, h1, _⟩ := C04.rle_image_roundtrip d w h depth version hl hfit
  exact ⟨e, h1⟩

/-- the numbers `set_data` stores are members of the regenerated `Compression` tables -/
theorem codes_tied : ∀ c : Codec, code c ∈ Psd.G.compressions ∧ code c ∈ Psd.G.imageCompressions := by
  intro c; cases c <;> decide

/-- **`ChannelData.set_data`, compression = RLE**: the channel afterwards carries the code of RLE and,
as its `data`, a row-table stream with exactly `h` entries of `k` bytes whose sum is `data.length − h · k`. -/
theorem channel_set_data_rle (z : ZCodec) (d : BList) (w h depth version : Nat) (cd : Psd.ChannelData)
    (hs : setChannel z .rle d w h depth version = .ok cd) :
    cd.compression = 1 ∧ cd.WF ∧ encodeRle d w h depth version = .ok cd.data ∧
      ∃ k, tableItem version = .ok k ∧ RowTableStream k h (packedRows (rowSize w depth) h d) cd.data ∧
        cd.encT.length = 2 + h * k + ((packedRows (rowSize w depth) h d).map List.length).sum := by
  unfold setChannel channelSet compress at hs
  cases he : encodeRle d w h depth version with
  | error e => rw [he] at hs; cases hs
  | ok bs =>
    rw [he] at hs
    injection hs with hs
    subst hs
    obtain ⟨k, hk, _, _, hst, _, _⟩ := rle_rowtable_shape d w h depth version bs he
    refine ⟨rfl, (codes_tied .rle).1, rfl, k, hk, hst, ?_⟩
    have := hst.2.2.2.2.2.2.2
    rw [hst.2.2.2.2.1] at this
    rw [Psd.ChannelData.length_encT]
    simp only at this ⊢
    omega

/-- **`ImageData.set_data`, compression = RLE**: the section's data is a row-table stream with exactly
`channels · h` entries (all planes, plane after plane). -/
theorem image_set_data_rle (z : ZCodec) (planes : List BList) (w h channels depth version : Nat) (img : Psd.ImageData)
    (hs : setImage z .rle planes w h channels depth version = .ok img) :
    img.compression = 1 ∧ img.WF ∧ encodeRle planes.flatten w (h * channels) depth version = .ok img.data ∧
      ∃ k, tableItem version = .ok k ∧
        RowTableStream k (h * channels) (packedRows (rowSize w depth) (h * channels) planes.flatten) img.data := by
  unfold setImage imageSet compress at hs
  cases he : encodeRle planes.flatten w (h * channels) depth version with
  | error e => rw [he] at hs; cases hs
  | ok bs =>
    rw [he] at hs
    injection hs with hs
    subst hs
    obtain ⟨k, hk, _, _, hst, _, _⟩ := rle_rowtable_shape planes.flatten w (h * channels) depth version bs he
    exact ⟨rfl, (codes_tied .rle).2, rfl, k, hk, hst⟩

/-! non-vacuity: a 3×2 raster, 8 bits, PSD: the stream, its two table entries (4 = |02 07 07 07|… and 4),
their sum, the rows expanded by the specification decoder -/
example : encodeRle [7, 7, 7, 1, 2, 3] 3 2 8 1 = .ok [0, 2, 0, 4, 254, 7, 2, 1, 2, 3] := by decide +kernel
example : readVals 2 2 [0, 2, 0, 4, 254, 7, 2, 1, 2, 3] = [2, 4] ∧ [2, 4].sum = 10 - 2 * 2 := by decide +kernel
example : specDec [254, 7] = some [7, 7, 7] ∧ specDec [2, 1, 2, 3] = some [1, 2, 3] := by decide +kernel
/-- PSB: 4-byte entries -/
example : encodeRle [7, 7, 7, 1, 2, 3] 3 2 8 2 = .ok [0, 0, 0, 2, 0, 0, 0, 4, 254, 7, 2, 1, 2, 3] := by decide +kernel
example : setChannel C04.zId .rle [7, 7, 7, 1, 2, 3] 3 2 8 1 = .ok ⟨1, [0, 2, 0, 4, 254, 7, 2, 1, 2, 3]⟩ := by
  decide +kernel
/-- two planes of 2×1: 1 · 2 = 2 rows -/
example : setImage C04.zId .rle [[5, 5], [6, 9]] 2 1 2 8 1 = .ok ⟨1, [0, 2, 0, 3, 255, 5, 1, 6, 9]⟩ := by
  decide +kernel

end RowTables

section ChannelLengths
open PsdVerif.Codec PsdVerif.Psd PsdVerif.Walker

/-- **channel_length_is_stored_size.** A well-formed layer info that declares layers, in the state
`write()` leaves it in (`LayerInfo.refresh` = `_update_channel_length`, the state whose bytes are
emitted): record by record, channel by channel, `ChannelInfo.length = 2 + len(channel data)` — whatever
the compression of the channel; ids are untouched. In index form. -/
theorem channel_length_is_stored_size (v pad : Nat) (li : LayerInfo) (hwf : li.WF v pad) (h0 : li.layerCount ≠ 0) :
    ∃ rs css, li.refresh.records = some rs ∧ li.refresh.channels = some css ∧ li.channels = some css ∧
      LengthsMatch rs css ∧ rs.length = css.length ∧
      ∀ (i : Nat) (r : LayerRecord) (cs : List ChannelData), rs[i]? = some r → css[i]? = some cs →
        r.channelInfo.length = cs.length ∧
        ∀ (j : Nat) (ci : ChannelInfo) (c : ChannelData), r.channelInfo[j]? = some ci → cs[j]? = some c →
          ci.length = 2 + c.data.length := by
  obtain ⟨rs, css, _, hc, hshape, href⟩ := refresh_of_wf hwf h0
  have hm := refreshRecords_match rs css hshape
  exact ⟨refreshRecords rs css, css, by rw [href], by rw [href], hc, hm, hm.index.1, hm.index.2⟩

/-- the shape hypothesis (`WF`: one datum per channel info) is needed: `zip` stops at the shorter list,
a channel info without channel data keeps its stale length -/
theorem channel_length_stale_without_data :
    refreshCI [⟨0, 7⟩, ⟨1, 9⟩] [⟨0, [1, 2, 3]⟩] = [⟨0, 5⟩, ⟨1, 9⟩] ∧ ¬ ChannelsMatch [⟨0, 5⟩, ⟨1, 9⟩] [⟨0, [1, 2, 3]⟩] := by
  exact ⟨rfl, by simp [ChannelsMatch]⟩

/-- … for an RLE channel stored by `set_data`: the length the record declares is
2 + `h` table entries + the PackBits rows. -/
theorem rle_channel_length (z : Compression.ZCodec) (d : Compression.BList) (w h depth version : Nat)
    (cd : ChannelData) (ci : ChannelInfo)
    (hs : setChannel z .rle d w h depth version = .ok cd) (hm : ChannelsMatch [ci] [cd]) :
    ∃ k, Compression.tableItem version = .ok k ∧
      ci.length = 2 + h * k + ((packedRows (Compression.rowSize w depth) h d).map List.length).sum := by
  obtain ⟨_, _, _, k, hk, _, hlen⟩ := channel_set_data_rle z d w h depth version cd hs
  refine ⟨k, hk, ?_⟩
  simp only [ChannelsMatch, and_true] at hm
  rw [ChannelData.length_encT] at hlen
  omega

/-- **walker_channel_boundaries.** The walker's channel loop, fed with the lengths the refreshed records
declare, on a file that holds the channel image data at `p`: it reports, for every stored channel in
order, the region `(offset, 2 + len(data))` — which delimits exactly `compression ++ data` of that
channel; the first region starts at `p`, each next one where the previous one ended (the per-channel step
lands exactly on the next channel) — and ends exactly behind the last channel. Connects `C03.channel_lengths` (= `declared_lengths`) with the walker's trace. -/
theorem walker_channel_boundaries (rs : List LayerRecord) (css : List (List ChannelData)) (hs : shapesAgree rs css)
    (hwf : ∀ cs ∈ css, ∀ c ∈ cs, ChannelData.WF c) {d : B} {p : Nat} {rest : B}
    (hat : At d p (channelImageT css ++ rest)) :
    walkChannels ((refreshRecords rs css).map (fun r => r.channelInfo.map ChannelInfo.length)).flatten d p =
        .ok (regionsOf (seqSpans "channel-data" ChannelData.encT p css.flatten), p + (channelImageT css).length) ∧
      (∀ s ∈ seqSpans "channel-data" ChannelData.encT p css.flatten, Delimits d s.region s.bytes) ∧
      (∀ a, (seqSpans "channel-data" ChannelData.encT p css.flatten)[0]? = some a → a.region.offset = p) ∧
      (∀ (i : Nat) (a b : Span), (seqSpans "channel-data" ChannelData.encT p css.flatten)[i]? = some a →
        (seqSpans "channel-data" ChannelData.encT p css.flatten)[i + 1]? = some b →
        b.region.offset = a.region.offset + a.region.length) ∧
      At d (p + (channelImageT css).length) rest := by
  rw [declared_lengths rs css hs]
  rw [flatten_channelImageT] at hat ⊢
  obtain ⟨e, hat'⟩ := walkChannels_full css.flatten
    (fun c hc => by obtain ⟨cs, hcs, hc'⟩ := List.mem_flatten.mp hc; exact hwf cs hcs c hc') hat
  obtain ⟨c1, c2⟩ := seqSpans_consecutive "channel-data" ChannelData.encT css.flatten p
  exact ⟨e, fun s hs => delimits_of_holds (seqSpans_hold _ _ _ hat s hs), c1, c2, hat'⟩

/-! non-vacuity: two channels (raw, RLE) behind 3 bytes of something else -/
example : walkChannels [2 + 2, 2 + 3] [9, 9, 9, 0, 0, 5, 6, 0, 1, 0, 1, 7] 3 =
    .ok ([⟨3, 4, "channel-data"⟩, ⟨7, 5, "channel-data"⟩], 12) := by decide +kernel
/-- the hypotheses of `channel_length_is_stored_size` are satisfiable: the layer info of the C01 sample
document (PSB, 6 records, 8 channels); its refreshed lengths, computed -/
example : ∃ li, Samples.sampleDoc.layerAndMask.layerInfo = some li ∧ li.WF 2 4 ∧ li.layerCount ≠ 0 ∧
    (li.refresh.records.map fun rs => rs.map fun r => r.channelInfo.map ChannelInfo.length) =
      some [[2], [2], [3], [2], [6, 3, 2], [2]] :=
  ⟨_, rfl, C01.sample_wf.2.2.2.1.2.1, by decide, by decide +kernel⟩

end ChannelLengths

section Sections
open PsdVerif.Codec PsdVerif.Psd PsdVerif.Walker

/-- **sections_add_up.** What `PSD.write` emits is the five sections one after the other, and the file size
is `26 + (4 + colour mode data) + (4 + image resources) + (4|8 + layer and mask) + (2 + image data)`;
each summand is the size of that section's encoding and the count its writer reports
(`written_is_length_*`). -/
theorem sections_add_up (pad : Nat) (d : PSD) (bs : B) (henc : PSD.enc pad d = .ok bs) :
    bs = d.header.encT ++ colorModeT d.colorModeData ++ resourcesT d.resources ++
        d.layerAndMask.encT d.header.version pad ++ d.imageData.encT ∧
      bs.length = 26 + (4 + d.colorModeData.length) + (4 + (resourcesBodyT d.resources).length) +
        (secW d.header.version + (d.layerAndMask.bodyT d.header.version pad).length) + (2 + d.imageData.data.length) ∧
      (d.header.encT.length = 26 ∧ d.header.encP.2 = 26) ∧
      ((colorModeT d.colorModeData).length = 4 + d.colorModeData.length ∧
        (colorModeP d.colorModeData).2 = 4 + d.colorModeData.length) ∧
      ((resourcesT d.resources).length = 4 + (resourcesBodyT d.resources).length ∧
        (resourcesP d.resources).2 = 4 + (resourcesBodyT d.resources).length) ∧
      ((d.layerAndMask.encT d.header.version pad).length =
          secW d.header.version + (d.layerAndMask.bodyT d.header.version pad).length ∧
        (d.layerAndMask.encP d.header.version pad).2 =
          secW d.header.version + (d.layerAndMask.bodyT d.header.version pad).length) ∧
      (d.imageData.encT.length = 2 + d.imageData.data.length ∧ d.imageData.encP.2 = 2 + d.imageData.data.length) ∧
      (secW d.header.version = 4 ∨ secW d.header.version = 8) := by
  have hbs := PSD.enc_ok henc
  have h1 := Header.length_encT d.header
  have h2 : (colorModeT d.colorModeData).length = 4 + d.colorModeData.length := by
    rw [colorModeT_eq]; simp [length_beBytes]
  have h3 : (resourcesT d.resources).length = 4 + (resourcesBodyT d.resources).length := by
    rw [resourcesT_eq]; simp [length_beBytes]
  have h4 := LayerAndMask.length_encT d.header.version pad d.layerAndMask
  have h5 := ImageData.length_encT d.imageData
  refine ⟨hbs, ?_, ⟨h1, ?_⟩, ⟨h2, ?_⟩, ⟨h3, ?_⟩, ⟨h4, ?_⟩, ⟨h5, ?_⟩, ?_⟩
  · rw [hbs]; simp only [PSD.encT, List.length_append]; omega
  · rw [Header.encP_eq]; exact h1
  · rw [colorModeP_eq]; exact h2
  · rw [resourcesP_eq]; exact h3
  · rw [LayerAndMask.encP_eq]; exact h4
  · rw [ImageData.encP_eq]; exact h5
  · unfold secW; split <;> simp

/-- non-vacuity: the C01 sample document: 828 = 26 + (4 + 0) + (4 + 30) + (8 + 748) + (2 + 6) -/
example : PSD.enc 4 Samples.sampleDoc = .ok (Samples.sampleDoc.encT 4) ∧ (Samples.sampleDoc.encT 4).length = 828 ∧
    Samples.sampleDoc.colorModeData.length = 0 ∧ (resourcesBodyT Samples.sampleDoc.resources).length = 30 ∧
    secW 2 = 8 ∧ (Samples.sampleDoc.layerAndMask.bodyT 2 4).length = 748 ∧
    Samples.sampleDoc.imageData.data.length = 6 := by
  -- the two large sizes are the counts the writer reports, which the kernel gets without building the bytes
  have h : (Samples.sampleDoc.encP 4).2 = 828 ∧
      Samples.sampleDoc.colorModeData.length = 0 ∧ (resourcesBodyT Samples.sampleDoc.resources).length = 30 ∧
      secW 2 = 8 ∧ (Samples.sampleDoc.layerAndMask.bodyP 2 4).2 = 748 ∧
      Samples.sampleDoc.imageData.data.length = 6 := by decide +kernel
  rw [PSD.encP_eq, LayerAndMask.bodyP_eq] at h
  exact ⟨PSD.enc_of_wf C01.sample_wf, h⟩

/-- **lengths_truthful.** For a well-formed, specification-shaped document (the hypotheses of
`walker_accepts`): the walker reports exactly the regions of `fileSpans pad d` — header, colour mode data,
image resources section and each resource block, layer and mask section, layer info, each layer record
and each of its tagged blocks, each stored channel, global layer mask info, each document-level tagged
block, image data — and every one of them delimits exactly the encoding of the sub-value it stands for
(`x.encT …` of that sub-value, listed beside the region in `fileSpans`). -/
theorem lengths_truthful (pad : Nat) (hp : pad = 1 ∨ pad = 2 ∨ pad = 4) (d : PSD) (hwf : d.WF pad)
    (hshape : SpecShaped d) (bs : B) (henc : PSD.enc pad d = .ok bs) :
    ∃ L, walk bs = .ok L ∧ L.stop = bs.length ∧ L.regions = (fileSpans pad d).map Span.region ∧
      ∀ s ∈ fileSpans pad d, Delimits bs s.region s.bytes := by
  rw [PSD.enc_ok henc]
  obtain ⟨L, h1, h2, h3⟩ := walk_encT_full hp hwf hshape
  exact ⟨L, h1, h2, h3, fun s hs => delimits_of_holds (fileSpans_hold pad d s hs)⟩

/-- … the part that does not need the walker (hence no hypothesis): in every file the writer emits, each
expected span delimits the encoding of its sub-value -/
theorem spans_delimit (pad : Nat) (d : PSD) (bs : B) (henc : PSD.enc pad d = .ok bs) :
    ∀ s ∈ fileSpans pad d, Delimits bs s.region s.bytes := by
  rw [PSD.enc_ok henc]
  exact fun s hs => delimits_of_holds (fileSpans_hold pad d s hs)

/-- without `SpecShaped` the walker does not get through (`C03.walker_rejects_*`), so there are no
regions to speak of: `lengths_truthful` is stated under the hypotheses of `walker_accepts` -/
theorem lengths_truthful_needs_shape :
    PSD.WF 4 Samples.oddBlockInRecord ∧ ¬ SpecShaped Samples.oddBlockInRecord ∧
      (walk (Samples.oddBlockInRecord.encT 4)).toOption = none := by
  obtain ⟨h1, h2, bs, henc, hw⟩ := C03.walker_rejects_odd_block_in_record
  rw [PSD.enc_ok henc] at hw
  exact ⟨h1, h2, hw⟩

/-! non-vacuity: the C01 sample document (PSB, nested groups, masked layer, RLE-coded channel bytes are
opaque here); the walker's regions are the expected ones, computed inside Lean -/
example : ((walk (Samples.sampleDoc.encT 4)).toOption.map (·.regions)) =
    some ((fileSpans 4 Samples.sampleDoc).map Span.region) := by
  obtain ⟨L, h1, _, h3⟩ := walk_encT_full (Or.inr (Or.inr rfl)) C01.sample_wf C03.sample_spec_shaped
  rw [h1]; exact congrArg some h3
example : (fileSpans 4 Samples.sampleDoc).length = 30 := by decide +kernel
/-- … and the sub-values are all there: the "channel-data" spans are the encodings of all 8 stored
channels, the "layer-record" spans those of the 6 (refreshed) records, in order -/
example : ∃ li, Samples.sampleDoc.layerAndMask.layerInfo = some li ∧
    (((fileSpans 4 Samples.sampleDoc).filter (·.region.kind == "channel-data")).map Span.bytes =
      ((li.channels.getD []).flatten.map ChannelData.encT)) ∧
    (((fileSpans 4 Samples.sampleDoc).filter (·.region.kind == "layer-record")).map Span.bytes =
      ((li.refresh.records.getD []).map (LayerRecord.encT 2))) ∧
    (li.channels.getD []).flatten.length = 8 ∧ (li.refresh.records.getD []).length = 6 :=
  ⟨_, rfl, by decide +kernel, by decide +kernel, by decide +kernel, by decide +kernel⟩

/-! ### every length prefix is the size of what follows, up to the documented padding -/

/-- colour mode data: 4-byte length, the data, no filler -/
theorem prefix_color_mode_data (v : B) (hf : FitsU 4 v.length) :
    colorModeT v = beBytes 4 v.length ++ v ∧ beVal (beBytes 4 v.length) = v.length :=
  ⟨colorModeT_eq v, beVal_beBytes 4 _ hf⟩

/-- image resources: 4-byte length of the concatenated resource blocks -/
theorem prefix_image_resources (rs : List Resource) (hf : FitsU 4 (resourcesBodyT rs).length) :
    resourcesT rs = beBytes 4 (listT Resource.encT rs).length ++ listT Resource.encT rs ∧
      beVal (beBytes 4 (listT Resource.encT rs).length) = (listT Resource.encT rs).length :=
  ⟨resourcesT_eq rs, beVal_beBytes 4 _ hf⟩

/-- one image resource block: signature, id, Pascal name padded to an even size, 4-byte size of the data,
the data, filler to an even size (the size field does not count the filler) -/
theorem prefix_image_resource (r : Resource) (hf : r.Fits) :
    r.encT = pack4s r.signature ++ beBytes 2 r.key ++ pascalT 2 r.name ++
        (beBytes 4 r.data.length ++ r.data ++ zeros (padAmount r.data.length 2)) ∧
      beVal (beBytes 4 r.data.length) = r.data.length ∧ (r.data.length + padAmount r.data.length 2) % 2 = 0 := by
  refine ⟨?_, beVal_beBytes 4 _ hf.2.2, add_padAmount_mod _ 2 (by decide)⟩
  have hpad : padAmount (r.data.length + (0 + 4)) 2 = padAmount r.data.length 2 := padAmount_add_mul _ _ _ (by decide)
  simp only [Resource.encT, lenBlockT, zeros, List.replicate_zero, List.nil_append, hpad]

/-- one tagged block: signature, key, 4- or 8-byte length of the data (unpadded), the data, filler to a
multiple of `pad` (1 inside a layer record, 4 at document level) -/
theorem prefix_tagged_block (v pad : Nat) (hp : pad = 1 ∨ pad = 2 ∨ pad = 4) (t : TaggedBlock) (hf : t.Fits v) :
    t.encT v pad = pack4s t.signature ++ pack4s t.key ++
        (beBytes (tbLenW v t.key) t.data.length ++ t.data ++ zeros (padAmount t.data.length pad)) ∧
      beVal (beBytes (tbLenW v t.key) t.data.length) = t.data.length ∧
      (t.data.length + padAmount t.data.length pad) % pad = 0 ∧ (tbLenW v t.key = 4 ∨ tbLenW v t.key = 8) := by
  refine ⟨?_, beVal_beBytes _ _ hf, add_padAmount_mod _ pad (by rcases hp with h | h | h <;> omega), ?_⟩
  · have hpad : padAmount (t.data.length + (0 + tbLenW v t.key)) pad = padAmount t.data.length pad :=
      padAmount_add_mul _ _ _ (tbLenW_mod v t.key pad hp)
    simp only [TaggedBlock.encT, lenBlockT, zeros, List.replicate_zero, List.nil_append, hpad]
  · unfold tbLenW; split <;> simp

/-- a layer record: …, one filler byte, the 4-byte length of the extra data, the extra data — whose size
is even (mask data, blending ranges, name padded to 4, tagged blocks, filler) -/
theorem prefix_layer_record_extra (v : Nat) (r : LayerRecord) (hf : r.Fits v) :
    r.encT v = i32T r.top ++ i32T r.left ++ i32T r.bottom ++ i32T r.right ++ beBytes 2 r.channelInfo.length ++
        listT (ChannelInfo.encT v) r.channelInfo ++ r.fixedT ++ beBytes 1 r.flags.toNat ++
        (zeros 1 ++ beBytes 4 (r.extraT v).length ++ r.extraT v) ∧
      beVal (beBytes 4 (r.extraT v).length) = (r.extraT v).length ∧ (r.extraT v).length % 2 = 0 ∧
      beVal (beBytes 2 r.channelInfo.length) = r.channelInfo.length := by
  refine ⟨?_, beVal_beBytes 4 _ hf.2.2.2.2.2.2.2.2.2.2.2.2, ?_, beVal_beBytes 2 _ hf.2.2.2.2.1⟩
  · simp only [LayerRecord.encT, lenBlockT, padAmount_one, zeros, List.replicate_zero, List.append_nil]
  · simp only [LayerRecord.extraT, List.length_append, length_zeros]
    exact add_padAmount_mod _ 2 (by decide)

/-- the mask data and blending ranges blocks inside the extra data: 4-byte length of the body -/
theorem prefix_mask_and_ranges (r : LayerRecord) (hf1 : maskFits r.maskData) (hf2 : r.blendingRanges.Fits) :
    (∃ body : B, maskT r.maskData = beBytes 4 body.length ++ body ∧ beVal (beBytes 4 body.length) = body.length) ∧
      r.blendingRanges.encT = beBytes 4 r.blendingRanges.bodyT.length ++ r.blendingRanges.bodyT ∧
      beVal (beBytes 4 r.blendingRanges.bodyT.length) = r.blendingRanges.bodyT.length := by
  obtain ⟨body, h1, h2⟩ := maskT_shape r.maskData hf1
  exact ⟨⟨body, h1, beVal_beBytes 4 _ h2⟩, by simp [BlendingRanges.encT, lenBlockT_simple],
    beVal_beBytes 4 _ hf2.2.2⟩

/-- the layer info: 4/8-byte length of the body; the body (count, records, channel data, filler) has a
size that is a multiple of the padding; `layer_count = 0` is written as the bare length 0 -/
theorem prefix_layer_info (v pad : Nat) (hp : 0 < pad) (li : LayerInfo) (hf : li.Fits v pad) :
    (li.layerCount = 0 → li.encT v pad = beBytes (secW v) 0) ∧
    (li.layerCount ≠ 0 →
      li.encT v pad = beBytes (secW v) (li.refresh.bodyT v pad).length ++ li.refresh.bodyT v pad ∧
      beVal (beBytes (secW v) (li.refresh.bodyT v pad).length) = (li.refresh.bodyT v pad).length ∧
      (li.refresh.bodyT v pad).length % pad = 0) := by
  refine ⟨fun h0 => by simp [LayerInfo.encT, h0], fun h0 => ?_⟩
  unfold LayerInfo.Fits at hf
  simp only [h0, if_false] at hf
  refine ⟨by simp only [LayerInfo.encT, h0, if_false, lenBlockT_simple], beVal_beBytes _ _ hf.2.2.2, ?_⟩
  simp only [LayerInfo.bodyT, List.length_append, length_zeros]
  exact add_padAmount_mod _ pad hp

/-- the layer and mask section: 4/8-byte length of the body -/
theorem prefix_layer_and_mask (v pad : Nat) (x : LayerAndMask) (hf : x.Fits v pad) :
    x.encT v pad = beBytes (secW v) (x.bodyT v pad).length ++ x.bodyT v pad ∧
      beVal (beBytes (secW v) (x.bodyT v pad).length) = (x.bodyT v pad).length :=
  ⟨by simp only [LayerAndMask.encT, lenBlockT_simple], beVal_beBytes _ _ hf.2.2.2⟩

/-- the global layer mask info: 4-byte length of a body of 0 or 16 bytes -/
theorem prefix_global_layer_mask (g : GlobalLayerMaskInfo) (hf : g.Fits) :
    g.encT = beBytes 4 g.bodyT.length ++ g.bodyT ∧ beVal (beBytes 4 g.bodyT.length) = g.bodyT.length := by
  obtain ⟨hgenc, hgf⟩ := globalMask_shape g hf
  exact ⟨hgenc, beVal_beBytes 4 _ hgf⟩

end Sections

section Merged
open PsdVerif.Rle PsdVerif.Compression PsdVerif.Pixels PsdVerif.Merged

/-- **The declared code is the code the payload was compressed with.** The model's `save` stores `setData comp planes header`:
compression code and payload are produced by ONE call. Regenerated from the AST on every run: the only function of psd_tools
that assigns a `compression` attribute of an existing object is `VirtualMemoryArray.set_data` (which compresses with the value
it stores, C04 `vma_roundtrip`); `PSDImage.save` makes exactly one `set_data` call, with the planes and the header, and
afterwards assigns nothing but the composite flag of the version-info resource. A save that re-labels the merged image after
compressing it (a zlib payload behind code 1) adds a store and breaks this. -/
theorem declared_code_tied :
    Generated.C03Save.compressionStores = ["psd/patterns.py:set_data:self.compression"] ∧
    Generated.C03Save.saveSetData = ["self._record.image_data.set_data(planes, self._record.header)"] ∧
    Generated.C03Save.saveStoresAfterSetData = ["version_info.has_composite"] := ⟨rfl, rfl, rfl⟩

/-- **merged_rle_table.** (C17's model of `save()` composed with C04's `ImageData.set_data`.) After a
structural edit of a supported document whose merged image is RLE-compressed, `save()` regenerates
`header.channels` planes; `set_data` writes them as ONE row-table stream with exactly
`header.channels · height` entries (2 bytes each in a PSD, 4 in a PSB) whose sum is the size of the rows
that follow; `decode_rle` with the header geometry returns the payload C17's model carries, and
`get_data` returns the planes. Hypotheses: those of `merged_plane_count`, and the geometric row bound of
`rowsFit_of_rowSize` (a worst-case PackBits row fits the table item). -/
theorem merged_rle_table {α : Type} (Q : Quant α) (hQ : Q.Lawful) (s : DocState) (c : Composite α)
    (hd : s.dirty = true) (hs : C17.Supported s.info.header)
    (hch : s.info.header.cmode.expected ≤ s.info.header.channels) (hc : c.WF s.info.header)
    (hrle : s.imageData.comp = .rle) (z : ZCodec) (hz : z.Lawful) (version k : Nat) (hk : tableItem version = .ok k)
    (hb : rowSize s.info.header.width s.info.header.depth + (rowSize s.info.header.width s.info.header.depth + 126) / 127
      < 256 ^ k) :
    ∃ planes s' img, save Q s c = .ok s' ∧
      s'.imageData = setData .rle planes s.info.header ∧ planes.length = s.info.header.channels ∧
      setImage z .rle planes s.info.header.width s.info.header.height s.info.header.channels s.info.header.depth version
        = .ok img ∧
      img.compression = 1 ∧
      RowTableStream k (s.info.header.height * s.info.header.channels)
        (packedRows (rowSize s.info.header.width s.info.header.depth)
          (s.info.header.height * s.info.header.channels) planes.flatten) img.data ∧
      decodeRle img.data s.info.header.width (s.info.header.height * s.info.header.channels) s.info.header.depth version
        = .ok s'.imageData.payload ∧
      imageGet z img.data .rle s.info.header.width s.info.header.height s.info.header.channels s.info.header.depth version
        = .ok planes := by
  obtain ⟨planes, s', h1, h2, _, h4, h5, _, _⟩ := C17.merged_plane_count Q hQ s c hd hs hch hc
  rw [hrle] at h2
  generalize s.info.header = hdr at *
  obtain ⟨hdep, _⟩ := hs
  have hrow : rowSize hdr.width hdr.depth = hdr.width * (hdr.depth / 8) := by
    unfold rowSize; rcases hdep with h | h | h <;> rw [h] <;> omega
  have hp : ∀ p ∈ planes, p.length = rowSize hdr.width hdr.depth * hdr.height := by
    intro p hpm; rw [h5 p hpm, hrow, Nat.mul_right_comm]
  have hfl : planes.flatten.length = rowSize hdr.width hdr.depth * (hdr.height * hdr.channels) := by
    rw [flatten_length_of_all planes _ hp, h4, Nat.mul_comm, Nat.mul_assoc]
  have hfit := C04.rowsFit_of_rowSize planes.flatten hdr.width (hdr.height * hdr.channels) hdr.depth version k hk hfl hb
  have hdep' : hdr.depth = 1 ∨ hdr.depth = 8 ∨ hdr.depth = 16 ∨ hdr.depth = 32 := Or.inr hdep
  obtain ⟨e, g1, g2⟩ := C04.image_roundtrip z hz .rle planes hdr.width hdr.height hdr.channels hdr.depth version (channels_pos hch) h4
    hdep' hp ⟨fun _ => hfit, fun h => by cases h⟩
  have hset : setImage z .rle planes hdr.width hdr.height hdr.channels hdr.depth version = .ok ⟨1, e⟩ := by
    simp only [setImage, g1]; rfl
  obtain ⟨_, _, g3, k', hk', hst⟩ := image_set_data_rle z planes hdr.width hdr.height hdr.channels hdr.depth version
    ⟨1, e⟩ hset
  rw [hk] at hk'
  injection hk' with hk'
  subst hk'
  obtain ⟨_, hdec⟩ := rle_rows_expand planes.flatten hdr.width (hdr.height * hdr.channels) hdr.depth version e g3 hfl
  refine ⟨planes, s', ⟨1, e⟩, h1, h2, h4, hset, rfl, hst, ?_, g2⟩
  rw [hdec.2, h2]
  simp only [setData]
  rw [List.take_of_length_le]
  rw [hfl, hrow]
  unfold sectionBytes
  have : max 1 (hdr.depth / 8) = hdr.depth / 8 := by rcases hdep with h | h | h <;> rw [h] <;> decide
  rw [this, Nat.mul_right_comm]
  exact Nat.le_refl _

/-- non-vacuity: the hypotheses are satisfiable together (a 1×1 RGB document stored with RLE, PSD) -/
example : ∃ (Q : Quant Unit) (s : DocState) (c : Composite Unit),
    Q.Lawful ∧ s.dirty = true ∧ C17.Supported s.info.header ∧
    s.info.header.cmode.expected ≤ s.info.header.channels ∧ c.WF s.info.header ∧ s.imageData.comp = .rle ∧
    tableItem 1 = .ok 2 ∧
    rowSize s.info.header.width s.info.header.depth + (rowSize s.info.header.width s.info.header.depth + 126) / 127 < 256 ^ 2 :=
  ⟨{ enc := fun d _ => List.replicate (d / 8) 0, flat := fun _ _ => (), one := () },
   { info := { header := { cmode := .rgb, channels := 3, depth := 8, width := 1, height := 1 } },
     imageData := { comp := .rle, payload := [] }, dirty := true },
   { color := [[()], [()], [()]], alpha := [()] },
   by intro d x; simp, rfl, by unfold C17.Supported; decide, by decide, by unfold Composite.WF; decide, rfl, rfl,
   by decide⟩

/-- … and evaluated: a 2×2 RGB document, 8 bits, one byte per sample, saved after an edit with RLE: three
planes, 3 · 2 = 6 table entries, their sum = the size of the rows -/
example :
    let Q : Quant Nat := { enc := fun _ x => [UInt8.ofNat x], flat := fun c _ => c, one := 255 }
    let s : DocState := { info := { header := { cmode := .rgb, channels := 3, depth := 8, width := 2, height := 2 },
                                    layerCount := 1 },
                          imageData := { comp := .rle, payload := List.replicate 12 0 }, dirty := true }
    (save Q s ⟨[[1, 1, 1, 1], [2, 2, 2, 2], [3, 4, 5, 6]], [255, 255, 255, 255]⟩).map (·.imageData.payload)
      = .ok [1, 1, 1, 1, 2, 2, 2, 2, 3, 4, 5, 6] ∧
    setImage C04.zId .rle [[1, 1, 1, 1], [2, 2, 2, 2], [3, 4, 5, 6]] 2 2 3 8 1 =
      .ok ⟨1, [0, 2, 0, 2, 0, 2, 0, 2, 0, 3, 0, 3, 255, 1, 255, 1, 255, 2, 255, 2, 1, 3, 4, 1, 5, 6]⟩ ∧
    readVals 2 6 [0, 2, 0, 2, 0, 2, 0, 2, 0, 3, 0, 3, 255, 1, 255, 1, 255, 2, 255, 2, 1, 3, 4, 1, 5, 6]
      = [2, 2, 2, 2, 3, 3] ∧ [2, 2, 2, 2, 3, 3].sum = 26 - 6 * 2 := by decide +kernel

end Merged

end PsdVerif.C03Pixels
