/-
C02 — any file the reader accepts is re-saved without loss or drift.

Model: the cursor-machine reader of `Model/Psd.lean` (`PSD.read`, with every lenient path of the code: `seek(end_pos)`
recovery, the section gates, the global-mask rewind, tagged blocks stopping on a bad signature / at `end_pos` / on
fewer than 8 bytes, duplicate keys collapsing, `fp.read(length - 2)` with a negative length, image data to EOF) and
the writer `PSD.enc`; payload classes are opaque bytes. Lemmas: `Lemmas/Lenient1.lean`, `Lemmas/Lenient2.lean`.

* `…_encodable` : what a reader returns can be written — every field read from `w` bytes fits `w` bytes, every count is
  the length of the list read. The only way `PSD.write` can fail on a decoded value is a *derived* length that does
  not fit its length field (`PSD.LenFits`, a re-encoded section ≥ 4 GiB in a PSD): `dec_encodable`.
* `dec_wf_partial` : whatever `PSD.read` returns, once it can be written, is `PSD.WF` — the hypothesis of C01's
  round-trip theorem — except for ONE shape the reader accepts and the writer changes: a layer mask block without real
  fields that holds both feathers, 35 to 37 bytes (`MaskData.Stable`, `mask_unstable_iff`);
  `mask35_accepted_resave_unreadable` is such an accepted byte string (replayed on the real code by the harness: the re-saved file raises IOError when read).
* `resave_stable_partial` : for every accepted `b`, `s = write(read(b))`: `read(s)` succeeds, consumes all of `s`, equals
  `normalise (read b)` — the object as the writer left it (`channel_info.length` refreshed in place) — and the second
  save reproduces `s` byte for byte. `second_save_identical` is that last half for any re-read value.
* `dec_never_returns_…` : the (F) clauses of C01's `WF` (values the *constructors* allow and the writer treats
  differently) cannot come out of the reader: it gates the sections on `end_pos`, returns an empty `TaggedBlocks`
  instead of `None`, and `LayerInfo()` for a body declaring no layers.
-/
import PsdVerif.Lemmas.Lenient2
import PsdVerif.Lemmas.LenientSamples
import PsdVerif.Props.C01
import PsdVerif.Generated.WriterTies
import PsdVerif.Model.LegacyName

namespace PsdVerif.C02
open PsdVerif.Codec PsdVerif.Psd

/-- exactly what `PSD.write` does to the value it writes: `LayerInfo._update_channel_length` -/
def normalise (v : PSD) : PSD := v.refresh

/-! ### whatever is read can be written (per reader, then the whole file) -/

theorem header_encodable {d : B} {p : Nat} {h : Header} {p' : Nat} (hd : Header.dec d p = .ok (h, p')) : h.Fits :=
  Header.fits_of_valid (Header.dec_ok hd)

theorem color_mode_data_encodable {d : B} {p : Nat} {v : B} {p' : Nat} (hd : colorModeDec d p = .ok (v, p')) :
    FitsU 4 v.length := colorModeDec_ok hd

theorem image_resource_encodable {d : B} {p : Nat} {r : Resource} {p' : Nat} (hd : Resource.dec d p = .ok (r, p')) :
    r.Fits := (Resource.dec_ok hd).2

theorem image_resources_encodable {d : B} {p : Nat} {rs : List Resource} {p' : Nat}
    (hd : resourcesDec d p = .ok (rs, p')) (hlen : FitsU 4 (resourcesBodyT rs).length) : resourcesFits rs :=
  (resourcesDec_wf hd hlen).2

theorem tagged_block_encodable {v pad : Nat} {d : B} {p : Nat} {t : TaggedBlock} {p' : Nat}
    (hd : TaggedBlock.dec v pad d p = .ok (some t, p')) : t.Fits v := (TaggedBlock.dec_ok hd).2.2

theorem tagged_blocks_encodable {v pad : Nat} {e : Option Nat} {d : B} {p : Nat} {ts : List TaggedBlock} {p' : Nat}
    (hd : taggedBlocksDec v pad e d p = .ok (ts, p')) : ∀ t ∈ ts, t.Fits v :=
  taggedBlocksWF_fits (taggedBlocksDec_ok hd)

/-- **Reader and writer agree on the width of a tagged block's length field.** The model has one function
`tbLenW version key` for both directions and ignores the signature, as `TaggedBlock._length_format(key, version)`
does. That the real `TaggedBlock.read` and the real `TaggedBlock.write` both use exactly this width is observed on the
live class on every run, per direction, for every accepted signature × every `Tag` value (and an unknown key) × both
versions (`Generated/WriterTies.lean`, harness/extract_c02.py): a reader and a writer that choose differently — by the
signature on one side only, say — break this theorem (and `resave_stable_partial` would be about another program). -/
theorem tb_width_tied :
    (∀ r ∈ Generated.WriterTies.tbWidths, r.2.2.2.1 = tbLenW r.1 r.2.2.1 ∧ r.2.2.2.2 = tbLenW r.1 r.2.2.1) ∧
    (∀ v ∈ [1, 2], ∀ s ∈ G.blockSignatures, ∀ k ∈ G.bigKeys,
      (Generated.WriterTies.tbWidths.any fun r => r.1 == v && r.2.1 == s && r.2.2.1 == k) = true) ∧
    (∀ v ∈ [1, 2], ∀ s ∈ G.blockSignatures,
      (Generated.WriterTies.tbWidths.any fun r => r.1 == v && r.2.1 == s && !(G.bigKeys.contains r.2.2.1)) = true) := by
  decide +kernel

/-- **The legacy-name fallback is what the model says.** `LayerRecord._legacy_name` observed on the live class for every
encoded length 0‥300, with and without a `luni` block, is `legacyName`: the name itself, except `?` when a `luni` block
is present and the name is longer than 255 bytes (the largest Pascal string). -/
theorem legacy_name_tied :
    (∀ r ∈ Generated.WriterTies.legacyName, r.2.2 = if legacyKeeps r.1 r.2.1 then 0 else 1) ∧
    (∀ b ∈ [false, true], ∀ n ∈ [0, 1, 31, 32, 254, 255, 256, 300],
      (Generated.WriterTies.legacyName.any fun r => r.1 == b && r.2.1 == n) = true) := by
  decide +kernel

/-- … and it never fires on a name the reader returned: `LayerRecord.encT` writing `r.name` itself is
`_write_extra` writing `_legacy_name(encoding)`, for every record that came out of `LayerRecord.dec`,
whether or not it carries a `luni` block. (The boundary is 255 exactly: `legacyName true` of 256 bytes is `?`.) -/
theorem legacy_name_identity_on_read {v : Nat} {d : B} {p : Nat} {r : LayerRecord} {p' : Nat}
    (hd : LayerRecord.dec v d p = .ok (r, p')) (hasLuni : Bool) : legacyName hasLuni r.name = r.name := by
  have h := (LayerRecord.dec_ok hd).name
  have : legacyKeeps hasLuni r.name.length = true := by
    cases hasLuni <;> simp [legacyKeeps]; omega
  simp [legacyName, this]

example : legacyName true (List.replicate 255 0x61) = List.replicate 255 0x61 := by decide +kernel
example : legacyName true (List.replicate 256 0x61) = [0x3F] := by decide +kernel
example : legacyName false (List.replicate 256 0x61) = List.replicate 256 0x61 := by decide +kernel

/-- the mask block needs no hypothesis at all: its re-encoded body is at most 60 bytes -/
theorem mask_data_encodable {d : B} {p : Nat} {m : Option MaskData} {p' : Nat} (hd : maskDec d p = .ok (m, p')) :
    maskFits m := (maskDec_fits hd).1

theorem blending_ranges_encodable {d : B} {p : Nat} {r : BlendingRanges} {p' : Nat}
    (hd : BlendingRanges.dec d p = .ok (r, p')) (hlen : FitsU 4 r.bodyT.length) : r.Fits :=
  (BlendingRanges.dec_wf hd hlen).1

theorem channel_info_encodable {v : Nat} {d : B} {p : Nat} {c : ChannelInfo} {p' : Nat}
    (hd : ChannelInfo.dec v d p = .ok (c, p')) : c.Fits v := (ChannelInfo.dec_ok hd).2

theorem layer_record_encodable {v : Nat} {d : B} {p : Nat} {r : LayerRecord} {p' : Nat}
    (hd : LayerRecord.dec v d p = .ok (r, p')) (hlen : r.LenFits v) : r.Fits v :=
  (LayerRecord.dec_ok hd).fits hlen

theorem channel_data_encodable {n : Nat} {d : B} {p : Nat} {c : ChannelData} {p' : Nat}
    (hd : ChannelData.dec n d p = .ok (c, p')) : c.Fits := (ChannelData.dec_ok hd).2

theorem layer_info_encodable {v pad : Nat} {d : B} {p : Nat} {li : LayerInfo} {p' : Nat}
    (hd : LayerInfo.dec v d p = .ok (li, p')) (hlen : li.LenFits v pad) : li.Fits v pad :=
  (LayerInfo.dec_ok hd).fits hlen

theorem global_layer_mask_info_encodable {d : B} {p : Nat} {g : GlobalLayerMaskInfo} {p' : Nat}
    (hd : GlobalLayerMaskInfo.dec d p = .ok (g, p')) : g.Fits := (GlobalLayerMaskInfo.dec_ok hd).2.1

theorem layer_and_mask_encodable {v pad : Nat} {d : B} {p : Nat} {x : LayerAndMask} {p' : Nat}
    (hd : LayerAndMask.dec v d p = .ok (x, p')) (hlen : x.LenFits v pad) : x.Fits v pad :=
  (LayerAndMask.dec_ok hd).fits hlen

theorem image_data_encodable {d : B} {p : Nat} {i : ImageData} {p' : Nat} (hd : ImageData.dec d p = .ok (i, p')) :
    i.Fits := (ImageData.dec_ok hd).2.1

/-- Whatever `PSD.read` accepts, `PSD.write` writes — unless a length it derives from the data it holds does not fit
the length field it goes into (`v.LenFits`: the re-encoded image-resources body, a record's blending-ranges / extra
block, a channel length, the layer info, the section). No field read from the file can make the writer raise, and
the `IndexError` of `("I", "Q")[version - 1]` is impossible. -/
theorem dec_encodable (pad : Nat) (b : B) (v : PSD) (p : Nat) (h : PSD.read b 0 = .ok (v, p)) (hlen : v.LenFits pad) :
    ∃ bs, PSD.enc pad v = .ok bs :=
  ⟨_, (PSD.read_ok h).1.enc_ok hlen⟩

/-- `LenFits` is not only sufficient but exactly what is missing: a decoded value is writable iff it holds -/
theorem dec_encodable_iff (pad : Nat) (b : B) (v : PSD) (p : Nat) (h : PSD.read b 0 = .ok (v, p)) :
    (∃ bs, PSD.enc pad v = .ok bs) ↔ v.LenFits pad := by
  constructor
  · rintro ⟨bs, hbs⟩
    obtain ⟨f1, f2⟩ := PSD.fits_of_enc hbs
    exact PSD.lenFits_of_fits f1 f2
  · exact dec_encodable pad b v p h

/-! ### whatever is read and written is well formed -/

theorem dec_wf_partial (pad : Nat) (b : B) (v : PSD) (p : Nat) (s : B) (h : PSD.read b 0 = .ok (v, p)) (hs : PSD.enc pad v = .ok s)
    (hst : v.Stable) : v.WF pad := by
  obtain ⟨f1, f2⟩ := PSD.fits_of_enc hs
  exact (PSD.read_ok h).1.wf f1 f2 hst

/-- The property, for every accepted byte string whose layer masks are not the one unstable shape:
saving what was read gives `s`; `s` is accepted, read to the end, and gives the structure that was saved (as the
writer left it); saving that again reproduces `s` byte for byte. -/
theorem resave_stable_partial (pad : Nat) (b : B) (v : PSD) (p : Nat) (s : B) (h : PSD.read b 0 = .ok (v, p))
    (hs : PSD.enc pad v = .ok s) (hst : v.Stable) :
    PSD.read s 0 = .ok (normalise v, s.length) ∧ PSD.enc pad (normalise v) = .ok s := by
  have hwf := dec_wf_partial pad b v p s h hs hst
  exact ⟨C01.psd_roundtrip pad v hwf s hs, by rw [normalise, PSD.enc_refresh, hs]⟩

/-- the second save reproduces the first byte for byte, whatever the re-read returned -/
theorem second_save_identical (pad : Nat) (b : B) (v : PSD) (p : Nat) (s : B) (h : PSD.read b 0 = .ok (v, p))
    (hs : PSD.enc pad v = .ok s) (hst : v.Stable) (v' : PSD) (n : Nat) (hr : PSD.read s 0 = .ok (v', n)) :
    PSD.enc pad v' = .ok s :=
  C01.psd_rewrite_identical pad v (dec_wf_partial pad b v p s h hs hst) s hs v' n hr

/-- a file that was read and saved once is a fixed point: reading the saved bytes gives a value that is already
normalised, stable, and is re-read as itself -/
theorem resaved_is_fixed_point (pad : Nat) (b : B) (v : PSD) (p : Nat) (s : B) (h : PSD.read b 0 = .ok (v, p))
    (hs : PSD.enc pad v = .ok s) (hst : v.Stable) :
    normalise (normalise v) = normalise v ∧
    ∀ s', PSD.enc pad (normalise v) = .ok s' → s' = s := by
  refine ⟨?_, ?_⟩
  · unfold normalise
    rw [PSD.refresh_eq, PSD.refresh_eq]
    simp only [LayerAndMask.refresh]
    cases hli : v.layerAndMask.layerInfo with
    | none => simp
    | some li => simp [LayerInfo.refresh_idem]
  · intro s' hs'
    rw [normalise, PSD.enc_refresh, hs] at hs'
    cases hs'; rfl

/-! ### the (F) clauses of C01's `WF`: values the reader cannot return -/

theorem dec_never_returns_count0_with_lists (b : B) (v : PSD) (p : Nat) (h : PSD.read b 0 = .ok (v, p))
    (li : LayerInfo) (hli : v.layerAndMask.layerInfo = some li) (h0 : li.layerCount = 0) :
    li.records = none ∧ li.channels = none := by
  have := ((PSD.read_ok h).1.lam.of_some hli).1.2
  rwa [if_pos h0] at this

theorem dec_never_returns_tagged_blocks_none (b : B) (v : PSD) (p : Nat) (h : PSD.read b 0 = .ok (v, p))
    (li : LayerInfo) (hli : v.layerAndMask.layerInfo = some li) : v.layerAndMask.taggedBlocks ≠ none := by
  obtain ⟨ts, e, _⟩ := ((PSD.read_ok h).1.lam.of_some hli).2.2.1
  rw [e]; intro c; cases c

theorem dec_never_returns_empty_dict_without_layer_info (b : B) (v : PSD) (p : Nat) (h : PSD.read b 0 = .ok (v, p))
    (hli : v.layerAndMask.layerInfo = none) :
    v.layerAndMask.globalMask = none ∧ v.layerAndMask.taggedBlocks = none :=
  (PSD.read_ok h).1.lam.of_none hli

theorem dec_never_returns_blocks_without_global_mask (b : B) (v : PSD) (p : Nat) (h : PSD.read b 0 = .ok (v, p))
    (li : LayerInfo) (hli : v.layerAndMask.layerInfo = some li) (hg : v.layerAndMask.globalMask = none) :
    v.layerAndMask.taggedBlocks = some [] :=
  ((PSD.read_ok h).1.lam.of_some hli).2.2.2 hg

theorem dec_never_returns_global_mask_values_without_overlay (b : B) (v : PSD) (p : Nat)
    (h : PSD.read b 0 = .ok (v, p)) (g : GlobalLayerMaskInfo) (hg : v.layerAndMask.globalMask = some g)
    (ho : g.overlayColor = none) : g.opacity = G.glmDefaultOpacity ∧ g.kind = G.glmDefaultKind := by
  have hl := (PSD.read_ok h).1.lam
  cases hli : v.layerAndMask.layerInfo with
  | none => rw [(hl.of_none hli).1] at hg; cases hg
  | some li =>
    have := (hl.of_some hli).2.1
    rw [hg] at this
    exact this.2.2 ho

theorem dec_never_returns_half_blending_ranges (b : B) (v : PSD) (p : Nat) (h : PSD.read b 0 = .ok (v, p))
    (li : LayerInfo) (hli : v.layerAndMask.layerInfo = some li) (rs : List LayerRecord) (hrs : li.records = some rs)
    (r : LayerRecord) (hr : r ∈ rs) :
    (r.blendingRanges.composite = none ∧ r.blendingRanges.channels = none) ∨
    (r.blendingRanges.composite.isSome ∧ r.blendingRanges.channels.isSome) := by
  have hread := ((PSD.read_ok h).1.lam.of_some hli).1
  by_cases h0 : li.layerCount = 0
  · have := hread.2
    rw [if_pos h0] at this
    rw [this.1] at hrs; cases hrs
  · obtain ⟨r0, rs0, c0, css0, e, _, _, _, hrecs, _⟩ := hread.shape h0
    rw [e] at hrs
    cases hrs
    exact (hrecs r hr).ranges.1

/-! ### the one accepted shape that is not stable, on a concrete accepted byte string -/

/-- the 162 bytes of `Samples.b35` (harness/corpus/C02.json replays them on the real code) -/
theorem b35_bytes : Samples.b35 =
    [0x38, 0x42, 0x50, 0x53, 0x00, 0x01, 0x00, 0x00, 0x00, 0x00, 0x00, 0x00, 0x00, 0x03, 0x00, 0x00, 0x00, 0x01, 0x00,
     0x00, 0x00, 0x01, 0x00, 0x08, 0x00, 0x03, 0x00, 0x00, 0x00, 0x00, 0x00, 0x00, 0x00, 0x00, 0x00, 0x00, 0x00, 0x66,
     0x00, 0x00, 0x00, 0x5e, 0x00, 0x01, 0x00, 0x00, 0x00, 0x00, 0x00, 0x00, 0x00, 0x00, 0x00, 0x00, 0x00, 0x00, 0x00,
     0x00, 0x00, 0x00, 0x00, 0x01, 0x00, 0x00, 0x00, 0x00, 0x00, 0x05, 0x38, 0x42, 0x49, 0x4d, 0x6e, 0x6f, 0x72, 0x6d,
     0xff, 0x00, 0x08, 0x00, 0x00, 0x00, 0x00, 0x2f, 0x00, 0x00, 0x00, 0x23, 0x00, 0x00, 0x00, 0x00, 0x00, 0x00, 0x00,
     0x00, 0x00, 0x00, 0x00, 0x00, 0x00, 0x00, 0x00, 0x00, 0x00, 0x10, 0x0a, 0x00, 0x00, 0x00, 0x00, 0x00, 0x00, 0x00,
     0x01, 0x00, 0x00, 0x00, 0x00, 0x00, 0x00, 0x00, 0x02, 0x00, 0x00, 0x00, 0x00, 0x00, 0x00, 0x00, 0x00, 0x00, 0x00,
     0x01, 0x02, 0x03, 0x00, 0x00, 0x00, 0x00, 0x00, 0x00, 0x00, 0x00, 0x00, 0x00, 0x00, 0x00, 0x00, 0x00, 0x00, 0x00,
     0x00, 0x00, 0x00, 0x00, 0x00, 0x00, 0x00, 0x00, 0x00, 0x00] := by decide +kernel

/-- The full-strength statement is FALSE for the code: `b35` is accepted, what was read is written without error,
and the written file is rejected (`IOError`) — a readable file became unreadable. The mask block of its layer is 35
bytes long and holds both feathers; the writer pads it to 36 bytes, which the reader takes for real-mask fields. -/
theorem mask35_accepted_resave_unreadable :
    PSD.read Samples.b35 0 = .ok (Samples.v35, Samples.b35.length) ∧ ¬ Samples.v35.Stable ∧
    ∃ s, PSD.enc 4 Samples.v35 = .ok s ∧ PSD.read s 0 = .error .ioError :=
  ⟨by decide +kernel, by decide +kernel, Samples.v35.encT 4, by decide +kernel⟩

theorem resave_stable_fails_without_side_condition :
    ¬ ∀ (b : B) (v : PSD) (p : Nat) (s : B), PSD.read b 0 = .ok (v, p) → PSD.enc 4 v = .ok s →
        PSD.read s 0 = .ok (normalise v, s.length) := by
  intro hall
  obtain ⟨h1, _, s, h2, h3⟩ := mask35_accepted_resave_unreadable
  have := hall _ _ _ _ h1 h2
  rw [h3] at this
  cases this

/-- the side condition is exactly about that shape: a mask block without real fields is unstable iff its parameters take
more than 14 bytes, i.e. iff it holds both feathers (18 fixed bytes + parameter byte + 8 + 8 = 35 > 32; with one or both
density bytes 36 or 37) -/
theorem mask_unstable_iff (m : MaskData) (hwf : m.flags.parametersApplied = true ↔ m.parameters.isSome) :
    ¬ m.Stable ↔ m.real = none ∧ ∃ q, m.parameters = some q ∧ 14 < q.encT.length := by
  unfold MaskData.Stable
  have hfixed : m.fixedT.length = 18 := by simp [MaskData.fixedT, length_i32T, length_beBytes]
  constructor
  · intro h
    have hr : m.real = none := by
      cases hreal : m.real with
      | none => rfl
      | some r => exact absurd (fun e => by rw [hreal] at e; cases e) h
    refine ⟨hr, ?_⟩
    have hlen : 32 < m.unpaddedT.length := by
      have : ¬ m.unpaddedT.length ≤ 32 := fun hle => h (fun _ => hle)
      omega
    cases hp : m.parameters with
    | none =>
      exfalso
      simp only [MaskData.unpaddedT, MaskData.realT, MaskData.paramsT, maskParamsT, hr, hp, List.length_append,
        hfixed] at hlen
      split at hlen
      · rename_i _ _ _ _ hc; cases hc
      · simp at hlen
    | some q =>
      refine ⟨q, rfl, ?_⟩
      have ha : m.flags.parametersApplied = true := hwf.2 (by simp [hp])
      simp only [MaskData.unpaddedT, MaskData.realT, MaskData.paramsT, maskParamsT, hr, hp, ha, List.length_append,
        hfixed, List.length_nil] at hlen
      omega
  · rintro ⟨hr, q, hp, hq⟩ h
    have ha : m.flags.parametersApplied = true := hwf.2 (by simp [hp])
    have := h hr
    simp only [MaskData.unpaddedT, MaskData.realT, MaskData.paramsT, maskParamsT, hr, hp, ha, List.length_append,
      hfixed, List.length_nil] at this
    omega

/-! ### non-vacuity -/

/-- A 3-layer PSD whose layer-info length field was enlarged by 2 (so that the declared end of the layer info lies 2
bytes inside the global layer mask info) is accepted: the reader seeks to the declared end, finds 2 bytes left in the
section, and returns the three layers without a global layer mask info. It satisfies the conclusion: the re-saved
file (4 bytes shorter than the input) is read back to the same structure and re-saved identically. -/
theorem enlarged_layer_info_accepted :
    PSD.read Samples.enlargedBytes 0 = .ok (Samples.enlargedRead, Samples.enlargedBytes.length) ∧
    Samples.enlargedBytes ≠ Samples.threeLayerDoc.encT 4 ∧ Samples.enlargedRead.Stable ∧
    PSD.enc 4 Samples.enlargedRead = .ok (Samples.enlargedRead.encT 4) := by
  -- one evaluation: the four clauses share `enlargedBytes` and the encodings
  decide +kernel

example : ∃ s, PSD.enc 4 Samples.enlargedRead = .ok s ∧ s.length + 4 = Samples.enlargedBytes.length ∧
    PSD.read s 0 = .ok (normalise Samples.enlargedRead, s.length) ∧ PSD.enc 4 (normalise Samples.enlargedRead) = .ok s :=
  have h := enlarged_layer_info_accepted
  ⟨_, h.2.2.2, by decide +kernel,
    resave_stable_partial 4 _ _ _ _ h.1 h.2.2.2 h.2.2.1⟩

example : ∃ bs, PSD.enc 4 Samples.enlargedRead = .ok bs :=
  dec_encodable 4 _ _ _ enlarged_layer_info_accepted.1 (by decide +kernel)

end PsdVerif.C02
