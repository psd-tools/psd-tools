/-
C06 — malformed input fails safely (the model half).

Model: the skeleton reader `PSD.read` of `Model/Psd.lean` (readers of `Model/Codec.lean`) and its
counting twin `PSD.readC` of `Model/PsdCost.lean`. The theorems here restate lemmas of `Lemmas/Safe*.lean`,
`Lemmas/SafeCost*.lean`, `Lemmas/OpenCost*.lean` (the whole reader; the skeleton's bounds are its case "no hooks", at
the end of OpenCost2) and `Lemmas/PayloadCost*.lean`.

What is shown, for EVERY byte string `b`:

* totality. `PSD.read` is a total Lean function by construction: every count-driven loop is
  structural (`readCount`, `readFor`: `for _ in range(n)` reads through `read_fmt`, which raises at the
  end of the data) and every `while` loop (`readWhile`) runs on a fuel of "remaining bytes + 1".
  `read_total` records that; `read_never_other` shows the fuel is never exhausted (the `fuel = 0` value
  `Err.other` is not an outcome), because every item of the three loops (`resources_loop_safe`,
  `ranges_loop_safe`, `tagged_loop_safe`) consumes ≥ 1 byte, raises, or ends the loop.
* outcome. `PSD.read b 0` is a document or one of `IOError`, `ValueError`, `AssertionError`, `OverflowError`
  (`outcome_is_exception`; each class is attained: `outcome_classes_attained`; `OverflowError` is
  `fp.read(n)` / `fp.seek(n)` with `n ≥ 2^63`, reachable through the 8-byte length fields of a PSB).
* cursor. Readers that do not seek stay inside the stream (`…_cursor`); `LayerInfo.read` and
  `LayerAndMaskInformation.read` end with `fp.seek(end_pos)`, and `end_pos` is computed from the declared
  length alone (`layer_info_cursor_is_end_pos`, `layer_and_mask_cursor_is_end_pos`), so in isolation they
  can leave the cursor behind the end of the data (`…_can_pass_end`) though never at or behind `2^63`
  (`seek_below_max_size`); the whole-file reader then fails in
  `ImageData.read` (`overrun_then_image_data_fails`, `psd_overrun_fails`), and when it succeeds it ends
  exactly at the end of the file (`read_cursor_bound`).
* header. `Header.dec` is "extract seven fields, run the validators" (`header_dec_eq`); a header that is
  not `Valid` is rejected with `ValueError`, a short one with `IOError`, and nothing behind it is
  interpreted (`psd_read_rejects_bad_header`). The ranges are the REGENERATED tables of the source
  (`header_valid_iff`, `header_tables`): channels 1…56 and height/width 1…300000; the limits do not depend on the
  version.
* cost. `PSD.readC` (`Model/PsdCost.lean`) is the SAME reader with a step counter (one tick per primitive
  read on the stream, per loop iteration, per nested `io.BytesIO` entered) and an allocation counter (bytes
  RETURNED by `fp.read` — a declared length larger than the remaining data returns only what is there — plus
  every block copied into a nested `io.BytesIO`). `readC_erases`: it returns what `PSD.read` returns.
  `read_cost_bound`: ticks + bytes ≤ 13 · n + 224 for an input of `n` bytes, for every outcome (the cost is
  kept when a step raises). Linear: the nesting depth of `BytesIO` copies
  in the skeleton is a constant (main stream → extra block of a layer record → mask / blending-ranges block;
  resources block; global-mask block), each level is paid by the bytes the enclosing level skipped, and the one
  backward seek (`LayerAndMaskInformation.read` → `end_pos` after an over-run) is followed by `ImageData.read`
  only. No count or length taken from the file drives an allocation or a loop by itself: every iteration of a
  `range(count)` loop consumes ≥ 1 byte through `read_fmt` or raises.

* the WHOLE modelled reader (sections 7-11). `OpenCost.openC D b` (Model/OpenCost.lean, Model/OpenDispatch.lean,
  Model/OpenMain.lean) is the skeleton with the payload dispatch of `TaggedBlock.read` / `ImageResource.read` put back:
  every class registered in `tagged_blocks.TYPES` and `image_resources.TYPES` (REGENERATED registries) runs its counting
  twin — the `PCodec` combinators (Model/PayloadCost.lean), the hand-written readers of units 2-10
  (Model/PayloadCost*.lean), the descriptor reader (Model/DescriptorCost.lean), the engine-data parser
  (Model/EngineDataCost.lean) — and `Lr16` / `Lr32` recurse into the layer-info reader on a fuel `D` that stands for
  CPython's recursion limit. `open_steps_bound`: ticks + bytes ≤ (2105 + 4·n + 168·min D (n/12))·n + 287 for EVERY byte
  string and EVERY outcome (where 2105, 168 and 287 come from: head of Lemmas/OpenMain.lean; why a level costs a constant
  more per byte and needs twelve bytes: head of Lemmas/OpenCost3.lean). Two quadratic terms: every nesting level copies its
  block, and that one is attained (`nested_family_quadratic`: 120·m² bytes for the 60·m + 46 byte document of depth m); the
  `Slices` resource may re-read the rest of its block once per slice, for which only the upper bound is shown
  (`slices_quadratic_partial`; `slices_not_linear` says that the judgement "paid by the bytes consumed" fails for one
  slice, known finding — no family of inputs with quadratic cost is exhibited for it). The side condition that makes every
  count-driven loop stop at the first failing item, `bodyProgress`, holds for every class by `decide`
  (`body_progress_all_classes`) and the loops / allocation sites / registries / regular expressions the model assumes
  are tied to the source by `decide` over regenerated tables (section 11).

What the model does NOT show. Real time, real memory, interpreter crashes, zlib and PIL native code are runtime behaviour
that only the watchdog-supervised subprocess of harness/props/C06.py observes; `PSDImage._init` (the layer tree) and the
export paths are outside `openC`. That CPython's `re` does O(1) work per byte on the engine-data patterns is TRUSTED
(a decidable sufficient condition on the regenerated patterns is checked: `engine_patterns_safe`). A declared length is
handed to `fp.read` as it is (`declared_length_is_requested`): the bound on allocation is about what `read` RETURNS
(`io.BytesIO`); a buffered file object reserves the request first (known finding C06/open-from-path).
-/
import PsdVerif.Lemmas.SafeSamples
import PsdVerif.Props.C05
import PsdVerif.Lemmas.OpenMain
import PsdVerif.Lemmas.OpenSamples
import PsdVerif.Lemmas.CostClassTable
import PsdVerif.Lemmas.CostTablesTied
import PsdVerif.Generated.ReadSeeks
import PsdVerif.Lemmas.UnsafeLoops
import PsdVerif.Lemmas.EngineRegexTied

namespace PsdVerif.C06
open PsdVerif PsdVerif.Codec PsdVerif.Psd PsdVerif.Safe PsdVerif.SafeCost
open PsdVerif.PsdCost (Cost CE)

/-! ### 1. totality, no fuel exhaustion -/

/-- holds of any Lean term: it records only that `PSD.read` IS a function on all byte strings (Lean accepted its definition:
every count-driven loop is structural, every `while` loop runs on fuel); that the fuel suffices is `read_never_other` -/
theorem read_total : ∀ b : B, ∃ r, PSD.read b 0 = r := fun _ => ⟨_, rfl⟩

/-- generic: a `while cond: item` loop whose condition only holds inside the stream and whose items consume
at least one byte whenever they return a value never runs out of fuel, stays inside the stream, and raises
only what its items raise -/
theorem while_loop_safe {α : Type} {cond : B → Nat → Bool} {item : R (Option α)} {d : B}
    (hc : ∀ p, cond d p = true → p < d.length) (hi : ∀ p, Good 0 d p (item d p))
    (hs : ∀ p a p', item d p = .ok (some a, p') → p < p') (p : Nat) :
    Good 0 d p (readWhile cond item d p) := readWhile_good hc hi hs p

/-- `ImageResources.read`: `while is_readable(fp, 4)` -/
theorem resources_loop_safe (d : B) (p : Nat) :
    readWhile (isReadable 4) (optItem Resource.dec) d p ≠ .error .other :=
  (resourcesLoop_good d p).errIn.ne_other

/-- `LayerBlendingRanges.read`: `while is_readable(fp, 8)` -/
theorem ranges_loop_safe (d : B) (p : Nat) :
    readWhile (isReadable 8) (optItem Range4.dec) d p ≠ .error .other :=
  (rangesLoop_good d p).errIn.ne_other

/-- `TaggedBlocks.read`: `while is_readable(fp, 8) and fp.tell() < end_pos`, `None` (bad signature) ends it -/
theorem tagged_loop_safe (v pad : Nat) (endPos : Option Nat) (d : B) (p : Nat) :
    readWhile (taggedCond endPos) (TaggedBlock.dec v pad) d p ≠ .error .other :=
  (taggedLoop_good v pad endPos d p).errIn.ne_other

theorem read_never_other (b : B) : PSD.read b 0 ≠ .error .other := (psd_errIn b 0).ne_other

/-! ### 3. the outcome is a document or an ordinary exception -/

theorem outcome_is_exception {b : B} {x : Err} (h : PSD.read b 0 = .error x) :
    x ∈ [Err.ioError, .valueError, .assertionError, .overflowError] := psd_errIn b 0 x h

/-- the list is exact: a truncated file, a bad version, a short pascal string in a resource block, a PSB
section of `2^63` bytes -/
theorem outcome_classes_attained :
    PSD.read (minimalPsd.take 30) 0 = .error .ioError ∧ PSD.read badVersionPsd 0 = .error .valueError ∧
    PSD.read shortPascalPsd 0 = .error .assertionError ∧ PSD.read overflowPsd 0 = .error .overflowError := by
  decide +kernel

/-- per section reader (any version, any stream, any position) -/
theorem header_outcome (d : B) (p : Nat) : ErrIn (Header.dec d p) := (header_good d p).errIn
theorem color_mode_outcome (d : B) (p : Nat) : ErrIn (colorModeDec d p) := (colorMode_good d p).errIn
theorem resources_outcome (d : B) (p : Nat) : ErrIn (resourcesDec d p) := (resources_good d p).errIn
theorem layer_record_outcome (v : Nat) (d : B) (p : Nat) : ErrIn (LayerRecord.dec v d p) := (layerRecord_good v d p).errIn
theorem layer_info_outcome (v : Nat) (d : B) (p : Nat) : ErrIn (LayerInfo.dec v d p) := layerInfo_errIn v d p
theorem layer_and_mask_outcome (v : Nat) (d : B) (p : Nat) : ErrIn (LayerAndMask.dec v d p) := layerAndMask_errIn v d p
theorem image_data_outcome (d : B) (p : Nat) : ErrIn (ImageData.dec d p) := (imageData_good d p).errIn

/-! ### 2. cursor -/

/-- the whole-file reader ends exactly at the end of the file (`ImageData.read` reads to EOF) -/
theorem read_cursor_bound {b : B} {v : PSD} {p : Nat} (h : PSD.read b 0 = .ok (v, p)) : p = b.length := psd_cursor h

example : PSD.read minimalPsd 0 = .ok (minimalVal, 41) := by decide +kernel
example : ∀ n < 40, PSD.read (minimalPsd.take n) 0 = .error .ioError := by decide +kernel
example : PSD.read (minimalPsd.take 40) 0 = .ok ({ minimalVal with imageData := ⟨0, []⟩ }, 40) := by decide +kernel

theorem header_cursor {d : B} {p : Nat} {v : Header} {p' : Nat} (h : Header.dec d p = .ok (v, p')) (hp : p ≤ d.length) :
    p ≤ p' ∧ p' ≤ d.length := (header_good d p).cursor h hp
theorem color_mode_cursor {d : B} {p : Nat} {v : B} {p' : Nat} (h : colorModeDec d p = .ok (v, p')) (hp : p ≤ d.length) :
    p ≤ p' ∧ p' ≤ d.length := (colorMode_good d p).cursor h hp
theorem resources_cursor {d : B} {p : Nat} {v : List Resource} {p' : Nat} (h : resourcesDec d p = .ok (v, p'))
    (hp : p ≤ d.length) : p ≤ p' ∧ p' ≤ d.length := (resources_good d p).cursor h hp
theorem tagged_blocks_cursor {ver pad : Nat} {e : Option Nat} {d : B} {p : Nat} {v : List TaggedBlock} {p' : Nat}
    (h : taggedBlocksDec ver pad e d p = .ok (v, p')) (hp : p ≤ d.length) : p ≤ p' ∧ p' ≤ d.length :=
  (taggedBlocks_good ver pad e d p).cursor h hp
theorem mask_cursor {d : B} {p : Nat} {v : Option MaskData} {p' : Nat} (h : maskDec d p = .ok (v, p')) (hp : p ≤ d.length) :
    p ≤ p' ∧ p' ≤ d.length := (mask_good d p).cursor h hp
theorem blending_ranges_cursor {d : B} {p : Nat} {v : BlendingRanges} {p' : Nat} (h : BlendingRanges.dec d p = .ok (v, p'))
    (hp : p ≤ d.length) : p ≤ p' ∧ p' ≤ d.length := (blendingRanges_good d p).cursor h hp
theorem layer_record_cursor {ver : Nat} {d : B} {p : Nat} {v : LayerRecord} {p' : Nat}
    (h : LayerRecord.dec ver d p = .ok (v, p')) (hp : p ≤ d.length) : p ≤ p' ∧ p' ≤ d.length :=
  (layerRecord_good ver d p).cursor h hp
theorem channel_image_cursor {rs : List LayerRecord} {d : B} {p : Nat} {v : List (List ChannelData)} {p' : Nat}
    (h : channelImageDec rs d p = .ok (v, p')) (hp : p ≤ d.length) : p ≤ p' ∧ p' ≤ d.length :=
  (channelImage_good rs d p).cursor h hp
theorem layer_info_body_cursor {ver : Nat} {d : B} {p : Nat} {v : LayerInfo} {p' : Nat}
    (h : LayerInfo.bodyDec ver d p = .ok (v, p')) (hp : p ≤ d.length) : p ≤ p' ∧ p' ≤ d.length :=
  (layerInfoBody_good ver d p).cursor h hp
/-- including the rewind of a block shorter than 13 bytes -/
theorem global_mask_cursor {d : B} {p : Nat} {v : GlobalLayerMaskInfo} {p' : Nat}
    (h : GlobalLayerMaskInfo.dec d p = .ok (v, p')) (hp : p ≤ d.length) : p ≤ p' ∧ p' ≤ d.length :=
  (globalMask_good d p).cursor h hp
theorem image_data_cursor {d : B} {p : Nat} {v : ImageData} {p' : Nat} (h : ImageData.dec d p = .ok (v, p')) :
    p' = d.length := imageData_end h

example : Header.dec minimalPsd 0 = .ok (headerVal, 26) ∧ resourcesDec minimalPsd 30 = .ok ([], 34) := by decide +kernel

/-- primitive level: `fp.read(n)` returns at most `n` bytes and only bytes that exist -/
theorem read_up_to_bounded {n : Nat} {d : B} {p : Nat} {x : B} {p' : Nat} (h : readUpTo n d p = .ok (x, p')) :
    x.length ≤ d.length - p ∧ x.length ≤ n := by
  have := readUpTo_ok h; omega

/-- `read_length_block`: the block is a copy of bytes of the stream, whatever length was declared -/
theorem read_len_block_bounded {skip w pad : Nat} {d : B} {p : Nat} {x : B} {p' : Nat}
    (h : readLenBlock skip w pad d p = .ok (x, p')) : x.length ≤ d.length ∧ p + skip + w + x.length ≤ p' ∧ p' ≤ d.length := by
  have := Safe.readLenBlock_ok h; omega

example : readLenBlock 0 4 1 [0, 0, 0, 2, 5, 6, 7] 0 = .ok ([5, 6], 6) ∧
    readLenBlock 0 4 1 [255, 255, 255, 255, 5, 6, 7] 0 = .error .ioError := by decide +kernel

/-- the exceptions: `fp.seek(end_pos)` with `end_pos` = start + width + DECLARED length -/
theorem layer_info_cursor_is_end_pos {v : Nat} {d : B} {p : Nat} {li : LayerInfo} {p' : Nat}
    (h : LayerInfo.dec v d p = .ok (li, p')) :
    ∃ n, readU (secW v) d p = .ok (n, p + secW v) ∧ p' = p + secW v + n ∧ ¬ overflows p' d := layerInfo_cursor h

theorem layer_and_mask_cursor_is_end_pos {v : Nat} {d : B} {p : Nat} {x : LayerAndMask} {p' : Nat}
    (h : LayerAndMask.dec v d p = .ok (x, p')) :
    ∃ n, readU (secW v) d p = .ok (n, p + secW v) ∧ p' = p + secW v + n ∧ ¬ overflows p' d := layerAndMask_cursor h

/-- on a real stream (shorter than `2^63` bytes) the position after a seek is below `sys.maxsize + 1` -/
theorem seek_below_max_size {v : Nat} {d : B} {p : Nat} {x : LayerAndMask} {p' : Nat}
    (h : LayerAndMask.dec v d p = .ok (x, p')) (hd : d.length < pyMaxSize) : p' < pyMaxSize := by
  obtain ⟨_, _, _, hov⟩ := layerAndMask_cursor h
  exact lt_pyMaxSize_of_not_overflows hov hd

theorem seek_below_max_size_layer_info {v : Nat} {d : B} {p : Nat} {x : LayerInfo} {p' : Nat}
    (h : LayerInfo.dec v d p = .ok (x, p')) (hd : d.length < pyMaxSize) : p' < pyMaxSize := by
  obtain ⟨_, _, _, hov⟩ := layerInfo_cursor h
  exact lt_pyMaxSize_of_not_overflows hov hd

/-- in isolation both can leave the cursor behind the end of the data (6 resp. 8 bytes, cursor 13 resp. 9) -/
theorem layer_info_can_pass_end : LayerInfo.dec 1 [0, 0, 0, 9, 0, 0] 0 = .ok (⟨0, none, none⟩, 13) := by decide +kernel

theorem layer_and_mask_can_pass_end :
    LayerAndMask.dec 1 [0, 0, 0, 5, 0, 0, 0, 0] 0 = .ok (⟨some ⟨0, none, none⟩, none, some []⟩, 9) := by decide +kernel

/-- … after which `ImageData.read` (the next and last reader of `PSD.read`) raises `IOError` -/
theorem overrun_then_image_data_fails {d : B} {p : Nat} (h : d.length < p) : ImageData.dec d p = .error .ioError :=
  imageData_behind_end h

example : (overrunPsd.length : Nat) < 43 := by decide

theorem psd_overrun_fails : PSD.read overrunPsd 0 = .error .ioError := by decide +kernel

/-- whenever the whole file is accepted, its layer-and-mask section ended inside the file -/
theorem read_section_inside {b : B} {v : PSD} {p : Nat} (h : PSD.read b 0 = .ok (v, p)) :
    ∃ p3 p4, LayerAndMask.dec v.header.version b p3 = .ok (v.layerAndMask, p4) ∧ p4 + 2 ≤ b.length := psd_section_inside h

/-! ### 4. header -/

/-- the validator tables as REGENERATED from `psd/header.py` (a change of the source breaks this) -/
theorem header_tables :
    G.headerSignature = [0x38, 0x42, 0x50, 0x53] ∧ G.headerVersions = [1, 2] ∧
    G.channelsMin = 1 ∧ G.channelsMax = 56 ∧ G.heightMin = 1 ∧ G.heightMax = 300000 ∧
    G.widthMin = 1 ∧ G.widthMax = 300000 ∧ G.headerDepths = [1, 8, 16, 32] ∧
    G.colorModes = [0, 1, 2, 3, 4, 7, 8, 9] := by decide

theorem header_valid_iff (h : Header) :
    h.Valid ↔ h.signature = [0x38, 0x42, 0x50, 0x53] ∧ (h.version = 1 ∨ h.version = 2) ∧
      (1 ≤ h.channels ∧ h.channels ≤ 56) ∧ (1 ≤ h.height ∧ h.height ≤ 300000) ∧ (1 ≤ h.width ∧ h.width ≤ 300000) ∧
      (h.depth = 1 ∨ h.depth = 8 ∨ h.depth = 16 ∨ h.depth = 32) ∧ h.colorMode ∈ [0, 1, 2, 3, 4, 7, 8, 9] := by
  obtain ⟨e1, e2, e3, e4, e5, e6, e7, e8, e9, e10⟩ := header_tables
  unfold Header.Valid
  rw [e1, e2, e3, e4, e5, e6, e7, e8, e9, e10]
  simp only [List.mem_cons, List.mem_nil_iff, or_false]

theorem header_signature_checked {h : Header} (hv : h.Valid) : h.signature = [0x38, 0x42, 0x50, 0x53] :=
  ((header_valid_iff h).1 hv).1
theorem header_version_checked {h : Header} (hv : h.Valid) : h.version = 1 ∨ h.version = 2 :=
  ((header_valid_iff h).1 hv).2.1
theorem header_channels_checked {h : Header} (hv : h.Valid) : 1 ≤ h.channels ∧ h.channels ≤ 56 :=
  ((header_valid_iff h).1 hv).2.2.1
theorem header_height_checked {h : Header} (hv : h.Valid) : 1 ≤ h.height ∧ h.height ≤ 300000 :=
  ((header_valid_iff h).1 hv).2.2.2.1
theorem header_width_checked {h : Header} (hv : h.Valid) : 1 ≤ h.width ∧ h.width ≤ 300000 :=
  ((header_valid_iff h).1 hv).2.2.2.2.1
theorem header_depth_checked {h : Header} (hv : h.Valid) : h.depth = 1 ∨ h.depth = 8 ∨ h.depth = 16 ∨ h.depth = 32 :=
  ((header_valid_iff h).1 hv).2.2.2.2.2.1
theorem header_color_mode_checked {h : Header} (hv : h.Valid) : h.colorMode ∈ [0, 1, 2, 3, 4, 7, 8, 9] :=
  ((header_valid_iff h).1 hv).2.2.2.2.2.2

example : headerVal.Valid := by decide

/-- the boundaries: 56 channels and a side of 300000 pass, 57 and 300001 do not -/
example : ({ headerVal with channels := 56, height := 300000, width := 300000 } : Header).Valid ∧
    ¬ ({ headerVal with channels := 57 } : Header).Valid ∧ ¬ ({ headerVal with height := 300001 } : Header).Valid ∧
    ¬ ({ headerVal with width := 300001 } : Header).Valid ∧ ¬ ({ headerVal with channels := 0 } : Header).Valid := by decide

/-- a header that `Header.dec` accepts passed the validators (the rejection of the others is `psd_read_rejects_bad_header`) -/
theorem header_rejects {b : B} {h : Header} {p : Nat} (hd : Header.dec b 0 = .ok (h, p)) : h.Valid :=
  (header_valid_of_ok hd).1

theorem header_ok_is_raw {b : B} {h : Header} {p : Nat} (hd : Header.dec b 0 = .ok (h, p)) :
    h = headerRaw b 0 ∧ p = 26 ∧ 26 ≤ b.length := by
  obtain ⟨_, h2, h3, h4⟩ := header_valid_of_ok hd
  exact ⟨h4, by omega, by omega⟩

/-- with 26 bytes: extract the seven fields, run the validators — nothing else -/
theorem header_dec_eq {b : B} (hl : 26 ≤ b.length) :
    Header.dec b 0 = if (headerRaw b 0).Valid then .ok (headerRaw b 0, 26) else .error .valueError := by
  have := Safe.header_dec_eq (d := b) (p := 0) (by omega)
  simpa using this

/-- the sharp form: fields that are not `Valid` are rejected with `ValueError` -/
theorem header_rejects_invalid {b : B} (hl : 26 ≤ b.length) (hv : ¬ (headerRaw b 0).Valid) :
    Header.dec b 0 = .error .valueError := by
  rw [header_dec_eq hl, if_neg hv]

example : (26 ≤ badVersionPsd.length ∧ ¬ (headerRaw badVersionPsd 0).Valid) ∧ (headerRaw badVersionPsd 0).version = 3 := by
  decide +kernel

theorem header_short {b : B} (hl : b.length < 26) : Header.dec b 0 = .error .ioError :=
  header_short' (by omega)

example : Header.dec (headerBytes.take 25) 0 = .error .ioError := by decide +kernel

theorem header_accepts {h : Header} (hv : h.Valid) (rest : B) : Header.dec (h.encT ++ rest) 0 = .ok (h, 26) :=
  header_accepts' hv rest

example : headerVal.encT = headerBytes := by decide +kernel

/-- data whose header is short or not valid is rejected and nothing behind the header is interpreted:
the outcome is the header reader's exception -/
theorem psd_read_rejects_bad_header {b : B} (h : ¬ (26 ≤ b.length ∧ (headerRaw b 0).Valid)) :
    PSD.read b 0 = .error (if b.length < 26 then .ioError else .valueError) := by
  by_cases hl : b.length < 26
  · rw [if_pos hl]; exact psd_of_header_error (header_short hl)
  · rw [if_neg hl]
    exact psd_of_header_error (header_rejects_invalid (by omega) (fun hv => h ⟨by omega, hv⟩))

/-- conversely a document is only ever returned for a valid header -/
theorem psd_read_header_valid {b : B} {v : PSD} {p : Nat} (h : PSD.read b 0 = .ok (v, p)) :
    26 ≤ b.length ∧ v.header = headerRaw b 0 ∧ v.header.Valid := by
  obtain ⟨_, _, _, _, h1, _⟩ := psd_ok_inv h
  have := header_valid_of_ok h1
  exact ⟨by omega, this.2.2.2, this.1⟩

example : PSD.read badVersionPsd 0 = .error .valueError := outcome_classes_attained.2.1

/-! ### 5. cost -/

/-- the counting interpreter IS the reader: same results for every input -/
theorem readC_erases (b : B) : (PsdCost.PSD.readC b 0).1 = PSD.read b 0 := psd_fst b 0

/-- … section by section, at any position of any stream -/
theorem header_erases (d : B) (p : Nat) : (PsdCost.Header.decC d p).1 = Header.dec d p := header_fst d p
theorem resources_erases (d : B) (p : Nat) : (PsdCost.resourcesDecC d p).1 = resourcesDec d p := resources_fst d p
theorem tagged_blocks_erases (v pad : Nat) (e : Option Nat) (d : B) (p : Nat) :
    (PsdCost.taggedBlocksDecC v pad e d p).1 = taggedBlocksDec v pad e d p := taggedBlocks_fst v pad e d p
theorem layer_record_erases (v : Nat) (d : B) (p : Nat) : (PsdCost.LayerRecord.decC v d p).1 = LayerRecord.dec v d p :=
  layerRecord_fst v d p
theorem layer_info_erases (v : Nat) (d : B) (p : Nat) : (PsdCost.LayerInfo.decC v d p).1 = LayerInfo.dec v d p :=
  layerInfo_fst v d p
theorem layer_and_mask_erases (v : Nat) (d : B) (p : Nat) : (PsdCost.LayerAndMask.decC v d p).1 = LayerAndMask.dec v d p :=
  layerAndMask_fst v d p
theorem image_data_erases (d : B) (p : Nat) : (PsdCost.ImageData.decC d p).1 = ImageData.dec d p := imageData_fst d p

/-- ticks + bytes, for every outcome -/
theorem read_cost_bound (b : B) :
    (PsdCost.PSD.readC b 0).2.ticks + (PsdCost.PSD.readC b 0).2.alloc ≤ 13 * b.length + 224 := psd_w_le b

theorem read_steps_bound (b : B) : (PsdCost.PSD.readC b 0).2.ticks ≤ 13 * b.length + 224 := by
  have := read_cost_bound b; omega

theorem read_alloc_bound (b : B) : (PsdCost.PSD.readC b 0).2.alloc ≤ 13 * b.length + 224 := by
  have := read_cost_bound b; omega

/-- concrete runs: the minimal file; a truncation, a section over-run, a short pascal string, a `2^63` section
(the cost spent before the exception is kept); the empty input -/
example : (PsdCost.PSD.readC minimalPsd 0).2 = ⟨22, 41⟩ ∧ (PsdCost.PSD.readC (minimalPsd.take 30) 0).2 = ⟨14, 30⟩ ∧
    (PsdCost.PSD.readC overrunPsd 0).2 = ⟨22, 42⟩ ∧ (PsdCost.PSD.readC shortPascalPsd 0).2 = ⟨23, 62⟩ ∧
    (PsdCost.PSD.readC overflowPsd 0).2 = ⟨27, 54⟩ ∧ (PsdCost.PSD.readC [] 0).2 = ⟨1, 0⟩ := by decide +kernel

/-- per reader, whatever the outcome: cost ≤ a · (stream length) + b. The coefficient grows with the nesting
depth below the reader, which is a constant of the skeleton. -/
theorem resources_cost (d : B) (p : Nat) : (PsdCost.resourcesDecC d p).2.w ≤ 5 * d.length + 26 := (resources_pays d p).w_le
theorem tagged_blocks_cost (v pad : Nat) (e : Option Nat) (d : B) (p : Nat) :
    (PsdCost.taggedBlocksDecC v pad e d p).2.w ≤ 3 * d.length + 30 := (taggedBlocks_pays v pad e d p).w_le
theorem layer_record_cost (v : Nat) (d : B) (p : Nat) : (PsdCost.LayerRecord.decC v d p).2.w ≤ 8 * d.length + 106 :=
  (layerRecord_pays v d p).w_le
theorem layer_info_cost (v : Nat) (d : B) (p : Nat) : (PsdCost.LayerInfo.decC v d p).2.w ≤ 12 * d.length + 113 :=
  (layerInfo_pays v d p).w_le
theorem layer_and_mask_cost (v : Nat) (d : B) (p : Nat) : (PsdCost.LayerAndMask.decC v d p).2.w ≤ 12 * d.length + 184 := by
  have h := layerAndMask_spend v d p
  unfold Spend at h
  have : pot 12 d p ≤ 12 * d.length := Nat.mul_le_mul_left 12 (by omega)
  omega

/-- a successful reader that does not seek is paid by the bytes it consumed: cost ≤ a · (advance) + b -/
theorem layer_record_cost_by_advance {v : Nat} {d : B} {p : Nat} {r : LayerRecord} {p' : Nat}
    (h : LayerRecord.dec v d p = .ok (r, p')) (hp : p ≤ d.length) :
    (PsdCost.LayerRecord.decC v d p).2.w ≤ 8 * (p' - p) + 106 := by
  have hc := (layerRecord_pays v d p).of_ok ((layerRecord_fst v d p).trans h)
  have hg := (layerRecord_good v d p).cursor h hp
  unfold pot at hc
  omega

example : (LayerRecord.dec 1 recordBytes 0).toOption.map (·.2) = some 46 ∧
    (PsdCost.LayerRecord.decC 1 recordBytes 0).2 = ⟨28, 70⟩ := by decide +kernel
example : LayerRecord.dec 1 [] 0 = .error .ioError ∧ (PsdCost.LayerRecord.decC 1 [] 0).2 = ⟨1, 0⟩ := by decide +kernel

/-! ### 6. the native decoder -/

/-- No `std::string` primitive of `_rle.decode` is reached out of bounds (C05). -/
theorem native_decoder_safe (e : Bytes) (n : Nat) : Rle.decC e n ≠ .oob := C05.decC_in_bounds e n

/-! ### 7. the counting semantics of the payload readers: one law per combinator -/

section payload
open PsdVerif.PayloadCost PsdVerif.Payload3

/-- `for _ in range(n)` over a body that consumes ≥ 1 byte when it succeeds: ticks + bytes are paid by the bytes
consumed (success) or left (failure) — the bound does not mention `n`: an over-large count stops at the first item
that fails -/
theorem counted_loop_ignores_count {α : Type} {item : PsdCost.RC α} {a b k : Nat} {d : B}
    (hi : ∀ p, p ≤ d.length → Cost a b k d p (item d p)) (hk : 1 ≤ k) (n p : Nat) (hp : p ≤ d.length) :
    Cost (a + b + 1) (b + 1) 0 d p (PsdCost.readCountC item n d p) := readCountC_cost hi hk n p hp

example : Cost 3 2 0 [] 0 (PsdCost.readCountC (PsdCost.readUC 4) 4294967295 [] 0) :=
  counted_loop_ignores_count (fun _ _ => readUC_cost 4) (by decide) _ 0 (Nat.le_refl _)

/-- `while is_readable(fp, m)`: never out of fuel, linear -/
theorem while_loop_cost {α : Type} {item : PsdCost.RC (Option α)} {a b k : Nat} (m : Nat) {d : B}
    (hi : ∀ p, p ≤ d.length → Cost a b k d p (item d p)) (hk : 1 ≤ k) (p : Nat) (hp : p ≤ d.length) :
    Cost (a + b + m + 2) (b + 2 * (m + 2)) 0 d p (PsdCost.readWhileC (PsdCost.isReadableC m) item d p) :=
  readWhileC_cost m hi hk p hp

/-- the combinators of Model/Payload3Base.lean: the counting reader erases to the reader and obeys `Cost` with the
constants computed from its shape, provided the shape passes `bodyProgress` -/
theorem combinators_sound :
    (∀ fs, (CC.fmt fs).Sound) ∧ CC.tailBytes.Sound ∧ (∀ pw pr, (CC.pascal pw pr).Sound) ∧ CC.ustr.Sound ∧
    (∀ {α β : Type} (x : CC α) (y : CC β), x.Sound → y.Sound → (CC.seq x y).Sound) ∧
    (∀ {α : Type} (w : Nat) (x : CC α), x.Sound → (CC.counted w x).Sound) ∧
    (∀ {α : Type} (n : Nat) (x : CC α), x.Sound → (CC.exactly n x).Sound) ∧
    (∀ {α : Type} (n pad : Nat) (x : CC α), x.Sound → (CC.whileR n pad x).Sound) ∧
    (∀ {α : Type} (pad : Nat) (x : CC α), x.Sound → (CC.padded pad x).Sound) ∧
    (∀ {α : Type} (w pad : Nat) (x : CC α), x.Sound → (CC.blocked w pad x).Sound) ∧
    (∀ {α : Type} (x : CC α), x.Sound → (CC.optTail x).Sound) :=
  ⟨CC.fmt_sound, CC.tailBytes_sound, CC.pascal_sound, CC.ustr_sound, fun _ _ hx hy => CC.seq_sound hx hy,
   fun w _ hx => CC.counted_sound w hx, fun n _ hx => CC.exactly_sound n hx, fun n pad _ hx => CC.whileR_sound n pad hx,
   fun pad _ hx => CC.padded_sound pad hx, fun w pad _ hx => CC.blocked_sound w pad hx, fun _ hx => CC.optTail_sound hx⟩

/-- `counted` needs its side condition: the shape of a counted loop over a body that may consume nothing does not pass -/
theorem counted_without_progress_rejected :
    (Sh.counted 4 (Sh.leaf 0 1)).bodyProgress = false ∧ (Sh.counted 4 (Sh.leaf 1 1)).bodyProgress = true := by decide

/-- the side condition for EVERY costed payload class (units 2-10), by `decide` over the table of their shapes -/
theorem body_progress_all_classes : allTables.all (fun e => e.2.bodyProgress) = true := all_body_progress

example : allTables.length = 98 := by decide

/-- every class of `tagged_blocks.TYPES` costs at most `1867 · len + 1853`, every class of `image_resources.TYPES`
at most `(62 + 4 · len) · len + 63`, and none runs out of fuel -/
theorem payload_class_bounds :
    OpenCost.AllR (OpenCost.RB 1867 1853) (OpenCost.blockRunners OpenCost.tables OpenCost.engineRunner OpenCost.tyshRun) ∧
    OpenCost.AllR (OpenCost.RQ 62 63 4) (OpenCost.resourceRunners OpenCost.tables) :=
  ⟨OpenCost.blockRunners_bound _ OpenCost.engineRunner_RB OpenCost.tyshRun_RB, OpenCost.resourceRunners_bound _⟩

end payload

/-! ### 8. descriptors and engine data: linear whatever the nesting -/

/-- `TYPES[t].read(fp)`: the counting twin is the reader … -/
theorem descriptor_erases (tb : Descriptor.Tables) (t : Descriptor.Tag) (d : B) (p : Nat) :
    (DescriptorCost.decC tb t d p).1 = Descriptor.dec tb t d p := DescriptorCost.decC_fst tb t d p

/-- … and costs at most `4 · (bytes consumed) + 10`: nesting does not copy, every level pays for itself out of its own
header, so the constants are the same at every depth (and at every fuel) -/
theorem descriptor_cost_linear (tb : Descriptor.Tables) (t : Descriptor.Tag) :
    PayloadCost.CostR 4 10 0 (DescriptorCost.decC tb t) := DescriptorCost.decC_cost tb t

theorem descriptor_block_cost (tb : Descriptor.Tables) :
    PayloadCost.CostR 4 7 16 (DescriptorCost.Block.decC tb) ∧ PayloadCost.CostR 4 8 20 (DescriptorCost.Block2.decC tb) :=
  ⟨DescriptorCost.Block.decC_cost tb, DescriptorCost.Block2.decC_cost tb⟩

/-- the engine-data parser: linear in the length of the blob (every token consumes ≥ 1 byte), never out of fuel -/
theorem engine_data_linear (d : EngineData.BL) :
    (EngineDataCost.parseC d).1 = EngineData.parse d ∧ (EngineDataCost.parseC d).2.w ≤ 63 * d.length + 20 ∧
      EngineData.parse d ≠ .error .recursionError :=
  ⟨EngineDataCost.parseC_fst d, EngineDataCost.parseC_cost d, EngineDataCost.parse_never_out_of_fuel d⟩

/-! ### 9. the whole modelled reader -/

section whole
open PsdVerif.OpenCost

/-- `Sim`: the typed reader's outcome IS the skeleton's outcome, or it is an exception other than `Err.other`. (The statement
does not say who raised it; in the proof the second case arises only from a payload hook.) -/
theorem open_refines_skeleton (D : Nat) (b : B) : Sim (openC D b).1 (PSD.read b 0) := openC_sim D b

theorem open_ok_is_skeleton_ok {D : Nat} {b : B} {v : PSD} {p : Nat} (h : (openC D b).1 = .ok (v, p)) :
    PSD.read b 0 = .ok (v, p) := (openC_sim D b).of_ok h

/-- no loop of the whole reader runs out of fuel, for any byte string -/
theorem open_never_out_of_fuel (D : Nat) (b : B) : (openC D b).1 ≠ .error .other := openC_never_other D b

/-- MAIN: for every byte string `b` of length `n`, whatever the outcome (a document or an exception), with at most `D`
nested layer-info blocks before `RecursionError`:  ticks ≤ P(n), allocation ≤ P(n) for
`P(n) = (2105 + 4·n + 168·min D (n/12))·n + 287`. What is proved is ticks + allocation ≤ P(n) (`openC_cost`); each of the two
is stated here because they are what the harness compares with; the three corollaries below keep the sum. -/
theorem open_steps_bound (D : Nat) (b : B) :
    (openC D b).2.ticks ≤ (2105 + 4 * b.length + 168 * min D (b.length / 12)) * b.length + 287 ∧
    (openC D b).2.alloc ≤ (2105 + 4 * b.length + 168 * min D (b.length / 12)) * b.length + 287 := by
  have h := openC_cost D b
  unfold PsdCost.Cost.w at h
  exact ⟨by omega, by omega⟩

/-- whatever the recursion limit: at most quadratic. 172 = 168 + 4 is not tight: it bounds `min D (n/12)` by `n`; with the
twelve kept the coefficient is 14 + 4 (`openC_cost_quadratic`) -/
theorem open_steps_bound_deep (D : Nat) (b : B) :
    (openC D b).2.ticks + (openC D b).2.alloc ≤ 172 * b.length * b.length + 2105 * b.length + 287 :=
  Nat.le_trans (openC_cost_quadratic D b) (Nat.add_le_add_right (Nat.add_le_add_right
    (Nat.mul_le_mul_right _ (Nat.mul_le_mul_right _ (by decide))) _) _)

/-- with the recursion limit the nesting costs a constant factor; what stays quadratic is the `Slices` resource -/
theorem open_steps_bound_limit (D : Nat) (b : B) :
    (openC D b).2.ticks + (openC D b).2.alloc ≤ (2105 + 4 * b.length + 168 * D) * b.length + 287 :=
  openC_cost_limit D b

/-- truncated inputs: the bound of the prefix -/
theorem open_truncated (D : Nat) (b : B) (k : Nat) :
    (openC D (b.take k)).2.ticks + (openC D (b.take k)).2.alloc ≤ 172 * k * k + 2105 * k + 287 := by
  have h := open_steps_bound_deep D (b.take k)
  have hl : (b.take k).length ≤ k := by simp only [List.length_take]; omega
  have h1 : 172 * (b.take k).length * (b.take k).length ≤ 172 * k * k :=
    Nat.mul_le_mul (Nat.mul_le_mul_left _ hl) hl
  have h2 : 2105 * (b.take k).length ≤ 2105 * k := Nat.mul_le_mul_left _ hl
  omega

/-- the nested family attains the quadratic term: a layer info inside an `Lr16` block inside the extra data of a layer
record inside a layer info …, `m` levels in `60·m + 46` bytes; it opens, in `40·m + 24` ticks, and the copies add up to
`120·m² + 4·m + 46` bytes -/
theorem nested_family_quadratic :
    [0, 1, 2, 4, 8, 16].all (fun m => (nestDoc m).length == 60 * m + 46 &&
      (openC 1000 (nestDoc m)).1.toOption.map (·.2) == some (60 * m + 46) &&
      (openC 1000 (nestDoc m)).2 == ⟨40 * m + 24, 120 * m * m + 4 * m + 46⟩) = true := by decide +kernel

/-- … and a recursion limit cuts it: at depth 3 of 8 the reader raises `RecursionError`, having spent the levels above -/
theorem nested_family_limit :
    (openC 3 (nestDoc 8)).1 = .error .recursionError ∧ (openC 3 (nestDoc 8)).2 = ⟨168, 5576⟩ := by decide +kernel

/-- inputs whose counts are maximal cost no more than what is there: 32767 layer records declared, none present -/
theorem max_count_costs_nothing :
    (openC 1000 (Safe.headerBytes ++ be4 0 ++ be4 0 ++ be4 6 ++ (be4 2 ++ [0x7F, 0xFF]) ++ [0, 0])).1 = .error .ioError ∧
    (openC 1000 (Safe.headerBytes ++ be4 0 ++ be4 0 ++ be4 6 ++ (be4 2 ++ [0x7F, 0xFF]) ++ [0, 0])).2.ticks ≤ 40 := by
  decide +kernel

/-- … every length 0xFFFFFFFF: the first one ends the parse -/
theorem max_length_costs_nothing :
    (openC 1000 (Safe.headerBytes ++ [0xFF, 0xFF, 0xFF, 0xFF] ++ List.replicate 12 0xFF)).1 = .error .ioError ∧
    (openC 1000 (Safe.headerBytes ++ [0xFF, 0xFF, 0xFF, 0xFF] ++ List.replicate 12 0xFF)).2 = ⟨11, 42⟩ := by
  decide +kernel

end whole

/-! ### 10. what the theorems exclude: the unsafe variants, and the two findings -/

/-- a count-driven loop whose body swallows the end-of-data error runs `n` times, whatever the data (the seeded change
C06-r3-2 puts `MetadataSettings.read` into this shape): ticks ≥ the declared count -/
theorem swallowing_loop_runs_count {α : Type} (item : PsdCost.RC α) (n : Nat) (d : B) (p : Nat) :
    n ≤ (UnsafeLoops.readCountSwallowC item n d p).2.ticks := UnsafeLoops.swallow_ticks item n d p

/-- … and does not even fail: 2^32 − 1 iterations on the empty stream end with an empty list; the loop the library has
stops after two ticks -/
theorem swallowing_loop_on_empty (n : Nat) :
    (UnsafeLoops.readCountSwallowC (PsdCost.readUC 4) n [] 0).1 = .ok ([], 0) ∧
      (PsdCost.readCountC (PsdCost.readUC 4) n [] 0).2.w ≤ 2 :=
  ⟨UnsafeLoops.swallow_on_empty n, UnsafeLoops.safe_on_empty n⟩

/-- a chunked read without an end-of-file exit (the seeded change C06-r3-3): at the end of the data NO fuel suffices —
it is still looping when the fuel runs out — and it costs two ticks per unit of fuel; with the exit it ends at once -/
theorem chunked_read_never_ends (M fuel remaining : Nat) (hr : 0 < remaining) (d : B) :
    (UnsafeLoops.readChunkedFuelC M fuel remaining d d.length).1 = .error .other ∧
      (UnsafeLoops.readChunkedFuelC M fuel remaining d d.length).2.ticks = 2 * fuel ∧
      (UnsafeLoops.readChunkedOkC M (fuel + 1) remaining d d.length).1 = .ok ([], d.length) :=
  ⟨(UnsafeLoops.chunked_never_ends M fuel remaining hr d).1, (UnsafeLoops.chunked_never_ends M fuel remaining hr d).2,
   UnsafeLoops.chunked_ok_at_eof M fuel remaining d⟩

/-- FINDING (known): `SliceV6.read` reads a descriptor speculatively and undoes it; an undone attempt consumed nothing
but may have read everything that was left, so the judgement "paid by the bytes consumed" fails for it, for all constants with
`a · 69 + b < 2^32 − 2` (the witness is one string, whose declared length is a 32-bit field). This is not non-linearity: one
slice is linear in the bytes LEFT (`SliceV6.decC_left`) … -/
theorem slices_not_linear (tb : Descriptor.Tables) (a b k : Nat) (hb : a * 69 + b < 4294967294) :
    ¬ PayloadCost.CostR a b k (PayloadCost.SliceV6.decC tb) := PayloadCost.SliceV6.decC_not_cost tb a b k hb

/-- … what does hold: quadratic in the bytes left, whatever slice count is declared; never out of fuel -/
theorem slices_quadratic_partial (tb : Descriptor.Tables) (d : B) (p : Nat) (hp : p ≤ d.length) :
    (PayloadCost.Slices.decC tb d p).1 = Payload3.Slices.dec tb d p ∧
    (PayloadCost.Slices.decC tb d p).2.w ≤ (d.length - p + 1) * (4 * (d.length - p) + 53) ∧
    (PayloadCost.Slices.decC tb d p).1 ≠ .error .other :=
  ⟨PayloadCost.Slices.decC_fst tb d p, (PayloadCost.Slices.decC_left tb d p hp).1, (PayloadCost.Slices.decC_left tb d p hp).2⟩

/-- FINDING (known, streams other than `io.BytesIO`): the declared length is what `fp.read` is ASKED for; what it
returns — what the theorems count — is what is there: 40 bytes, a request of 4294967280 -/
theorem declared_length_is_requested :
    UnsafeLoops.hugeLengthPsd.length = 40 ∧ UnsafeLoops.declaredRequest UnsafeLoops.hugeLengthPsd = some 4294967280 ∧
      (OpenCost.openC 1000 UnsafeLoops.hugeLengthPsd).1 = .error .ioError ∧
      (OpenCost.openC 1000 UnsafeLoops.hugeLengthPsd).2.alloc = 40 := by decide +kernel

/-- the allocation bound, for streams that allocate what they return -/
theorem open_alloc_partial (D : Nat) (b : B) :
    (OpenCost.openC D b).2.alloc ≤ 172 * b.length * b.length + 2105 * b.length + 287 := by
  have := open_steps_bound_deep D b; omega

/-! ### 11. ties to the source (tables regenerated on every run) -/

/-- every class of the two registries has a costed model (or is `LayerInfoBlock`, which recurses into the skeleton) -/
theorem registry_classes_costed :
    Generated.OpenRegistry.taggedTypes.all (fun e => e.2 == OpenCost.layerInfoClass || OpenCost.blockRunnerNames.contains e.2) = true ∧
    Generated.OpenRegistry.resourceTypes.all (fun e => OpenCost.resourceRunnerNames.contains e.2) = true ∧
    (OpenCost.blockRunners OpenCost.tables OpenCost.engineRunner OpenCost.tyshRun).map (·.1) = OpenCost.blockRunnerNames ∧
    (OpenCost.resourceRunners OpenCost.tables).map (·.1) = OpenCost.resourceRunnerNames := by
  refine ⟨by decide +kernel, by decide +kernel, rfl, rfl⟩

example : Generated.OpenRegistry.taggedTypes.length = 87 ∧ Generated.OpenRegistry.resourceTypes.length = 50 := by decide

/-- the `Lr16` / `Lr32` keys the model recurses on are the keys registered for `LayerInfoBlock` -/
theorem layer_info_keys_tied : OpenCost.hooks.layerInfoKeys = Generated.Payload.layerInfoBlockKeys := by decide +kernel

/-- the loops of the readers: every count-driven / `while` loop of the source belongs to a costed class or to a row of
`skeletonLoops` (whose progress figure and lemma name are typed in by hand: the fourth conjunct checks only that the figure
is ≥ 1); a class has at least as many progress-checked loops in its model
shape as its `read` has in the source; no reader loop contains a `try` -/
theorem reader_loops_tied :
    Generated.ReadLoops.loops = CostTables.loops ∧
    (Generated.ReadLoops.loops.filter PayloadCost.isReaderLoop).all (fun e => PayloadCost.ownerCovered e.2.1) = true ∧
    PayloadCost.allTables.all (fun e => decide (PayloadCost.astLoops e.1 "count" ≤ PayloadCost.kindCount "count" e.2.loops) &&
      decide (PayloadCost.astLoops e.1 "while" ≤ PayloadCost.kindCount "while" e.2.loops)) = true ∧
    PayloadCost.skeletonLoops.all (fun s => decide (1 ≤ s.2.2.1)) = true ∧
    CostTables.loops.all (fun e => e.2.2.1 == "try" || e.2.2.2.2 == "") = true :=
  ⟨CostTables.read_loops_tied, PayloadCost.loops_covered, PayloadCost.class_loops_tied, PayloadCost.skeleton_progress,
   CostTables.no_guarded_loop⟩

/-- the allocation sites: every place of the source that allocates from a computed size is classified; while a file
is being opened a DECLARED size only ever reaches a stream `read` (the two sites of `declared_length_is_requested`),
never `bytearray`, a repetition, numpy …; the sizes taken from the header (width · height · depth) are export-time -/
theorem alloc_sites_tied :
    Generated.AllocSites.sites = CostTables.sites ∧ CostTables.sites = CostTables.siteVerdicts.map (·.1) ∧
    (CostTables.siteVerdicts.filter (fun e => e.2.1 == "open" && e.2.2 == "declared-size")).map (·.1) =
      [("psd/layer_and_mask.py", "ChannelData.read", "read", "length"), ("utils.py", "read_length_block", "read", "length")] ∧
    CostTables.siteVerdicts.all (fun e => !(e.2.1 == "open" && e.2.2 == "declared-size") || e.1.2.2.1 == "read") = true :=
  ⟨CostTables.alloc_sites_tied, CostTables.sites_all_classified, CostTables.declared_size_at_open,
   CostTables.declared_size_at_open_is_stream_read⟩

/-- cursor moves other than reading. The progress arguments (`counted_loop_ignores_count`, `body_progress_all_classes`:
an item of a count-driven loop consumes at least one byte or fails, so end of data stops the loop whatever count is
declared) assume that nothing inside a loop moves the cursor backwards. From the AST on every run: the reading
functions `seek` at exactly eight places, each reviewed - an undo of the function's own last read (`read_fmt`,
`is_readable`, `TaggedBlock.read`, the probe of `SliceV6.read`), the restore of a position saved in the same call before
anything was consumed (`SliceV6.read`, `GlobalLayerMaskInfo.read`), the skip to the declared end of a section behind
which the caller continues (`LayerAndMaskInformation.read`, `LayerInfo.read`) - and NONE lies inside a loop. (The search
pairs count = max with every length / size field of the first item for every count-driven loop of `ReadLoops`.) -/
theorem read_seeks_tied :
    Generated.ReadSeeks.seeks =
      [("psd/image_resources.py", "SliceV6.read", "seek(-4, 1)", "straight"),
       ("psd/image_resources.py", "SliceV6.read", "seek(current_position)", "straight"),
       ("psd/layer_and_mask.py", "GlobalLayerMaskInfo.read", "seek(pos)", "straight"),
       ("psd/layer_and_mask.py", "LayerAndMaskInformation.read", "seek(end_pos, 0)", "straight"),
       ("psd/layer_and_mask.py", "LayerInfo.read", "seek(end_pos, 0)", "straight"),
       ("psd/tagged_blocks.py", "TaggedBlock.read", "seek(-4, 1)", "straight"),
       ("utils.py", "is_readable", "seek(-read_size, 1)", "straight"),
       ("utils.py", "read_fmt", "seek(-len(data), 1)", "straight")] ∧
    Generated.ReadSeeks.seeks.all (fun e => e.2.2.2 != "loop") = true := ⟨rfl, by decide +kernel⟩

/-- the regular expressions of the engine-data tokenizer are those of the source and pass the sufficient condition for
O(1) backtracking per byte (star height ≤ 1, disjoint FIRST sets, the one-versus-two tiling exception); the seeded
variant of `UTF16_END` (C06-2) does not -/
theorem engine_patterns_safe :
    Generated.EnginePatterns.patterns = EngineRegexTables.patterns ∧
    EngineRegexTables.patterns.all (fun p => match EngineRegex.parse p.2 with | some r => EngineRegex.safe r | none => false) = true ∧
    (EngineRegex.parse "^\\(\\xfe\\xff(?:\\\\.|[^\\)])*\\)").map EngineRegex.safe = some false :=
  ⟨EngineRegexTied.engine_patterns_tied, EngineRegexTied.engine_patterns_safe, EngineRegexTied.seeded_pattern_unsafe⟩

end PsdVerif.C06
