/-
C08 — the layer tree mirrors the file's record order, and saving restores that order.
Property theorems only; helper lemmas live in `Lemmas/TreeParse.lean`.

Model: `Model/TreeParse.lean` (`classify`, `parse` = `PSDImage._init`, `flatten` =
`_build_record_tree`, `kindOf` = the dispatch chain over the tables regenerated from the source
into `Generated/TreeKinds.lean`).
-/
import PsdVerif.Model.TreeParse
import PsdVerif.Lemmas.TreeParse
import PsdVerif.Generated.TreeKinds
import PsdVerif.Model.Reopen
import PsdVerif.Generated.Reopen

namespace PsdVerif.C08
open PsdVerif PsdVerif.Tree

/-! ### Inverse laws -/

/-- Opening what flattening produced gives back the same tree: every forest — any depth, empty
    groups, artboards — is reconstructed exactly, and the group stack is empty at the end. -/
theorem parse_flatten (f : Forest) : parse (flatten f) = .ok f := by
  have h := run_flatten_list f St.init
  simp only [St.init, foldl_push_root, List.nil_append] at h
  simp only [parse, h, St.init]

/-- Flattening the tree built from a record sequence reproduces that sequence: nothing is lost,
    duplicated or reordered (payload ids stand for the record *and* its channel list). -/
theorem flatten_parse (rs : List Rec) (f : Forest) (h : parse rs = .ok f) : flatten f = rs := by
  unfold parse at h
  cases hr : run St.init rs with
  | error e => simp [hr] at h
  | ok s =>
    simp only [hr] at h
    obtain ⟨root, stack⟩ := s
    cases stack with
    | cons fr frs => simp at h
    | nil =>
      simp only [Except.ok.injEq] at h
      subst h
      have := run_unparse St.init _ rs hr
      simpa [St.unparse, St.init, unparseFrames, flatten] using this

theorem parse_injective (rs rs' : List Rec) (f : Forest) (h : parse rs = .ok f) (h' : parse rs' = .ok f) :
    rs = rs' := by
  rw [← flatten_parse rs f h, ← flatten_parse rs' f h']

/-! ### Which sequences are accepted, and what happens to the others -/

/-- The constructor succeeds exactly on the well-nested sequences (`WellNested` is stated on the
    record list alone). Success of `parse` includes "the group stack is empty at the end". -/
theorem parse_ok_iff_wellNested (rs : List Rec) : (∃ f, parse rs = .ok f) ↔ WellNested rs := by
  constructor
  · rintro ⟨f, h⟩
    rw [← flatten_parse rs f h]
    exact wellNested_flatten f
  · intro h
    obtain ⟨f, hf⟩ := wellNested_exists_forest rs h
    exact ⟨f, by rw [← hf]; exact parse_flatten f⟩

/-- The loop alone (before `_compute_clipping_layers`): it ends with an empty group stack exactly
    on the well-nested sequences. -/
theorem loop_stackEmpty_iff_wellNested (rs : List Rec) :
    (∃ s, run St.init rs = .ok s ∧ s.stack = []) ↔ WellNested rs := by
  rw [← parse_ok_iff_wellNested]
  unfold parse
  constructor
  · rintro ⟨s, h, he⟩
    exact ⟨s.root, by simp [h, he]⟩
  · rintro ⟨f, h⟩
    cases hr : run St.init rs with
    | error e => simp [hr] at h
    | ok s =>
      simp only [hr] at h
      cases hs : s.stack with
      | nil => exact ⟨s, rfl, hs⟩
      | cons a as => simp [hs] at h

/-- Outcome on every input, by nesting depth: a closing record at depth 0 makes `group_stack.pop()`
    return the document (`AssertionError`); a group still open at the end of the list keeps
    `_record = None` and `_compute_clipping_layers` fails (`AttributeError`); otherwise a tree. -/
theorem parse_outcome (rs : List Rec) :
    (parse rs = .error .assertionError ↔ depthRun 0 rs = none) ∧
    (parse rs = .error .attributeError ↔ ∃ d, depthRun 0 rs = some (d + 1)) ∧
    ((∃ f, parse rs = .ok f) ↔ depthRun 0 rs = some 0) ∧
    (∀ e, parse rs = .error e → e = .assertionError ∨ e = .attributeError) := by
  have h := run_depth St.init rs
  unfold parse
  cases hr : run St.init rs with
  | error e =>
    simp only [hr] at h
    obtain ⟨he, hd⟩ := h
    subst he
    simp [St.init] at hd
    simp [hd]
  | ok s =>
    simp only [hr] at h
    simp only [St.init, List.length_nil] at h
    cases hs : s.stack with
    | nil => rw [hs] at h; simp [h, hs]
    | cons a as => rw [hs] at h; simp [h, hs]

/-! ### Group contents -/

/-- Every group of the opened tree — at any depth — sits in the file as: its bounding record, then
    exactly the flattening of its children in order (bottom to top), then its own record. -/
theorem group_contents (rs : List Rec) (f : Forest) (c b : Nat) (a : Bool) (ch : List Node)
    (h : parse rs = .ok f) (ho : Occurs (.group c b a ch) f) :
    ∃ pre post, rs = pre ++ .bounding b :: (flatten ch ++ .closing c a :: post) := by
  obtain ⟨pre, post, hs⟩ := occurs_split _ f ho
  refine ⟨pre, post, ?_⟩
  rw [← flatten_parse rs f h, hs]
  simp [Node.flatten, List.append_assoc]

/-- … and when the records are distinct objects, *whatever* lies strictly between the group's two
    divider records in the file is the flattening of its children: nothing else, nothing missing. -/
theorem group_contents_exact (rs : List Rec) (f : Forest) (c b : Nat) (a : Bool) (ch : List Node)
    (pre mid post : List Rec)
    (h : parse rs = .ok f) (hn : rs.Nodup) (ho : Occurs (.group c b a ch) f)
    (hsplit : rs = pre ++ .bounding b :: (mid ++ .closing c a :: post)) :
    mid = flatten ch := by
  obtain ⟨pre0, post0, h0⟩ := group_contents rs f c b a ch h ho
  have hn1 := hn
  rw [hsplit] at hn1
  have hn0 := hn
  rw [h0] at hn0
  have e := hsplit.symm.trans h0
  have k1 : Rec.bounding b ∉ pre := by
    intro hm
    have := (List.nodup_append.mp hn1).2.2 _ hm (Rec.bounding b) (by simp)
    exact this rfl
  have k0 : Rec.bounding b ∉ pre0 := by
    intro hm
    have := (List.nodup_append.mp hn0).2.2 _ hm (Rec.bounding b) (by simp)
    exact this rfl
  obtain ⟨_, e2⟩ := split_unique _ pre pre0 _ _ k1 k0 e
  have t1 := (List.nodup_cons.mp (List.nodup_append.mp hn1).2.1).2
  have t0 := (List.nodup_cons.mp (List.nodup_append.mp hn0).2.1).2
  have m1 : Rec.closing c a ∉ mid := by
    intro hm
    have := (List.nodup_append.mp t1).2.2 _ hm (Rec.closing c a) (by simp)
    exact this rfl
  have m0 : Rec.closing c a ∉ flatten ch := by
    intro hm
    have := (List.nodup_append.mp t0).2.2 _ hm (Rec.closing c a) (by simp)
    exact this rfl
  exact (split_unique _ mid (flatten ch) _ _ m1 m0 e2).1

/-! ### Classification of records and kinds of layers -/

/-- Independent statement of the divider rule: the nested key wins over the plain key; kind OTHER
    (and no divider at all) means an ordinary layer; BOUNDING opens a group; OPEN/CLOSED_FOLDER
    closes one, as an artboard exactly when an artboard key is present. -/
def Spec.role (k : DivKind) (artboard : Bool) (p : Nat) : Rec :=
  match k with
  | .other => .leaf p
  | .bounding => .bounding p
  | .openFolder => .closing p artboard
  | .closedFolder => .closing p artboard

theorem classify_rule (b : DivBlocks) (p : Nat) :
    (∀ k, b.nsds = some k → classify b p = Spec.role k b.artboard p) ∧
    (∀ k, b.nsds = none → b.sds = some k → classify b p = Spec.role k b.artboard p) ∧
    (b.nsds = none → b.sds = none → classify b p = .leaf p) := by
  refine ⟨?_, ?_, ?_⟩
  · intro k h; cases k <;> simp [classify, divider, h, Spec.role]
  · intro k h1 h2; cases k <;> simp [classify, divider, h1, h2, Spec.role]
  · intro h1 h2; simp [classify, divider, h1, h2]

/-- What the model of `_init` assumes about the divider handling is what the source says now
    (keys consulted and their override order, ignored / pushing / popping kinds, artboard keys,
    the enum, iteration in file order). Regenerated on every run. -/
theorem divider_tables_tied :
    Generated.TreeKinds.dividerKeys = ["SECTION_DIVIDER_SETTING", "NESTED_SECTION_DIVIDER_SETTING"] ∧
    Generated.TreeKinds.ignoredKinds = ["OTHER"] ∧
    Generated.TreeKinds.pushKinds = ["BOUNDING_SECTION_DIVIDER"] ∧
    Generated.TreeKinds.popKinds = ["OPEN_FOLDER", "CLOSED_FOLDER"] ∧
    Generated.TreeKinds.artboardKeys = ["ARTBOARD_DATA1", "ARTBOARD_DATA2", "ARTBOARD_DATA3"] ∧
    Generated.TreeKinds.sectionDivider =
      [("OTHER", 0), ("OPEN_FOLDER", 1), ("CLOSED_FOLDER", 2), ("BOUNDING_SECTION_DIVIDER", 3)] ∧
    Generated.TreeKinds.iteratesReversed = false :=
  ⟨rfl, rfl, rfl, rfl, rfl, rfl, rfl⟩

namespace Spec

/-- Priority list for the kind of an ordinary (non-divider) record, highest priority first. -/
def typeKeys : List String := ["TYPE_TOOL_OBJECT_SETTING", "TYPE_TOOL_INFO"]
def smartObjectKeys : List String :=
  ["SMART_OBJECT_LAYER_DATA1", "SMART_OBJECT_LAYER_DATA2", "PLACED_LAYER1", "PLACED_LAYER2"]
/-- fill layers, then adjustment layers: the first key present decides -/
def fillPriority : List (String × String) := [
  ("SOLID_COLOR_SHEET_SETTING", "solidcolorfill"), ("PATTERN_FILL_SETTING", "patternfill"),
  ("GRADIENT_FILL_SETTING", "gradientfill")]
def adjustmentPriority : List (String × String) := [
  ("CONTENT_GENERATOR_EXTRA_DATA", "brightnesscontrast"), ("CURVES", "curves"), ("EXPOSURE", "exposure"),
  ("LEVELS", "levels"), ("VIBRANCE", "vibrance"), ("HUE_SATURATION", "huesaturation"),
  ("COLOR_BALANCE", "colorbalance"), ("BLACK_AND_WHITE", "blackandwhite"), ("PHOTO_FILTER", "photofilter"),
  ("CHANNEL_MIXER", "channelmixer"), ("COLOR_LOOKUP", "colorlookup"), ("INVERT", "invert"),
  ("POSTERIZE", "posterize"), ("THRESHOLD", "threshold"), ("SELECTIVE_COLOR", "selectivecolor"),
  ("GRADIENT_MAP", "gradientmap")]
def vectorKeys : List String :=
  ["VECTOR_ORIGINATION_DATA", "VECTOR_MASK_SETTING1", "VECTOR_MASK_SETTING2", "VECTOR_STROKE_DATA",
   "VECTOR_STROKE_CONTENT_DATA"]

/-- type > smart object > fill (a fill with vector data and irrelevant pixels is a shape)
    > adjustment > shape (vector data and irrelevant pixels) > pixel. -/
def kind (has : String → Bool) (pdi : Bool) : String :=
  let vector := pdi && vectorKeys.any has
  if typeKeys.any has then "type"
  else if smartObjectKeys.any has then "smartobject"
  else match Tree.firstOf has fillPriority with
    | some k => if vector then "shape" else k
    | none => match Tree.firstOf has adjustmentPriority with
      | some k => k
      | none => if vector then "shape" else "pixel"

end Spec

/-- The kind of a layer is a function of the set of block keys present and of the
    `pixel_data_irrelevant` flag, and it is the priority list `Spec.kind` — for the dispatch chain
    and registry order that the source has now (regenerated tables). -/
theorem kind_follows_blocks (has : String → Bool) (pdi : Bool) :
    kindOf Generated.TreeKinds.tables has pdi = Spec.kind has pdi := by
  have hchain : Generated.TreeKinds.tables.chain =
      [.test "TypeLayer" "type" Spec.typeKeys, .test "SmartObjectLayer" "smartobject" Spec.smartObjectKeys,
       .registry] := rfl
  have hreg : Generated.TreeKinds.tables.registry =
      (Spec.fillPriority.map fun kv => ⟨kv.1, kv.2, true⟩) ++
      (Spec.adjustmentPriority.map fun kv => ⟨kv.1, kv.2, false⟩) := rfl
  have hshape : Generated.TreeKinds.tables.shapeKeys = Spec.vectorKeys := rfl
  have hflags : Generated.TreeKinds.tables.overrideNone = true ∧ Generated.TreeKinds.tables.overrideFill = true ∧
      Generated.TreeKinds.tables.shapeKind = "shape" ∧ Generated.TreeKinds.tables.defaultKind = "pixel" :=
    ⟨rfl, rfl, rfl, rfl⟩
  obtain ⟨h1, h2, h3, h4⟩ := hflags
  simp only [kindOf, hchain, runChain, hreg, firstAdj_append, firstAdj_map, hshape, h1, h2, h3, h4, Spec.kind]
  cases Spec.typeKeys.any has <;> cases Spec.smartObjectKeys.any has <;>
    cases Tree.firstOf has Spec.fillPriority <;> cases Tree.firstOf has Spec.adjustmentPriority <;> simp

/-! ### The kind is a function of the record alone

`kind_follows_blocks` is about `kindOf`, which takes the block keys of ONE record and ONE flag. That this is all the
source reads, and that it keeps nothing between records or documents, is read from the AST on every run: the dispatch
closure (the record loop of `_init` and every function of psd_image.py it calls) reads the flag
`pixel_data_irrelevant` only, follows no helper, and touches no module-level / class-level mutable container, no
`global`, no memoising decorator. (The search evaluates the clause on sequences: records with identical blocks and
different flags in one document and in documents opened one after another, both orders.) -/
theorem dispatch_reads_tied :
    Generated.TreeKinds.dispatchFlags = ["pixel_data_irrelevant"] ∧
    Generated.TreeKinds.dispatchState = [] ∧
    Generated.TreeKinds.dispatchFunctions = [] ∧
    (∀ t ∈ Generated.TreeKinds.dispatchTags,
        t ∈ Generated.TreeKinds.dividerKeys ++ Generated.TreeKinds.artboardKeys ++ Spec.typeKeys ++
          Spec.smartObjectKeys ++ Spec.vectorKeys) :=
  ⟨rfl, rfl, rfl, by decide +kernel⟩

/-- With a stateless dispatch the kinds of a sequence of records are the kinds of its members, whatever the
    order and whatever was opened before: stated on the model, where it is the definition. -/
theorem kinds_of_sequence (rs : List ((String → Bool) × Bool)) :
    rs.map (fun r => kindOf Generated.TreeKinds.tables r.1 r.2) = rs.map (fun r => Spec.kind r.1 r.2) := by
  simp [kind_follows_blocks]

/-! ### A record and its channel list travel as a pair

The model gives a record and its channel list ONE payload id (`parse_flatten` then speaks about both). That is an
assumption about the source: the four slots `_record` / `_channels` / `_bounding_record` / `_bounding_channels` are
filled with the objects handed in, unmodified, `_set_bounding_records` is always given the record and the channel
list of the same file position, and `_build_record_tree` appends the two slots of a position in parallel. The three
tables are read from the AST of api/layers.py and api/psd_image.py on every run. (The search varies the NUMBER of
channels of every record kind over 0, 1, 2, 4, 5 — an empty list is falsy in Python — and compares the flattened
lists slot by slot, then saves and reopens.) -/

/-- **The pair slots are plain stores, called with pairs, flattened in parallel.** -/
theorem pair_slots_tied :
    Generated.TreeKinds.pairStores =
      [("Layer.__init__", "_record", "record"), ("Layer.__init__", "_channels", "channels"),
       ("Group.__init__", "_bounding_record", "None"), ("Group.__init__", "_bounding_channels", "None"),
       ("Group._set_bounding_records", "_bounding_record", "_bounding_record"),
       ("Group._set_bounding_records", "_bounding_channels", "_bounding_channels"),
       ("PixelLayer._convert", "_channels", "new_layer._channels"),
       ("PSDImage.__init__", "_record", "data")] ∧
    Generated.TreeKinds.pairCalls =
      [("Group.new", "_bounding_record, _bounding_channels"),
       ("Artboard._move", "group._bounding_record, group._bounding_channels"),
       ("PSDImage._init", "record, channels")] ∧
    Generated.TreeKinds.flattenAppends =
      [("layer_records", "layer._bounding_record"), ("channel_image_data", "layer._bounding_channels"),
       ("layer_records", "layer._record"), ("channel_image_data", "layer._channels")] :=
  ⟨rfl, rfl, rfl⟩

/-- what a slot holds after a store: the argument itself (`plain`), or — the variant the tie excludes — `arg or
fallback`, where Python's truthiness makes an EMPTY channel list fall through -/
def storeSlot (plain : Bool) (arg fallback : Option (List Nat)) : Option (List Nat) :=
  if plain then arg else
    match arg with
    | some (_ :: _) => arg
    | _ => fallback

/-- a plain store keeps the pair for every channel list, the empty one included -/
theorem plain_store_keeps_pair (arg fallback : Option (List Nat)) : storeSlot true arg fallback = arg := rfl

/-- necessity of `pair_slots_tied`: a store through `or` agrees with the plain one on every non-empty list … -/
theorem truthy_store_agrees_nonempty (c : Nat) (cs : List Nat) (fallback : Option (List Nat)) :
    storeSlot false (some (c :: cs)) fallback = some (c :: cs) := rfl

/-- … and loses an empty channel list (a divider record without channels): the slot then holds the fallback -/
theorem truthy_store_loses_empty_list :
    storeSlot false (some []) none ≠ some [] ∧ storeSlot false (some []) (some [7, 8]) = some [7, 8] := by decide +kernel

/-! ### Where the records are: `layer_info`, `Lr16`, `Lr32`

`PSDImage._init` iterates `PSD._iter_layers()`, i.e. the records of `PSD._get_layer_info()`
(`Reopen.storedPayloads`, the model shared with C09). The property speaks about "the file's records": when one of
the three places holds them and the others are absent or hold none, these must be the records of the tree —
for every bit depth and version, since the accessor reads neither (tied below). -/

open PsdVerif.Reopen in
/-- the other two places -/
def others (m : Reopen.Sections) : Reopen.Slot → List (Option (List Nat))
  | .layerInfo => [m.lr16, m.lr32]
  | .lr16 => [m.layerInfo, m.lr32]
  | .lr32 => [m.layerInfo, m.lr16]

/-- the records `ps` are in place `k`; every other place is absent or holds no records -/
def HoldsOnly (m : Reopen.Sections) (k : Reopen.Slot) (ps : List Nat) : Prop :=
  m.get k = some ps ∧ ∀ o ∈ others m k, o = none ∨ o = some []

instance (m : Reopen.Sections) (k : Reopen.Slot) (ps : List Nat) : Decidable (HoldsOnly m k ps) := by
  unfold HoldsOnly; exact inferInstance

/-- no block the reader prefers to `k` is present -/
def Unshadowed (m : Reopen.Sections) : Reopen.Slot → Prop
  | .lr16 => True
  | .lr32 => m.lr16 = none
  | .layerInfo => m.lr16 = none ∧ m.lr32 = none

/-- what the model of `_get_layer_info` / `_iter_layers` / the loop head of `_init` assumes is what the source says
    now; in particular the accessor reads the two sections only — not the header, so neither depth nor version -/
theorem records_location_tied :
    Generated.Reopen.readerKeys = ["LAYER_16", "LAYER_32"] ∧
    Generated.Reopen.readerFallback = "self.layer_and_mask_information.layer_info" ∧
    Generated.Reopen.readerReads = ["self.layer_and_mask_information.layer_info",
      "self.layer_and_mask_information.tagged_blocks"] ∧
    Generated.Reopen.iterSource = "self._get_layer_info()" ∧
    Generated.TreeKinds.loopSource = "self._record._iter_layers()" :=
  ⟨rfl, rfl, rfl, rfl, rfl⟩

/-- **Exactly when the records are found.** With the records in one place and nothing in the others, the reader
    yields them iff there are none or no preferred block is present. -/
theorem records_found_iff (m : Reopen.Sections) (k : Reopen.Slot) (ps : List Nat) (h : HoldsOnly m k ps) :
    Reopen.storedPayloads m = ps ↔ (ps = [] ∨ Unshadowed m k) := by
  obtain ⟨li, a, b⟩ := m
  obtain ⟨hk, ho⟩ := h
  cases k <;> simp only [Reopen.Sections.get] at hk <;> subst hk <;>
    simp only [others, List.mem_cons, List.not_mem_nil, or_false, forall_eq_or_imp, forall_eq] at ho <;>
    obtain ⟨h1, h2⟩ := ho <;>
    rcases h1 with h1 | h1 <;> rcases h2 with h2 | h2 <;> subst h1 <;> subst h2 <;>
    simp [Reopen.storedPayloads, Reopen.readerSlot, Reopen.Sections.get, Unshadowed, eq_comm]

/-- the usable direction: records in `Lr16` are always found; in `Lr32` unless an `Lr16` block is present; in the
    ordinary layer info unless an `Lr16` / `Lr32` block is present -/
theorem records_found_partial (m : Reopen.Sections) (k : Reopen.Slot) (ps : List Nat) (h : HoldsOnly m k ps)
    (hu : Unshadowed m k) : Reopen.storedPayloads m = ps :=
  (records_found_iff m k ps h).mpr (.inr hu)

/-- … and then opening is the stack algorithm on exactly these records: if they are the flattening of a tree,
    that tree is what opens (with `parse_flatten`: nothing lost, duplicated, reordered) -/
theorem open_lists_the_stored_records (E : Reopen.RecEnv) (m : Reopen.Sections) (k : Reopen.Slot) (ps : List Nat)
    (f : Forest) (h : HoldsOnly m k ps) (hu : Unshadowed m k) (hf : ps.map (Reopen.reread E) = flatten f) :
    Reopen.openDoc E m = .ok f := by
  simp only [Reopen.openDoc, records_found_partial m k ps h hu, hf, parse_flatten]

/-- The full statement (without `Unshadowed`) is false: a block `Lr16` that holds no records hides the records of
    the ordinary layer info, and the records of `Lr32` (known finding, replayed on the real code by the harness). -/
theorem empty_block_shadows :
    (HoldsOnly ⟨some [1, 2], some [], none⟩ .layerInfo [1, 2] ∧ Reopen.storedPayloads ⟨some [1, 2], some [], none⟩ = []) ∧
    (HoldsOnly ⟨some [1, 2], none, some []⟩ .layerInfo [1, 2] ∧ Reopen.storedPayloads ⟨some [1, 2], none, some []⟩ = []) ∧
    (HoldsOnly ⟨some [], some [], some [1, 2]⟩ .lr32 [1, 2] ∧ Reopen.storedPayloads ⟨some [], some [], some [1, 2]⟩ = []) := by
  decide +kernel

example : HoldsOnly ⟨some [], some [7, 8, 9], none⟩ .lr16 [7, 8, 9] ∧ Unshadowed ⟨some [], some [7, 8, 9], none⟩ .lr16 :=
  ⟨by decide, trivial⟩
example : HoldsOnly ⟨some [7], none, none⟩ .layerInfo [7] ∧ Unshadowed ⟨some [7], none, none⟩ .layerInfo := by
  refine ⟨by decide, ?_, ?_⟩ <;> rfl

/-! ### Non-vacuity: an empty group, a group ending the file, a nested artboard, malformed input -/

example : parse [.bounding 0, .closing 1 false] = .ok [.group 1 0 false []] := by rfl
example : parse [.leaf 0, .bounding 1, .leaf 2, .closing 3 false] =
    .ok [.layer 0, .group 3 1 false [.layer 2]] := by rfl
example : parse [.bounding 0, .leaf 1, .bounding 2, .leaf 3, .closing 4 true, .closing 5 false, .leaf 6] =
    .ok [.group 5 0 false [.layer 1, .group 4 2 true [.layer 3]], .layer 6] := by rfl
example : flatten [.group 5 0 false [.layer 1, .group 4 2 true [.layer 3]], .layer 6] =
    [.bounding 0, .leaf 1, .bounding 2, .leaf 3, .closing 4 true, .closing 5 false, .leaf 6] := by rfl
example : WellNested [.bounding 0, .leaf 1, .closing 2 false] :=
  .group 0 2 false (inner := [.leaf 1]) (.leaf 1 .nil) .nil
example : parse [.leaf 0, .closing 1 false] = .error .assertionError := by rfl
example : parse [.bounding 0, .leaf 1] = .error .attributeError := by rfl
example : Occurs (.group 4 2 true [.layer 3]) [.group 5 0 false [.layer 1, .group 4 2 true [.layer 3]], .layer 6] :=
  .inside (c := 5) (b := 0) (a := false) (ch := [.layer 1, .group 4 2 true [.layer 3]]) (by simp) (.here (by simp))
example : [Rec.bounding 0, .leaf 1, .closing 2 false].Nodup := by decide +kernel
example : classify ⟨some .other, some .openFolder, true⟩ 7 = .closing 7 true := by rfl
example : classify ⟨some .bounding, some .other, false⟩ 7 = .leaf 7 := by rfl
example : kindOf Generated.TreeKinds.tables (fun k => k == "CURVES" || k == "SOLID_COLOR_SHEET_SETTING"
    || k == "VECTOR_MASK_SETTING1") true = "shape" := by decide +kernel
example : kindOf Generated.TreeKinds.tables (fun k => k == "CURVES" || k == "VECTOR_MASK_SETTING1") true
    = "curves" := by decide +kernel

end PsdVerif.C08
