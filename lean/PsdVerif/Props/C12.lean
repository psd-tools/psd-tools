/-
C12 — blend functions are total, bounded, pure and match their published formulas.
Property theorems only; helper lemmas and the `offDisc…` hypothesis vocabulary live in
`Lemmas/Blend.lean`, `Lemmas/BlendNonSep.lean`, `Lemmas/BlendLipschitz.lean`.

For every mode `B` of blend.py (model: `Model/Blend.lean`), for all `Cb, Cs ∈ [0,1]` (`unit`):
* `<mode>_range`     : `unit (B Cb Cs)`;  `<mode>_defined` : every denominator the code evaluates is `> 0`
                       (so no theorem holds because of `x / 0 = 0`);
* `<mode>_near_spec` : `B Cb Cs = Spec.B Cb Cs` where the code is exact, else
                       `|B Cb Cs - Spec.B Cb Cs| ≤ tol δ` under the mode's `offDisc… δ` hypothesis;
* the six documented identities;
* the tie to `BLEND_FUNC` / `BlendMode` / the wrapper's `k` / the numeric literals (regenerated each run).
Purity (arguments unmodified) is a runtime aliasing fact: checked by the harness, not expressible here.
-/
import PsdVerif.Lemmas.BlendLipschitz
import PsdVerif.Generated.Blend

namespace PsdVerif.C12
open PsdVerif.Blend

/-- every `BlendMode` of constants.py has an entry in `BLEND_FUNC` or is documented as falling
back to `normal` (`BLEND_FUNC.get(mode, normal)` in the compositor) -/
theorem every_blend_mode_mapped_or_documented :
    ∀ m ∈ Generated.Blend.blendModes,
      m ∈ Generated.Blend.blendFuncModeKeys.map Prod.fst ∨ m ∈ documentedFallbackToNormal := by
  decide +kernel

/-- each `BlendMode` is mapped to the function the model expects for it -/
theorem blend_func_table_as_modelled :
    ∀ e ∈ Generated.Blend.blendFuncModeKeys, e ∈ expectedFunction := by decide +kernel

/-- The descriptor-key half of `BLEND_FUNC` (the keys layer effects and overlays carry): the mode each
key names, written down independently of the table. The key `ligherColor` is spelt as the code spells it; the
correct `lighterColor` stands beside it, and the tie below asks only that every key of the code is in this list. -/
def expectedDescriptorFunction : List (String × String) := [
  ("Enum.Normal", "normal"), ("Enum.Dissolve", "dissolve"), ("Enum.Darken", "darken"),
  ("Enum.Multiply", "multiply"), ("Enum.ColorBurn", "color_burn"), ("b'linearBurn'", "linear_burn"),
  ("b'darkerColor'", "darker_color"), ("Enum.Lighten", "lighten"), ("Enum.Screen", "screen"),
  ("Enum.ColorDodge", "color_dodge"), ("b'linearDodge'", "linear_dodge"), ("b'ligherColor'", "lighter_color"),
  ("b'lighterColor'", "lighter_color"),
  ("Enum.Overlay", "overlay"), ("Enum.SoftLight", "soft_light"), ("Enum.HardLight", "hard_light"),
  ("b'vividLight'", "vivid_light"), ("b'linearLight'", "linear_light"), ("b'pinLight'", "pin_light"),
  ("b'hardMix'", "hard_mix"), ("Enum.Difference", "difference"), ("Enum.Exclusion", "exclusion"),
  ("Enum.Subtract", "subtract"), ("b'blendDivide'", "divide"), ("Enum.Hue", "hue"),
  ("Enum.Saturation", "saturation"), ("Enum.Color", "color"), ("Enum.Luminosity", "luminosity")]

/-- each descriptor key of `BLEND_FUNC` is mapped to the function of the mode it names -/
theorem blend_func_descriptor_keys_as_modelled :
    ∀ e ∈ Generated.Blend.blendFuncOtherKeys, e ∈ expectedDescriptorFunction := by decide +kernel

/-- every function `BLEND_FUNC` can return (under any key) is modelled -/
theorem blend_func_values_modelled :
    ∀ e ∈ Generated.Blend.blendFuncModeKeys ++ Generated.Blend.blendFuncOtherKeys,
      e.2 ∈ modelledFunctions := by decide +kernel

/-- the CMYK wrapper's `k` per function is the one modelled (`"s"` for all six) -/
theorem non_separable_k_as_modelled :
    Generated.Blend.nonSeparableK = expectedNonSeparableK := by decide +kernel

/-- function by function: the `k` read off the decorator of each non-separable function is the one
the model's 4-channel path wraps that function with (`kSelOf`), and every one of the six is decorated -/
theorem non_separable_k_per_function :
    ∀ fn ∈ ["hue", "saturation", "color", "luminosity", "darker_color", "lighter_color"],
      Generated.Blend.nonSeparableK.lookup fn = (kSelOf fn).map KSel.name ∧ (kSelOf fn).isSome = true := by
  decide +kernel

/-- a function reachable through `BLEND_FUNC` carries the CMYK wrapper exactly when the model treats it
as non-separable (dropping a decorator, or decorating a separable mode, breaks this) -/
theorem non_separable_decorated_exactly :
    ∀ e ∈ Generated.Blend.blendFuncModeKeys ++ Generated.Blend.blendFuncOtherKeys,
      (Generated.Blend.nonSeparableK.lookup e.2).isSome = (nonSeparableCMYK e.2).isSome := by
  decide +kernel

/-- the numeric literals in each function of blend.py are the ones the model hard-codes -/
theorem numeric_constants_as_modelled :
    Generated.Blend.numericConstants = expectedNumericConstants := by decide +kernel

variable {Cb Cs : Rat}

set_option linter.unusedVariables false in
theorem normal_range (hb : unit Cb) (hs : unit Cs) : unit (normal Cb Cs) := hs

theorem multiply_range (hb : unit Cb) (hs : unit Cs) : unit (multiply Cb Cs) := hb.mul hs

theorem screen_range (hb : unit Cb) (hs : unit Cs) : unit (screen Cb Cs) :=
  screen_eq Cb Cs ▸ (hb.compl.mul hs.compl).compl

theorem hard_light_range (hb : unit Cb) (hs : unit Cs) : unit (hardLight Cb Cs) :=
  unit_halves (fun _ => screen_range hb) (fun _ => multiply_range hb) hs

theorem overlay_range (hb : unit Cb) (hs : unit Cs) : unit (overlay Cb Cs) :=
  hard_light_range hs hb

theorem darken_range (hb : unit Cb) (hs : unit Cs) : unit (darken Cb Cs) := unit_rmin hb hs

theorem lighten_range (hb : unit Cb) (hs : unit Cs) : unit (lighten Cb Cs) := unit_rmax hb hs

theorem color_dodge_range (hb : unit Cb) (hs : unit Cs) : unit (colorDodge Cb Cs) := by
  rw [colorDodge_eq]
  split_ifs
  · exact unit_zero
  · exact unit_one
  · exact unit_rmin_one (div_nonneg hb.1 (by linarith [eps_pos, hs.2]))

set_option linter.unusedVariables false in
theorem color_dodge_defined (hb : unit Cb) (hs : unit Cs) : ∀ d ∈ colorDodgeDens Cb Cs, 0 < d :=
  colorDodgeDens_pos hs.2

theorem color_burn_range (hb : unit Cb) (hs : unit Cs) : unit (colorBurn Cb Cs) := by
  rw [colorBurn_eq]
  split_ifs
  · exact unit_one
  · exact unit_zero
  · exact (unit_rmin_one (div_nonneg (sub_nonneg.mpr hb.2) (by linarith [eps_pos, hs.1]))).compl

set_option linter.unusedVariables false in
theorem color_burn_defined (hb : unit Cb) (hs : unit Cs) : ∀ d ∈ colorBurnDens Cb Cs, 0 < d :=
  colorBurnDens_pos hs.1

theorem linear_dodge_range (hb : unit Cb) (hs : unit Cs) : unit (linearDodge Cb Cs) :=
  unit_rmin_one (add_nonneg hb.1 hs.1)

theorem linear_burn_range (hb : unit Cb) (hs : unit Cs) : unit (linearBurn Cb Cs) :=
  unit_rmax_zero (by linarith [hb.2, hs.2])

theorem difference_range (hb : unit Cb) (hs : unit Cs) : unit (difference Cb Cs) := by
  obtain ⟨b0, b1⟩ := hb; obtain ⟨s0, s1⟩ := hs
  unfold difference rabs; split_ifs <;> constructor <;> linarith

theorem exclusion_range (hb : unit Cb) (hs : unit Cs) : unit (exclusion Cb Cs) := by
  have e : exclusion Cb Cs = Cb + Cs * (1 - Cb - Cb) := by unfold exclusion; ring
  exact e ▸ hb.lerp hb.compl hs

theorem subtract_range (hb : unit Cb) (hs : unit Cs) : unit (subtract Cb Cs) :=
  unit_rmax_zero (by linarith [hb.2, hs.1])

set_option linter.unusedVariables false in
theorem hard_mix_range (hb : unit Cb) (hs : unit Cs) : unit (hardMix Cb Cs) := by
  rw [hardMix_eq]
  split_ifs
  · exact unit_one
  · exact unit_zero

theorem divide_range (hb : unit Cb) (hs : unit Cs) : unit (divide Cb Cs) :=
  divide_eq Cb Cs ▸ unit_rmin_one (div_nonneg hb.1 (by linarith [eps_pos, hs.1]))

set_option linter.unusedVariables false in
theorem divide_defined (hb : unit Cb) (hs : unit Cs) : ∀ d ∈ divideDens Cb Cs, 0 < d := by
  intro d hd
  rw [List.mem_singleton.mp hd]; linarith [eps_pos, hs.1]

theorem linear_light_range (hb : unit Cb) (hs : unit Cs) : unit (linearLight Cb Cs) :=
  unit_halves (fun _ => linear_dodge_range hb) (fun _ => linear_burn_range hb) hs

theorem pin_light_range (hb : unit Cb) (hs : unit Cs) : unit (pinLight Cb Cs) :=
  unit_halves (fun _ => lighten_range hb) (fun _ => darken_range hb) hs

theorem vivid_light_range (hb : unit Cb) (hs : unit Cs) : unit (vividLight Cb Cs) := by
  have h := unit_halves (fun _ => color_dodge_range hb) (fun _ => color_burn_range hb) hs
  rwa [mul_comm 2 Cs] at h

set_option linter.unusedVariables false in
/-- both halves are evaluated for every element: dodge also where `2 Cs - 1 < 0`, burn also where `2 Cs > 1` -/
theorem vivid_light_defined (hb : unit Cb) (hs : unit Cs) : ∀ d ∈ vividLightDens Cb Cs, 0 < d :=
  List.forall_mem_append.mpr
    ⟨colorBurnDens_pos (by linarith [hs.1]), colorDodgeDens_pos (by linarith [hs.2])⟩

theorem normal_src : normal Cb Cs = Cs := rfl
theorem multiply_white : multiply Cb 1 = Cb := by unfold multiply; ring
theorem screen_black : screen Cb 0 = Cb := by unfold screen; ring
theorem darken_self (x : Rat) : darken x x = x := by unfold darken rmin; split_ifs <;> rfl
theorem lighten_self (x : Rat) : lighten x x = x := by unfold lighten rmax; split_ifs <;> rfl
theorem overlay_is_hardlight_swapped : overlay Cb Cs = hardLight Cs Cb := rfl

theorem normal_near_spec : normal Cb Cs = Spec.normal Cb Cs := rfl
theorem multiply_near_spec : multiply Cb Cs = Spec.multiply Cb Cs := rfl
theorem screen_near_spec : screen Cb Cs = Spec.screen Cb Cs := screen_eq Cb Cs
theorem hard_light_near_spec : hardLight Cb Cs = Spec.hardLight Cb Cs := by
  rw [hardLight_eq, ite_gt_eq, screen_near_spec]; rfl
theorem overlay_near_spec : overlay Cb Cs = Spec.overlay Cb Cs := hard_light_near_spec
theorem darken_near_spec : darken Cb Cs = Spec.darken Cb Cs := by
  unfold darken Spec.darken; rw [rmin_eq_min, smin_eq_min]
theorem lighten_near_spec : lighten Cb Cs = Spec.lighten Cb Cs := by
  unfold lighten Spec.lighten; rw [rmax_eq_max, smax_eq_max]
theorem difference_near_spec : difference Cb Cs = Spec.difference Cb Cs := by
  unfold difference Spec.difference rabs
  split_ifs <;> first | (exfalso; linarith) | ring1
theorem exclusion_near_spec : exclusion Cb Cs = Spec.exclusion Cb Cs := rfl
theorem soft_light_near_spec (sq : Rat → Rat) : softLight sq Cb Cs = Spec.softLight sq Cb Cs := by
  unfold softLight Spec.softLight Spec.softLightD; rfl
theorem linear_dodge_near_spec : linearDodge Cb Cs = Spec.linearDodge Cb Cs := by
  unfold linearDodge Spec.linearDodge; rw [rmin_eq_min, smin_eq_min]
theorem linear_burn_near_spec : linearBurn Cb Cs = Spec.linearBurn Cb Cs := by
  unfold linearBurn Spec.linearBurn; rw [rmax_eq_max, smax_eq_max]
theorem subtract_near_spec : subtract Cb Cs = Spec.subtract Cb Cs := by
  unfold subtract Spec.subtract; rw [rmax_eq_max, smax_eq_max]
/-- for `Cs ≤ ½` the sum stays below 1 and the upper clip is idle, above it stays over 0 and the lower one is -/
theorem linear_light_near_spec (hb : unit Cb) : linearLight Cb Cs = Spec.linearLight Cb Cs := by
  rw [linearLight_eq]; unfold Spec.linearLight linearBurn linearDodge
  rw [ite_gt_eq, rmin_eq_min, rmax_eq_max, smin_eq_min, smax_eq_max, ← add_sub_assoc]
  split_ifs with h
  · rw [min_eq_right (by linarith [hb.2])]
  · rw [max_eq_right (le_min zero_le_one (by linarith [hb.1]))]
theorem pin_light_near_spec : pinLight Cb Cs = Spec.pinLight Cb Cs := by
  rw [pinLight_eq]; unfold Spec.pinLight darken lighten
  rw [ite_gt_eq, rmin_eq_min, rmax_eq_max, smin_eq_min, smax_eq_max, mul_sub, mul_one_div, div_self two_ne_zero]

theorem softD_range (hb : unit Cb) (h : Cb ≤ 1 / 4) :
    0 ≤ ((16 * Cb - 12) * Cb + 4) * Cb ∧ ((16 * Cb - 12) * Cb + 4) * Cb ≤ 1 := by
  obtain ⟨b0, b1⟩ := hb
  have h1 : (16 * Cb - 12) * Cb ≤ 0 := mul_nonpos_of_nonpos_of_nonneg (by linarith) b0
  constructor
  · exact mul_nonneg (by linarith [mul_nonneg b0 b0]) b0
  · exact (mul_le_mul_of_nonneg_right (by linarith) b0).trans (by linarith : 4 * Cb ≤ 1)

/-- `sq` stands for `np.sqrt`, which has no exact model over `Rat`: a caller has either bounds on it (`hq`, here)
or exactness at `Cb` (`soft_light_range`). Both branches are convex combinations: of `Cb` and `Cb²` for
`Cs ≤ ½`, of `Cb` and `D(Cb)` above. -/
theorem soft_light_range_of_bounds (sq : Rat → Rat) (hb : unit Cb) (hs : unit Cs)
    (hq : 1 / 4 < Cb → Cb ≤ sq Cb ∧ sq Cb ≤ 1) : unit (softLight sq Cb Cs) := by
  rw [soft_light_near_spec]; unfold Spec.softLight Spec.softLightD
  split_ifs with h1 h2
  · have e : Cb - (1 - 2 * Cs) * Cb * (1 - Cb) = Cb + (1 - 2 * Cs) * (Cb * Cb - Cb) := by ring
    exact e ▸ hb.lerp (hb.mul hb) ⟨by linarith, by linarith [hs.1]⟩
  · exact hb.lerp (softD_range hb h2) ⟨by linarith, by linarith [hs.2]⟩
  · obtain ⟨q0, q1⟩ := hq (not_le.mp h2)
    exact hb.lerp ⟨hb.1.trans q0, q1⟩ ⟨by linarith, by linarith [hs.2]⟩

theorem soft_light_range (sq : Rat → Rat) (hb : unit Cb) (hs : unit Cs)
    (h0 : 0 ≤ sq Cb) (h2 : sq Cb * sq Cb = Cb) : unit (softLight sq Cb Cs) := by
  apply soft_light_range_of_bounds sq hb hs
  intro _
  have h1 : sq Cb ≤ 1 := by
    by_contra hc
    have := mul_lt_mul'' (not_le.mp hc) (not_le.mp hc) zero_le_one zero_le_one
    linarith [hb.2]
  exact ⟨h2.symm.trans_le (mul_le_of_le_one_right h0 h1), h1⟩

set_option linter.unusedVariables false in
/-- `δ ≥ 10⁻⁶ = 1 - 0.999999`: where `Cb + Cs ≥ 1 + δ` the code's `Cb + 0.999999 Cs` is still at least 1.
(`hb` is not used.) -/
theorem hard_mix_near_spec (δ : Rat) (hδ : 1 / 1000000 ≤ δ) (hb : unit Cb) (hs : unit Cs)
    (hoff : offDiscHardMix δ Cb Cs) : hardMix Cb Cs = Spec.hardMix Cb Cs := by
  obtain ⟨s0, s1⟩ := hs
  rw [hardMix_eq]; unfold Spec.hardMix c999999
  rcases hoff with h | h
  · have h2 : ¬ (Cb + 999999 / 1000000 * Cs ≥ 1) := by intro hc; linarith
    rw [if_neg h2, if_pos h]
  · have h1 : ¬ (Cb + Cs < 1) := by linarith
    have h2 : Cb + 999999 / 1000000 * Cs ≥ 1 := by linarith
    rw [if_pos h2, if_neg h1]

/-- on its jump set (`Cb + Cs = 1`) the code does differ from the published formula -/
theorem hard_mix_differs_on_jump_set : hardMix (1 / 2) (1 / 2) = 0 ∧ Spec.hardMix (1 / 2) (1 / 2) = 1 := by
  unfold hardMix Spec.hardMix c999999; norm_num

/-! ### The `ε`-ed modes: within `tol δ = ε/δ` of the published formula off the discontinuities -/

theorem tol_16bit : tol (1 / 65535) ≤ 1 / 10000 := by unfold tol eps; norm_num

theorem color_dodge_near_spec (δ : Rat) (hδ : 0 < δ) (hb : 0 ≤ Cb)
    (hoff : offDiscDodge δ Cb Cs) : |colorDodge Cb Cs - Spec.colorDodge Cb Cs| ≤ tol δ := by
  rw [colorDodge_eq]; unfold Spec.colorDodge
  split_ifs with h0 h1
  · rw [sub_self, abs_zero]; exact tol_nonneg hδ
  · rw [sub_self, abs_zero]; exact tol_nonneg hδ
  · rw [rmin_eq_min, smin_eq_min]
    exact min_div_add_near eps_pos.le hb hδ (hoff.resolve_left h1)

theorem color_burn_near_spec (δ : Rat) (hδ : 0 < δ) (hb : Cb ≤ 1)
    (hoff : offDiscBurn δ Cb Cs) : |colorBurn Cb Cs - Spec.colorBurn Cb Cs| ≤ tol δ := by
  rw [colorBurn_eq]; unfold Spec.colorBurn
  split_ifs with h0 h1
  · rw [sub_self, abs_zero]; exact tol_nonneg hδ
  · rw [sub_self, abs_zero]; exact tol_nonneg hδ
  · rw [rmin_eq_min, smin_eq_min, sub_sub_sub_cancel_left, abs_sub_comm]
    exact min_div_add_near eps_pos.le (sub_nonneg.mpr hb) hδ (hoff.resolve_left h1)

theorem vivid_light_near_spec (δ : Rat) (hδ : 0 < δ) (hb : unit Cb)
    (hoff : offDiscVivid δ Cb Cs) : |vividLight Cb Cs - Spec.vividLight Cb Cs| ≤ tol δ := by
  rw [vividLight_eq]; unfold Spec.vividLight
  rw [ite_gt_eq, mul_comm Cs 2, mul_sub, mul_one_div, div_self two_ne_zero]
  split_ifs with h
  · exact color_burn_near_spec δ hδ hb.2 (hoff.1 h)
  · exact color_dodge_near_spec δ hδ hb.1 (hoff.2 (not_le.mp h))

/-- `ε < δ`: over black (`Cs = 0`) the code divides by `ε` alone, and `Cb ≥ δ > ε` takes the quotient above 1,
the published value -/
theorem divide_near_spec (δ : Rat) (hδ : eps < δ) (hb : 0 ≤ Cb)
    (hoff : offDiscDivide δ Cb Cs) : |divide Cb Cs - Spec.divide Cb Cs| ≤ tol δ := by
  have he := eps_pos
  have hδ0 : 0 < δ := lt_trans he hδ
  have ht := tol_nonneg hδ0
  rw [divide_eq, rmin_eq_min]; unfold Spec.divide
  rcases hoff with h | ⟨h0, hcb⟩
  · have hs0 : Cs ≠ 0 := by intro hc; rw [hc] at h; linarith
    rw [if_neg hs0, smin_eq_min]
    exact min_div_add_near he.le hb hδ0 h
  · have hb0 : Cb ≠ 0 := by intro hc; rw [hc] at hcb; linarith
    have : 1 ≤ Cb / (Cs + eps) := by
      rw [h0, zero_add, le_div_iff₀ he]; linarith
    rw [if_pos h0, if_neg hb0, min_eq_left this]; simpa using ht

/-! ### The soft-light defect (before repair `d8a56a1`) -/

/-- Before the repair `D` was selected by `Cs ≤ 0.25`: for a dark backdrop and `Cs = 1` the code
returned `√Cb`; the published value is the polynomial.  Witness `Cb = 1/16` (a rational square):
deviation `11/256 ≈ 0.043` (the harness replays `Cb = 5/255`, deviation 0.066). -/
theorem soft_light_before_fix_deviates (sq : Rat → Rat) (h : sq (1 / 16) = 1 / 4) :
    softLightBeforeFix sq (1 / 16) 1 - Spec.softLight sq (1 / 16) 1 = 11 / 256 := by
  simp only [softLightBeforeFix, Spec.softLight, Spec.softLightD, h]; norm_num

theorem lum_range {c : RGB} (h : c.All unit) : unit (lum c) := lum_unit h
theorem sat_range {c : RGB} (h : c.All unit) : unit (sat c) := sat_unit h
/-- `_clip_color` returns values in `[0,1]` for every argument (its last two assignments clamp) -/
theorem clip_color_range (c : RGB) : (clipColor c).All unit := clipColor_unit c
theorem clip_color_defined (c : RGB) : ∀ d ∈ clipColorDens c, 0 < d := clipColor_defined c
theorem set_lum_range (c : RGB) (L : Rat) : (setLum c L).All unit := clipColor_unit _
theorem set_lum_defined (c : RGB) (L : Rat) : ∀ d ∈ setLumDens c L, 0 < d := clipColor_defined _
theorem set_sat_range (c : RGB) {s : Rat} (hs : unit s) : (setSat c s).All unit := setSat_unit c hs
theorem set_sat_defined (c : RGB) : ∀ d ∈ setSatDens c, 0 < d := setSat_defined c

variable {Pb Ps : RGB}

theorem hue_range (Pb Ps : RGB) : (hue Pb Ps).All unit := clipColor_unit _
theorem saturation_range (Pb Ps : RGB) : (saturation Pb Ps).All unit := clipColor_unit _
theorem color_range (Pb Ps : RGB) : (color Pb Ps).All unit := clipColor_unit _
theorem luminosity_range (Pb Ps : RGB) : (luminosity Pb Ps).All unit := clipColor_unit _
theorem darker_color_range (hb : Pb.All unit) (hs : Ps.All unit) : (darkerColor Pb Ps).All unit := by
  unfold darkerColor; split_ifs <;> assumption
theorem lighter_color_range (hb : Pb.All unit) (hs : Ps.All unit) : (lighterColor Pb Ps).All unit := by
  unfold lighterColor; split_ifs <;> assumption

theorem hue_defined (Pb Ps : RGB) : ∀ d ∈ hueDens Pb Ps, 0 < d :=
  List.forall_mem_append.mpr ⟨setSat_defined _, clipColor_defined _⟩
theorem saturation_defined (Pb Ps : RGB) : ∀ d ∈ saturationDens Pb Ps, 0 < d :=
  List.forall_mem_append.mpr ⟨setSat_defined _, clipColor_defined _⟩
theorem color_defined (Pb Ps : RGB) : ∀ d ∈ colorDens Pb Ps, 0 < d := clipColor_defined _
theorem luminosity_defined (Pb Ps : RGB) : ∀ d ∈ luminosityDens Pb Ps, 0 < d := clipColor_defined _

theorem set_sat_near_spec (δ : Rat) (hδ : 0 < δ) (c : RGB) {s : Rat} (hs : unit s)
    (hoff : offDiscSat δ c) : RGB.near (tol δ) (setSat c s) (Spec.setSat c s) :=
  setSat_near_spec δ hδ c hs hoff

theorem clip_color_near_spec (c : RGB) (hl : unit (lum c)) (hw : c.max3 - c.min3 ≤ 1) :
    RGB.near (10 * eps) (clipColor c) (Spec.clipColor c) := clipColor_near_spec c hl hw

theorem set_lum_near_spec (c : RGB) (L : Rat) (hL : unit L) (hc : c.All unit) :
    RGB.near (10 * eps) (setLum c L) (Spec.setLum c L) := setLum_near_spec c L hL (width_le_one hc)

/-- Color: within `10 ε = 10⁻⁸` of `SetLum(Cs, Lum(Cb))`, no discontinuity to exclude -/
theorem color_near_spec (hb : Pb.All unit) (hs : Ps.All unit) :
    RGB.near (10 * eps) (color Pb Ps) (Spec.color Pb Ps) := by
  unfold color Spec.color; rw [← lum_eq_spec]
  exact setLum_near_spec Ps (lum Pb) (lum_unit hb) (width_le_one hs)

theorem luminosity_near_spec (hb : Pb.All unit) (hs : Ps.All unit) :
    RGB.near (10 * eps) (luminosity Pb Ps) (Spec.luminosity Pb Ps) := by
  unfold luminosity Spec.luminosity; rw [← lum_eq_spec]
  exact setLum_near_spec Pb (lum Ps) (lum_unit hs) (width_le_one hb)

/-- Darker Color: exactly the published selection (ties included: both keep the backdrop) -/
theorem darker_color_near_spec : darkerColor Pb Ps = Spec.darkerColor Pb Ps := by
  unfold darkerColor Spec.darkerColor; rw [← lum_eq_spec, ← lum_eq_spec]
  exact ite_gt_eq _ _ _ _

theorem lighter_color_near_spec : lighterColor Pb Ps = Spec.lighterColor Pb Ps := by
  unfold lighterColor Spec.lighterColor; rw [← lum_eq_spec, ← lum_eq_spec]
  exact ite_gt_eq _ _ _ _

/-- tolerance of the two-stage modes: `10 ε` for `_clip_color` plus the first stage's `tol δ`
carried through the published `SetLum` (Lipschitz constant `2 (1 + 100/11)`);
`hueTol (1/65535) < 1.33·10⁻³` -/
def hueTol (δ : Rat) : Rat := 10 * eps + (1 + 100 / 11) * (2 * tol δ)

theorem hueTol_16bit : hueTol (1 / 65535) ≤ 133 / 100000 := by unfold hueTol tol eps; norm_num

set_option linter.unusedVariables false in
/-- Hue: within `hueTol δ` of `SetLum(SetSat(Cs, Sat(Cb)), Lum(Cb))` when the source's saturation is
0 or at least `δ` (the published `SetSat` jumps at zero saturation). Nothing else is asked of the source:
`hs` is not used. -/
theorem hue_near_spec (δ : Rat) (hδ : 0 < δ) (hb : Pb.All unit) (hs : Ps.All unit)
    (hoff : offDiscSat δ Ps) : RGB.near (hueTol δ) (hue Pb Ps) (Spec.hue Pb Ps) := by
  unfold hue Spec.hue hueTol
  rw [← sat_eq_spec, ← lum_eq_spec]
  exact setLum_setSat_near_spec δ hδ Ps (sat_unit hb) (lum_unit hb) hoff

/-- Saturation: within `hueTol δ` of `SetLum(SetSat(Cb, Sat(Cs)), Lum(Cb))` when the backdrop's
saturation is 0 or at least `δ` -/
theorem saturation_near_spec (δ : Rat) (hδ : 0 < δ) (hb : Pb.All unit) (hs : Ps.All unit)
    (hoff : offDiscSat δ Pb) : RGB.near (hueTol δ) (saturation Pb Ps) (Spec.saturation Pb Ps) := by
  unfold saturation Spec.saturation hueTol
  rw [← sat_eq_spec, ← lum_eq_spec]
  exact setLum_setSat_near_spec δ hδ Pb (sat_unit hs) (lum_unit hb) hoff

theorem cmyk2rgb_range {p : CMYK} (hc : unit p.c) (hm : unit p.m) (hy : unit p.y) (hk : unit p.k) :
    (cmyk2rgb p).All unit :=
  ⟨hc.compl.mul hk.compl, hm.compl.mul hk.compl, hy.compl.mul hk.compl⟩

set_option linter.unusedVariables false in
theorem rgb2cmy_defined {K : Rat} (hk : unit K) : ∀ d ∈ rgb2cmyDens K, 0 < d :=
  ite_dens_pos fun h => by linarith [eps_pos]

/-- the wrapper returns the SOURCE's `K` for every mode (PDF 1.7 §11.3.5.3 and the comment in
blend.py ask for the backdrop's for hue, saturation, color): known finding
`C12/cmyk-wrapper/K-taken-from-source` -/
theorem cmyk_k_is_source_k (f : RGB → RGB → RGB) (Qb Qs : CMYK) : (nonSepCMYK .s f Qb Qs).k = Qs.k := rfl

/-- which `K` each mode carries, by the name under which `BLEND_FUNC` holds it: the source's, for all
six (for luminosity this is what PDF 1.7 §11.3.5.3 prescribes). The harness evaluates this clause on
the real code on CMYK inputs whose two `K` differ. -/
theorem cmyk_k_rule (fn : String) (g : CMYK → CMYK → CMYK) (h : nonSeparableCMYK fn = some g)
    (Qb Qs : CMYK) : (g Qb Qs).k = Qs.k := by
  unfold nonSeparableCMYK at h
  split at h
  · rename_i k f hk _
    have : k = .s := by
      unfold kSelOf at hk
      split at hk <;> simp_all
    cases h; subst this; rfl
  · cases h

/-- on 3-channel input luminosity is the color blend with backdrop and source exchanged … -/
theorem luminosity_is_color_swapped (Cb Cs : RGB) : luminosity Cb Cs = color Cs Cb := rfl

/-- … on 4-channel input each carries its own source's `K` … -/
theorem luminosity_cmyk_color_swapped_k (Qb Qs : CMYK) :
    (luminosityCMYK Qb Qs).k = Qs.k ∧ (colorCMYK Qs Qb).k = Qb.k := ⟨rfl, rfl⟩

/-- … so there the two differ … -/
theorem luminosity_cmyk_ne_color_swapped :
    luminosityCMYK ⟨0, 0, 0, 0⟩ ⟨0, 0, 0, 1 / 2⟩ ≠ colorCMYK ⟨0, 0, 0, 1 / 2⟩ ⟨0, 0, 0, 0⟩ := by
  decide +kernel

/-- … unless the two `K`s are equal -/
theorem luminosity_cmyk_eq_color_swapped_of_equal_k (Qb Qs : CMYK) (h : Qb.k = Qs.k) :
    luminosityCMYK Qb Qs = colorCMYK Qs Qb := by
  unfold luminosityCMYK colorCMYK nonSepCMYK
  simp only [h, luminosity_is_color_swapped]

/-- THE RANGE FAILS on the CMYK path: `hue` of white over 50 % black gives `C = M = Y ≈ -1`
(known finding `C12/cmyk-wrapper/range/below-zero`; replayed on the real code by the harness) -/
theorem cmyk_range_violated :
    (hueCMYK ⟨0, 0, 0, 0⟩ ⟨0, 0, 0, 1 / 2⟩).c < -(99 / 100) := by
  decide +kernel

/-- what does hold: the result is in `[0,1]` whenever the blended RGB does not exceed `1 - K`
(the upper bound `≤ 1` alone needs only a blended RGB `≥ 0`; `cmyk_range_bound` has it for `K < 1`) -/
theorem cmyk_range_partial (f : RGB → RGB → RGB) (Qb Qs : CMYK) (hk : unit Qs.k)
    (h : (f (cmyk2rgb Qb) (cmyk2rgb Qs)).All (fun v => 0 ≤ v ∧ v ≤ 1 - Qs.k)) :
    unit (nonSepCMYK .s f Qb Qs).c ∧ unit (nonSepCMYK .s f Qb Qs).m ∧
      unit (nonSepCMYK .s f Qb Qs).y ∧ unit (nonSepCMYK .s f Qb Qs).k := by
  have he := eps_pos
  obtain ⟨k0, k1⟩ := hk
  have key : ∀ v : Rat, 0 ≤ v ∧ v ≤ 1 - Qs.k →
      unit (if Qs.k < 1 then (1 - v - Qs.k) / (1 - Qs.k + eps) else 0) := by
    intro v ⟨v0, v1⟩
    split_ifs with hk1
    · have hd : 0 < 1 - Qs.k + eps := by linarith
      exact ⟨div_nonneg (by linarith) hd.le, by rw [div_le_one hd]; linarith⟩
    · exact ⟨le_refl _, by norm_num⟩
  obtain ⟨h1, h2, h3⟩ := h
  exact ⟨key _ h1, key _ h2, key _ h3, ⟨k0, k1⟩⟩

/-- the bound the wrapper guarantees, explicitly, for EVERY blended RGB in `[0,1]` (which the six
non-separable modes deliver: `<mode>_range` over `cmyk2rgb_range`): `C, M, Y ≤ 1` always, and
`C, M, Y ≥ -K / (1 - K + ε)` when the source's `K < 1` — the known finding
`C12/cmyk-wrapper/range/below-zero` lives inside this interval (the harness evaluates the bound on the real
code at the boundary values of every channel; a value below it is a failing input of its own signature) -/
theorem cmyk_range_bound (f : RGB → RGB → RGB) (Qb Qs : CMYK) (hk : unit Qs.k) (hk1 : Qs.k < 1)
    (h : (f (cmyk2rgb Qb) (cmyk2rgb Qs)).All unit) :
    let lo := -(Qs.k / (1 - Qs.k + eps))
    (lo ≤ (nonSepCMYK .s f Qb Qs).c ∧ (nonSepCMYK .s f Qb Qs).c ≤ 1) ∧
      (lo ≤ (nonSepCMYK .s f Qb Qs).m ∧ (nonSepCMYK .s f Qb Qs).m ≤ 1) ∧
      (lo ≤ (nonSepCMYK .s f Qb Qs).y ∧ (nonSepCMYK .s f Qb Qs).y ≤ 1) := by
  have he := eps_pos
  obtain ⟨k0, _⟩ := hk
  have hd : 0 < 1 - Qs.k + eps := by linarith
  have key : ∀ v : Rat, unit v →
      -(Qs.k / (1 - Qs.k + eps)) ≤ (if Qs.k < 1 then (1 - v - Qs.k) / (1 - Qs.k + eps) else 0) ∧
        (if Qs.k < 1 then (1 - v - Qs.k) / (1 - Qs.k + eps) else 0) ≤ 1 := by
    intro v ⟨v0, v1⟩
    rw [if_pos hk1]
    refine ⟨?_, by rw [div_le_one hd]; linarith⟩
    rw [← neg_div]
    exact div_le_div_of_nonneg_right (by linarith) hd.le
  obtain ⟨h1, h2, h3⟩ := h
  exact ⟨key _ h1, key _ h2, key _ h3⟩

/-- at the boundary `K = 1` of the source (100 % black) the wrapper leaves `C = M = Y = 0` EXACTLY, whatever the
blended RGB is (`color[K < 1] = …` assigns nothing there): no division by `1 - K + ε = ε` takes place. A
wrapper that divides there returns values of the order of `-1/ε`; the harness evaluates this clause on the real
code for source `K = 1` against every boundary backdrop. -/
theorem cmyk_full_k_is_zero (f : RGB → RGB → RGB) (Qb Qs : CMYK) (hk : Qs.k = 1) :
    nonSepCMYK .s f Qb Qs = ⟨0, 0, 0, 1⟩ := by
  unfold nonSepCMYK rgb2cmy RGB.map
  simp [hk]

/-- … and the clause is needed: the variant without the `K < 1` mask returns `-C / ε` there -/
theorem cmyk_full_k_unmasked_blows_up :
    (1 - (1 : Rat) / 2 - 1) / (1 - 1 + eps) = -500000000 := by
  unfold eps; norm_num

/-! ### `offDiscontinuity` holds for all 8- and 16-bit data (any grid `k/N`, `N ≤ 65535`) -/

theorem offDisc_dodge_of_grid (N a b : Nat) (hN : 0 < N) (hN' : N ≤ 65535) (hb : b ≤ N) :
    offDiscDodge (1 / 65535) (a / N) (b / N) := by
  have hNq : (N : Rat) ≠ 0 := by exact_mod_cast hN.ne'
  rcases hb.eq_or_lt with h | h
  · left; rw [h]; exact div_self hNq
  · right; exact div_self hNq ▸ grid_step_sub hN hN' h

theorem offDisc_burn_of_grid (N a b : Nat) (hN : 0 < N) (hN' : N ≤ 65535) :
    offDiscBurn (1 / 65535) (a / N) (b / N) := by
  by_cases h : b = 0
  · left; rw [h, Nat.cast_zero, zero_div]
  · right; exact grid_step hN hN' h

theorem offDisc_hard_mix_of_grid (N a b : Nat) (hN : 0 < N) (hN' : N ≤ 65535) (hne : a + b ≠ N) :
    offDiscHardMix (1 / 65535) (a / N) (b / N) := by
  have hNq : (0 : Rat) < N := by exact_mod_cast hN
  unfold offDiscHardMix
  rw [← add_div, ← Nat.cast_add]
  rcases Nat.lt_or_gt_of_ne hne with h | h
  · left; rw [div_lt_one hNq]; exact_mod_cast h
  · right
    have := grid_step_sub hN hN' h
    rw [div_self hNq.ne'] at this
    linarith

theorem offDisc_vivid_of_grid (N a b : Nat) (hN : 0 < N) (hN' : N ≤ 65535) (hb : b ≤ N) :
    offDiscVivid (1 / 65535) (a / N) (b / N) :=
  offDiscVivid_of (by norm_num) (offDisc_burn_of_grid N a b hN hN') (offDisc_dodge_of_grid N a b hN hN' hb)

/-- divide: every grid point except `(0, 0)` (where the published quotient is undefined) -/
theorem offDisc_divide_of_grid (N a b : Nat) (hN : 0 < N) (hN' : N ≤ 65535) (hne : ¬ (a = 0 ∧ b = 0)) :
    offDiscDivide (1 / 65535) (a / N) (b / N) := by
  by_cases h : b = 0
  · right
    exact ⟨by rw [h, Nat.cast_zero, zero_div], grid_step hN hN' fun ha => hne ⟨ha, h⟩⟩
  · left; exact grid_step hN hN' h

/-! ### Non-vacuity of the hypotheses -/

example : unit (1 / 2) := by unfold unit; norm_num
example : offDiscDodge (1 / 65535) (1 / 2) (254 / 255) := by unfold offDiscDodge; norm_num
example : offDiscBurn (1 / 65535) (1 / 2) (1 / 255) := by unfold offDiscBurn; norm_num
example : offDiscVivid (1 / 65535) (1 / 2) (3 / 4) := by
  unfold offDiscVivid offDiscBurn offDiscDodge; norm_num
example : offDiscDivide (1 / 65535) (1 / 2) 0 := by unfold offDiscDivide; norm_num
example : offDiscHardMix (1 / 65535) (1 / 2) (1 / 4) := by unfold offDiscHardMix; norm_num
example : eps < 1 / 65535 ∧ (1 : Rat) / 1000000 ≤ 1 / 65535 := by unfold eps; norm_num
example : offDiscSat (1 / 65535) ⟨1 / 2, 1 / 4, 0⟩ := by
  right; unfold RGB.max3 RGB.min3 rmax rmin; norm_num
/-- the soft-light hypotheses are satisfiable: `sq` = exact square root at a rational square … -/
example : (0 : Rat) ≤ (fun _ => (2 : Rat) / 3) (4 / 9) ∧
    (fun _ => (2 : Rat) / 3) (4 / 9) * (fun _ => (2 : Rat) / 3) (4 / 9) = 4 / 9 := by norm_num
/-- … and the weaker `Cb ≤ sq Cb ≤ 1` by every approximation from inside `[Cb, 1]` -/
example : (1 : Rat) / 4 < 1 / 2 → (1 : Rat) / 2 ≤ (fun _ => (7 : Rat) / 10) (1 / 2) ∧
    (fun _ => (7 : Rat) / 10) (1 / 2) ≤ 1 := by norm_num
example : (⟨1 / 2, 1 / 4, 0⟩ : RGB).All unit := by unfold RGB.All unit; norm_num
/-- `cmyk_k_rule`'s hypothesis is satisfiable -/
example : ∃ g, nonSeparableCMYK "luminosity" = some g := ⟨_, rfl⟩
/-- `cmyk_range_partial`'s hypothesis is satisfiable (source with `K = 0`) -/
example : (hue (cmyk2rgb ⟨0, 0, 0, 0⟩) (cmyk2rgb ⟨0, 0, 0, 0⟩)).All (fun v => 0 ≤ v ∧ v ≤ 1 - 0) := by
  have := hue_range (cmyk2rgb ⟨0, 0, 0, 0⟩) (cmyk2rgb ⟨0, 0, 0, 0⟩)
  unfold RGB.All unit at this
  unfold RGB.All
  simpa using this
/-- `cmyk_range_bound`'s hypotheses are satisfiable for every mode and every CMYK input in `[0,1]` with `K < 1` -/
example : unit ((1 : Rat) / 2) ∧ (1 : Rat) / 2 < 1 ∧
    (hue (cmyk2rgb ⟨0, 0, 0, 0⟩) (cmyk2rgb ⟨0, 0, 0, 1 / 2⟩)).All unit :=
  ⟨by unfold unit; norm_num, by norm_num, hue_range _ _⟩

end PsdVerif.C12
