/-
C19 — Unicode text survives storage.
Property theorems only; helper lemmas live in `Lemmas/Unicode.lean`.
The model (`Model/Unicode.lean`) is the code after repo commits 53b2bbb (real UTF-16) and
5b05d7b (legacy name fallback at write time).
-/
import PsdVerif.Lemmas.Unicode
import PsdVerif.Generated.Strings

namespace PsdVerif.C19
open PsdVerif.Unicode PsdVerif.Unicode.Spec

/-! ### UTF-16 of the Unicode Standard, and the code's codec against it -/

/-- The target: standard UTF-16 round-trips every sequence of scalar values (astral
characters, combining marks and NUL included). -/
theorem utf16_roundtrip (s : Str) : (∀ c ∈ s, Scalar c) → Spec.utf16Dec (Spec.utf16Enc s) = some s :=
  utf16Dec_utf16Enc s

/-- On well-formed strings the code emits exactly standard UTF-16 … -/
theorem code_encoder_is_utf16 (s : Str) : (∀ c ∈ s, Scalar c) → encUnits s = Spec.utf16Enc s :=
  fun _ => encUnits_eq_utf16Enc s

/-- … and decodes every well-formed UTF-16 unit sequence to what the standard says. -/
theorem code_decoder_extends_utf16 (us : List Nat) (s : Str) : Spec.utf16Dec us = some s → decUnits us = s :=
  decUnits_of_utf16Dec us s

example : ∀ c ∈ [0x1F47D, 0x61, 0x301, 0, 0xFFFF, 0x10FFFF], Scalar c := by decide
example : Spec.utf16Enc [0x1F47D, 0x61] = [0xD83D, 0xDC7D, 0x61] := by decide
example : Spec.utf16Dec [0xD83D, 0xDC7D, 0x61] = some [0x1F47D, 0x61] := by decide
example : Spec.utf16Dec [0xDC7D, 0xD83D] = none := by decide

/-! ### `write_unicode_string` / `read_unicode_string` -/

/-- Every well-formed Unicode string is written, and read back unchanged from anywhere in a
stream, for every padding; the reader stops exactly where the writer stopped. (Below 2³¹ characters the
at most twice as many UTF-16 units fit the u32 count.) -/
theorem unicode_string_roundtrip (s : Str) (pad : Nat) (pre post : BL)
    (hs : ∀ c ∈ s, Scalar c) (hp : pad ≠ 0) (hlen : s.length < 2147483648) :
    ∃ bs, writeUnicodeString s pad = .ok bs ∧
      readUnicodeString (pre ++ bs ++ post) pre.length pad = .ok (s, pre.length + bs.length) := by
  have hpy := scalar_pyStr s hs
  have hl : (encUnits s).length < 4294967296 := by have := encUnits_length_le s; omega
  have hw := writeUnicodeString_ok s pad hpy hp hl
  exact ⟨_, hw, readUnicodeString_write s pad _ pre post (scalar_noPair s hs) hw⟩

example : writeUnicodeString [0x1F47D, 0x61, 0x301, 0] 4
    = .ok [0, 0, 0, 5, 0xD8, 0x3D, 0xDC, 0x7D, 0, 0x61, 0x03, 0x01, 0, 0, 0, 0] := by decide +kernel
example : readUnicodeString [9, 0, 0, 0, 2, 0xD8, 0x3D, 0xDC, 0x7D, 7] 1 1 = .ok ([0x1F47D], 9) := by decide +kernel

/-- The same for every Python `str` in which no high surrogate is directly followed by a low
one (unpaired surrogates, which files and tests contain, are kept). -/
theorem unicode_string_roundtrip_str (s : Str) (pad : Nat) (bs pre post : BL)
    (hn : NoPair s) (hw : writeUnicodeString s pad = .ok bs) :
    readUnicodeString (pre ++ bs ++ post) pre.length pad = .ok (s, pre.length + bs.length) :=
  readUnicodeString_write s pad bs pre post hn hw

example : NoPair [0xDC7D, 0xD83D, 0x61, 0xD83D] := by decide

/-- The writer fails only for a count that does not fit 32 bits (`struct.error`) or padding 0. -/
theorem unicode_string_write_errors (s : Str) (pad : Nat) (e : Err) (hs : PyStr s) :
    writeUnicodeString s pad = .error e →
      (4294967296 ≤ (encUnits s).length ∧ e = .structError) ∨ (pad = 0 ∧ e = .other) := by
  unfold writeUnicodeString
  rw [if_pos hs]
  intro h
  rcases (writeUnits_err _ _ _).mp h with ⟨h1, h2⟩ | ⟨_, h2, h3⟩
  · exact .inl ⟨by omega, h2⟩
  · exact .inr ⟨h2, h3⟩

/-- Files re-save identically: whatever units were read (unpaired surrogates included) are
written back unit for unit. -/
theorem unicode_string_resave (us : List Nat) (pad : Nat) (h : ∀ u ∈ us, u < 65536) :
    writeUnicodeString (decUnits us) pad = writeUnits us pad :=
  writeUnicodeString_decUnits us pad h

/-- Whatever the reader returns from any stream can be written again, and the cursor only
moves forward (`sound` law of DESIGN section 3). -/
theorem unicode_string_sound (d : BL) (pos pad : Nat) (s : Str) (p : Nat) :
    readUnicodeString d pos pad = .ok (s, p) → (∃ bs, writeUnicodeString s pad = .ok bs) ∧ pos + 4 ≤ p :=
  readUnicodeString_sound d pos pad s p

/-- The value read does not depend on the reader's padding (tagged blocks are written with
padding 4 and read from their own buffer with padding 1). -/
theorem unicode_string_value_any_reader_padding (s : Str) (pw pr : Nat) (bs pre post : BL)
    (hs : ∀ c ∈ s, Scalar c) (hpr : pr ≠ 0) (hw : writeUnicodeString s pw = .ok bs) :
    ∃ p, readUnicodeString (pre ++ bs ++ post) pre.length pr = .ok (s, p) ∧ p ≤ (pre ++ bs ++ post).length :=
  readUnicodeString_value s pw pr bs pre post (scalar_noPair s hs) hpr hw

/-- What the fix (53b2bbb) changed: the per-character 16-bit array could not write an astral
character and read a surrogate pair as two characters; the harness replays both witnesses on
the real code on every run. -/
theorem old_codec_defect :
    encUnitsOld [0x1F47D] = .error .overflowError ∧ decUnitsOld (Spec.utf16Enc [0x1F47D]) ≠ [0x1F47D]
      ∧ encUnits [0x1F47D] = Spec.utf16Enc [0x1F47D] ∧ decUnits (Spec.utf16Enc [0x1F47D]) = [0x1F47D] := by
  decide

/-! ### Pascal strings -/

/-- Every string the codec can express within 255 bytes round-trips, for every padding. The
codec law `decode (encode s) = s` is needed for this string only (Python's `shift_jis` breaks
it for U+00A5 and U+203E: known finding `C19/pascal/shift_jis/python-codec-maps-U+00A5-U+203E-to-ascii-bytes`). -/
theorem pascal_roundtrip (e : Encoding) (s : Str) (pad : Nat) (b pre post : BL)
    (he : e.encode s = some b) (hd : e.decode b = some s) (hb : b.length ≤ 255) (hp : pad ≠ 0) :
    ∃ bs, writePascalString e s pad = .ok bs ∧
      readPascalString e (pre ++ bs ++ post) pre.length pad = .ok (s, pre.length + bs.length) := by
  have hw : writePascalString e s pad = .ok (pascalLayout b pad) :=
    (writePascalString_eq e s pad _).mpr ⟨b, he, hb, hp, rfl⟩
  refine ⟨_, hw, readPascalString_write e s pad _ pre post (fun b' hb' => ?_) hw⟩
  rw [he] at hb'; cases hb'; exact hd

example : ascii.encode [0x61] = some [0x61] ∧ ascii.decode [0x61] = some [0x61] := by decide +kernel

/-- Unencodable or longer than 255 encoded bytes: an error, for every padding. -/
theorem pascal_rejects (e : Encoding) (s : Str) (pad : Nat) :
    (e.encode s = none → writePascalString e s pad = .error .unicodeError) ∧
    (∀ b, e.encode s = some b → 255 < b.length → writePascalString e s pad = .error .structError) := by
  constructor
  · intro h
    exact (writePascalString_err e s pad _).mpr (.inl ⟨h, rfl⟩)
  · intro b h hb
    exact (writePascalString_err e s pad _).mpr (.inr (.inl ⟨b, h, hb, rfl⟩))

/-- Never truncated or altered: whatever is written is the length byte, the *whole* encoded
string, and zero padding. -/
theorem pascal_never_truncates (e : Encoding) (s : Str) (pad : Nat) (bs : BL) :
    writePascalString e s pad = .ok bs →
      ∃ data, e.encode s = some data ∧ data.length ≤ 255 ∧
        bs = UInt8.ofNat data.length :: data ++ List.replicate (padLen (1 + data.length) pad) 0 := by
  intro h
  obtain ⟨data, h1, h2, _, h4⟩ := (writePascalString_eq e s pad bs).mp h
  exact ⟨data, h1, h2, h4⟩

example : writePascalString ascii [0x61, 0x62] 4 = .ok [2, 0x61, 0x62, 0] := by decide +kernel
example : writePascalString ascii [0xE9] 2 = .error .unicodeError := by decide +kernel
example : writePascalString utf8 (List.replicate 128 0xE9) 2 = .error .structError := by decide +kernel
example : (utf8.encode (List.replicate 127 0xE9)).map List.length = some 254 := by decide +kernel

/-! ### framing: the reader consumes exactly what the writer emitted, padding included -/

theorem read_write_framing_unicode (s : Str) (pad : Nat) (bs pre post : BL) (hn : NoPair s)
    (hw : writeUnicodeString s pad = .ok bs) :
    (∃ v, readUnicodeString (pre ++ bs ++ post) pre.length pad = .ok (v, pre.length + bs.length))
      ∧ bs.length % pad = 0 := by
  refine ⟨⟨s, readUnicodeString_write s pad bs pre post hn hw⟩, ?_⟩
  obtain ⟨_, _, hp, rfl⟩ := writeUnicodeString_inv hw
  rw [unitsLayout_length]
  exact padLen_aligned _ pad hp

theorem read_write_framing_pascal (e : Encoding) (s : Str) (pad : Nat) (bs pre post : BL)
    (hl : e.Lawful) (hw : writePascalString e s pad = .ok bs) :
    (∃ v, readPascalString e (pre ++ bs ++ post) pre.length pad = .ok (v, pre.length + bs.length))
      ∧ bs.length % pad = 0 := by
  refine ⟨⟨s, readPascalString_write e s pad bs pre post (fun b hb => hl s b hb) hw⟩, ?_⟩
  obtain ⟨data, _, _, hp, rfl⟩ := (writePascalString_eq e s pad bs).mp hw
  rw [pascalLayout_length]
  exact padLen_aligned _ pad hp

/-! ### the codecs: the law `decode (encode s) = s` -/

theorem charmap_codecs_lawful :
    (charmap Generated.Strings.macRomanTable).Lawful ∧ (charmap Generated.Strings.macCyrillicTable).Lawful
      ∧ ascii.Lawful :=
  ⟨charmap_lawful _, charmap_lawful _, charmap_lawful _⟩

theorem utf8_codec_lawful : utf8.Lawful := utf8_lawful

/-! ### the layer name -/

/-- `layer.name = n; save(encoding=e); open(encoding=e)` gives `n` back in full, for every
codec that can express `'?'` and can decode what it encoded (lawful codecs can; so can
`shift_jis`) — whether or not `n` fits the legacy field. -/
theorem name_keeps_unicode (mac e : Encoding)
    (hd : ∀ s b, e.encode s = some b → ∃ s', e.decode b = some s')
    (hq : ∃ b, e.encode [0x3F] = some b ∧ b.length ≤ 255)
    (n : Str) (hs : ∀ c ∈ n, Scalar c) (hlen : n.length < 256) (r0 : NameRec) :
    ∃ r1 lb ub, setName mac n r0 = .ok r1 ∧ writeName e r1 = .ok (lb, some ub) ∧
      ∀ pre post, ∃ r2, readName e (pre ++ lb ++ post) pre.length (some ub) = .ok (r2, pre.length + lb.length)
        ∧ r2.luni = some n ∧ getName r2 = n :=
  name_roundtrip mac e hd hq n (scalar_pyStr n hs) (scalar_noPair n hs) hlen r0

/-- The same for EVERY record that carries the unicode block, whatever put it there and whatever its
legacy field holds: the save-time encoding never decides whether the save succeeds. This is what the
creation paths of the API rely on (`Group.new`, `PixelLayer.frompil`), for any save `encoding`. -/
theorem name_keeps_unicode_any_record (e : Encoding)
    (hd : ∀ s b, e.encode s = some b → ∃ s', e.decode b = some s')
    (hq : ∃ b, e.encode [0x3F] = some b ∧ b.length ≤ 255)
    (r1 : NameRec) (n : Str) (hl : r1.luni = some n) (hs : ∀ c ∈ n, Scalar c) (hlen : n.length < 2147483648) :
    ∃ lb ub, writeName e r1 = .ok (lb, some ub) ∧
      ∀ pre post, ∃ r2, readName e (pre ++ lb ++ post) pre.length (some ub) = .ok (r2, pre.length + lb.length)
        ∧ r2.luni = some n ∧ getName r2 = n :=
  nameRec_roundtrip e hd hq r1 n hl (scalar_pyStr n hs) (scalar_noPair n hs) hlen

/-- `Group.new(n)`; `save(encoding=e)`; `open(encoding=e)` -/
theorem group_new_keeps_unicode (e : Encoding)
    (hd : ∀ s b, e.encode s = some b → ∃ s', e.decode b = some s')
    (hq : ∃ b, e.encode [0x3F] = some b ∧ b.length ≤ 255)
    (n : Str) (hs : ∀ c ∈ n, Scalar c) (hlen : n.length < 2147483648) :
    ∃ lb ub, writeName e (newGroupName n) = .ok (lb, some ub) ∧
      ∀ pre post, ∃ r2, readName e (pre ++ lb ++ post) pre.length (some ub) = .ok (r2, pre.length + lb.length)
        ∧ getName r2 = n := by
  obtain ⟨lb, ub, hw, hr⟩ := name_keeps_unicode_any_record e hd hq (newGroupName n) n rfl hs hlen
  exact ⟨lb, ub, hw, fun pre post => by obtain ⟨r2, h1, _, h3⟩ := hr pre post; exact ⟨r2, h1, h3⟩⟩

/-- `PixelLayer.frompil(…, n)`; `save(encoding=e)`; `open(encoding=e)` -/
theorem frompil_keeps_unicode (mac e : Encoding)
    (hd : ∀ s b, e.encode s = some b → ∃ s', e.decode b = some s')
    (hq : ∃ b, e.encode [0x3F] = some b ∧ b.length ≤ 255)
    (n : Str) (hs : ∀ c ∈ n, Scalar c) (hlen : n.length < 256) :
    ∃ r1 lb ub, frompilName mac n = .ok r1 ∧ writeName e r1 = .ok (lb, some ub) ∧
      ∀ pre post, ∃ r2, readName e (pre ++ lb ++ post) pre.length (some ub) = .ok (r2, pre.length + lb.length)
        ∧ r2.luni = some n ∧ getName r2 = n :=
  name_keeps_unicode mac e hd hq n hs hlen _

/-- `'Café'` given to `Group.new` and saved as ASCII: MacRoman could express it, ASCII cannot — `'?'`
in the legacy field, the name in the block. -/
example : writeName ascii (newGroupName [0x43, 0x61, 0x66, 0xE9])
    = .ok ([1, 0x3F, 0, 0], some [0, 0, 0, 4, 0, 0x43, 0, 0x61, 0, 0x66, 0, 0xE9]) := by decide +kernel
example : (frompilName (charmap Generated.Strings.macRomanTable) [0xE9] >>= writeName ascii)
    = .ok ([1, 0x3F, 0, 0], some [0, 0, 0, 1, 0, 0xE9, 0, 0]) := by decide +kernel

/-- Lawful codecs satisfy the decodability hypothesis of `name_keeps_unicode` (non-vacuity of that hypothesis). -/
theorem lawful_decodes (e : Encoding) (h : e.Lawful) : ∀ s b, e.encode s = some b → ∃ s', e.decode b = some s' :=
  fun s b hb => ⟨s, h s b hb⟩

example : ∃ b, ascii.encode [0x3F] = some b ∧ b.length ≤ 255 := ⟨[0x3F], by decide +kernel, by decide⟩
example : ∃ b, utf8.encode [0x3F] = some b ∧ b.length ≤ 255 := ⟨[0x3F], by decide +kernel, by decide⟩
/-- `'é'` set through the API and saved as ASCII: `'?'` in the legacy field, `'é'` in the block. -/
example : (setName (charmap Generated.Strings.macRomanTable) [0xE9] ⟨[], none⟩ >>= writeName ascii)
    = .ok ([1, 0x3F, 0, 0], some [0, 0, 0, 1, 0, 0xE9, 0, 0]) := by decide +kernel

/-- Without the unicode block nothing is substituted: a legacy name the save encoding cannot
express is an error, not a `'?'`. -/
theorem name_without_block_rejected (e : Encoding) (r : NameRec) (h : r.luni = none)
    (hu : e.encode r.legacy = none) : writeName e r = .error .unicodeError := by
  rw [writeName_no_block e r h, (pascal_rejects e r.legacy 4).1 hu]

/-- … which is why a creation path may not skip the block for names that MacRoman happens to express:
the same `'Café'` without the block cannot be saved as ASCII at all. -/
theorem name_entry_without_block_fails :
    writeName ascii ⟨[0x43, 0x61, 0x66, 0xE9], none⟩ = .error .unicodeError ∧
    (charmap Generated.Strings.macRomanTable).encode [0x43, 0x61, 0x66, 0xE9] ≠ none := by
  decide +kernel

/-! ### ties to the source (regenerated on every run) -/

/-- Every API function that stores a caller-supplied layer name (`LayerRecord(name=p)` or `x.name = p`)
also stores the unicode block for it UNCONDITIONALLY — a direct statement of its body, through
`set_data(Tag.UNICODE_LAYER_NAME, p)` or through the `name` setter: the hypothesis `r1.luni = some n`
of `name_keeps_unicode_any_record` holds on every creation path. -/
theorem name_entry_points_tied :
    Generated.Strings.nameEntryPoints =
      [("Layer.name", "value", "set_data", "always"), ("Group.new", "name", "set_data", "always"),
       ("PixelLayer.frompil", "layer_name", "setter", "always")] :=
  rfl

/-- The pascal reader decodes with the very codec the pascal writer encodes with — the `encoding`
parameter, passed straight to `.decode` / `.encode` and never rebound (the one `e` of
`pascal_roundtrip`); the unicode pair likewise (`utf-16-be`, `surrogatepass`). -/
theorem primitive_codecs_tied :
    Generated.Strings.primitiveCodecs =
      [("read_pascal_string", "decode", ["encoding"], []), ("write_pascal_string", "encode", ["encoding"], []),
       ("read_unicode_string", "decode", ["'utf-16-be'", "'surrogatepass'"], []),
       ("write_unicode_string", "encode", ["'utf-16-be'", "'surrogatepass'"], [])] :=
  rfl

/-- Call site by call site: the reader of every element class names the codecs its writer names, in
the same order. -/
theorem reader_codec_is_writer_codec :
    Generated.Strings.codecPairs.all (fun p => decide (p.2.1 = p.2.2) && !p.2.1.isEmpty) = true := by
  decide +kernel

/-- No call site post-processes the string it read (strips, slices, normalises): the value is bound
once, or handed straight to a constructor. -/
theorem reader_values_unprocessed :
    Generated.Strings.readerUses.all (fun u => decide (u.2.2.2 ∈ ["assign", "argument", "return"])) = true := by
  decide +kernel


/-- Every call site of the four primitives passes a literal padding 1, 2 or 4 (0 = passed
through from a caller that is itself in this table or `TaggedBlock`, which passes 1 or 4) and
a literal encoding that is MacRoman or ASCII (or the document's `encoding` parameter). -/
theorem call_sites_tied :
    Generated.Strings.sites.all (fun s =>
      decide (s.2.2.2.2 ∈ [0, 1, 2, 4]) && decide (s.2.2.2.1 ∈ ["", "param", "mac-roman", "ascii"])) = true := by
  decide +kernel

/-- The `name` setter tests MacRoman, falls back to `'?'`, bounds the length by 256; the
write-time fallback is `'?'` above 255 bytes. -/
theorem name_constants_tied :
    Generated.Strings.nameTestEncoding = "mac-roman" ∧ Generated.Strings.nameFallback = [0x3F]
      ∧ Generated.Strings.nameBound = 256
      ∧ Generated.Strings.legacyFallbacks = [[0x3F]] ∧ Generated.Strings.legacyBounds = [255] :=
  ⟨rfl, rfl, rfl, rfl, rfl⟩

/-- The regenerated MacRoman and MacCyrillic tables cover all 256 byte values. -/
theorem codec_tables_complete :
    Generated.Strings.macRomanTable.length = 256 ∧ Generated.Strings.macCyrillicTable.length = 256 := by
  decide +kernel

end PsdVerif.C19
