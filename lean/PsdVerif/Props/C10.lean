/-
C10 — the layer tree stays well-formed under every edit history.

`Inv` (Lemmas/TreeBasic.lean): (I1) every layer listed in a container reports that container as
its parent and the container's document as its document, (I2) no list contains a layer twice —
with I1: no layer is listed twice at all, (I3) the listing relation is acyclic (rank form),
plus store hygiene. (I4) "traversal visits every layer exactly once" is the theorem
`descendants_nodup`. All statements are about `Cfg.current`, the code as repaired; the
theorems named `legacy_…` are the machine-checked counterexamples of the snapshot.
-/
import PsdVerif.Lemmas.TreeHistory
import PsdVerif.Lemmas.TreeTable
import PsdVerif.Generated.TreeTable

namespace PsdVerif.C10
open PsdVerif PsdVerif.TreeSt

/-! ### The invariant holds initially and is preserved -/

theorem inv_init (limit : Nat) : Inv (State.empty limit) := inv_empty limit

/-- **Invariant step** under the guard (without it the step fails: `inv_step_false` below, for `append`). An operation preserves the invariant provided the layers it
inserts are listed nowhere (`Guard`: the other operations detach first) and the interpreter's
recursion limit is not hit. Refused operations are included. -/
theorem inv_step_partial (s : State) (op : Op) (i : Inv s) (hg : Guard s op)
    (hne : (step .current s op).2 ≠ .error .recursionError) : Inv (step .current s op).1 :=
  inv_step s op i hg hne

/-- **Invariant over histories**: at every point of every guarded edit history (`Guarded`: every
step satisfies the guard and stays below the recursion limit). -/
theorem inv_history (s : State) (ops : List Op) (i : Inv s) (h : Guarded .current s ops) :
    Inv (runState .current s ops) := inv_run s ops i h

/-! ### Refused operations leave the tree unchanged -/

/-- **Refused ⇒ unchanged.** When an operation raises (anything but RecursionError) from a
well-formed tree, every list, parent / document pointer, kind, flag and rectangle is what it was.
(`SameTree` leaves out the caches — the assertion messages format groups with `repr`, which reads
`bbox` —, the dirty flags and the block key lists.) No guard. -/
theorem refused_unchanged (s : State) (op : Op) (e : Err) (i : Inv s)
    (h : (step .current s op).2 = .error e) (hne : e ≠ .recursionError) : SameTree s (step .current s op).1 :=
  step_ref s op e i h hne

/-! ### Consequences of the invariant -/

/-- (I1) every layer below a document reports that document, and its parent pointer names the
container that lists it. -/
theorem reachable_pointers (s : State) (i : Inv s) (d x : Id) (hd : s.kind d = .doc) (r : Reach s d x) :
    s.psd x = some d ∧ ∃ c, s.parent x = some c ∧ x ∈ s.children c := by
  have key : ∀ a y, Reach s a y → s.docOf a = some d → s.psd y = some d := by
    intro a y r
    induction r with
    | edge hx => exact fun h => i.psdOk _ _ d hx h
    | step hx _ ih =>
      intro h
      apply ih
      have := i.psdOk _ _ d hx h
      simp only [State.docOf, i.layerOnly _ _ hx, if_false]
      exact this
  refine ⟨key d x r (by simp [State.docOf, hd]), ?_⟩
  obtain ⟨c, hc, _⟩ := r.last
  exact ⟨c, i.parentOk c x hc, hc⟩

/-- (I2) no layer is listed twice: one container, one position. -/
theorem listed_once (s : State) (i : Inv s) (c c' x : Id) (h : x ∈ s.children c) (h' : x ∈ s.children c') :
    c = c' ∧ (s.children c).count x = 1 :=
  ⟨i.unique h h', by rw [(i.nodup c).count]; simp [h]⟩

/-- (I3) no group is its own ancestor. -/
theorem no_cycle (s : State) (i : Inv s) (x : Id) : ¬ Reach s x x := i.no_cycle x

/-- (I4) `descendants()` visits every layer below `g` exactly once. -/
theorem descendants_nodup (s : State) (i : Inv s) (g : Id) (ds : List Id) (h : desc s g = .ok ds) :
    ds.Nodup ∧ ∀ x, x ∈ ds ↔ Reach s g x := descF_nodup i _ g ds h

/-! ### Concrete states (non-vacuity and counterexamples) -/

/-- `PSDImage.new`, one pixel layer appended, one empty group appended, one detached layer:
document 0 lists [1, 2]; 3 is detached. -/
def demo : State :=
  runState .current (State.empty 50)
    [.newDoc ⟨0, 0, 8, 8⟩, .newLayer (some 0) ⟨0, 0, 2, 2⟩, .newGroup (some 0), .newLayer (some 0) ⟨1, 1, 3, 3⟩,
     .append 0 1]

theorem demo_inv : Inv demo := by
  have i4 : Inv (runState .current (State.empty 50)
      [.newDoc ⟨0, 0, 8, 8⟩, .newLayer (some 0) ⟨0, 0, 2, 2⟩, .newGroup (some 0), .newLayer (some 0) ⟨1, 1, 3, 3⟩]) :=
    inv_history _ _ (inv_init 50) ⟨trivial, by decide, trivial, by decide, trivial, by decide, trivial, by decide, trivial⟩
  exact inv_step_partial _ (.append 0 1) i4 (detached_of_bounded i4 (by decide)) (by decide)

/-- non-vacuity of `inv_step_partial`: a guarded, accepted insertion -/
example : Guard demo (.append 2 3) ∧ (step .current demo (.append 2 3)).2 = .none ∧
    (step .current demo (.append 2 3)).1.children 2 = [3] :=
  ⟨detached_of_bounded demo_inv (by decide), by decide, by decide⟩

/-- **The full-strength invariant step is false** (known finding `C10/append/already-listed`):
`psd.append(x)` for a layer that is already listed is accepted and lists it twice. -/
theorem inv_step_false : ∃ (s : State) (op : Op), Inv s ∧ (step .current s op).2 = .none ∧
    ¬ Inv (step .current s op).1 :=
  ⟨demo, .append 0 1, demo_inv, by decide, fun h => absurd (h.nodup 0) (by decide)⟩

/-- the same across containers: the layer is listed in the document and in the group, and its
parent pointer names only the last one -/
theorem append_listed_elsewhere : (step .current demo (.append 2 1)).2 = .none ∧
    1 ∈ (step .current demo (.append 2 1)).1.children 0 ∧ 1 ∈ (step .current demo (.append 2 1)).1.children 2 ∧
    (step .current demo (.append 2 1)).1.parent 1 = some 2 := by decide +kernel

/-- the repaired code refuses `g.extend([g])` and leaves the lists alone … -/
theorem extend_self_refused : (step .current demo (.extend 2 [2])).2 = .error .assertionError ∧
    (step .current demo (.extend 2 [2])).1.children 2 = [] := by decide +kernel

/-- … the snapshot accepted it (`_check_valid_layers` compared the list, not its items), listed the
group in itself and then failed with RecursionError: a cycle, and a refused operation that changed
the tree (fixed: cec89fb). -/
theorem legacy_extend_self_cycle : (step .legacy demo (.extend 2 [2])).2 = .error .recursionError ∧
    2 ∈ (step .legacy demo (.extend 2 [2])).1.children 2 := by decide +kernel

/-- document 0 lists [1, 2]; group 1 lists [3] -/
def demo2 : State :=
  runState .current (State.empty 50)
    [.newDoc ⟨0, 0, 8, 8⟩, .newGroup (some 0), .newLayer (some 0) ⟨0, 0, 2, 2⟩, .newLayer (some 0) ⟨1, 1, 3, 3⟩,
     .append 0 2, .append 1 3]

/-- `group_layers([g, x], parent=g)`: the snapshot moved both layers into the new group and was then
refused by `parent.append(group)` — the document lost them (fixed: 09c40bc) … -/
theorem legacy_group_layers_refused_changed :
    (step .legacy demo2 (.groupLayers [1, 2] (some 1))).2 = .error .assertionError ∧
    (step .legacy demo2 (.groupLayers [1, 2] (some 1))).1.children 0 = [] := by decide +kernel

/-- … the repaired code refuses before anything is moved. -/
theorem group_layers_refused_unchanged :
    (step .current demo2 (.groupLayers [1, 2] (some 1))).2 = .error .assertionError ∧
    (step .current demo2 (.groupLayers [1, 2] (some 1))).1.children 0 = [1, 2] := by decide +kernel

/-- the snapshot's `descendants()` also yielded `clip_layers` of every child: with layer 2 clipped
to layer 1 it is visited twice (fixed: 277014b) -/
theorem legacy_descendants_twice :
    (descLegacyF (fun x => if x = 1 then [2] else []) demo2 50 0).toOption = some [1, 3, 2, 2] ∧
    (desc demo2 0).toOption = some [1, 3, 2] := by
  decide +kernel

/-- why `refused_unchanged` speaks about the tree and not about the whole state: a refused
operation may fill a cache (the assertion message formats the group) … -/
theorem refused_fills_cache : demo.cache 2 = none ∧
    (step .current demo (.extend 2 [2])).1.cache 2 = some BBox.zero := by decide +kernel

/-- a refused `del g[k]` does not even set the dirty flag: the list operation comes first, the bookkeeping after it
(19d58e7; before it `_updated_layers` was set before the list could raise IndexError) -/
theorem delitem_refused_keeps_dirty :
    let s := { demo with dirty := fun _ => false }
    (step .current s (.delitem 2 0)).2 = .error .indexError ∧ (step .current s (.delitem 2 0)).1.dirty 0 = false := by
  decide +kernel

/-- Why the recursion limit appears in the hypotheses: with a budget of 1 the traversal made by
`_update_layer_metadata` fails AFTER the list was changed — the refused operation leaves the
layer listed with no parent pointer. -/
theorem recursion_limit_after_mutation :
    let s := { demo with limit := 1 }
    (step .current s (.append 0 3)).2 = .error .recursionError ∧
    3 ∈ (step .current s (.append 0 3)).1.children 0 ∧ (step .current s (.append 0 3)).1.parent 3 = none := by
  decide +kernel


/-! ### The mutators as the source writes them (regenerated table, `Model/TreeTable.lean`)

`Generated/TreeTable.lean` lists every public structural mutator step by step (harness/extract_c10.py).
`tableOk` is the decidable structural condition: (a) every validation precedes the mutation that uses its
argument — directly — and nothing that can refuse comes after the first change of the tree unless the same facts
were checked before it (in particular no per-item validate-and-mutate loop), (b) iterables are materialised once
before they are validated and used, (c) every raw insertion into a container is directly followed by the pointer
refresh of that container, which covers all descendants (document) and all children (parent), (d) every raw
mutation of a container is followed by the record refresh of THAT container (for a move: source and destination),
which marks the container's document, (e) nothing unclassified; and the three helpers are described as the standard
ones (`_check_valid_layers` with its three assertions per item, in order). -/

open PsdVerif.TreeTable in
/-- **the current source satisfies the structural condition** -/
theorem current_tree_table_ok : tableOk Generated.TreeTable.table = true := by decide +kernel

open PsdVerif.TreeTable in
/-- the helper descriptions are the standard ones and the rows of the `GroupMixin` list mutators are the rows the
transfer theorems are stated for -/
theorem current_table_std : StdRows Generated.TreeTable.table = true := by decide +kernel

open PsdVerif.TreeTable in
/-- **one run of the table machine is the hand-written operation**, for any table with these rows -/
theorem table_step_eq (t : Table) (h : StdRows t = true) (s : State) (op : Op) (hop : Op.listMutator op = true) :
    tableStep t s op = step .current s op := tableStep_eq_step h s op hop

open PsdVerif.TreeTable in
/-- **invariant step for the table machine** (guard: inserted layers are detached), any table with these rows -/
theorem table_inv_step (t : Table) (h : StdRows t = true) (s : State) (op : Op) (hop : Op.listMutator op = true)
    (i : Inv s) (hg : Guard s op) (hne : (tableStep t s op).2 ≠ .error .recursionError) : Inv (tableStep t s op).1 := by
  rw [tableStep_eq_step h s op hop] at hne ⊢
  exact inv_step s op i hg hne

open PsdVerif.TreeTable in
/-- **a refusal of the table machine leaves the tree unchanged**, any table with these rows -/
theorem table_refused_unchanged (t : Table) (h : StdRows t = true) (s : State) (op : Op) (hop : Op.listMutator op = true)
    (e : Err) (i : Inv s) (he : (tableStep t s op).2 = .error e) (hne : e ≠ .recursionError) :
    SameTree s (tableStep t s op).1 := by
  rw [tableStep_eq_step h s op hop] at he ⊢
  exact step_ref s op e i he hne

/-- non-vacuity: the current table, a guarded accepted insertion -/
example : (PsdVerif.TreeTable.tableStep Generated.TreeTable.table demo (.append 2 3)).2 = .none ∧
    (PsdVerif.TreeTable.tableStep Generated.TreeTable.table demo (.append 2 3)).1.children 2 = [3] := by decide +kernel

/-! #### clauses (a)–(d) and the helper descriptions are needed: a table violating each, and what its machine does -/

section Witness
open PsdVerif.TreeTable

def wt (r : Row) : Table := ⟨[r], .std, .std, .std⟩

/-- (a) validation AFTER the mutation -/
def lateCheck : Row :=
  ⟨"GroupMixin.extend", [.line [.mat "layers_1" (.list "layers") "layers" [],
      .mutate (.var "self") (.extend (.list "layers_1")) [], .validate (.var "self") (.list "layers_1") [],
      .refresh (.var "self") [], .dirty (.var "self") []]], ""⟩

/-- `g.extend([g])` is refused, and `g` lists itself -/
theorem validation_after_mutation : tableOk (wt lateCheck) = false ∧
    (tableStep (wt lateCheck) demo (.extend 2 [2])).2.isError = true ∧
    2 ∈ (tableStep (wt lateCheck) demo (.extend 2 [2])).1.children 2 := by decide +kernel

/-- (a) a per-item loop: validate and mutate item by item -/
def perItem : Row :=
  ⟨"GroupMixin.extend", [.line [.mat "layers_1" (.list "layers") "layers" []],
    .loop "layer" "layers_1" [.validate (.var "self") (.single (.var "layer")) [],
      .mutate (.var "self") (.extend (.single (.var "layer"))) [], .refresh (.var "self") [], .dirty (.var "self") []]], ""⟩

/-- `g.extend([x, g])` is refused after `x` was listed: non-atomic -/
theorem per_item_loop_not_atomic : tableOk (wt perItem) = false ∧
    (tableStep (wt perItem) demo (.extend 2 [3, 2])).2 = .error .assertionError ∧
    (tableStep (wt perItem) demo (.extend 2 [3, 2])).1.children 2 = [3] ∧
    (tableStep (wt rowExtend) demo (.extend 2 [3, 2])).1.children 2 = [] := by decide +kernel

/-- (b) no materialisation: the validation consumes a generator -/
def noMat : Row :=
  ⟨"GroupMixin.extend", [.line [.validate (.var "self") (.list "layers") [],
      .mutate (.var "self") (.extend (.list "layers")) [], .refresh (.var "self") [], .dirty (.var "self") []]], ""⟩

/-- `g.extend(x for x in [x])` is accepted and lists nothing; as the library writes it, it lists `x` -/
theorem generator_consumed_by_validation : tableOk (wt noMat) = false ∧
    (runRow (wt noMat) "GroupMixin.extend" demo [("self", vObj 2), ("layers", .list [3] true)]).2 = .none ∧
    (runRow (wt noMat) "GroupMixin.extend" demo [("self", vObj 2), ("layers", .list [3] true)]).1.children 2 = [] ∧
    (runRow (wt rowExtend) "GroupMixin.extend" demo [("self", vObj 2), ("layers", .list [3] true)]).1.children 2 = [3] := by
  decide +kernel

/-- document 0; loose group 1 listing layer 2 (neither has a document) -/
def loose : State :=
  runState .current (State.empty 50) [.newDoc ⟨0, 0, 8, 8⟩, .newGroup none, .newLayer none ⟨0, 0, 2, 2⟩, .append 1 2]

/-- (c) the pointer refresh assigns the document over the children only -/
def childrenOnly : Table := ⟨[rowAppend], .std, { Refresh.std with psdOver := .children }, .std⟩

theorem refresh_over_wrong_set : tableOk childrenOnly = false ∧
    (tableStep childrenOnly loose (.append 0 1)).2 = .none ∧
    (tableStep childrenOnly loose (.append 0 1)).1.psd 1 = some 0 ∧
    (tableStep childrenOnly loose (.append 0 1)).1.psd 2 = none ∧
    (tableStep (wt rowAppend) loose (.append 0 1)).1.psd 2 = some 0 := by decide +kernel

/-- (c) no pointer refresh after the insertion -/
def noRefresh : Row :=
  ⟨"GroupMixin.append", [.line [.assert (.ne (.var "layer") (.var "self")) [] [],
      .mat "layers_1" (.single (.var "layer")) "[layer]" [], .validate (.var "self") (.list "layers_1") [],
      .mutate (.var "self") (.extend (.list "layers_1")) [], .dirty (.var "self") []]], ""⟩

theorem refresh_missing : tableOk (wt noRefresh) = false ∧
    3 ∈ (tableStep (wt noRefresh) demo (.append 2 3)).1.children 2 ∧
    (tableStep (wt noRefresh) demo (.append 2 3)).1.parent 3 = none := by decide +kernel

/-- documents 0 and 1, layer 2 listed in document 0, nothing marked edited -/
def twoDocs : State :=
  { runState .current (State.empty 50) [.newDoc ⟨0, 0, 8, 8⟩, .newDoc ⟨0, 0, 8, 8⟩, .newLayer (some 0) ⟨0, 0, 2, 2⟩,
      .append 0 2] with dirty := fun _ => false }

/-- (d) `move_to_group` detaching with the raw list operation only: the record refresh is made on the destination -/
def destOnly : Row :=
  ⟨"Layer.move_to_group", [.line [.assert (.isGroup (.var "group")) [] [], .assert (.ne (.var "group") (.var "self")) [] [],
      .test 2 (.and (.notNone (.parent (.var "self"))) (.isGroup (.parent (.var "self")))) [],
      .test 3 (.listedIn (.var "self") (.parent (.var "self"))) [(2, true)],
      .mutate (.parent (.var "self")) (.remove (.var "self")) [(2, true), (3, true)],
      .mat "layers_1" (.single (.var "self")) "[self]" [], .validate (.var "group") (.list "layers_1") [],
      .mutate (.var "group") (.extend (.list "layers_1")) [], .refresh (.var "group") [], .dirty (.var "group") []]], "self"⟩

/-- the layer left document 0, which is not marked edited (a save would write the old tree) -/
theorem source_document_not_marked : tableOk (wt destOnly) = false ∧
    (tableStep (wt destOnly) twoDocs (.moveToGroup 2 1)).2 = .id 2 ∧
    (tableStep (wt destOnly) twoDocs (.moveToGroup 2 1)).1.children 0 = [] ∧
    (tableStep (wt destOnly) twoDocs (.moveToGroup 2 1)).1.dirty 0 = false ∧
    (tableStep (wt destOnly) twoDocs (.moveToGroup 2 1)).1.dirty 1 = true ∧
    (tableStep Generated.TreeTable.table twoDocs (.moveToGroup 2 1)).1.dirty 0 = true := by decide +kernel

/-- (d) an `_update_psd_record` that does not set `_updated_layers` -/
theorem record_refresh_not_marking : tableOk ⟨[rowAppend], .std, .std, ⟨false⟩⟩ = false ∧
    (tableStep ⟨[rowAppend], .std, .std, ⟨false⟩⟩ twoDocs (.append 1 2)).1.dirty 1 = false := by decide +kernel

/-- `_check_valid_layers` without the descendants test: a group is listed below itself -/
theorem check_without_loop_test : tableOk ⟨[rowAppend], { Check.std with noLoop := false, exact := false }, .std, .std⟩ = false ∧
    (let s := (step .current demo (.append 2 3)).1
     let s' := (step .current (step .current s (.newGroup (some 2))).1 (.setAttr 0)).1
     (tableStep ⟨[rowAppend], { Check.std with noLoop := false, exact := false }, .std, .std⟩ s' (.append 4 2)).2 ≠ .error .assertionError) := by
  decide +kernel

end Witness

end PsdVerif.C10
