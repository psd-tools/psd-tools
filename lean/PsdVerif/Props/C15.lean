/-
C15 — clipping relationships are resolved correctly (part 1): the single pass of
`_compute_clipping_layers` equals the per-layer specification, for every children list, every
flag assignment and every compatibility mode; and kept current (part 2): the relation STORED on the
layer objects equals that specification of the current flags, order, membership and mode after
every history of public mutators, given what the regenerated table `Generated/ClipCurrent.lean`
says about the source (every raw mutation is followed by a recomputation on the same document,
the clear visits every layer), which holds of the current tree by `decide`; and honoured by the compositor
(part 3): the gate of `Compositor.apply` and the box a group is drawn in, as `Generated/ClipCompositor.lean` reads
them off the source.
Property theorems only; helper lemmas live in `Lemmas/Clip.lean`, `Lemmas/ClipState.lean`, `Lemmas/ClipCompositor.lean`.
-/
import PsdVerif.Lemmas.ClipState
import PsdVerif.Generated.ClipModes
import PsdVerif.Generated.ClipCurrent
import PsdVerif.Lemmas.ClipCompositor
import PsdVerif.Generated.ClipCompositor

namespace PsdVerif.C15
open PsdVerif PsdVerif.Clip PsdVerif.Clip.Spec

/-- What the model assumes about `rec_helper` is what the source says now: the members of
    `CompatibilityMode`, the two modes and the blend mode it compares, the direction of the loop,
    the first test, the recursion, the defaults of `_clear_clipping_layers`. -/
theorem pass_tables_tied :
    Generated.ClipModes.members =
      [("PHOTOSHOP", 1), ("PAINT_TOOL_SAI", 2), ("CLIP_STUDIO_PAINT", 3), ("GIMP", 4), ("KRITA", 5), ("DEFAULT", 1)] ∧
    Generated.ClipModes.modesTested = ["PAINT_TOOL_SAI", "CLIP_STUDIO_PAINT"] ∧
    Generated.ClipModes.blendTested = ["PASS_THROUGH"] ∧
    Generated.ClipModes.firstTest = "sublayer.clipping_layer" ∧
    Generated.ClipModes.iteratesReversed = true ∧
    Generated.ClipModes.recurses = true ∧
    Generated.ClipModes.clearAssignments = ["layer._clip_layers = []", "layer._has_clip_target = True"] :=
  ⟨rfl, rfl, rfl, rfl, rfl, rfl, rfl⟩

/-- Exactly the SAI and Clip Studio modes restrict the choice of a base. -/
theorem restrictive_iff (m : CompatMode) :
    m.restrictive = true ↔ m = .paintToolSai ∨ m = .clipStudioPaint := by
  cases m <;> simp [CompatMode.restrictive]

/-- The single top-to-bottom pass with its stack computes, for every children list and every
    assignment of flags, exactly the per-layer specification. -/
theorem computeClip_eq_spec (m : CompatMode) (cs : List ChildFlags) : computeClip m cs = Spec.clip m cs :=
  computeClip_eq_clip m cs

/-- The specification, read declaratively (and therefore the pass, by `computeClip_eq_spec`):
    a layer's clip layers are the positions directly above it that are reachable through clipping
    layers only — when the layer is an eligible base; otherwise it has none. A clipping layer has a
    target exactly when an eligible base lies beneath it with only clipping layers in between. -/
theorem clip_meaning (m : CompatMode) (cs : List ChildFlags) (i : Nat) (c : ChildFlags) (ci : ClipInfo)
    (hc : cs[i]? = some c) (ho : (computeClip m cs)[i]? = some ci) :
    (∀ j, j < cs.length → (j ∈ ci.clipLayers ↔ eligible m c = true ∧ i < j ∧ ∀ l, i < l → l ≤ j → ClipAt cs l)) ∧
    (ci.hasTarget = true ↔ (c.clipping = true → ∃ b, BaseFor m cs b i)) := by
  rw [computeClip_getElem?, hc] at ho
  cases ho
  constructor
  · intro j _
    simp only [infoAt]
    split
    · simp only [‹eligible m c = true›, true_and]; exact mem_runAbove cs i j
    · simp [*]
  · simp only [infoAt]
    split
    · simp only [‹c.clipping = true›, true_implies]
      exact targetIn_iff m cs i (Nat.le_of_lt (List.getElem?_eq_some_iff.mp hc).1)
    · simp [*]

/-- Clip runs are consecutive (positions `i+1 … i+r`, listed in stacking order), consist of
    clipping layers only, are maximal, belong to eligible bases only, and runs of different layers
    are disjoint and stacked in the order of their bases. -/
theorem runs_partition (m : CompatMode) (cs : List ChildFlags) :
    (computeClip m cs).length = cs.length ∧
    (∀ i c ci, cs[i]? = some c → (computeClip m cs)[i]? = some ci →
      ∃ r, ci.clipLayers = List.range' (i + 1) r ∧
        (∀ j, i < j → j ≤ i + r → ClipAt cs j) ∧
        (∀ d, cs[i + r + 1]? = some d → eligible m c = true → d.clipping = false) ∧
        (0 < r → eligible m c = true)) ∧
    (∀ (i i' : Nat) (ci ci' : ClipInfo), i < i' → (computeClip m cs)[i]? = some ci → (computeClip m cs)[i']? = some ci' →
      ∀ j ∈ ci.clipLayers, ∀ j' ∈ ci'.clipLayers, j < j') := by
  refine ⟨by simp [computeClip], ?_, ?_⟩
  · intro i c ci hc ho
    rw [computeClip_getElem?, hc] at ho
    cases ho
    by_cases he : eligible m c = true
    · refine ⟨R cs (i + 1), by simp only [infoAt, he, if_true, runAbove_eq], ?_, ?_, fun _ => he⟩
      · intro j h1 h2; exact R_mem_clipping cs (i + 1) j h1 (by omega)
      · intro d hd _
        exact R_stop cs (i + 1) d (by rw [show i + 1 + R cs (i + 1) = i + R cs (i + 1) + 1 by omega]; exact hd)
    · exact ⟨0, by simp only [infoAt, he]; rfl, fun j h1 h2 => by omega, fun d _ h => absurd h he, fun h => nomatch h⟩
  · intro i i' ci ci' hlt ho ho' j hj j' hj'
    rw [computeClip_getElem?] at ho ho'
    obtain ⟨c, hc, rfl⟩ := Option.map_eq_some_iff.mp ho
    obtain ⟨c', hc', rfl⟩ := Option.map_eq_some_iff.mp ho'
    simp only [infoAt] at hj hj'
    split at hj
    · split at hj'
      · -- the base `i'` is not a clipping layer, so the run of `i` stops below it
        rw [runAbove_eq, List.mem_range'_1] at hj hj'
        rcases Nat.lt_or_ge i' (i + 1 + R cs (i + 1)) with h | h
        · obtain ⟨d, hd, hdc⟩ := R_mem_clipping cs (i + 1) i' hlt h
          cases hc'.symm.trans hd
          exact (eligible_not_clipping ‹_› hdc).elim
        · exact Nat.lt_of_lt_of_le (Nat.lt_of_lt_of_le hj.2 h) (Nat.le_of_succ_le hj'.1)
      · cases hj'
    · cases hj

/-- A clipping layer with no eligible base beneath it in its group has no target and is in
    nobody's clip run; a clipping layer with a target is in the run of exactly that base. -/
theorem no_base_no_target (m : CompatMode) (cs : List ChildFlags) (j : Nat) (d : ChildFlags) (cj : ClipInfo)
    (hd : cs[j]? = some d) (hcl : d.clipping = true) (ho : (computeClip m cs)[j]? = some cj) :
    (cj.hasTarget = false ↔ ¬ ∃ b, BaseFor m cs b j) ∧
    (cj.clipLayers = []) ∧
    (∀ i ci, (computeClip m cs)[i]? = some ci → (j ∈ ci.clipLayers ↔ BaseFor m cs i j)) := by
  have hj : j < cs.length := (List.getElem?_eq_some_iff.mp hd).1
  refine ⟨?_, ?_, ?_⟩
  · rw [← Bool.not_eq_true, (clip_meaning m cs j d cj hd ho).2]; simp [hcl]
  · rw [computeClip_getElem?, hd] at ho
    cases ho
    simp [infoAt, eligible, hcl]
  · intro i ci hoi
    obtain ⟨c, hc, _⟩ := Option.map_eq_some_iff.mp ((computeClip_getElem? m cs i).symm.trans hoi)
    rw [(clip_meaning m cs i c ci hc hoi).1 j hj]
    constructor
    · rintro ⟨he, hlt, hall⟩
      exact ⟨hlt, ⟨c, hc, he⟩, fun l hl1 hl2 => hall l hl1 (by omega)⟩
    · rintro ⟨hlt, ⟨c', hc', he⟩, hall⟩
      cases hc.symm.trans hc'
      refine ⟨he, hlt, fun l hl1 hl2 => ?_⟩
      rcases Nat.lt_or_ge l j with h | h
      · exact hall l hl1 h
      · cases (by omega : l = j); exact ⟨d, hd, hcl⟩

/-- The base of a clipping layer is unique. -/
theorem base_unique (m : CompatMode) (cs : List ChildFlags) (b b' j : Nat)
    (h : BaseFor m cs b j) (h' : BaseFor m cs b' j) : b = b' := by
  obtain ⟨h1, ⟨c, hc, he⟩, h3⟩ := h
  obtain ⟨h1', ⟨c', hc', he'⟩, h3'⟩ := h'
  rcases Nat.lt_trichotomy b b' with hlt | heq | hgt
  · obtain ⟨d, hd, hdc⟩ := h3 b' hlt h1'
    cases hc'.symm.trans hd
    exact (eligible_not_clipping he' hdc).elim
  · exact heq
  · obtain ⟨d, hd, hdc⟩ := h3' b hgt h1
    cases hc.symm.trans hd
    exact (eligible_not_clipping he hdc).elim

/-- In the SAI / Clip Studio modes a pass-through layer is never given clip layers, in the other
    modes the blend mode plays no role. -/
theorem passThrough_rule (m : CompatMode) (cs : List ChildFlags) (i : Nat) (c : ChildFlags) (ci : ClipInfo)
    (hc : cs[i]? = some c) (ho : (computeClip m cs)[i]? = some ci) :
    (m.restrictive = true → c.passThrough = true → ci.clipLayers = []) ∧
    (m.restrictive = false → computeClip m cs = computeClip .photoshop cs) := by
  constructor
  · intro hm hp
    rw [computeClip_getElem?, hc] at ho
    cases ho
    simp [infoAt, eligible, hm, hp]
  · intro hm
    rw [computeClip_eq_spec, computeClip_eq_spec]
    have he : ∀ c, eligible m c = eligible .photoshop c := by
      intro c; simp [eligible, hm, show CompatMode.photoshop.restrictive = false from rfl]
    have ht : ∀ l, targetIn m l = targetIn .photoshop l := by
      intro l; induction l with
      | nil => rfl
      | cons c rest ih => simp [targetIn, ih, he]
    simp [clip, infoAt, he, ht]

/-- The property text says "pass-through *group*"; the code tests the blend mode of any child.
    The two readings coincide on every children list in which only groups are pass-through
    (the only blend-mode assignment Photoshop writes) … -/
theorem groupOnly_reading_agrees (m : CompatMode) (cs : List ChildFlags)
    (h : ∀ c ∈ cs, c.passThrough = true → c.isGroup = true) :
    ∀ c ∈ cs, eligibleGroupOnly m c = eligible m c := by
  intro c hc
  have := h c hc
  cases hp : c.passThrough <;> cases hg : c.isGroup <;> simp_all [eligibleGroupOnly, eligible]

/-- … and differ exactly on a non-group child whose blend mode was set to pass-through. -/
theorem groupOnly_reading_differs :
    eligibleGroupOnly .paintToolSai ⟨false, false, true⟩ = true ∧ eligible .paintToolSai ⟨false, false, true⟩ = false := by
  decide

/-! ### Non-vacuity -/

-- base, two clip layers, base, clip layer (Photoshop): two runs
example : computeClip .photoshop [⟨false, false, false⟩, ⟨true, false, false⟩, ⟨true, false, false⟩,
    ⟨false, true, false⟩, ⟨true, false, false⟩] =
    [⟨[1, 2], true⟩, ⟨[], true⟩, ⟨[], true⟩, ⟨[4], true⟩, ⟨[], true⟩] := by decide +kernel
-- a clip run at the bottom of the group has no target
example : computeClip .photoshop [⟨true, false, false⟩, ⟨true, false, false⟩, ⟨false, false, false⟩] =
    [⟨[], false⟩, ⟨[], false⟩, ⟨[], true⟩] := by decide +kernel
-- a pass-through group is a base in Photoshop mode, not in SAI mode
example : computeClip .photoshop [⟨false, true, true⟩, ⟨true, false, false⟩] = [⟨[1], true⟩, ⟨[], true⟩] := by decide +kernel
example : computeClip .paintToolSai [⟨false, true, true⟩, ⟨true, false, false⟩] = [⟨[], true⟩, ⟨[], false⟩] := by decide +kernel
example : computeClip .clipStudioPaint [⟨false, false, false⟩, ⟨false, true, true⟩, ⟨true, false, false⟩] =
    [⟨[], true⟩, ⟨[], true⟩, ⟨[], false⟩] := by decide +kernel
example : BaseFor .photoshop [⟨false, false, false⟩, ⟨true, false, false⟩, ⟨true, false, false⟩] 0 2 :=
  ⟨by omega, ⟨_, rfl, rfl⟩, fun l h1 h2 => by
    have : l = 1 := by omega
    subst this; exact ⟨_, rfl, rfl⟩⟩
example : ∀ c ∈ [(⟨false, true, true⟩ : ChildFlags), ⟨true, false, false⟩], c.passThrough = true → c.isGroup = true := by
  decide

/-! ## Part 2 — kept current -/

section KeptCurrent
open PsdVerif.ClipState

/-- What the state model assumes about `_compute_clipping_layers`, `_clear_clipping_layers` and
    `descendants` is what the source says now: clear, then the pass, with nothing at top level that
    could skip or repeat either; the clear runs over `self.descendants()`; `descendants` visits every
    child and everything below a group unless `include_clip` is false. -/
theorem recompute_tied :
    Generated.ClipCurrent.computeBody = ["self._clear_clipping_layers()", "def rec_helper", "rec_helper(self)"] ∧
    Generated.ClipCurrent.clearIterSrc = "self.descendants()" ∧
    Generated.ClipCurrent.descendantsBody =
      "for layer in self:\n    if not include_clip and layer.clipping_layer:\n        continue\n    yield layer\n    if isinstance(layer, GroupMixin):\n        for child in layer.descendants(include_clip):\n            yield child" :=
  ⟨rfl, rfl, rfl⟩

/-- One call of `_compute_clipping_layers` with a clear that visits every layer makes the stored
    relation the specification of the tree as it is — whatever the objects carried before (stale
    lists from another group, from another document, from before the edit). -/
theorem recompute_makes_current (s : St) : Current (s.recompute .all) := recompute_current s

/-- … and it changes no input: mode and specification are those of before. -/
theorem recompute_keeps_inputs (s : St) :
    (s.recompute .all).mode = s.mode ∧ spec s.mode (s.recompute .all).tree = spec s.mode s.tree :=
  ⟨rfl, (recomputeTree_all s.mode s.tree).2⟩

/-- Kept current. If the table says that in every segment of every public mutator each raw mutation
    is followed by a recomputation on the document of the same container under no further test, that
    nothing else assigns the stored attributes, that the constructor ends with a recomputation and that
    the clear visits every layer (`tableOk`), then after opening ANY document and after ANY history of
    mutator segments — any containers inside or outside the document, any outcome of the tests, any
    effect of the raw mutations on tree, flags and mode, any stale attributes brought in — the
    relation stored on the layers is the specification of the current inputs. -/
theorem kept_current (t : Table) (ht : tableOk t = true) (inp : St) (h : List SegInst) (hw : ∀ si ∈ h, si.wf) :
    Current (runHist t (openSt t inp) h) :=
  runHist_current t ht h _ (openSt_current t ht inp) hw

/-- The table regenerated from the source satisfies the hypothesis. -/
theorem current_tree_keeps_current : tableOk Generated.ClipCurrent.table = true := by decide +kernel

/-- Hence, for the code as it is: on open and after any history. -/
theorem kept_current_now (inp : St) (h : List SegInst) (hw : ∀ si ∈ h, si.wf) :
    Current (runHist Generated.ClipCurrent.table (openSt Generated.ClipCurrent.table inp) h) :=
  kept_current _ current_tree_keeps_current inp h hw

/-- What "current" says, layer by layer, in the terms of part 1: in every group (and the document)
    `_clip_layers` of the child at position `i` are the identities of the maximal run of clipping
    layers directly above it, in stacking order, when it is an eligible base, and empty otherwise;
    `_has_clip_target` is false exactly for a clipping layer with no eligible base beneath it. -/
theorem current_meaning (s : St) (hs : Current s) (l : List T) (hl : l ∈ levels s.tree) (i : Nat) (k : T)
    (hk : l[i]? = some k) :
    (∃ r, k.attr.clip = idsAt l (List.range' (i + 1) r) ∧
        (∀ j, i < j → j ≤ i + r → ClipAt (l.map T.flags) j) ∧
        (∀ d, (l.map T.flags)[i + r + 1]? = some d → eligible s.mode k.flags = true → d.clipping = false) ∧
        (0 < r → eligible s.mode k.flags = true)) ∧
    (k.attr.tgt = true ↔ (k.attr.clipping = true → ∃ b, BaseFor s.mode (l.map T.flags) b i)) := by
  obtain ⟨h1, h2⟩ := current_child s hs l hl i k hk
  have hc : (l.map T.flags)[i]? = some k.flags := by simp [hk]
  have ho : (computeClip s.mode (l.map T.flags))[i]? = some (infoAt s.mode (l.map T.flags) k.flags i) := by
    rw [computeClip_getElem?, hc]; rfl
  constructor
  · obtain ⟨r, e1, e2, e3, e4⟩ := (runs_partition s.mode (l.map T.flags)).2.1 i k.flags _ hc ho
    exact ⟨r, by rw [h1, e1], e2, e3, e4⟩
  · rw [h2]
    exact (clip_meaning s.mode (l.map T.flags) i k.flags _ hc ho).2

/-- The two together: after any history on the code as it is, every layer of every group carries
    exactly that. -/
theorem kept_current_meaning (inp : St) (h : List SegInst) (hw : ∀ si ∈ h, si.wf)
    (l : List T) (i : Nat) (k : T)
    (hl : l ∈ levels (runHist Generated.ClipCurrent.table (openSt Generated.ClipCurrent.table inp) h).tree)
    (hk : l[i]? = some k) :
    let s := runHist Generated.ClipCurrent.table (openSt Generated.ClipCurrent.table inp) h
    (∃ r, k.attr.clip = idsAt l (List.range' (i + 1) r) ∧
        (∀ j, i < j → j ≤ i + r → ClipAt (l.map T.flags) j) ∧
        (∀ d, (l.map T.flags)[i + r + 1]? = some d → eligible s.mode k.flags = true → d.clipping = false) ∧
        (0 < r → eligible s.mode k.flags = true)) ∧
    (k.attr.tgt = true ↔ (k.attr.clipping = true → ∃ b, BaseFor s.mode (l.map T.flags) b i)) :=
  current_meaning _ (kept_current_now inp h hw) l hl i k hk

/-! ### The hypothesis is necessary -/

/-- a base with a clipping layer above it, current … -/
def docA : St := ⟨.photoshop, [.layer ⟨0, false, false, [1], true⟩, .layer ⟨1, true, false, [], true⟩]⟩
/-- … and the same two objects in the other order, in SAI mode, as an edit leaves them -/
def docB : St := ⟨.paintToolSai, [.layer ⟨1, true, false, [], true⟩, .layer ⟨0, false, false, [1], true⟩]⟩

/-- A raw mutation that no later recomputation of its segment covers (same container, no further
    test) can leave ANY state behind, in particular a stale one: there is a well-formed execution
    of the segment — only that container belongs to the document, exactly the tests of the mutation
    hold — after which the stored relation is not the specification. For every table, every mutator. -/
theorem coverage_necessary (t : Table) (op : String) (seg : Nat) (pre post : List Eff) (o w : String)
    (gs : List String) (hseg : t.seg op seg = pre ++ .mutate o w gs :: post)
    (hun : post.any (covers o gs) = false) (s0 : St) :
    ∃ si : SegInst, si.wf ∧ si.op = op ∧ si.seg = seg ∧ ¬ Current (runSeg t s0 si) := by
  refine ⟨exposing op seg pre.length o gs docB, exposing_wf _ _ _ _ _ _, rfl, rfl, ?_⟩
  have : runSeg t s0 (exposing op seg pre.length o gs docB) = docB := by
    simp only [runSeg, exposing, hseg]
    exact uncovered_reaches t.clearIter op seg pre post o w gs hun s0 docB
  rw [this]
  decide

/-- the table with the recomputations of one mutator taken out -/
def dropRecomp (t : Table) (name : String) : Table :=
  { t with rows := t.rows.map fun r =>
      if r.name == name then
        { r with segs := r.segs.map fun seg => seg.filter fun e => match e with | .recomp _ _ => false | _ => true }
      else r }

/-- Each mutator's recomputation is needed: for every row of the regenerated table, the same
    history (open the two-layer document, call that mutator once, with the order and the mode changed
    by it) is current with the table as it is and stale with that row's recomputations removed. -/
theorem every_recompute_needed :
    ∀ name ∈ Generated.ClipCurrent.table.rows.map (·.name),
      Current (runHist Generated.ClipCurrent.table (openSt Generated.ClipCurrent.table docA)
        (callHist Generated.ClipCurrent.table name docB)) ∧
      ¬ Current (runHist (dropRecomp Generated.ClipCurrent.table name) (openSt (dropRecomp Generated.ClipCurrent.table name) docA)
        (callHist (dropRecomp Generated.ClipCurrent.table name) name docB)) := by
  decide +kernel

/-- A recomputation under a test of the old / new value does not do: the same history with the test
    false is stale (the row is the `compatibility_mode` setter that recomputes only when the
    default mode is entered or left). -/
theorem conditional_recompute_goes_stale :
    let t : Table := { Generated.ClipCurrent.table with rows :=
      [⟨"PSDImage.compatibility_mode.setter", [[.mutate "self" "_compatibility_mode" [], .recomp "self" ["g1:(previous == default) != (value == default)"]]]⟩] }
    tableOk t = false ∧
    ¬ Current (runHist t (openSt t docA)
      [{ callInst "PSDImage.compatibility_mode.setter" 0 docB with cond := fun _ => false }]) := by
  decide +kernel

/-- A recomputation on ANOTHER container's document does not do (a move whose detaching half is a
    raw list operation: only the destination's document is rescanned). -/
theorem foreign_recompute_goes_stale :
    let t : Table := { Generated.ClipCurrent.table with rows :=
      [⟨"Layer.move_to_group", [[.mutate "self.parent" "_layers.remove" [], .mutate "group" "_layers.extend" [], .recomp "group" []]]⟩] }
    tableOk t = false ∧
    ¬ Current (runHist t (openSt t docA)
      [{ callInst "Layer.move_to_group" 0 docB with inDoc := fun o => o == "self.parent", psdHere := fun o => o == "self.parent" }]) := by
  decide +kernel

/-- Assigning the stored attributes by hand instead of recomputing is outside what the table can
    vouch for. -/
theorem direct_store_rejected :
    covered [.mutate "self" "clipping" [], .store "sibling" "_clip_layers" ["g2:not(value)"], .recomp "self" ["g2:value"]] = false := by
  decide +kernel

/-- The clear must visit every layer. With `descendants(include_clip=False)` every mutator still
    recomputes, yet: a lone clipping layer (no target), then a base inserted beneath it — the
    clipping layer is skipped by the clear and keeps `_has_clip_target = False`. -/
theorem partial_clear_goes_stale :
    let t : Table := { Generated.ClipCurrent.table with clearIter := .skipClipping }
    t.rows.all rowOk = true ∧ tableOk t = false ∧
    ¬ Current (runHist t (openSt t ⟨.photoshop, [.layer ⟨1, true, false, [], true⟩]⟩)
      (callHist t "GroupMixin.insert" ⟨.photoshop, [.layer ⟨0, false, false, [], true⟩, .layer ⟨1, true, false, [], true⟩]⟩)) :=
  ⟨(tableOk_parts _ current_tree_keeps_current).2.2, rfl, by decide +kernel⟩

/-- … and a base that is made a clipping layer keeps its old run. -/
theorem partial_clear_keeps_old_run :
    let t : Table := { Generated.ClipCurrent.table with clearIter := .skipClipping }
    stored (runHist t (openSt t docA)
      (callHist t "Layer.clipping_layer.setter"
        ⟨.photoshop, [.layer ⟨0, true, false, [], true⟩, .layer ⟨1, true, false, [], true⟩]⟩)).tree =
      [⟨0, [1], false⟩, ⟨1, [], false⟩] := by
  decide +kernel

/-- The constructor must end with the recomputation. -/
theorem open_needs_recompute :
    let t : Table := { Generated.ClipCurrent.table with init := [.mutate "current_group" "_layers.append" []] }
    tableOk t = false ∧
    ¬ Current (openSt t ⟨.photoshop, [.layer ⟨0, false, false, [], true⟩, .layer ⟨1, true, false, [], true⟩]⟩) := by
  decide +kernel

/-! ### Non-vacuity -/

example : (callInst "GroupMixin.remove" 0 docB).wf := fun _ _ => rfl
example : Current docA := by decide +kernel
example : ¬ Current docB := by decide +kernel
-- a history over three mutators, with stale attributes carried along, stays current
example : Current (runHist Generated.ClipCurrent.table (openSt Generated.ClipCurrent.table docB)
    (callHist Generated.ClipCurrent.table "Layer.move_up" docA ++
     callHist Generated.ClipCurrent.table "PSDImage.compatibility_mode.setter" ⟨.clipStudioPaint, docA.tree⟩ ++
     callHist Generated.ClipCurrent.table "Group.group_layers"
       ⟨.clipStudioPaint, [.group ⟨2, false, true, [], true⟩ [.layer ⟨0, false, false, [], true⟩], .layer ⟨1, true, false, [], true⟩]⟩)) := by
  decide +kernel
-- the hypotheses of `coverage_necessary` are met by the row of a setter that does not recompute
example : (({ Generated.ClipCurrent.table with rows := [⟨"Layer.blend_mode.setter", [[.mutate "self" "blend_mode" []]]⟩] } : Table).seg
    "Layer.blend_mode.setter" 0 = [] ++ .mutate "self" "blend_mode" [] :: []) ∧
    ([] : List Eff).any (covers "self" []) = false := by decide +kernel
example : levels docA.tree = [docA.tree] := rfl

end KeptCurrent

/-! ## Part 3 — the compositor honours the relation (gate and group box; pixels are C11's subject) -/
section Compositor
open PsdVerif.ClipComp

/-- What the model assumes about the compositor is what `composite/__init__.py` says now: the early returns of
    `Compositor.apply` in order (the last is the gate), `_apply_clip_layers` composites exactly `layer.clip_layers`, each
    with `clip_compositing=True`, it is called for every group and every object that has clip layers, and `_bbox`
    counts EVERY child the layer filter accepts (no other condition on the child; only empty boxes are dropped). -/
theorem compositor_gate_tied :
    Generated.ClipCompositor.applySkips =
      ["self._layer_filter is not None and (not self._layer_filter(layer))",
       "isinstance(layer, AdjustmentLayer)",
       "_intersect(self._viewport, self._bbox(layer)) == (0, 0, 0, 0)",
       "not clip_compositing and layer.clipping_layer and layer._has_clip_target"] ∧
    Generated.ClipCompositor.clipIter = "layer.clip_layers" ∧
    Generated.ClipCompositor.clipCalls = ["compositor.apply(clip_layer, clip_compositing=True)"] ∧
    Generated.ClipCompositor.clipCallers =
      ["_get_group: if layer.has_clip_layers()", "_get_object: if layer.has_clip_layers()"] ∧
    Generated.ClipCompositor.bboxCachedWhen =
      "not isinstance(layer, GroupMixin) or isinstance(layer, Artboard) or self._layer_filter is None or (self._layer_filter is Layer.is_visible) -> return layer.bbox" ∧
    Generated.ClipCompositor.bboxIter = ["layer", "boxes"] ∧
    Generated.ClipCompositor.bboxChildTests = ["self._layer_filter(child)", "box != (0, 0, 0, 0)"] :=
  ⟨rfl, rfl, rfl, rfl, rfl, rfl, rfl⟩

/-- The gate: in the ordinary pass over a group's children a layer is left out exactly when it is a clipping layer
    that has a target; a clipping layer with NO target is drawn there like an ordinary layer, and so is every
    non-clipping layer; through a base (`clip_compositing=True`) nothing is left out by the gate. -/
theorem compositor_honours_gate (clipping hasTarget : Bool) :
    (drawnOrdinary clipping hasTarget = false ↔ (clipping = true ∧ hasTarget = true)) ∧
    drawnOrdinary clipping false = true ∧ drawnOrdinary false hasTarget = true ∧
    drawnThroughBase clipping hasTarget = true := by
  cases clipping <;> cases hasTarget <;> simp [drawnOrdinary, drawnThroughBase, skipped]

/-- The box a group is drawn in under ANY caller-supplied filter spans the box of every child the filter accepts,
    whatever its clipping flag: the group's viewport never crops or skips a base-less clipping layer (nor any other
    accepted child) that has something to draw. -/
theorem group_box_spans_accepted {α : Type} (f : α → Bool) (box : α → Box) (kids : List α) (k : α)
    (hk : k ∈ kids) (hf : f k = true) (hb : box k ≠ Box.zero) :
    (groupBox f box kids).spans (box k) := by
  unfold groupBox
  apply unionBoxes_spans _ _ _ hb
  exact List.mem_map.mpr ⟨k, List.mem_filter.mpr ⟨hk, hf⟩, rfl⟩

/-- Necessity of the last clause of the tie: a union that ALSO requires "not a clipping layer" of the children
    crops a base-less clipping layer that sticks out of its siblings. -/
theorem group_box_filtering_clipping_crops :
    let kids : List (Bool × Box) := [(true, ⟨0, 0, 1, 9⟩), (false, ⟨2, 2, 4, 4⟩)]
    ¬ (groupBox (fun k => !k.1) Prod.snd kids).spans ⟨0, 0, 1, 9⟩ ∧
    (groupBox (fun _ => true) Prod.snd kids).spans ⟨0, 0, 1, 9⟩ := by
  decide

example : ∃ k ∈ [(true, (⟨0, 0, 1, 9⟩ : Box))], (fun _ : Bool × Box => true) k = true ∧ k.2 ≠ Box.zero :=
  ⟨_, List.mem_singleton.mpr rfl, rfl, by decide⟩

end Compositor

end PsdVerif.C15
