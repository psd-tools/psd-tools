/-
C11 — compositing agrees with the published compositing model: the part about fill layers, vector masks, the
vector stroke, overlay effects, stroke effects, adjustment layers and `force` (`Model/CompositeFx.lean`, a wrapper
layer over `Model/Composite.lean`; by `fx_model_extends_model` the theorems of `Props/C11.lean` are theorems about it on plain trees).

First the ties: what `Model/CompositeFx.lean` says `Compositor.apply`, `_get_object`, `_get_mask`, `_get_const`,
`_get_stroke`, `_apply_clip_layers`, `has_fill` and the four effect functions do, against the facts regenerated from the
AST (`Generated/CompositeFx.lean`), by evaluation; then the theorems about the model.
-/
import PsdVerif.Generated.CompositeFx
import PsdVerif.Lemmas.CompositeFxEmbed
import PsdVerif.Lemmas.CompositeFxEval
import PsdVerif.Lemmas.CompositeFxRel
import PsdVerif.Lemmas.CompositeFxLaws

namespace PsdVerif.C11Fx
open PsdVerif.Composite

/-- all Boolean assignments, first variable most significant (`itertools.product([False, True], repeat=n)`) -/
def combos : Nat → List (List Bool)
  | 0 => [[]]
  | n + 1 => (combos n).map (false :: ·) ++ (combos n).map (true :: ·)

/-- `_get_object`: the `if` in front of `create_fill` decides as `useFill` -/
theorem use_fill_as_modelled :
    Generated.CompositeFx.useFillTable = (combos 3).map (fun
      | [force, hp, hf] => useFill force { hasPixels := hp, hasFill := hf, hasVectorMask := false, vmaskEnabled := false, maskNoReal := false }
      | _ => false) := by decide +kernel

/-- `_get_mask`: the `if` in front of `draw_vector_mask` decides as `useVectorMask` (inputs: vector mask present, vector
mask disabled, force, `has_pixels()`, `has_fill`, mask present, `mask._has_real()`) -/
theorem use_vector_mask_as_modelled :
    Generated.CompositeFx.useVectorMaskTable = (combos 7).map (fun
      | [vmp, vmd, force, hp, hf, mp, hr] =>
        useVectorMask force { hasPixels := hp, hasFill := hf, hasVectorMask := vmp, vmaskEnabled := vmp && !vmd, maskNoReal := mp && !hr }
      | _ => false) := by decide +kernel

/-- `apply`: the `if` that picks `shape_mask` for the stroke effect decides as `strokeFxFromMask` -/
theorem stroke_from_mask_as_modelled :
    Generated.CompositeFx.strokeFromMaskTable = (combos 4).map (fun
      | [force, hvm, hp, hf] => strokeFxFromMask force { hasPixels := hp, hasFill := hf, hasVectorMask := hvm, vmaskEnabled := false, maskNoReal := false }
      | _ => false) := by decide +kernel

/-- the early exits of `apply`: filter, ADJUSTMENT LAYER, viewport, clipping layer (`applyFxNode`: `.adjustment _ => st`,
then `visible`, `intersect`, `clipping`) -/
theorem apply_exits_as_modelled :
    Generated.CompositeFx.applyExits =
      ["self._layer_filter is not None and (not self._layer_filter(layer))", "isinstance(layer, AdjustmentLayer)",
       "_intersect(self._viewport, self._bbox(layer)) == (0, 0, 0, 0)",
       "not clip_compositing and layer.clipping_layer and layer._has_clip_target"] := rfl

/-- `apply` scales `shape` by the mask and `alpha` by mask, density and LAYER OPACITY in place, and only then makes its
calls: own source, colour / pattern / gradient overlays, stroke effect (`finishFx`) -/
theorem apply_events_as_modelled :
    Generated.CompositeFx.applyEvents =
      ["shape *= shape_mask", "alpha *= shape_mask * opacity_mask * opacity_const", "call _apply_source",
       "call _apply_color_overlay", "call _apply_pattern_overlay", "call _apply_gradient_overlay",
       "call _apply_stroke_effect", "call _apply_stroke_effect"] := rfl

/-- the arguments: fill opacity (`shape_const`) multiplies the layer's own source only; the overlays get `shape`, `alpha`
as scaled above; the stroke effect is drawn from `shape_mask` or from `shape` -/
theorem apply_calls_as_modelled :
    Generated.CompositeFx.applyCalls =
      [("_apply_source", ["color", "shape * shape_const", "alpha * shape_const", "layer.blend_mode", "knockout"]),
       ("_apply_color_overlay", ["layer", "color", "shape", "alpha"]),
       ("_apply_pattern_overlay", ["layer", "color", "shape", "alpha"]),
       ("_apply_gradient_overlay", ["layer", "color", "shape", "alpha"]),
       ("_apply_stroke_effect", ["layer", "color", "shape_mask", "alpha"]),
       ("_apply_stroke_effect", ["layer", "color", "shape", "alpha"])] := rfl

def overlayPastes : List String :=
  ["bbox = self._bbox(layer)", "color = paste(self._viewport, bbox, color, 1.0)",
   "shape_e = np.ones((self.height, self.width, 1), dtype=np.float32)",
   "shape_e = paste(self._viewport, bbox, shape_e)",
   "opacity = effect.opacity / 100.0"]

def overlayArgs : List String := ["color", "shape * shape_e", "alpha * shape_e * opacity", "effect.blend_mode"]

/-- the four effect functions: which effects, the source each hands to `_apply_source` (`overlaySrc`, `strokeFxSrc`),
where colour and shape are pasted (`pasteAt V bbox … white` / `… 0` with `bbox = self._bbox(layer)`, the box `apply` tests
against the viewport: `pr.bbox`; the stroke colour on 0), opacity = percent / 100
(times byte / 255 of the layer opacity for the stroke effect: 1/25500 per unit of both) -/
theorem effect_sources_as_modelled :
    Generated.CompositeFx.overlaySources =
      [("_apply_color_overlay", "layer.effects.find(\"coloroverlay\")", overlayArgs, overlayPastes, 1, 100),
       ("_apply_pattern_overlay", "layer.effects.find(\"patternoverlay\")", overlayArgs, overlayPastes, 1, 100),
       ("_apply_gradient_overlay", "layer.effects.find(\"gradientoverlay\")", overlayArgs, overlayPastes, 1, 100),
       ("_apply_stroke_effect", "layer.effects.find(\"stroke\")", ["color", "shape", "shape * opacity", "effect.blend_mode"],
        ["bbox = self._bbox(layer)", "shape_in_bbox = paste(bbox, self._viewport, shape)", "shape_in_bbox = shape",
         "color = paste(self._viewport, bbox, color)", "shape = paste(self._viewport, bbox, shape_in_bbox)",
         "opacity = effect.opacity / 100.0 * (layer.opacity / 255.0)"], 1, 25500)] := rfl

/-- `_get_const`: fill opacity and layer opacity are the stored bytes over 255; no fill-opacity block means 1 -/
theorem const_scales_as_modelled : Generated.CompositeFx.constScales = [(1, 255), (1, 255), (1, 1)] := rfl

/-- the vector stroke (`strokeObject`): after the clip layers, a non-isolated sub-compositor seeded with `(color, alpha)`,
one `_apply_source`, and the colour `finish()` returns; the stroke's colour pasted on white, its shape pasted from the
canvas, alpha = shape · percent / 100 -/
theorem vector_stroke_as_modelled :
    Generated.CompositeFx.strokeFacts =
      ["if layer.has_vector_mask() and layer.stroke is not None and layer.stroke.enabled",
       "color_s, shape_s, alpha_s = self._get_stroke(layer)", "compositor = Compositor(self._viewport, color, alpha)",
       "compositor._apply_source(color_s, shape_s, alpha_s, layer.stroke.blend_mode)", "color, _, _ = compositor.finish()",
       "order _apply_clip_layers _get_stroke", "color = paste(self._viewport, viewport, color, 1.0)",
       "shape = paste(self._viewport, layer._psd.viewbox, draw_stroke(layer))",
       "opacity = desc.get(\"strokeStyleOpacity\", 100.0) / 100.0", "alpha = shape * opacity", "return (color, shape, alpha)"] ∧
    Generated.CompositeFx.strokeOpacityScale = (1, 100) := ⟨rfl, rfl⟩

/-- a clip run hands back the sub-compositor's accumulated colour, NOT `finish()`'s (no backdrop removal) -/
theorem clip_return_as_modelled : Generated.CompositeFx.clipReturn = "compositor._color" := rfl

theorem fill_tags_as_modelled :
    Generated.CompositeFx.fillTags = ["Tag.SOLID_COLOR_SHEET_SETTING", "Tag.PATTERN_FILL_SETTING",
      "Tag.GRADIENT_FILL_SETTING", "Tag.VECTOR_STROKE_CONTENT_DATA"] := rfl

/-- **Conservative extension.** On a plain tree (pixel layers, groups, masks, clip runs, knockout) embedded as an
effect-carrying tree without fill, vector mask, stroke or effects, the effect-carrying model computes exactly what
`Model/Composite.lean` computes, whatever `force`: every theorem of `Props/C11.lean` and `Props/C13.lean` is a theorem
about `applyFxNode` on such trees. -/
theorem fx_model_extends_model (B : Mode → Color → Color → Color) (force : Bool) (V : Rect) (x y : Int) (cc : Bool)
    (st : PState) (n : Node) : applyFxNode B force V x y cc st (embed n) = applyNode B V x y cc st n :=
  applyFxNode_embed B force V x y cc st n

theorem fx_doc_extends_model (B : Mode → Color → Color → Color) (force : Bool) (V : Rect) (x y : Int) (color : Color)
    (alpha : Rat) (layers : List Node) :
    compositeFxDoc B force V x y color alpha (embedList layers) = compositeDoc B V x y color alpha layers :=
  compositeFxDoc_embed B force V x y color alpha layers

/-- **The evaluator is the model.** The driver command `comp.fx` evaluates `compositeFxDocF` (colours tabulated after
every `_apply_source` step); it returns exactly what `compositeFxDoc` returns. -/
theorem fx_evaluator_is_model (k : Nat) (B : Mode → Color → Color → Color) (force : Bool) (V : Rect) (x y : Int)
    (color : Color) (alpha : Rat) (layers : List FxNode) :
    compositeFxDocF k B force V x y color alpha layers = compositeFxDoc B force V x y color alpha layers :=
  compositeFxDocF_eq k B force V x y color alpha layers

/-- **State in range, effects included**: through fills, vector masks, the vector stroke, overlay and stroke effects,
adjustment layers, groups, masks, clip runs and knockout, colours, shapes and alphas stay in `[0,1]`,
`alpha = Union(alpha₀, alpha_g)` and `alpha_g ≤ shape_g`. -/
theorem state_in_range_fx (B : Mode → Color → Color → Color) (force : Bool) (V : Rect) (x y : Int) (cc : Bool) (st : PState)
    (hst : Inv st) (n : FxNode) (hn : fxNodeOk n) : Inv (applyFxNode B force V x y cc st n) :=
  applyFxNode_inv B force V x y cc st hst n hn

/-- the hypotheses are satisfiable: a white layer with a black colour overlay, from the start of a document -/
example : Inv (PState.init white 0 false) ∧ fxNodeOk (.leaf (plainProps 1) overlayFx whiteSrc none []) := by
  refine ⟨inv_init white_ok unit01_zero false, ⟨unit01_one, unit01_one, unit01_one, unit01_zero, unit01_one⟩, ?_, ?_, trivial, trivial⟩
  · refine ⟨unit01_one, ?_, ?_⟩
    · intro e he
      simp only [overlayFx, List.mem_singleton] at he
      subst he
      exact ⟨black_ok, unit01_one, unit01_one⟩
    · intro s hs; simp [overlayFx, Fx.plain] at hs
  · exact ⟨white_ok, unit01_one, white_ok, unit01_zero⟩

/-- **The backdrop removal never clips, effects included.** -/
theorem group_result_unclipped_fx {B : Mode → Color → Color → Color} (hB : BOk B) (force : Bool) (V : Rect) (x y : Int)
    {color : Color} {alpha : Rat} (hc : ColorOk color) (ha : Unit01 alpha) (iso : Bool) (layers : List FxNode)
    (hl : fxListOk layers) :
    let st := applyFxList B force V x y (PState.init color alpha iso) layers
    ∀ ch, (0 ≤ st.c ch * st.a - (1 - st.ag) * st.a0 * st.c0 ch ∧ st.c ch * st.a - (1 - st.ag) * st.a0 * st.c0 ch ≤ st.ag) ∧
      finishColor st ch * st.ag = st.c ch * st.a - (1 - st.ag) * st.a0 * st.c0 ch := by
  intro st ch
  have i0 := inv_init hc ha iso
  have hinv := applyFxList_inv B force V x y _ i0 layers hl
  have hx := applyFxList_xinv hB force V x y _ i0 (xinv_init color alpha iso) layers hl
  exact ⟨hx ch, finishColor_mul hinv hx ch⟩

/-- the hypotheses are satisfiable -/
example : BOk allNormalFx ∧ fxListOk [] := ⟨fun _ _ _ _ hcs => hcs, trivial⟩

/-- **A layer with effects is the layer without them followed by one ordinary source per effect.** For every layer
(leaf or group, whatever it carries and whatever is below it) and every state it meets: `apply` on the layer equals
`apply` on the same layer stripped of its own overlay and stroke effects, followed by plain `_apply_source` steps, one per
overlay effect in the order colour, pattern, gradient — with the effect's colour pasted at the layer's box, shape
`shape · shape_e`, alpha `alpha · shape_e · opacity` where `shape`, `alpha` are the layer's after masks and layer opacity
and before fill opacity — then one per stroke effect (drawn shape `s`, alpha `s · opacity · layer opacity`); none when
`apply` skips the layer. -/
theorem overlay_is_extra_source (B : Mode → Color → Color → Color) (force : Bool) (V : Rect) (x y : Int) (cc : Bool)
    (st : PState) (n : FxNode) :
    applyFxNode B force V x y cc st n
      = applySrcs B (applyFxNode B force V x y cc st n.stripFx) (nodeFxSrcs B force V x y cc st n) :=
  applyFxNode_strip B force V x y cc st n

/-- what the extra sources of a leaf are, spelled out -/
theorem overlay_sources_of_leaf (B : Mode → Color → Color → Color) (force : Bool) (V : Rect) (x y : Int) (cc : Bool)
    (st : PState) (pr : Props) (fx : Fx) (src : ObjSrc) (stroke : Option VStroke) (clips : List FxNode)
    (h : propsSkipped V cc pr = false) :
    nodeFxSrcs B force V x y cc st (.leaf pr fx src stroke clips)
      = fx.overlays.map (fun e =>
          { mode := e.mode, color := pasteAt V pr.bbox x y e.color white,
            shape := leafShape force V x y pr fx src * (maskFactorsFx force pr fx V x y).1 * overlayShape V pr.bbox x y e,
            alpha := leafShape force V x y pr fx src
              * ((maskFactorsFx force pr fx V x y).1 * (maskFactorsFx force pr fx V x y).2 * pr.opacity)
              * overlayShape V pr.bbox x y e * e.opacity,
            ko := false })
        ++ fx.strokeFx.map (strokeFxSrc V pr.bbox x y pr.opacity) := by
  simp only [nodeFxSrcs, h, Bool.false_eq_true, if_false, fxSrcs, maskedShape, maskedAlpha]
  rfl

/-- the hypotheses are satisfiable -/
example : propsSkipped unitRectFx false (plainProps 1) = false := by decide

/-- **`compositor_refines_spec` for effect-carrying trees.** From related states the code model `applyFxNode` and the
published model `specFxNode` (`Model/CompositeFxSpec.lean`: a fill layer is an object with the drawn colour and shape, a
vector mask one more soft-mask factor, an overlay or stroke effect one more element of the group, the vector stroke a
non-isolated group over the object whose backdrop-removed colour the object takes, an adjustment layer nothing) reach
related states: equal shape, group alpha and alpha, spec's premultiplied colour = code's colour × alpha. With the
group-alpha rule of a knockout element as coded (see `Props/C11.lean`). -/
theorem compositor_refines_spec_fx {B : Mode → Color → Color → Color} (hB : BOk B) (force : Bool) (V : Rect) (x y : Int)
    (clipCompositing : Bool) (st : PState) (σ : SState) (hst : Inv st) (hr : Rel st σ) (n : FxNode) (hn : fxNodeOk n) :
    Rel (applyFxNode B force V x y clipCompositing st n) (specFxNode .pdf17 B force V x y clipCompositing σ n) :=
  applyFxNode_rel hB force V x y clipCompositing st σ hst hr n hn

/-- the hypotheses are satisfiable -/
example (color : Color) (alpha : Rat) (hc : ColorOk color) (ha : Unit01 alpha) (iso : Bool) :
    Inv (PState.init color alpha iso) ∧ Rel (PState.init color alpha iso) (SState.init (fun ch => color ch * alpha) alpha iso) :=
  ⟨inv_init hc ha iso, rel_init iso (fun _ => rfl)⟩

theorem compositor_refines_spec_fx_list {B : Mode → Color → Color → Color} (hB : BOk B) (force : Bool) (V : Rect) (x y : Int)
    (st : PState) (σ : SState) (hst : Inv st) (hr : Rel st σ) (ns : List FxNode) (hn : fxListOk ns) :
    Rel (applyFxList B force V x y st ns) (specFxList .pdf17 B force V x y σ ns) :=
  applyFxList_rel hB force V x y st σ hst hr ns hn

theorem compositor_refines_spec_fx_clip_run {B : Mode → Color → Color → Color} (hB : BOk B) (force : Bool) (V : Rect) (x y : Int)
    (st : PState) (σ : SState) (hst : Inv st) (hr : Rel st σ) (ns : List FxNode) (hn : fxListOk ns) :
    Rel (applyFxClips B force V x y st ns) (specFxClips .pdf17 B force V x y σ ns) :=
  applyFxClips_rel hB force V x y st σ hst hr ns hn

/-- **Whole documents with effects**: `composite(psd, color, alpha, force=force)` at a pixel returns the published model's
shape and alpha, and colour × alpha = the published premultiplied group colour, hence the published colour wherever the
result alpha is not zero. -/
theorem compositor_refines_spec_fx_doc {B : Mode → Color → Color → Color} (hB : BOk B) (force : Bool) (V : Rect) (x y : Int)
    {color : Color} {alpha : Rat} (hc : ColorOk color) (ha : Unit01 alpha) (layers : List FxNode) (hl : fxListOk layers) :
    let code := compositeFxDoc B force V x y color alpha layers
    let spec := specFxDoc .pdf17 B force V x y (fun ch => alpha * color ch) alpha layers
    code.2.1 = spec.2.1 ∧ code.2.2 = spec.2.2 ∧ (∀ ch, code.1 ch * code.2.2 = spec.1 ch) ∧
      (code.2.2 ≠ 0 → ∀ ch, code.1 ch = spec.1 ch / spec.2.2) := by
  intro code spec
  obtain ⟨h1, h2, h3⟩ := compositeFxDoc_rel hB force V x y hc ha layers hl
  exact ⟨h1, h2, h3, colour_of_premul h2 h3⟩

/-- the hypotheses are satisfiable -/
example : ColorOk white ∧ Unit01 (0 : Rat) ∧ fxListOk [.adjustment (plainProps 1)] := ⟨white_ok, unit01_zero, trivial, trivial⟩

/-- **A fill layer with a full vector mask is a pixel layer of that colour.** A leaf whose object comes from its fill
(`useFill`: no pixels, or `force`) and whose vector mask, where it applies, is 1 at the pixel composites exactly like the
pixel layer that stores the fill's colour and shape as pixels and has neither fill nor vector mask — same clip run, same
stroke, same effects, same everything else. -/
theorem fill_layer_is_pixel_layer (B : Mode → Color → Color → Color) (force : Bool) (V : Rect) (x y : Int) (cc : Bool)
    (st : PState) (pr : Props) (fx : Fx) (src : ObjSrc) (stroke : Option VStroke) (clips : List FxNode)
    (hV : V.contains x y = true) (hfill : useFill force fx.flags = true)
    (hvm : useVectorMask force fx.flags = true → fx.vmBox.contains x y = true ∧ fx.vmValue = 1) :
    applyFxNode B force V x y cc st (.leaf pr fx src stroke clips)
      = applyFxNode B force V x y cc st (.leaf pr (asPixelFx fx) (asPixelSrc src) stroke clips) :=
  fill_leaf_eq_pixel_leaf B force V x y cc st pr fx src stroke clips hV hfill hvm

/-- a solid-colour fill layer without pixels, vector mask enabled and full at the pixel -/
example : let f : Flags := { hasPixels := false, hasFill := true, hasVectorMask := true, vmaskEnabled := true, maskNoReal := false }
    unitRectFx.contains 0 0 = true ∧ useFill false f = true ∧ useVectorMask false f = true := by decide

/-- **`force` is irrelevant for layers without fill and vector mask** (in particular pixel layers; groups without a
vector mask), through the whole tree: the two decisions that read `force` (`useFill`, `useVectorMask`) cannot come out
differently. (A raster mask with a "real" combined plane is read differently under `force`; the per-pixel data of the
tree are the planes as read.) -/
theorem force_irrelevant (B : Mode → Color → Color → Color) (V : Rect) (x y : Int) (cc : Bool) (st : PState) (n : FxNode)
    (h : forceFree n) : applyFxNode B true V x y cc st n = applyFxNode B false V x y cc st n :=
  applyFxNode_force B V x y cc st n h

theorem force_irrelevant_doc (B : Mode → Color → Color → Color) (V : Rect) (x y : Int) (color : Color) (alpha : Rat)
    (layers : List FxNode) (h : listForceFree layers) :
    compositeFxDoc B true V x y color alpha layers = compositeFxDoc B false V x y color alpha layers := by
  unfold compositeFxDoc
  rw [applyFxList_force B V x y _ layers h]

/-- a pixel layer with an overlay effect -/
example : forceFree (.leaf (plainProps 1) overlayFx whiteSrc none []) :=
  ⟨⟨rfl, rfl⟩, trivial⟩

/-- … and `force` DOES matter for a layer that has both pixels and a fill: with `force` the fill is drawn -/
theorem force_matters_with_fill :
    let f : Fx := { Fx.plain true with flags := { hasPixels := true, hasFill := true, hasVectorMask := false, vmaskEnabled := false, maskNoReal := false } }
    let src : ObjSrc := { hasArr := true, pixColor := white, pixShape := 0, fillColor := white, fillShape := 1 }
    (compositeFxDoc allNormalFx true unitRectFx 0 0 white 0 [.leaf (plainProps 1) f src none []]).2.2 = 1 ∧
    (compositeFxDoc allNormalFx false unitRectFx 0 0 white 0 [.leaf (plainProps 1) f src none []]).2.2 = 0 := by
  decide +kernel

end PsdVerif.C11Fx
