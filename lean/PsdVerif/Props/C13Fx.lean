/-
C13 — viewport, no-op and grouping laws: the part about fill layers, vector masks, the vector stroke, overlay
effects, stroke effects and adjustment layers (`Model/CompositeFx.lean`; by `C11Fx.fx_model_extends_model` the theorems of
`Props/C13.lean` are theorems about this model on plain trees).

All statements are at one (arbitrary) pixel `(x, y)`, for every rational input.
-/
import PsdVerif.Lemmas.CompositeFxLaws

namespace PsdVerif.C13Fx
open PsdVerif.Composite

theorem result_in_unit_interval_fx (B : Mode → Color → Color → Color) (force : Bool) (V : Rect) (x y : Int)
    (color : Color) (alpha : Rat) (hc : ColorOk color) (ha : Unit01 alpha) (layers : List FxNode) (hl : fxListOk layers) :
    let r := compositeFxDoc B force V x y color alpha layers
    ColorOk r.1 ∧ Unit01 r.2.1 ∧ Unit01 r.2.2 := by
  intro r
  have h := applyFxList_inv B force V x y _ (inv_init hc ha false) layers hl
  exact ⟨fun ch => clip_unit _, h.sg, h.ag⟩

/-- the hypotheses are satisfiable -/
example : ColorOk white ∧ Unit01 (0 : Rat) ∧ fxListOk [] := ⟨white_ok, unit01_zero, trivial⟩

theorem hidden_noop_fx (B : Mode → Color → Color → Color) (force : Bool) (V : Rect) (x y : Int) (cc : Bool) (st : PState)
    (n : FxNode) (h : n.props.visible = false) : applyFxNode B force V x y cc st n = st := by
  cases n <;> (simp only [FxNode.props] at h; unfold applyFxNode; simp [h])

theorem outside_viewport_noop_fx (B : Mode → Color → Color → Color) (force : Bool) (V : Rect) (x y : Int) (cc : Bool)
    (st : PState) (n : FxNode) (h : intersect V n.props.bbox = Rect.zero) : applyFxNode B force V x y cc st n = st := by
  cases n <;> (simp only [FxNode.props] at h; unfold applyFxNode; simp [h])

theorem adjustment_noop (B : Mode → Color → Color → Color) (force : Bool) (V : Rect) (x y : Int) (cc : Bool) (st : PState)
    (pr : Props) : applyFxNode B force V x y cc st (.adjustment pr) = st := by
  unfold applyFxNode; rfl

/-- **Zero opacity with effects.** A layer (pixel or fill layer or group; any clip run, vector stroke, vector mask, any number
of colour / pattern / gradient overlays and stroke effects) at opacity 0, not knocked out, leaves alpha and colour alone
(the accumulated shape may grow): the overlays are painted with the layer's `alpha`, which carries the layer opacity, and
the stroke effect's opacity is multiplied by the layer opacity (repaired: 8d9362f). -/
theorem zero_opacity_noop_fx (B : Mode → Color → Color → Color) (force : Bool) (V : Rect) (x y : Int) (cc : Bool)
    (st : PState) (hst : Inv st) (n : FxNode) (hn : fxNodeOk n) (hko : n.props.knockout = false) (hop : n.props.opacity = 0) :
    let r := applyFxNode B force V x y cc st n
    r.ag = st.ag ∧ r.a = st.a ∧ (st.a ≠ 0 → ∀ ch, r.c ch = st.c ch) := by
  intro r
  show (applyFxNode B force V x y cc st n).ag = st.ag ∧ (applyFxNode B force V x y cc st n).a = st.a ∧
    (st.a ≠ 0 → ∀ ch, (applyFxNode B force V x y cc st n).c ch = st.c ch)
  rw [applyFxNode_eq]; split
  · exact ⟨rfl, rfl, fun _ _ => rfl⟩
  · rename_i h
    obtain ⟨hp, hf⟩ := fxNodeOk_props hn h
    exact finishFx_zero_opacity B force V x y hst hp hf hko hop (fxObj_ok B force V x y _ (hst.backdrop _) n hn)

/-- the hypotheses are satisfiable: a white layer at opacity 0 with a black colour overlay -/
example : fxNodeOk (.leaf (plainProps 0) overlayFx whiteSrc none []) ∧ (plainProps 0).knockout = false ∧
    (plainProps 0).opacity = 0 := by
  refine ⟨⟨⟨unit01_zero, unit01_one, unit01_one, unit01_zero, unit01_one⟩, ⟨unit01_one, ?_, ?_⟩,
    ⟨white_ok, unit01_one, white_ok, unit01_zero⟩, trivial, trivial⟩, rfl, rfl⟩
  · intro e he
    simp only [overlayFx, List.mem_singleton] at he
    subst he
    exact ⟨black_ok, unit01_one, unit01_one⟩
  · intro s hs; simp [overlayFx, Fx.plain] at hs

/-- **The law fails for the variant in which the overlay's alpha omits the layer opacity** (`alpha *= shape_mask *
opacity_mask`, the layer opacity folded into the constant factor of the layer's own source only): a white layer at
opacity 0 with a black colour overlay, on an empty backdrop. `finishFx`: alpha 0. The variant: alpha 1, black. -/
theorem zero_opacity_overlay_needs_layer_opacity :
    (finishFx allNormalFx false unitRectFx 0 0 (PState.init white 0 false) (plainProps 0) overlayFx white 1 1).ag = 0 ∧
    (finishFxOpacityOmitted allNormalFx false unitRectFx 0 0 (PState.init white 0 false) (plainProps 0) overlayFx white 1 1).ag = 1 ∧
    (finishFxOpacityOmitted allNormalFx false unitRectFx 0 0 (PState.init white 0 false) (plainProps 0) overlayFx white 1 1).c 0 = 0 := by
  decide +kernel

/-- **The stroke effect needs the layer opacity as well** — before the repair (8d9362f) `_apply_stroke_effect` painted
with `shape · opacity_effect`, i.e. `applyStrokeFx` with layer opacity 1 whatever the layer's: a black stroke effect drawn
as 1 at the pixel on an empty backdrop gives alpha 1, black; with the layer's opacity 0 it gives alpha 0. -/
theorem zero_opacity_stroke_effect_needs_layer_opacity :
    (applyStrokeFx allNormalFx unitRectFx unitRectFx 0 0 1 (PState.init white 0 false) [constStroke]).ag = 1 ∧
    (applyStrokeFx allNormalFx unitRectFx unitRectFx 0 0 1 (PState.init white 0 false) [constStroke]).c 0 = 0 ∧
    (applyStrokeFx allNormalFx unitRectFx unitRectFx 0 0 0 (PState.init white 0 false) [constStroke]).ag = 0 := by
  decide +kernel

/-- **A fully transparent layer with overlay effects is a no-op.** A leaf whose object shape is 0 at the pixel (transparent
pixels, or the pixel outside its box), not knocked out, without stroke effects — whatever overlays it carries —
changes nothing observable: shape, alpha, and colour wherever alpha is not zero. -/
theorem transparent_noop_fx (B : Mode → Color → Color → Color) (force : Bool) (V : Rect) (x y : Int) (cc : Bool)
    (st : PState) (hst : Inv st) (pr : Props) (fx : Fx) (src : ObjSrc) (stroke : Option VStroke) (clips : List FxNode)
    (hn : fxNodeOk (.leaf pr fx src stroke clips)) (hz : leafShape force V x y pr fx src = 0) (hns : fx.strokeFx = []) :
    Sim (applyFxNode B force V x y cc st (.leaf pr fx src stroke clips)) st := by
  rw [applyFxNode_eq]; split
  · exact Sim.refl st
  simp only [fxObj, FxNode.props, FxNode.fx]
  rw [hz]
  exact finishFx_zero_sim B force V x y hst pr fx _ fun f hf => absurd (hns ▸ hf) List.not_mem_nil

/-- a layer with transparent pixels and a black colour overlay -/
example : leafShape false unitRectFx 0 0 (plainProps 1) overlayFx { whiteSrc with pixShape := 0 } = 0 := by
  decide +kernel

/-- … and a fully transparent layer WITH a stroke effect is not a no-op when the effect draws something there
(on the real code `draw_stroke_effect` normalises an all-zero edge map by `0/0 → 1`). -/
theorem transparent_stroke_effect_paints :
    (applyFxNode allNormalFx false unitRectFx 0 0 false (PState.init white 0 false)
      (.leaf (plainProps 1) (strokeFxOnly constStroke) { whiteSrc with pixShape := 0 } none [])).ag = 1 := by
  decide +kernel

/-- **Sub-viewport = crop, with effects.** For any two viewports containing the pixel, any backdrop, either value of
`force` and any well-formed effect-carrying stack — fill layers, vector masks, vector strokes, overlay effects on layers and
groups, adjustment layers — in which what is drawn for the stroke effects does not depend on the viewport
(`fxListConst`; in particular: no stroke effects): the composited shape and alpha at the pixel are equal, and so is the
colour wherever the alpha is not zero. -/
theorem viewport_is_crop_fx (B : Mode → Color → Color → Color) (force : Bool) (V' V : Rect) (x y : Int)
    (h' : V'.contains x y = true) (h : V.contains x y = true) (color : Color) (alpha : Rat)
    (hc : ColorOk color) (ha : Unit01 alpha) (layers : List FxNode) (hl : fxListOk layers) (hk : fxListConst layers) :
    let r' := compositeFxDoc B force V' x y color alpha layers
    let r := compositeFxDoc B force V x y color alpha layers
    r'.2.1 = r.2.1 ∧ r'.2.2 = r.2.2 ∧ (r.2.2 ≠ 0 → r'.1 = r.1) := by
  intro r' r
  have i := inv_init hc ha false
  have hs := applyFxList_sim B force V' V x y h' h _ _ (Sim.refl _) i i layers hl hk
  have it := applyFxList_inv B force V x y _ i layers hl
  exact ⟨hs.sg, hs.ag, fun hne => finishColor_sim hs it hne⟩

/-- the hypotheses are satisfiable: a layer with a colour overlay and no stroke effect, seen from two viewports -/
example : unitRectFx.contains 0 0 = true ∧ (⟨0, 0, 2, 2⟩ : Rect).contains 0 0 = true ∧
    fxListConst [.leaf (plainProps 1) overlayFx whiteSrc none []] :=
  ⟨by decide, by decide, ⟨fun s hs => by simp [overlayFx, Fx.plain] at hs, trivial⟩, trivial⟩

/-- **The full statement fails with a stroke effect whose drawing depends on the viewport** — which is what
`_apply_stroke_effect` does on the real code (it draws from `paste(layer.bbox, self._viewport, shape)`, the shape as
cropped to the viewport: known finding `C13/viewport/fixture-layer/stroke-effect`). A layer whose stroke effect is drawn
as 1 at the pixel in the viewport `(0,0,1,1)` and as 0 in `(0,0,2,2)`: alpha 1 in the one, 0 in the other. Every other
hypothesis of `viewport_is_crop_fx` holds. -/
theorem viewport_stroke_effect_differs :
    unitRectFx.contains 0 0 = true ∧ (⟨0, 0, 2, 2⟩ : Rect).contains 0 0 = true ∧
    (compositeFxDoc allNormalFx false unitRectFx 0 0 white 0
      [.leaf (plainProps 1) (strokeFxOnly viewportStroke) { whiteSrc with pixShape := 0 } none []]).2.2 = 1 ∧
    (compositeFxDoc allNormalFx false ⟨0, 0, 2, 2⟩ 0 0 white 0
      [.leaf (plainProps 1) (strokeFxOnly viewportStroke) { whiteSrc with pixShape := 0 } none []]).2.2 = 0 := by
  refine ⟨by decide, by decide, ?_, ?_⟩ <;> decide +kernel

/-- **Inserting a no-op layer anywhere in an effect-carrying stack changes nothing observable**: if the layer leaves the
state it meets indistinguishable (hidden: `hidden_noop_fx`; outside: `outside_viewport_noop_fx`; an adjustment layer:
`adjustment_noop`; not covering the pixel: `outside_pixel_is_noop_fx`; transparent there: `transparent_noop_fx`), the whole
stack composites to the same shape, alpha and colour (where alpha ≠ 0), whatever comes before and after it. -/
theorem noop_insert_fx (B : Mode → Color → Color → Color) (force : Bool) (V : Rect) (x y : Int) (hV : V.contains x y = true)
    (st : PState) (hst : Composite.Inv st) (pre post : List FxNode) (n : FxNode)
    (hpre : fxListOk pre) (hn : fxNodeOk n) (hpost : fxListOk post) (hk : fxListConst post)
    (hnoop : ∀ s, Composite.Inv s → Sim (applyFxNode B force V x y false s n) s) :
    Sim (applyFxList B force V x y st (pre ++ n :: post)) (applyFxList B force V x y st (pre ++ post)) := by
  rw [applyFxList_append, applyFxList_append]
  have ip := applyFxList_inv B force V x y st hst pre hpre
  have e : applyFxList B force V x y (applyFxList B force V x y st pre) (n :: post)
      = applyFxList B force V x y (applyFxNode B force V x y false (applyFxList B force V x y st pre) n) post := by
    simp only [applyFxList]
  rw [e]
  exact applyFxList_sim B force V V x y hV hV _ _ (hnoop _ ip) (applyFxNode_inv B force V x y false _ ip n hn) ip post hpost hk

/-- a layer whose box does not cover the pixel is such a no-op, whatever effects it carries (stroke effects included:
they are pasted at the layer's box) -/
theorem outside_pixel_is_noop_fx (B : Mode → Color → Color → Color) (force : Bool) (V : Rect) (x y : Int)
    (hV : V.contains x y = true) (n : FxNode) (hn : fxNodeOk n) (hout : n.props.bbox.contains x y = false) :
    ∀ s, Composite.Inv s → Sim (applyFxNode B force V x y false s n) s :=
  fun s hs => applyFxNode_outside_sim B force V x y hV false s hs n hout

/-- the hypotheses are satisfiable -/
example : (plainProps 1).bbox.contains 5 5 = false := by decide

end PsdVerif.C13Fx
