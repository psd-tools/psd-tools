/-
C04 — channel compression is lossless for every codec, depth, size and file version.
Property theorems only; helper lemmas live in `Lemmas/CompDelta.lean`, `CompShuffle.lean`, `CompPred.lean`, `CompRle.lean`.
-/
import PsdVerif.Generated.Compression
import PsdVerif.Lemmas.CompPred
import PsdVerif.Props.C05
import PsdVerif.Lemmas.CompRle

namespace PsdVerif.C04
open PsdVerif.Rle PsdVerif.Compression

/-! ### Ties to the source, regenerated on every run -/

/-- `row_size` of `encode_rle` and of `decode_rle`, evaluated from the source on a grid of
(width, depth), is the model's `rowSize`. -/
theorem rowSize_tied :
    ∀ e ∈ Generated.Compression.rowSizeTable, rowSize e.1 e.2.1 = e.2.2.1 ∧ rowSize e.1 e.2.1 = e.2.2.2 := by
  decide +kernel

/-- the row-table item sizes (`"H"`, `"I"` on this host) are the model's. -/
theorem tableItem_tied :
    Generated.Compression.tableItemSizes.map Except.ok = [tableItem 1, tableItem 2] := by decide

/-- The codec modules keep no state between calls: no `global`/`nonlocal`, no module-level mutable object read
by a function, no memoising decorator, no mutable default (regenerated from the AST of compression/__init__.py
and rle.py). This is what entitles the model to describe `compress`/`decompress` as functions of their arguments:
every round-trip theorem below is about one call and says nothing about a history of calls otherwise. -/
theorem codec_stateless_tied : Generated.Compression.codecModuleState = [] := rfl

/-- modulus and width factor per depth, in both directions, are the model's. -/
theorem predParams_tied :
    Generated.Compression.predParamsEnc = [(8, 256, 1), (16, 65536, 1), (32, 256, 4)] ∧
    Generated.Compression.predParamsDec = [(8, 256, 1), (16, 65536, 1), (32, 256, 4)] := ⟨rfl, rfl⟩

/-! ### Hypotheses (all visible in the statements) -/

/-- The raster follows the row geometry: rows of `⌈w·depth/8⌉` bytes, `h` of them, and the
depth is one Photoshop stores. For depth 8/16/32 this is `w·h·depth/8` bytes. -/
def Geometry (w h depth : Nat) (d : BList) : Prop :=
  (depth = 1 ∨ depth = 8 ∨ depth = 16 ∨ depth = 32) ∧ d.length = rowSize w depth * h

/-- Every PackBits-encoded row fits the row-table item of the file version (`H` for PSD,
`I` for PSB); otherwise `encode_rle` raises `OverflowError` (checked on the real code). -/
def rowsFit (d : BList) (w h depth version : Nat) : Prop :=
  ∃ k, tableItem version = .ok k ∧ ∀ r ∈ encRows (rowSize w depth) h d, r.length < 256 ^ k

/-- What `compress` accepts besides the geometry: the row table must fit (RLE); the
prediction codec exists for 8/16/32 bits only and its 32-bit shuffle needs a non-zero width. -/
def Admissible (c : Codec) (d : BList) (w h depth version : Nat) : Prop :=
  (c = .rle → rowsFit d w h depth version) ∧
  (c = .zipPred → depth ≠ 1 ∧ (depth = 32 → 0 < w))

/-! ### Delta coder, byte shuffle, prediction codec -/

theorem delta_roundtrip (m w h : Nat) (a : Array Nat) (hl : a.size = w * h)
    (hm : ∀ i (hi : i < a.size), a[i] < m) :
    ∃ b, deltaEncode m w h a = .ok b ∧ b.size = a.size ∧ deltaDecode m w h b = .ok a := by
  obtain ⟨b, h1, h2, h3⟩ := deltaLoop_roundtrip m w h a ⟨hl, hm⟩
  exact ⟨b, h1, by rw [h2.1, hl], h3⟩

theorem shuffle_roundtrip (w h : Nat) (a : Array UInt8) (hw : 0 < w) (hl : a.size = 4 * w * h) :
    ∃ b, shuffle a w h = .ok b ∧ b.size = a.size ∧ restore b w h = .ok a :=
  shuffleArr_roundtrip w h a hw hl

theorem prediction_roundtrip (d : BList) (w h depth : Nat)
    (hdepth : depth = 8 ∨ depth = 16 ∨ depth = 32) (hl : d.length = w * h * (depth / 8))
    (hw : depth = 32 → 0 < w) :
    ∃ e, encodePrediction d w h depth = .ok e ∧ e.length = d.length ∧
      decodePrediction e w h depth = .ok d := by
  rcases hdepth with rfl | rfl | rfl
  · exact pred8_roundtrip d w h (by simpa using hl)
  · exact pred16_roundtrip d w h (by rw [hl]; simp [Nat.mul_comm])
  · exact pred32_roundtrip d w h (hw rfl) (by
      rw [hl]; simp only [Nat.reduceDiv]
      rw [Nat.mul_comm (w * h) 4, Nat.mul_assoc])

/-! ### RLE with a row table -/

/-- Streams of an independent encoder decode to the raster: `ps` pairs each encoded row (`p.1`) with the raster
row (`p.2`) that the *specification* PackBits decoder expands it to; the stream is the row table followed by
the encoded rows. -/
theorem spec_streams_decode (ps : List (BList × BList)) (w h depth version k : Nat)
    (hk : tableItem version = .ok k) (hh : ps.length = h)
    (hp : ∀ p ∈ ps, specDec p.1 = some p.2 ∧ p.2.length = rowSize w depth)
    (hfit : ∀ p ∈ ps, p.1.length < 256 ^ k) :
    decodeRle ((ps.map (·.1)).flatMap (fun e => beBytes k e.length) ++ (ps.map (·.1)).flatten)
      w h depth version = .ok (ps.map (·.2)).flatten :=
  decodeRle_pairs ps w h depth version k hk hh hp hfit

theorem rle_image_roundtrip (d : BList) (w h depth version : Nat)
    (hl : d.length = rowSize w depth * h) (hfit : rowsFit d w h depth version) :
    ∃ e, encodeRle d w h depth version = .ok e ∧ decodeRle e w h depth version = .ok d := by
  obtain ⟨k, hk, hfit⟩ := hfit
  obtain ⟨s1, s2, s3⟩ := splitPlanes_spec (rowSize w depth) h d hl
  let ps : List (BList × BList) := (splitPlanes (rowSize w depth) h d).map (fun r => (encPy r.toArray, r))
  have e1 : ps.map (·.1) = encRows (rowSize w depth) h d := by
    simp only [ps, List.map_map, encRows_eq]; rfl
  have e2 : ps.map (·.2) = splitPlanes (rowSize w depth) h d := by
    simp only [ps, List.map_map]
    exact List.map_id _
  have hdec := decodeRle_pairs ps w h depth version k hk (by simp [ps, s3])
    (by
      intro p hp
      simp only [ps, List.mem_map] at hp
      obtain ⟨r, hr, rfl⟩ := hp
      exact ⟨by simpa using C05.spec_decodes_enc r.toArray, s2 r hr⟩)
    (by
      intro p hp
      apply hfit
      rw [← e1]
      exact List.mem_map_of_mem hp)
  rw [e1, e2, s1] at hdec
  refine ⟨_, ?_, hdec⟩
  simp only [encodeRle, hk]
  have : (encRows (rowSize w depth) h d).any (fun r => decide (r.length ≥ 256 ^ k)) = false := by
    rw [List.any_eq_false]
    intro r hr
    have := hfit r hr
    simp; omega
  simp [this]

/-- A sufficient, purely geometric condition for `rowsFit`, from Apple's worst case (C05). -/
theorem rowsFit_of_rowSize (d : BList) (w h depth version k : Nat) (hk : tableItem version = .ok k)
    (hl : d.length = rowSize w depth * h)
    (hb : rowSize w depth + (rowSize w depth + 126) / 127 < 256 ^ k) : rowsFit d w h depth version := by
  refine ⟨k, hk, ?_⟩
  intro r hr
  rw [encRows_eq] at hr
  obtain ⟨x, hx, rfl⟩ := List.mem_map.mp hr
  have := C05.enc_size_bound x.toArray
  have hxl := (splitPlanes_spec (rowSize w depth) h d hl).2.1 x hx
  simp only [List.size_toArray, hxl] at this
  omega

/-! ### `compress` / `decompress` -/

/-- `Geometry` in the terms `decompress` asserts: at most `w·h·max 1 (depth/8)` bytes, exactly that for depth ≥ 8. -/
theorem geometry_length {w h depth : Nat} {d : BList} (hg : Geometry w h depth d) :
    d.length ≤ w * h * max 1 (depth / 8) ∧ (depth ≥ 8 → d.length = w * h * max 1 (depth / 8)) := by
  obtain ⟨hd, hl⟩ := hg
  rcases hd with rfl | rfl | rfl | rfl
  · refine ⟨?_, by omega⟩
    rw [hl]; simp only [rowSize, Nat.mul_one, Nat.reduceDiv, Nat.zero_le, Nat.max_eq_left]
    exact Nat.mul_le_mul_right h (by omega)
  · have : rowSize w 8 = w := by unfold rowSize; omega
    rw [hl, this]; simp
  · have : rowSize w 16 = w * 2 := by unfold rowSize; omega
    rw [hl, this]; simp [Nat.mul_right_comm]
  · have : rowSize w 32 = w * 4 := by unfold rowSize; omega
    rw [hl, this]; simp [Nat.mul_right_comm]

/-- the bounded inflate (`_inflate(data, length)`, repo 72f34ff) returns a deflated string that is not longer than
the expected size -/
theorem inflateBounded_deflate (z : ZCodec) (hz : z.Lawful) (x : BList) (length : Nat) (h : x.length ≤ length) :
    inflateBounded z (z.deflate x) length = .ok x := by
  unfold inflateBounded
  rw [hz x]
  simp only
  rw [if_neg (by omega)]

/-- decompress ∘ compress = id for the four codecs, every geometry, both file versions. -/
theorem compress_roundtrip (z : ZCodec) (hz : z.Lawful) (c : Codec) (d : BList)
    (w h depth version : Nat) (hg : Geometry w h depth d) (ha : Admissible c d w h depth version) :
    ∃ e, compress z d c w h depth version = .ok e ∧ decompress z e c w h depth version = .ok d := by
  have hlen := geometry_length hg
  have hassert : (if depth ≥ 8 then
        if d.length = w * h * max 1 (depth / 8) then (Except.ok d : Except Err BList)
        else .error .assertionError
      else .ok d) = .ok d := by
    by_cases h8 : depth ≥ 8
    · simp [h8, hlen.2 h8]
    · simp [h8]
  cases c with
  | raw =>
    refine ⟨d, rfl, ?_⟩
    simp only [decompress, decompressBody, List.take_of_length_le hlen.1]
    exact hassert
  | rle =>
    obtain ⟨e, h1, h2⟩ := rle_image_roundtrip d w h depth version hg.2 (ha.1 rfl)
    refine ⟨e, h1, ?_⟩
    simp only [decompress, decompressBody, h2]
    exact hassert
  | zip =>
    refine ⟨z.deflate d, rfl, ?_⟩
    simp only [decompress, decompressBody, inflateBounded_deflate z hz d _ hlen.1]
    exact hassert
  | zipPred =>
    obtain ⟨hne, hw⟩ := ha.2 rfl
    have hdepth : depth = 8 ∨ depth = 16 ∨ depth = 32 := by
      rcases hg.1 with h | h | h | h
      · exact absurd h hne
      · exact Or.inl h
      · exact Or.inr (Or.inl h)
      · exact Or.inr (Or.inr h)
    have hl : d.length = w * h * (depth / 8) := by
      have := hlen.2 (by omega)
      rcases hdepth with rfl | rfl | rfl <;> simpa using this
    obtain ⟨e, h1, h2, h3⟩ := prediction_roundtrip d w h depth hdepth hl hw
    refine ⟨z.deflate e, by simp [compress, h1], ?_⟩
    simp only [decompress, decompressBody, inflateBounded_deflate z hz e _ (by rw [h2]; exact hlen.1), h3]
    exact hassert

/-! ### Containers -/

theorem channel_roundtrip (z : ZCodec) (hz : z.Lawful) (c : Codec) (d : BList)
    (w h depth version : Nat) (hg : Geometry w h depth d) (ha : Admissible c d w h depth version) :
    ∃ e, channelSet z d c w h depth version = .ok e ∧ channelGet z e c w h depth version = .ok d :=
  compress_roundtrip z hz c d w h depth version hg ha

/-- `ImageData.get_data(header) ∘ set_data(planes, header)` returns the planes. -/
theorem image_roundtrip (z : ZCodec) (hz : z.Lawful) (c : Codec) (planes : List BList)
    (w h channels depth version : Nat) (hch : 0 < channels) (hn : planes.length = channels)
    (hd : depth = 1 ∨ depth = 8 ∨ depth = 16 ∨ depth = 32)
    (hp : ∀ p ∈ planes, p.length = rowSize w depth * h)
    (ha : Admissible c planes.flatten w (h * channels) depth version) :
    ∃ e, imageSet z planes c w h channels depth version = .ok e ∧
      imageGet z e c w h channels depth version = .ok planes := by
  have hfl : planes.flatten.length = rowSize w depth * h * channels := by
    rw [← hn]
    clear ha hn
    induction planes with
    | nil => simp
    | cons p ps ih =>
      simp only [List.flatten_cons, List.length_append, List.length_cons]
      rw [hp p (by simp), ih (fun q hq => hp q (by simp [hq])), Nat.mul_succ]; omega
  have hg : Geometry w (h * channels) depth planes.flatten := ⟨hd, by rw [hfl, Nat.mul_assoc]⟩
  obtain ⟨e, h1, h2⟩ := compress_roundtrip z hz c planes.flatten w (h * channels) depth version hg ha
  refine ⟨e, h1, ?_⟩
  have hc0 : channels ≠ 0 := by omega
  simp only [imageGet, h2, hc0, if_false]
  rw [hfl, Nat.mul_div_cancel _ hch, ← hn, splitPlanes_flatten _ planes hp]

/-- `VirtualMemoryArray.get_data() ∘ set_data((w, h), data, depth, compression)`. -/
theorem vma_roundtrip (z : ZCodec) (hz : z.Lawful) (c : Codec) (d : BList) (w h depth : Nat)
    (hg : Geometry w h depth d) (ha : Admissible c d w h depth 1) :
    ∃ e rect, vmaSet z d c w h depth = .ok (e, rect) ∧ vmaGet z e c rect depth = .ok d := by
  obtain ⟨e, h1, h2⟩ := compress_roundtrip z hz c d w h depth 1 hg ha
  exact ⟨e, (0, 0, h, w), by simp [vmaSet, h1], by simpa [vmaGet] using h2⟩

/-! ### Non-vacuity: the hypotheses are satisfiable, the functions compute -/

/-- identity "zlib" (lawful) for evaluation. -/
def zId : ZCodec := { deflate := id, inflate := some }
/-- `ZCodec.Lawful` is satisfiable (non-vacuity of the zlib hypothesis). -/
theorem zId_lawful : zId.Lawful := fun _ => rfl

/-- 5×3 raster, 16 bits, with a wrap-around delta (0x0001 - 0xFFFF). -/
def sample16 : BList :=
  [0xFF, 0xFF, 0x00, 0x01, 0x00, 0x00, 0x80, 0x00, 0x7F, 0xFF,
   0, 1, 0, 2, 0, 3, 0, 4, 0, 5,
   9, 9, 9, 9, 9, 9, 9, 9, 9, 9]

example : Geometry 5 3 16 sample16 := ⟨by decide, by decide⟩
example : Admissible .zipPred sample16 5 3 16 1 := ⟨(fun h => nomatch h), (fun _ => ⟨by decide, by decide⟩)⟩
example : rowsFit sample16 5 3 16 1 :=
  rowsFit_of_rowSize _ _ _ _ _ 2 rfl (by decide) (by decide)
example : encodePrediction sample16 5 3 16 =
    .ok [0xFF, 0xFF, 0x00, 0x02, 0xFF, 0xFF, 0x80, 0x00, 0xFF, 0xFF,
         0, 1, 0, 1, 0, 1, 0, 1, 0, 1,
         9, 9, 0, 0, 0, 0, 0, 0, 0, 0] := by decide +kernel
example : (compress zId sample16 .zipPred 5 3 16 1 >>= fun e => decompress zId e .zipPred 5 3 16 1)
    = .ok sample16 := by decide +kernel
example : (compress zId sample16 .rle 5 3 16 1 >>= fun e => decompress zId e .rle 5 3 16 1)
    = .ok sample16 := by decide +kernel
/-- 1-bit rows are padded to whole bytes: width 9 has 2 bytes per row (`9*1//8 = 1`, the
row size before the repair of `encode_rle`/`decode_rle`, lost the second byte of every row). -/
example : rowSize 9 1 = 2 ∧ 9 * 1 / 8 = 1 ∧
    (compress zId [1, 2, 3, 4, 5, 6] .rle 9 3 1 1 >>= fun e => decompress zId e .rle 9 3 1 1)
      = .ok [1, 2, 3, 4, 5, 6] := by decide +kernel
/-- 32-bit shuffle on a 2×1 raster. -/
example : shuffle #[0, 1, 2, 3, 4, 5, 6, 7] 2 1 = .ok #[0, 4, 1, 5, 2, 6, 3, 7] := by decide +kernel
/-- outside the hypotheses the code rejects: 1-bit prediction, zero-width 32-bit shuffle,
an odd version. -/
example : compress zId [1] .zipPred 8 1 1 1 = .error .valueError ∧
    compress zId [] .zipPred 0 2 32 1 = .error .valueError ∧
    compress zId [1] .rle 1 1 8 3 = .error .indexError := by decide +kernel

end PsdVerif.C04
