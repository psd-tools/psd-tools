/-
C17 — "the merged image written equals the composite of the saved layers", as theorems.

The numeric composite is C11's compositor model (`Model/Composite.lean: compositeDoc`) called the way
`_merged_planes` calls `composite` (`Model/MergedPixels.lean: compositePsd`), the sample arithmetic is
that of `_merged_planes` over `Rat` (`flatten`, `code`, `planeEnc`), the decision logic and the geometry
are those of `Model/Merged.lean` (`Props/C17.lean`). Composed here:

* `merged_equals_composite` (+ `merged_colour_planes`, `merged_flat_equals_composite`): every stored sample
  is the quantisation of the value its plane's source has at that pixel of the composite;
* `flattened_is_published` (+ `_partial`), `merged_equals_published_model`: through C11's
  `compositor_refines_spec_doc`, the flattened value is the published model's `P + (1 − α)`;
* quantisation laws: `stored_bytes`, `quantise_within_half_step`, `quantise_half_step_attained`, `quantise_monotone`,
  `quantise_endpoints`, `requantise_is_identity`, `clip_is_inert`;
* `flatten_uses_alpha`, `flatten_uses_alpha_not_shape`;
* `merged_covers_canvas`, `merged_is_crop` (through C13's `viewport_is_crop`);
* `layerless_document_keeps_image`;
* ties to the source, regenerated from the AST on every run (`Generated/MergedPixels.lean`):
  `merged_pixels_tied`, `composite_call_tied`, `save_tied`.
-/
import PsdVerif.Props.C17
import PsdVerif.Model.MergedPixels
import PsdVerif.Lemmas.MergedPixels
import PsdVerif.Lemmas.MergedQuant
import PsdVerif.Props.C11
import PsdVerif.Props.C13
import PsdVerif.Generated.MergedPixels
import PsdVerif.Generated.Pixels

namespace PsdVerif.C17
open PsdVerif PsdVerif.Pixels PsdVerif.Merged

section Pixels
open PsdVerif.MergedPixels PsdVerif.Composite

/-- **merged_equals_composite.** A supported document whose structure was edited, whose pixels are `d`
(the layer tree at every pixel — ANY tree —, and the stored image for the layerless case), is saved:
`save()` succeeds, the planes `ImageData.get_data` reads back are `header.channels` many, and for every
plane `k` and every pixel `(x, y)` of the canvas the stored sample number `y·width + x` is
`plane()` — the quantisation of `_merged_planes` — of the value the plane's source has at that pixel of
`composite(psd, force=True)` (`compositePsd`, i.e. C11's `compositeDoc` on the canvas rectangle over a
transparent white backdrop when there are layers): the colour channel flattened on white WITH THE ALPHA
(`colorFlat`), the colour channel (`color`), the alpha (`alpha`), 1.0 (`fill`); a plane whose source is
`old j` is plane `j` of the merged image that was there. Which source a plane has: `merged_colour_planes`. -/
theorem merged_equals_composite (B : Composite.Mode → Color → Color → Color) (s : DocState) (d : PixelDoc)
    (hd : s.dirty = true) (hs : Supported s.info.header)
    (hch : s.info.header.cmode.expected ≤ s.info.header.channels) :
    ∃ routes planes s',
      mergedRoutes s.info (oldReadable s) = .ok (some routes) ∧
      savePixels B s d = .ok s' ∧ s'.info.header = s.info.header ∧
      getData s'.imageData s'.info.header = .ok planes ∧
      routes.length = s.info.header.channels ∧ planes.length = s.info.header.channels ∧
      ∀ k (h1 : k < routes.length) (h2 : k < planes.length),
        (∀ j, routes[k] = .old j → (oldPlanes s)[j]? = some planes[k]) ∧
        ∀ (x y : Nat), x < s.info.header.width → y < s.info.header.height →
          ∀ v, sampleValue (compositePsd B s.info.header x y (d.layers x y) (d.oldColor x y) (d.oldShape x y))
                routes[k] = some v →
            sampleAt planes[k] (s.info.header.depth / 8) (y * s.info.header.width + x)
              = planeEnc s.info.header.depth v := by
  -- the planes are `realise` of the routes, one by one (`traverse_getElem`); plane `k` is `encPlane` of the values of
  -- its source, `encPlane_sampleAt` picks sample `i` of it, and `i = y·width + x` is pixel `(x, y)` (`index_mod`, `index_div`)
  obtain ⟨hdep, hb⟩ := hs
  obtain ⟨rs, planes, hrs, htrav, hreg, hrl, hrv, hpl, hpall⟩ := regenerate_ok ratQuant ratQuant_lawful s
    (compositePlanes s.info.header (render B s.info.header d)) hdep hb hch (compositePlanes_wf _ _)
  obtain ⟨_, hget⟩ := traverse_getElem _ _ _ htrav
  have hsave : savePixels B s d = .ok
      { s with imageData := setData s.imageData.comp planes s.info.header,
               info := { s.info with versionInfo := s.info.versionInfo.map fun _ => true } } := by
    unfold savePixels
    rw [save_eq_regenerate, hreg]
    simp [hd]
  refine ⟨rs, planes, _, hrs, hsave, rfl, getData_setData _ _ _ hpl hpall (channels_pos hch), hrl, hpl, ?_⟩
  intro k h1 h2
  have hk := hget k h1 h2
  have hvalid := hrv rs[k] (List.getElem_mem h1)
  constructor
  · intro j hj
    rw [hj] at hk
    simp only [realise] at hk
    cases ho : (oldPlanes s)[j]? with
    | none => rw [ho] at hk; simp at hk
    | some p => rw [ho] at hk; simp at hk; rw [hk]
  · intro x y hx hy v hv
    have hi := index_lt s.info.header.width s.info.header.height x y hx hy
    have hm := index_mod s.info.header.width x y hx
    have hdv := index_div s.info.header.width x y hx
    cases hr : rs[k] with
    | colorFlat c =>
      rw [hr] at hk hv hvalid
      simp only [PlaneSrc.Valid] at hvalid
      simp only [realise, compositePlanes_color s.info.header (render B s.info.header d) c hvalid, compositePlanes_alpha] at hk
      simp only [sampleValue, Option.some.injEq] at hv
      have hk' := Except.ok.inj hk
      rw [← hk', encPlane_sampleAt ratQuant ratQuant_lawful _ _ _ (by simpa using hi)]
      simp only [List.getElem_zipWith, List.getElem_map, List.getElem_range, hm, hdv]
      subst hv; rfl
    | color c =>
      rw [hr] at hk hv hvalid
      simp only [PlaneSrc.Valid] at hvalid
      simp only [realise, compositePlanes_color s.info.header (render B s.info.header d) c hvalid] at hk
      simp only [sampleValue, Option.some.injEq] at hv
      have hk' := Except.ok.inj hk
      rw [← hk', encPlane_sampleAt ratQuant ratQuant_lawful _ _ _ (by simpa using hi)]
      simp only [List.getElem_map, List.getElem_range, hm, hdv]
      subst hv; rfl
    | alpha =>
      rw [hr] at hk hv
      simp only [realise, compositePlanes_alpha] at hk
      simp only [sampleValue, Option.some.injEq] at hv
      have hk' := Except.ok.inj hk
      rw [← hk', encPlane_sampleAt ratQuant ratQuant_lawful _ _ _ (by simpa using hi)]
      simp only [List.getElem_map, List.getElem_range, hm, hdv]
      subst hv; rfl
    | old j => rw [hr] at hv; simp [sampleValue] at hv
    | fill =>
      rw [hr] at hk hv
      simp only [realise, compositePlanes_alpha] at hk
      simp only [sampleValue, Option.some.injEq] at hv
      have hk' := Except.ok.inj hk
      rw [← hk', encPlane_sampleAt ratQuant ratQuant_lawful _ _ _ (by simpa using hi)]
      simp only [List.getElem_map]
      subst hv; rfl

/-- the hypotheses are satisfiable: a 2×1 RGB document with one layer -/
example : ∃ (s : DocState), s.dirty = true ∧ Supported s.info.header ∧
    s.info.header.cmode.expected ≤ s.info.header.channels :=
  ⟨{ info := { header := { cmode := .rgb, channels := 3, depth := 8, width := 2, height := 1 }, layerCount := 1 },
     imageData := { comp := .raw, payload := [] }, dirty := true }, rfl, by unfold Supported; decide, by decide⟩

/-- **Which plane is what, for every document** (the decision table `merged_sources_table` as a law):
colour plane `k` receives colour channel `k` of the composite, flattened on white unless the document has
a transparency plane and is not RGB; the transparency plane — if the readers see one — receives the
composite's alpha. -/
theorem merged_colour_planes (m : Meta) (rd : Bool) (routes : List PlaneSrc)
    (h : mergedRoutes m rd = .ok (some routes)) :
    (∀ k, k < m.header.cmode.expected →
      routes[k]? = some (if flattens m then PlaneSrc.colorFlat k else .color k)) ∧
    (transparencyPlane m = true →
      routes[max (m.transparencyIndex % (m.header.channels : Int)).toNat m.header.cmode.expected]? = some .alpha) := by
  rw [mergedRoutes_eq] at h
  by_cases hsup : (¬(m.header.depth = 8 ∨ m.header.depth = 16 ∨ m.header.depth = 32) ∨ m.header.cmode = .bitmap)
  · rw [if_pos hsup] at h; cases h
  · rw [if_neg hsup] at h
    cases h1 : setColours (flattens m) m.header.cmode.expected
        ((List.range m.header.channels).map fun k => if rd then PlaneSrc.old k else .fill) with
    | error e => rw [h1] at h; cases h
    | ok l1 =>
      obtain ⟨hl, hall⟩ := setColours_getElem? _ _ _ _ h1
      rw [h1] at h
      simp only at h
      by_cases ht : transparencyPlane m = true
      · rw [if_pos ht] at h
        unfold pySet at h
        by_cases hlt : max (m.transparencyIndex % (m.header.channels : Int)).toNat m.header.cmode.expected < l1.length
        · rw [if_pos hlt] at h
          simp only [Except.ok.injEq, Option.some.injEq] at h
          subst h
          constructor
          · intro k hk
            rw [List.getElem?_set]
            have : ¬ max (m.transparencyIndex % (m.header.channels : Int)).toNat m.header.cmode.expected = k := by omega
            rw [if_neg this, hall k, if_pos hk]
          · intro _
            rw [List.getElem?_set]
            simp [hlt]
        · rw [if_neg hlt] at h; cases h
      · rw [if_neg ht] at h
        simp only [Except.ok.injEq, Option.some.injEq] at h
        subst h
        exact ⟨fun k hk => by rw [hall k, if_pos hk], fun htp => absurd htp ht⟩

example : ∃ (m : Meta) (routes : List PlaneSrc), mergedRoutes m true = .ok (some routes) :=
  ⟨{ header := { cmode := .rgb, channels := 3, depth := 8, width := 1, height := 1 } }, _, rfl⟩

/-- **A document without a transparency plane: the stored colour IS the flattened composite.**
(`merged_equals_composite` and `merged_colour_planes` put together for the common case.) For every pixel of
the canvas and every colour channel `k`, the stored sample is the quantisation of
`C_k · α + (1 − α)`, `(C, _, α)` being what the compositor model returns there. -/
theorem merged_flat_equals_composite (B : Composite.Mode → Color → Color → Color) (s : DocState) (d : PixelDoc)
    (hd : s.dirty = true) (hs : Supported s.info.header)
    (hch : s.info.header.cmode.expected ≤ s.info.header.channels) (hflat : flattens s.info = true) :
    ∃ planes s', savePixels B s d = .ok s' ∧ getData s'.imageData s'.info.header = .ok planes ∧
      ∀ k (_ : k < s.info.header.cmode.expected) (h2 : k < planes.length) (x y : Nat),
        x < s.info.header.width → y < s.info.header.height →
        let px := compositePsd B s.info.header x y (d.layers x y) (d.oldColor x y) (d.oldShape x y)
        sampleAt planes[k] (s.info.header.depth / 8) (y * s.info.header.width + x)
          = planeEnc s.info.header.depth (flatten (px.1 k) px.2.2) := by
  obtain ⟨routes, planes, s', hr, hsave, _, hget, hrl, hpl, hall⟩ := merged_equals_composite B s d hd hs hch
  refine ⟨planes, s', hsave, hget, ?_⟩
  intro k hk h2 x y hx hy px
  have h1 : k < routes.length := by omega
  have hroute := (merged_colour_planes s.info _ routes hr).1 k hk
  rw [hflat, if_pos rfl, List.getElem?_eq_getElem h1, Option.some.injEq] at hroute
  exact (hall k h1 h2).2 x y hx hy _ (by rw [hroute]; rfl)

example : flattens { header := { cmode := .rgb, channels := 3, depth := 8, width := 2, height := 1 }, layerCount := 1 } = true := by
  decide

/-! ### through C11: the published model -/

/-- **The flattened value is the published model's, exactly.** For every well-formed, non-empty layer
tree (C11's `listOk`, blend functions with `BOk`) at a pixel: with `(P, f, α)` the published model's
result for the document over a transparent backdrop (`specDoc`: group colour premultiplied by the group
alpha, group shape, group alpha; knockout rule as coded, see C11) — the value flattened on white is
`P_k + (1 − α)`: no division, no clamp, nothing undefined under zero coverage; the alpha plane's value is
`α`; an unflattened colour plane's value is `P_k / α` wherever `α ≠ 0`. -/
theorem flattened_is_published {B : Composite.Mode → Color → Color → Color} (hB : BOk B) (h : Header) (x y : Int)
    (layers : List Node) (hl : listOk layers) (hne : layers.isEmpty = false) (oc : Color) (os : Rat) :
    let px := compositePsd B h x y layers oc os
    let spec := specDoc .pdf17 B (canvas h) x y (fun _ => 0) 0 layers
    (∀ k, sampleValue px (.colorFlat k) = some (spec.1 k + (1 - spec.2.2))) ∧
    sampleValue px .alpha = some spec.2.2 ∧
    (spec.2.2 ≠ 0 → ∀ k, sampleValue px (.color k) = some (spec.1 k / spec.2.2)) := by
  intro px spec
  have hpx : px = compositeDoc B (canvas h) x y white 0 layers := by
    simp only [px, compositePsd, hne, Bool.false_eq_true, if_false, backdropColor, backdropAlpha]
  have hz : (fun ch => (0 : Rat) * white ch) = fun _ => (0 : Rat) := by funext ch; simp
  obtain ⟨_, h2, h3, h4⟩ := C11.compositor_refines_spec_doc hB (canvas h) x y white_ok unit01_zero layers hl
  rw [hz] at h2 h3 h4
  rw [← hpx] at h2 h3 h4
  refine ⟨?_, ?_, ?_⟩
  · intro k
    simp only [sampleValue, flatten, Option.some.injEq]
    rw [h3 k, h2]
  · simp only [sampleValue, Option.some.injEq]; exact h2
  · intro hne0 k
    simp only [sampleValue, Option.some.injEq]
    exact h4 (by rw [h2]; exact hne0) k

example : BOk allNormal ∧ listOk [koWhiteLayer] ∧ [koWhiteLayer].isEmpty = false :=
  ⟨allNormal_ok, koWhiteLayer_ok, rfl⟩

/-- … and for trees without knockout flags against the published model with EITHER knockout rule (the
choice is then irrelevant: `specDoc_rule_irrelevant`). -/
theorem flattened_is_published_partial {B : Composite.Mode → Color → Color → Color} (hB : BOk B) (h : Header)
    (x y : Int) (layers : List Node) (hl : listOk layers) (hko : listNoKo layers) (hne : layers.isEmpty = false)
    (oc : Color) (os : Rat) (rule : KoRule) :
    let px := compositePsd B h x y layers oc os
    let spec := specDoc rule B (canvas h) x y (fun _ => 0) 0 layers
    (∀ k, sampleValue px (.colorFlat k) = some (spec.1 k + (1 - spec.2.2))) ∧
    sampleValue px .alpha = some spec.2.2 := by
  intro px spec
  have hs : spec = specDoc .pdf17 B (canvas h) x y (fun _ => 0) 0 layers :=
    specDoc_rule_irrelevant rule .pdf17 B (canvas h) x y _ 0 layers hko
  obtain ⟨a, b, _⟩ := flattened_is_published hB h x y layers hl hne oc os
  rw [hs]
  exact ⟨a, b⟩

example : listNoKo ([] : List Node) := trivial

/-- **merged_equals_published_model.** The stored merged image of a structurally edited, supported document
without a transparency plane, all of whose per-pixel trees are well-formed and non-empty: at every pixel
of the canvas and for every colour channel the stored sample is the quantisation of the PUBLISHED model's
premultiplied colour plus the uncovered white, `P_k + (1 − α)`. (`merged_flat_equals_composite` composed
with C11's `compositor_refines_spec_doc`.) -/
theorem merged_equals_published_model {B : Composite.Mode → Color → Color → Color} (hB : BOk B) (s : DocState)
    (d : PixelDoc) (hd : s.dirty = true) (hs : Supported s.info.header)
    (hch : s.info.header.cmode.expected ≤ s.info.header.channels) (hflat : flattens s.info = true)
    (hl : ∀ x y, listOk (d.layers x y)) (hne : ∀ x y, (d.layers x y).isEmpty = false) :
    ∃ planes s', savePixels B s d = .ok s' ∧ getData s'.imageData s'.info.header = .ok planes ∧
      ∀ k (_ : k < s.info.header.cmode.expected) (h2 : k < planes.length) (x y : Nat),
        x < s.info.header.width → y < s.info.header.height →
        let spec := specDoc .pdf17 B (canvas s.info.header) x y (fun _ => 0) 0 (d.layers x y)
        sampleAt planes[k] (s.info.header.depth / 8) (y * s.info.header.width + x)
          = planeEnc s.info.header.depth (spec.1 k + (1 - spec.2.2)) := by
  obtain ⟨planes, s', hsave, hget, hall⟩ := merged_flat_equals_composite B s d hd hs hch hflat
  refine ⟨planes, s', hsave, hget, ?_⟩
  intro k hk h2 x y hx hy spec
  have := hall k hk h2 x y hx hy
  simp only at this
  rw [this]
  have hp := (flattened_is_published hB s.info.header x y (d.layers x y) (hl x y) (hne x y)
    (d.oldColor x y) (d.oldShape x y)).1 k
  simp only [sampleValue, Option.some.injEq] at hp
  rw [hp]

/-- the hypotheses are satisfiable together: a dirty 1×1 RGB document without transparency plane whose tree at every
pixel is one opaque white layer (`koWhiteLayer` of C11: well-formed, non-empty) -/
example : ∃ (B : Composite.Mode → Color → Color → Color) (s : DocState) (d : PixelDoc),
    BOk B ∧ s.dirty = true ∧ Supported s.info.header ∧ s.info.header.cmode.expected ≤ s.info.header.channels ∧
    flattens s.info = true ∧ (∀ x y, listOk (d.layers x y)) ∧ (∀ x y, (d.layers x y).isEmpty = false) :=
  ⟨allNormal,
   { info := { header := { cmode := .rgb, channels := 3, depth := 8, width := 1, height := 1 }, layerCount := 1 },
     imageData := { comp := .raw, payload := [] }, dirty := true },
   { layers := fun _ _ => [koWhiteLayer], oldColor := fun _ _ => white, oldShape := fun _ _ => 1 },
   allNormal_ok, rfl, by unfold Supported; decide, by decide, by decide, fun _ _ => koWhiteLayer_ok, fun _ _ => rfl⟩

/-! ### quantisation laws (`plane()`) -/

/-- **What is written for 8 / 16 / 32 bits**: the code `np.round(np.clip(v, 0, 1) · scale)` as 1 / 2 big-endian
bytes — and the bytes hold the code (it never exceeds `scale`, so nothing is cut by the integer conversion) —
or the binary32 nearest to the value, big-endian. -/
theorem stored_bytes (v : Rat) :
    planeEnc 8 v = be 1 (code 255 v) ∧ unbe (planeEnc 8 v) = code 255 v ∧
    planeEnc 16 v = be 2 (code 65535 v) ∧ unbe (planeEnc 16 v) = code 65535 v ∧
    planeEnc 32 v = be 4 (f32Bits v) := by
  have h8 := code_le 255 v
  have h16 := code_le 65535 v
  refine ⟨rfl, ?_, rfl, ?_, rfl⟩
  · show unbe (be 1 (code 255 v)) = _
    rw [unbe_be]; exact Nat.mod_eq_of_lt (by omega)
  · show unbe (be 2 (code 65535 v)) = _
    rw [unbe_be]; exact Nat.mod_eq_of_lt (by omega)

/-- **Within half a step.** For a value in `[0, 1]` the stored code, read back as the readers do
(`code / scale`), differs from the value by at most `1 / (2·scale)` — and that bound is attained
(`quantise_half_step_attained`). -/
theorem quantise_within_half_step (scale : Nat) (hs : 0 < scale) (v : Rat) (hv : Unit01 v) :
    decode scale (code scale v) - v ≤ 1 / (2 * (scale : Rat)) ∧
    v - decode scale (code scale v) ≤ 1 / (2 * (scale : Rat)) := by
  have hb := roundHalfEven_bounds (v * (scale : Rat))
  have hs' : (0 : Rat) < (scale : Rat) := by exact_mod_cast hs
  -- divide the two bounds on the rounding by the scale
  have key : ∀ x : Rat, x ≤ 1 / 2 → x / scale ≤ 1 / (2 * scale) := fun x hx => by
    rw [← div_div]; exact div_le_div_of_nonneg_right hx hs'.le
  unfold decode
  rw [code_cast, clip_id hv]
  constructor
  · have := key _ hb.1
    rwa [sub_div, mul_div_cancel_right₀ _ hs'.ne'] at this
  · have := key _ hb.2
    rwa [sub_div, mul_div_cancel_right₀ _ hs'.ne'] at this

example : (0 : Nat) < 255 ∧ Unit01 (1 / 3 : Rat) := ⟨by decide, by constructor <;> norm_num⟩

/-- the bound is exact: 1/510 is stored as 0 (the tie 0.5 goes to the even code), 3/510 as 2 -/
theorem quantise_half_step_attained :
    code 255 (1 / 510) = 0 ∧ (1 / 510 : Rat) - decode 255 (code 255 (1 / 510)) = 1 / (2 * 255) ∧
    code 255 (3 / 510) = 2 ∧ decode 255 (code 255 (3 / 510)) - (3 / 510 : Rat) = 1 / (2 * 255) := by
  decide +kernel

/-- **Monotone**: a larger value never gets a smaller code (any scale, values outside `[0, 1]` included) -/
theorem quantise_monotone (scale : Nat) (v w : Rat) (h : v ≤ w) : code scale v ≤ code scale w :=
  code_mono scale h

example : (1 / 3 : Rat) ≤ 1 / 2 := by norm_num

/-- **End points and range**: 0 ↦ 0, 1 ↦ `scale` (255 / 65535), every code is at most `scale`; values below 0 /
above 1 are stored as 0 / `scale` (`np.clip`). -/
theorem quantise_endpoints (scale : Nat) :
    code scale 0 = 0 ∧ code scale 1 = scale ∧ (∀ v, code scale v ≤ scale) ∧
    (∀ v, v ≤ 0 → code scale v = 0) ∧ (∀ v, 1 ≤ v → code scale v = scale) := by
  refine ⟨code_zero scale, code_one scale, code_le scale, ?_, ?_⟩
  · intro v hv
    have := code_mono scale hv
    rw [code_zero] at this
    omega
  · intro v hv
    have h1 := code_mono scale hv
    rw [code_one] at h1
    have h2 := code_le scale v
    omega

/-- **A stored value is a fixed point**: quantising what the readers decode from a code gives the code back
(so a merged image regenerated from unchanged pixel data does not drift). -/
theorem requantise_is_identity (scale : Nat) (hs : 0 < scale) (n : Nat) (hn : n ≤ scale) :
    code scale (decode scale n) = n := by
  have hs' : (0 : Rat) < (scale : Rat) := by exact_mod_cast hs
  have hu : Unit01 (decode scale n) := by
    unfold decode
    constructor
    · positivity
    · rw [div_le_one hs']; exact_mod_cast hn
  unfold code
  rw [clip_id hu]
  unfold decode
  rw [div_mul_cancel₀ _ (ne_of_gt hs')]
  have : ((n : Nat) : Rat) = (((n : Nat) : Int) : Rat) := by norm_num
  rw [this, roundHalfEven_intCast]
  simp

example : (0 : Nat) < 65535 ∧ (1234 : Nat) ≤ 65535 := by decide

/-- **`np.clip` is inert on composites.** For every well-formed tree the values `_merged_planes` quantises —
the flattened colour, the colour, the alpha — are in `[0, 1]` (C13 `result_in_unit_interval`), so the clip
changes nothing and `quantise_within_half_step` applies to them. -/
theorem clip_is_inert (B : Composite.Mode → Color → Color → Color) (h : Header) (x y : Int) (layers : List Node)
    (hl : listOk layers) (oc : Color) (os : Rat) (hoc : ColorOk oc) (hos : Unit01 os) (r : PlaneSrc) (v : Rat)
    (hv : sampleValue (compositePsd B h x y layers oc os) r = some v) : Unit01 v ∧ clip v = v := by
  have hpx : ColorOk (compositePsd B h x y layers oc os).1 ∧ Unit01 (compositePsd B h x y layers oc os).2.2 := by
    unfold compositePsd
    split
    · exact ⟨hoc, hos⟩
    · have := C13.result_in_unit_interval B (canvas h) x y backdropColor backdropAlpha white_ok unit01_zero layers hl
      exact ⟨this.1, this.2.2⟩
  have hu : Unit01 v := by
    cases r with
    | colorFlat k => simp only [sampleValue, Option.some.injEq] at hv; rw [← hv]; exact flatten_unit (hpx.1 k) hpx.2
    | color k => simp only [sampleValue, Option.some.injEq] at hv; rw [← hv]; exact hpx.1 k
    | alpha => simp only [sampleValue, Option.some.injEq] at hv; rw [← hv]; exact hpx.2
    | fill => simp only [sampleValue, Option.some.injEq] at hv; rw [← hv]; exact unit01_one
    | old j => simp [sampleValue] at hv
  exact ⟨hu, clip_id hu⟩

example : ColorOk white ∧ Unit01 (1 : Rat) ∧ listOk [] := ⟨white_ok, unit01_one, trivial⟩

/-! ### flattening uses the alpha -/

/-- a layer covering the 1×1 canvas with colour `c`, fully covering (shape 1), opacity `o` -/
def translucentLayer (c : Color) (o : Rat) : Node :=
  .leaf { visible := true, bbox := ⟨0, 0, 1, 1⟩, opacity := o, fill := 1, hasMask := false, maskBBox := Rect.zero,
          maskValue := 1, maskBackground := 0, maskDensity := 1, mode := 0, knockout := false, clipping := false,
          hasClipTarget := false } true c 1 []

def header1x1 : Header := { cmode := .rgb, channels := 3, depth := 8, width := 1, height := 1 }

/-- **A translucent layer over empty canvas is blended with white.** One layer of colour `c` that covers the
pixel completely (shape 1) with opacity `o` (`layer.opacity / 255`, any blend mode): the composite has shape 1 and
alpha `o`, and the value stored in a flattened colour plane is the quantisation of `c·o + (1 − o)` — the colour
mixed with white in proportion to the ALPHA. -/
theorem flatten_uses_alpha {B : Composite.Mode → Color → Color → Color} (hB : BOk B) (c : Color) (o : Rat)
    (hc : ColorOk c) (ho : Unit01 o) (oc : Color) (os : Rat) (k : Nat) :
    let px := compositePsd B header1x1 0 0 [translucentLayer c o] oc os
    px.2.1 = 1 ∧ px.2.2 = o ∧ sampleValue px (.colorFlat k) = some (c k * o + (1 - o)) := by
  intro px
  have hl : listOk [translucentLayer c o] :=
    ⟨⟨⟨ho, unit01_one, unit01_one, unit01_zero, unit01_one⟩, hc, unit01_one, trivial⟩, trivial⟩
  have hpx : px = compositeDoc B (canvas header1x1) 0 0 white 0 [translucentLayer c o] := rfl
  obtain ⟨h1, h2, _⟩ := C11.compositor_refines_spec_doc hB (canvas header1x1) 0 0 white_ok unit01_zero _ hl
  obtain ⟨hf, _, _⟩ := flattened_is_published hB header1x1 0 0 [translucentLayer c o] hl rfl oc os
  have hi : intersect (canvas header1x1) ⟨0, 0, 1, 1⟩ = ⟨0, 0, 1, 1⟩ := by decide
  have hspec : specDoc .pdf17 B (canvas header1x1) 0 0 (fun _ => 0) 0 [translucentLayer c o]
      = (fun ch => o * (1 * c ch), (1 : Rat), o) := by
    simp [specDoc, specList, specNode, translucentLayer, specFinish, specSource, specFactors, maskFactors, pasteAt,
      hi, Rect.zero, Rect.contains, SState.init, union]
    funext ch; simp [groupColor]
  have hz : (fun ch => (0 : Rat) * white ch) = fun _ => (0 : Rat) := by funext ch; simp
  rw [hz, ← hpx, hspec] at h1 h2
  refine ⟨h1, h2, ?_⟩
  rw [hf k, hspec]
  simp only [Option.some.injEq]
  ring

example : ColorOk (fun _ => (0 : Rat)) ∧ Unit01 (1 / 2 : Rat) :=
  ⟨fun _ => ⟨le_refl _, by norm_num⟩, by constructor <;> norm_num⟩

/-- **… and NOT the shape.** A black layer of opacity 128 (of 255) over empty canvas: the value stored is
`1 − 128/255 = 127/255` (code 127 at 8 bits, mid grey); flattening with the shape — the variant
`color * shape + (1 - shape)` — would store 0 (black: the layer at full strength). The harness replays this
document on the real code on every run (`witness-black-128`). -/
theorem flatten_uses_alpha_not_shape :
    let px := compositePsd allNormal header1x1 0 0 [translucentLayer (fun _ => 0) (128 / 255)] white 1
    sampleValue px (.colorFlat 0) = some (127 / 255) ∧ sampleValueShapeVariant px 0 = 0 ∧
    code 255 (127 / 255) = 127 ∧ code 255 0 = 0 ∧ planeEnc 8 (127 / 255) = [127] ∧
    sampleValue px (.colorFlat 0) ≠ some (sampleValueShapeVariant px 0) := by
  decide +kernel

/-! ### the viewport: exactly the canvas -/

/-- **The merged image covers exactly the canvas**: the pixels of the canvas rectangle `(0, 0, width, height)` —
the viewport `composite` uses for a document — correspond one to one to the `width · height` samples of a
plane (`y · width + x`, row by row). -/
theorem merged_covers_canvas (h : Header) :
    (∀ (x y : Nat), (canvas h).contains x y = true ↔ (x < h.width ∧ y < h.height)) ∧
    (∀ (x y : Nat), x < h.width → y < h.height →
      y * h.width + x < h.width * h.height ∧ (y * h.width + x) % h.width = x ∧ (y * h.width + x) / h.width = y) ∧
    (∀ i, i < h.width * h.height → i % h.width < h.width ∧ i / h.width < h.height ∧
      (i / h.width) * h.width + i % h.width = i) := by
  refine ⟨?_, ?_, ?_⟩
  · intro x y
    simp [canvas, Rect.contains]
  · intro x y hx hy
    exact ⟨index_lt _ _ x y hx hy, index_mod _ x y hx, index_div _ x y hx⟩
  · intro i hi
    have hw : 0 < h.width := by
      rcases Nat.eq_zero_or_pos h.width with h0 | h0
      · rw [h0, Nat.zero_mul] at hi; omega
      · exact h0
    refine ⟨Nat.mod_lt _ hw, ?_, ?_⟩
    · rw [Nat.div_lt_iff_lt_mul hw, Nat.mul_comm]; exact hi
    · rw [Nat.mul_comm]; exact Nat.div_add_mod i h.width

/-- **Layers that extend beyond the canvas are cropped, nothing else.** For a pixel of the canvas, the values
written — flattened colour and alpha — are the same whether the layers are composited on the canvas rectangle
(as `_merged_planes` does) or on ANY larger viewport containing the pixel, e.g. the bounding box of all layers
(C13 `viewport_is_crop`; the colour under zero alpha may differ, which flattening removes). -/
theorem merged_is_crop (B : Composite.Mode → Color → Color → Color) (h : Header) (V : Rect) (x y : Nat)
    (hx : x < h.width) (hy : y < h.height) (hV : V.contains x y = true) (layers : List Node) (hl : listOk layers) :
    let r := compositeDoc B (canvas h) x y backdropColor backdropAlpha layers
    let r' := compositeDoc B V x y backdropColor backdropAlpha layers
    r'.2.2 = r.2.2 ∧ ∀ k, flatten (r'.1 k) r'.2.2 = flatten (r.1 k) r.2.2 := by
  intro r r'
  have hc : (canvas h).contains x y = true := ((merged_covers_canvas h).1 x y).2 ⟨hx, hy⟩
  obtain ⟨_, ha, hcol⟩ := C13.viewport_is_crop B V (canvas h) x y hV hc backdropColor backdropAlpha white_ok
    unit01_zero layers hl
  refine ⟨ha, ?_⟩
  intro k
  by_cases h0 : r.2.2 = 0
  · have h0' : r'.2.2 = 0 := by rw [ha]; exact h0
    simp [flatten, h0, h0']
  · have := hcol h0
    show flatten (r'.1 k) r'.2.2 = flatten (r.1 k) r.2.2
    rw [ha]
    have e : r'.1 = r.1 := this
    rw [e]

example : (⟨-3, -3, 9, 9⟩ : Rect).contains ((1 : Nat) : Int) ((0 : Nat) : Int) = true ∧ (1 : Nat) < 2 ∧
    listOk [koWhiteLayer] := ⟨by decide, by decide, koWhiteLayer_ok⟩

/-! ### a document without layers -/

/-- **No layers: the image data is the document.** `composite` does not composite a document without layers, it
returns the stored image; for a document without transparency (`shape = 1`) the flattened value is the stored
colour itself, and (`requantise_is_identity`) its code is the stored code: the regenerated merged image is the
old one. -/
theorem layerless_document_keeps_image (B : Composite.Mode → Color → Color → Color) (h : Header) (x y : Int)
    (oc : Color) (scale : Nat) (hs : 0 < scale) (n : Nat) (hn : n ≤ scale) (k : Nat) (hoc : oc k = decode scale n) :
    let px := compositePsd B h x y [] oc 1
    sampleValue px (.colorFlat k) = some (oc k) ∧ code scale (flatten (px.1 k) px.2.2) = n := by
  intro px
  have e : flatten (oc k) 1 = oc k := by simp [flatten]
  refine ⟨by simp [px, compositePsd, sampleValue, e], ?_⟩
  show code scale (flatten (oc k) 1) = n
  rw [e, hoc]
  exact requantise_is_identity scale hs n hn

example : (0 : Nat) < 255 ∧ (200 : Nat) ≤ 255 := by decide

end Pixels

/-! ## Ties to the source (regenerated from the AST of the working tree on every run) -/

section Ties
open PsdVerif.MergedPixels

/-- `_merged_planes` is what `Model/MergedPixels.lean` and `Model/Merged.lean: mergedRoutes` transliterate: the
`scale` dict IS the model's table; the depths / modes regenerated; `plane()` — binary32 for 32 bit, else
`np.round(np.clip(v, 0.0, 1.0) * scale)` as big-endian unsigned integers of `depth // 8` bytes; the flattening
statement weighs the colour with `alpha` — the THIRD component of what `composite` returns (the second, the
shape, is discarded) — and is guarded by `not transparency or RGB`; the only `constant − x` in the function is
that `1.0 - alpha` (no colour inversion, for CMYK or otherwise); `n = EXPECTED_CHANNELS[mode]` is the model's
`CMode.expected` (1 / 3 / 4 colour planes for grayscale / RGB / CMYK); colour plane `index` receives `color[:, :, index]`,
plane `max(index, n)` the alpha; the planes that are there are kept, or replaced by 1.0 when unreadable; there is
one early `return None`, and no statement the model does not know. -/
theorem merged_pixels_tied :
    Generated.MergedPixels.scaleTable = scaleTable ∧
    Generated.MergedPixels.supportedModes = [CMode.gray.name, CMode.rgb.name, CMode.cmyk.name] ∧
    (∀ c ∈ [CMode.gray, CMode.rgb, CMode.cmyk], (c.name, c.expected) ∈ Generated.Pixels.expectedChannels) ∧
    Generated.MergedPixels.guard = "header.depth not in scale or self.color_mode not in (ColorMode.GRAYSCALE, ColorMode.RGB, ColorMode.CMYK)" ∧
    Generated.MergedPixels.noneReturns = [Generated.MergedPixels.guard] ∧
    Generated.MergedPixels.planeBody =
      ["if header.depth == 32: { return values.astype('>f4').tobytes() }",
       "values = np.round(np.clip(values, 0.0, 1.0) * scale[header.depth])",
       "return values.astype('>u%d' % (header.depth // 8)).tobytes()"] ∧
    Generated.MergedPixels.compositeTargets = ["color", "_", "alpha"] ∧
    Generated.MergedPixels.nExpr = "EXPECTED_CHANNELS[self.color_mode]" ∧
    Generated.MergedPixels.transparencyExpr = "header.channels > n and has_transparency(self)" ∧
    Generated.MergedPixels.flattenGuard = "not transparency or self.color_mode == ColorMode.RGB" ∧
    Generated.MergedPixels.flattenStmt = "color = color * alpha + (1.0 - alpha)" ∧
    Generated.MergedPixels.constMinus = ["1.0 - alpha"] ∧
    Generated.MergedPixels.oldPlanes =
      "try: { planes = self._record.image_data.get_data(header) } except Exception: { planes = [plane(np.ones_like(alpha))] * header.channels }" ∧
    Generated.MergedPixels.colourLoop = "for index in range(n): { planes[index] = plane(color[:, :, index]) }" ∧
    Generated.MergedPixels.alphaStore =
      "index = get_transparency_index(self) % header.channels; planes[max(index, n)] = plane(alpha[:, :, 0])" ∧
    Generated.MergedPixels.returns = "planes" ∧
    Generated.MergedPixels.topLevel.length = 12 :=
  ⟨rfl, rfl, by decide, rfl, rfl, rfl, rfl, rfl, rfl, rfl, rfl, rfl, rfl, rfl, rfl, rfl, rfl⟩

/-- the call `_merged_planes` makes — `composite(self, force=True)` — and what `composite` does with the
arguments left out: backdrop colour 1.0 and alpha 0.0 (`backdropColor`, `backdropAlpha`), the document's
`viewbox` = `(0, 0, width, height)` as the viewport (`canvas`), `Layer.is_visible` as the filter, not isolated;
a document without layers returns its stored colour and shape, the shape also as alpha (`compositePsd`). -/
theorem composite_call_tied :
    Generated.MergedPixels.compositeCall = "composite(self, force=True)" ∧
    Generated.MergedPixels.compositeDefaults =
      [("color", "1.0"), ("alpha", "0.0"), ("viewport", "None"), ("layer_filter", "None"), ("force", "False"),
       ("as_layer", "False")] ∧
    Generated.MergedPixels.viewportDefault = "viewport = group.viewbox" ∧
    Generated.MergedPixels.viewbox = "(self.left, self.top, self.right, self.bottom)" ∧
    Generated.MergedPixels.boxParts =
      [("left", "0"), ("top", "0"), ("right", "self.width"), ("bottom", "self.height"),
       ("width", "self._record.header.width"), ("height", "self._record.header.height")] ∧
    Generated.MergedPixels.emptyDocument =
      "if isinstance(group, PSDImage) and len(group) == 0: { color, shape = (group.numpy('color'), group.numpy('shape')); if viewport != group.viewbox: { color = paste(viewport, group.bbox, color, 1.0); shape = paste(viewport, group.bbox, shape) }; return (color, shape, shape) }" ∧
    Generated.MergedPixels.filterDefault = "layer_filter or Layer.is_visible" ∧
    Generated.MergedPixels.isolated =
      "False; if not isinstance(group, PSDImage): { isolated = group.blend_mode != BlendMode.PASS_THROUGH }" ∧
    Generated.MergedPixels.compositorCall = "Compositor(viewport, color, alpha, isolated, layer_filter, force)" ∧
    Generated.MergedPixels.compositeLoop = "for layer in target_group: { compositor.apply(layer) }" ∧
    Generated.MergedPixels.compositeReturns = "compositor.finish()" :=
  ⟨rfl, rfl, rfl, rfl, rfl, rfl, rfl, rfl, rfl, rfl, rfl⟩

/-- `save()`: the regeneration is guarded by the structural-edit flag alone, stores what `_merged_planes`
returns under the header and sets `has_composite`; `save` never assigns the flag (`save_keeps_dirty`). -/
theorem save_tied :
    Generated.MergedPixels.saveGuard = "self._updated_layers" ∧
    Generated.MergedPixels.saveSteps =
      ["planes = self._merged_planes()",
       "if planes is not None: { self._record.image_data.set_data(planes, self._record.header); version_info = self.image_resources.get_data(Resource.VERSION_INFO); if version_info: { version_info.has_composite = True } }"] ∧
    Generated.MergedPixels.saveAssignsFlag = false := ⟨rfl, rfl, rfl⟩

end Ties

end PsdVerif.C17
