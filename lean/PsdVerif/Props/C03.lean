/-
C03 — written files are self-consistent: every length, count and alignment is truthful.

`Model/Walker.lean` is a navigator written from the Adobe specification (sources in its header), not from
psd-tools' readers; it shares the primitives `readU`, `readN` and `padAmount` of `Model/Codec.lean` with the
model of the writer, `Model/Psd.lean` (tied to psd-tools by the C01 correspondence).

* `written_is_length_*`: the byte count every `write()` reports (the model transcribes Python's
  `written` accumulators, which also feed the length prefixes and paddings) is the number of bytes emitted.
* `walker_accepts`: the walker does not fall off anywhere in what the writer emits (the image data section is
  taken to be whatever follows its compression code, so the end position it reports is the length of the input by
  construction; which regions it reports is `C03Pixels.lengths_truthful`) — for documents that are `PSD.WF` (C01)
  and `SpecShaped`: tagged blocks inside layer
  records have even length, and in a PSB no tagged block uses a key on whose length width psd-tools and
  the specification disagree. Both extra hypotheses are needed: `walker_rejects_*` are documents the
  library builds and writes on which the walker falls off (known findings, replayed on the real code).
* `channel_lengths`: the channel lengths stored in the layer records are 2 + the size of the stored data.
* `bigKeys_*`: the library's 8-byte-length key set (REGENERATED from `TaggedBlock._BIG_KEYS` on every run)
  against the specification's list.
Pixel data is opaque here; the RLE row tables, the regions and the merged planes are in `Props/C03Pixels.lean`.
-/
import PsdVerif.Lemmas.WalkerFile
import PsdVerif.Props.C01
import PsdVerif.Lemmas.CodecSamples

namespace PsdVerif.C03
open PsdVerif PsdVerif.Codec PsdVerif.Psd PsdVerif.Walker

/-! ### the reported count is the number of bytes emitted -/

theorem written_is_length_lenBlock (skip w pad : Nat) (body : W) (hb : body.2 = body.1.length) :
    (wLenBlock skip w pad body).2 = (wLenBlock skip w pad body).1.length := by
  obtain ⟨bs, n⟩ := body
  simp only at hb
  subst hb
  rw [wLenBlock_eq]

theorem written_is_length_pascal (pad : Nat) (s : B) : (wPascal pad s).2 = (wPascal pad s).1.length := by
  rw [wPascal_eq]

theorem written_is_length_header (h : Header) : h.encP.2 = h.encP.1.length := by rw [Header.encP_eq]
theorem written_is_length_color_mode_data (v : B) : (colorModeP v).2 = (colorModeP v).1.length := by rw [colorModeP_eq]
theorem written_is_length_image_resource (r : Resource) : r.encP.2 = r.encP.1.length := by rw [Resource.encP_eq]
theorem written_is_length_image_resources (rs : List Resource) : (resourcesP rs).2 = (resourcesP rs).1.length := by
  rw [resourcesP_eq]
theorem written_is_length_tagged_block (v pad : Nat) (t : TaggedBlock) : (t.encP v pad).2 = (t.encP v pad).1.length := by
  rw [TaggedBlock.encP_eq]
theorem written_is_length_tagged_blocks (v pad : Nat) (ts : List TaggedBlock) :
    (taggedBlocksP v pad ts).2 = (taggedBlocksP v pad ts).1.length := by rw [taggedBlocksP_eq]
theorem written_is_length_mask_data (m : Option MaskData) : (maskP m).2 = (maskP m).1.length := by rw [maskP_eq]
theorem written_is_length_mask_parameters (m : MaskParameters) : m.encP.2 = m.encP.1.length := by
  rw [MaskParameters.encP_eq]
theorem written_is_length_blending_ranges (r : BlendingRanges) : r.encP.2 = r.encP.1.length := by
  rw [BlendingRanges.encP_eq]
theorem written_is_length_channel_info (v : Nat) (c : ChannelInfo) : (c.encP v).2 = (c.encP v).1.length := by
  rw [ChannelInfo.encP_eq]
theorem written_is_length_layer_record (v : Nat) (r : LayerRecord) : (r.encP v).2 = (r.encP v).1.length := by
  rw [LayerRecord.encP_eq]
theorem written_is_length_channel_data (c : ChannelData) : c.encP.2 = c.encP.1.length := by rw [ChannelData.encP_eq]
theorem written_is_length_channel_image_data (css : List (List ChannelData)) :
    (channelImageP css).2 = (channelImageP css).1.length := by rw [channelImageP_eq]
theorem written_is_length_layer_info (v pad : Nat) (li : LayerInfo) : (li.encP v pad).2 = (li.encP v pad).1.length := by
  rw [LayerInfo.encP_eq]
theorem written_is_length_global_layer_mask_info (g : GlobalLayerMaskInfo) : g.encP.2 = g.encP.1.length := by
  rw [GlobalLayerMaskInfo.encP_eq]
theorem written_is_length_layer_and_mask (v pad : Nat) (x : LayerAndMask) :
    (x.encP v pad).2 = (x.encP v pad).1.length := by rw [LayerAndMask.encP_eq]
theorem written_is_length_image_data (i : ImageData) : i.encP.2 = i.encP.1.length := by rw [ImageData.encP_eq]

/-- `PSD.write` returns the size of the file, and the bytes are those of `PSD.enc` (the function the
round-trip and walker theorems speak about) -/
theorem written_is_length (pad : Nat) (d : PSD) (bs : B) (n : Nat) (h : PSD.encW pad d = .ok (bs, n)) :
    n = bs.length ∧ PSD.enc pad d = .ok bs := by
  rw [PSD.encW_eq] at h
  cases he : PSD.enc pad d with
  | error e => rw [he] at h; cases h
  | ok bs' =>
    rw [he] at h
    simp only [Except.map, Except.ok.injEq, Prod.mk.injEq] at h
    obtain ⟨rfl, rfl⟩ := h
    exact ⟨rfl, rfl⟩

/-! ### the walker -/

theorem walker_accepts (pad : Nat) (hp : pad = 1 ∨ pad = 2 ∨ pad = 4) (d : PSD) (hwf : d.WF pad)
    (hshape : SpecShaped d) (bs : B) (henc : PSD.enc pad d = .ok bs) :
    ∃ L, walk bs = .ok L ∧ L.stop = bs.length := by
  rw [PSD.enc_ok henc]
  obtain ⟨L, h, hstop, _⟩ := walk_encT_full hp hwf hshape
  exact ⟨L, h, hstop⟩

/-- non-vacuity: the C01 sample document (PSB, nested groups, masked layer, 8-byte-length keys) is
specification-shaped; below, what the walker returns on its bytes -/
theorem sample_spec_shaped : SpecShaped Samples.sampleDoc := by decide +kernel

example : (walk (Samples.sampleDoc.encT 4)).toOption.map (fun L => (L.stop, L.regions.length)) = some (828, 30) := by
  obtain ⟨L, h, hstop, hregions⟩ := walk_encT_full (Or.inr (Or.inr rfl)) C01.sample_wf sample_spec_shaped
  -- the size of the file is the count the writer reports, which the kernel gets without building the bytes
  have hsize : (Samples.sampleDoc.encT 4).length = 828 := by
    have hw : (Samples.sampleDoc.encP 4).2 = 828 := by decide +kernel
    rwa [PSD.encP_eq] at hw
  have hcount : (regionsOf (fileSpans 4 Samples.sampleDoc)).length = 30 := by decide +kernel
  rw [h, Except.toOption, Option.map, hstop, hregions, hsize, hcount]

/-- full strength fails (1): an odd-length raw tagged block inside a layer record is written
unpadded; the specification has the length "rounded up to an even byte count" -/
theorem walker_rejects_odd_block_in_record :
    PSD.WF 4 Samples.oddBlockInRecord ∧ ¬ SpecShaped Samples.oddBlockInRecord ∧
    ∃ bs, PSD.enc 4 Samples.oddBlockInRecord = .ok bs ∧ (walk bs).toOption = none := by
  -- one evaluation, so that the sample's encoding is computed once
  have h : PSD.WF 4 Samples.oddBlockInRecord ∧ (walk (Samples.oddBlockInRecord.encT 4)).toOption = none := by decide +kernel
  exact ⟨h.1, by decide +kernel, _, PSD.enc_of_wf h.1, h.2⟩

/-- full strength fails (2): in a PSB, psd-tools writes an 8-byte length for a key (`artd`) that is
neither in the specification's list nor evidenced by a Photoshop-written fixture -/
theorem walker_rejects_unconfirmed_key :
    PSD.WF 4 Samples.unconfirmedKeyPsb ∧ ¬ SpecShaped Samples.unconfirmedKeyPsb ∧
    ∃ bs, PSD.enc 4 Samples.unconfirmedKeyPsb = .ok bs ∧ (walk bs).toOption = none := by
  -- one evaluation, so that the sample's encoding is computed once
  have h : PSD.WF 4 Samples.unconfirmedKeyPsb ∧ (walk (Samples.unconfirmedKeyPsb.encT 4)).toOption = none := by decide +kernel
  exact ⟨h.1, by decide +kernel, _, PSD.enc_of_wf h.1, h.2⟩

/-! ### channel lengths -/

/-- after `write()` every layer record declares, for each of its channels, 2 + the size of the channel
data stored for it (`LayerInfo._update_channel_length`) — these are the values on disk (`psd_roundtrip`
reads back `d.refresh`) and the lengths the walker uses to step over the channel image data -/
theorem channel_lengths (rs : List LayerRecord) (css : List (List ChannelData)) (hs : shapesAgree rs css) :
    ((refreshRecords rs css).map (fun r => r.channelInfo.map ChannelInfo.length)).flatten =
      css.flatten.map (fun c => 2 + c.data.length) :=
  declared_lengths rs css hs

/-! ### the 8-byte-length keys of a PSB: code (regenerated) against specification -/

/-- every key the specification (and the Photoshop-written fixtures) give an 8-byte length is in `_BIG_KEYS` -/
theorem bigKeys_cover_spec : ∀ k ∈ Spec.psbEightByteKeys, k ∈ Generated.Codec.bigKeys := by decide +kernel

/-- `_BIG_KEYS` is exactly the specification's list plus the five recorded unconfirmed keys -/
theorem bigKeys_match_spec_partial :
    ∀ k, k ∈ Generated.Codec.bigKeys ↔ (k ∈ Spec.psbEightByteKeys ∨ k ∈ Spec.unconfirmedKeys) := by
  intro k
  constructor
  · intro h
    have : ∀ x ∈ Generated.Codec.bigKeys, x ∈ Spec.psbEightByteKeys ∨ x ∈ Spec.unconfirmedKeys := by decide +kernel
    exact this k h
  · intro h
    have h2 : ∀ x ∈ Spec.unconfirmedKeys, x ∈ Generated.Codec.bigKeys := by decide +kernel
    rcases h with h | h
    · exact bigKeys_cover_spec k h
    · exact h2 k h

/-- the full-strength statement `bigKeys ~ Spec.psbEightByteKeys` is false at this commit -/
theorem bigKeys_not_spec : ¬ (∀ k ∈ Generated.Codec.bigKeys, k ∈ Spec.psbEightByteKeys) := by decide +kernel

/-- the Adobe text alone (13 keys) does not describe Photoshop's own files: `cinf`, `lnkE`, `pths` are
stored with 8-byte lengths in fixtures — they are in `_BIG_KEYS` and in `observedKeys`, not in `adobeKeys` -/
theorem observed_not_in_adobe_text : ∀ k ∈ Spec.observedKeys, k ∉ Spec.adobeKeys ∧ k ∈ Generated.Codec.bigKeys := by
  decide +kernel

/-- signatures and compression codes the writer can emit are those the walker accepts -/
theorem tables_within_spec :
    Generated.Codec.headerSignature = Spec.headerSignature ∧
    (∀ s ∈ Generated.Codec.resourceSignatures, s ∈ Spec.resourceSignatures) ∧
    (∀ s ∈ Generated.Codec.blockSignatures, s ∈ Spec.blockSignatures) ∧
    (∀ s ∈ Generated.Codec.recordSignatures, s = Spec.layerSignature) ∧
    (∀ c ∈ Generated.Codec.compressions, c ≤ 3) ∧ (∀ c ∈ Generated.Codec.imageCompressions, c ≤ 3) ∧
    Generated.Codec.headerFormat = "4sH6xHIIHH" := by decide +kernel

end PsdVerif.C03
