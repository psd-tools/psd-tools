/-
C01 (typed documents) — a whole document whose image resources, document-level tagged blocks *and* per-layer tagged blocks
are objects of their registered classes survives write → read and re-writes identically; engine data inside C01.

Model/TypedEngine.lean   `Txt2` = `EngineData2` (C18's model) parsed at read time; `TypeToolObjectSetting.read` parses the
                         `EngineData` raw value of the text descriptor at read time, in place, and keeps the bytes when the
                         parser raises
Model/TypedBlocks.lean   `TaggedBlock.read` / `write` with the payload dispatch through the whole registry `tagged_blocks.TYPES`
                         (class-indexed payload `Pay`, recursive through `LayerInfoBlock`: levels)
Model/TypedDoc.lean      the document

Every class keeps the generic laws of its `PCodec` (`TClass.rt`, `TClass.count`: one line per class, nothing is
re-proved); a payload type enters the block / record / layer-info / document proofs only through the law of its kit
(`Kit.Law`); `kitN_law` gives the law at every nesting level. `x.refresh`: the object as the writer left it (`_update_channel_length`
of the main layer info and of every nested `LayerInfoBlock`). `n` is the number of `Lr16` / `Lr32` levels the reader has
below a block; the theorems hold for every `n`.
-/
import PsdVerif.Lemmas.TypedSampleFacts
import PsdVerif.Model.TypedTables
import PsdVerif.Props.C01Payload3

namespace PsdVerif.C01Typed
open PsdVerif PsdVerif.Codec PsdVerif.Psd PsdVerif.Payload PsdVerif.Payload.PCodec PsdVerif.Payload3 PsdVerif.Typed

/-! ## engine data inside C01 -/

/-- `Txt2`: the compact writer of `EngineData2`, then the parser on the whole length block (C18's `parse_write`) -/
theorem txt2_engine_data_roundtrip_at_end : RoundTripAtEnd EngineData2.codec := roundTripAtEnd_of EngineData2.rt
theorem txt2_engine_data_rewrite_identical : RewriteIdentical EngineData2.codec := rewriteIdentical_of EngineData2.rt
theorem txt2_engine_data_written_is_length : WrittenIsLength EngineData2.codec := writtenIsLength_of EngineData2.count
theorem tagged_block_txt2_engine_data : TaggedBlockPayload EngineData2.codec := taggedBlockPayload_of EngineData2.rt

/-- `TySh` with the engine data as the reader leaves it: a parsed `EngineData` object (written in the indented layout by
`RawData.write`) or the bytes the parser rejects -/
theorem type_tool_typed_roundtrip (tb : Descriptor.Tables) (pad : Nat) : RoundTrip (TypeToolTyped.codec tb pad) :=
  roundTrip_of (TypeToolTyped.rt tb pad)
theorem type_tool_typed_rewrite_identical (tb : Descriptor.Tables) (pad : Nat) : RewriteIdentical (TypeToolTyped.codec tb pad) :=
  rewriteIdentical_of (TypeToolTyped.rt tb pad).atEnd
theorem type_tool_typed_written_is_length (tb : Descriptor.Tables) (pad : Nat) : WrittenIsLength (TypeToolTyped.codec tb pad) :=
  writtenIsLength_of (TypeToolTyped.count tb pad)
theorem tagged_block_type_tool_typed (tb : Descriptor.Tables) (pad : Nat) :
    TaggedBlockPayload (TypeToolTyped.codec tb (innerPad pad)) := taggedBlockPayload_of (TypeToolTyped.rt tb _).atEnd

/-- the engine data of a type tool object, on demand: the raw item of the written text descriptor holds the indented
layout of the tree, parsing those bytes gives the tree, and writing what was parsed gives the same bytes again -/
theorem engine_data_of_type_tool_roundtrip (x : TypeToolTyped) (hs : TypeToolTyped.slotWF x) (t : Tree) (he : x.engine = some t) :
    (∃ tag, slotOf (TypeToolTyped.flat x).textData.items = some (.raw tag (EngineData.writeT .indented t))) ∧
      EngineData.parse (EngineData.writeT .indented t) = .ok t ∧
      ∀ t', EngineData.parse (EngineData.writeT .indented t) = .ok t' → EngineData.writeT .indented t' = EngineData.writeT .indented t := by
  obtain ⟨base, engine⟩ := x
  simp only at he
  subst he
  simp only [TypeToolTyped.slotWF] at hs
  obtain ⟨hslot, ht⟩ := hs
  have hp := parse_writeT .indented t ht
  refine ⟨?_, hp, ?_⟩
  · split at hslot
    · rename_i tag b h
      exact ⟨tag, by simp only [TypeToolTyped.flat, TypeToolTyped.withItems]; exact slotOf_setSlot_raw _ h⟩
    · exact absurd hslot id
  · intro t' h'
    rw [hp] at h'
    cases h'
    rfl

/-- the fallback of the engine-data step: bytes the parser rejects stay bytes (`except Exception`), the object is unchanged -/
theorem type_tool_engine_bytes_kept (x : TypeToolObjectSetting) (tag : Descriptor.RawTag) (b : B) (e : Err)
    (hs : slotOf x.textData.items = some (.raw tag b)) (hp : EngineData.parse b = .error e) :
    TypeToolTyped.engineStep x = ⟨x, none⟩ := by
  simp only [TypeToolTyped.engineStep, hs, hp]

/-! ## the typed tagged block (every key of `tagged_blocks.TYPES`) -/

/-- `TaggedBlock.read` *with* the payload dispatch returns the block with its typed payload - as the payload writer left
it - anywhere in a stream, at every nesting level -/
theorem typed_tagged_block_roundtrip (tb : Descriptor.Tables) (n ver pad : Nat) (hp : pad = 1 ∨ pad = 2 ∨ pad = 4)
    (t : Blk (PayN n)) (hwf : t.WF (kitN tb n) ver pad) (bs pre post : B) (henc : t.enc (kitN tb n) ver pad = .ok bs) :
    Blk.dec (kitN tb n) ver pad (pre ++ bs ++ post) pre.length = .ok (some (t.refresh (kitN tb n)), pre.length + bs.length) := by
  obtain ⟨_, rfl⟩ := Blk.enc_ok henc
  exact Blk.dec_at (kitN_law tb n) hp hwf (At.intro pre _ post)

theorem typed_tagged_block_rewrite_identical (tb : Descriptor.Tables) (n ver pad : Nat) (hp : pad = 1 ∨ pad = 2 ∨ pad = 4)
    (t : Blk (PayN n)) (hwf : t.WF (kitN tb n) ver pad) (bs : B) (henc : t.enc (kitN tb n) ver pad = .ok bs)
    (t' : Blk (PayN n)) (q : Nat) (hread : Blk.dec (kitN tb n) ver pad bs 0 = .ok (some t', q)) :
    t'.enc (kitN tb n) ver pad = .ok bs := by
  have h := typed_tagged_block_roundtrip tb n ver pad hp t hwf bs [] [] henc
  simp only [List.nil_append, List.append_nil, List.length_nil, Nat.zero_add] at h
  rw [h] at hread
  cases hread
  rw [Blk.enc_refresh (kitN_law tb n), henc]

theorem typed_tagged_block_written_is_length (tb : Descriptor.Tables) (n ver pad : Nat) (t : Blk (PayN n)) (bs : B)
    (henc : t.enc (kitN tb n) ver pad = .ok bs) : t.encP (kitN tb n) ver pad = (bs, bs.length) := by
  obtain ⟨_, rfl⟩ := Blk.enc_ok henc
  exact Blk.encP_eq (kitN_law tb n) ver pad t

/-- the bytes of a typed block are the bytes of its skeleton view, and the skeleton reader returns that view -/
theorem typed_tagged_block_is_skeleton_block (tb : Descriptor.Tables) (n ver pad : Nat) (hp : pad = 1 ∨ pad = 2 ∨ pad = 4)
    (t : Blk (PayN n)) (hwf : t.WF (kitN tb n) ver pad) (pre post : B) :
    Psd.TaggedBlock.dec ver pad (pre ++ t.encT (kitN tb n) ver pad ++ post) pre.length =
      .ok (some (t.flat (kitN tb n) ver pad), pre.length + (t.encT (kitN tb n) ver pad).length) :=
  Psd.TaggedBlock.dec_at hp hwf.1 (At.intro pre _ post)

/-- the fallback the code has: a key that is not registered keeps the bytes of the length block, whatever they are -/
theorem unregistered_key_stays_raw (tb : Descriptor.Tables) (n ver : Nat) (key data : B) (h : keyKind key = .unregistered) :
    (kitN tb n).dec ver key data = .ok (.raw data) := by
  simp only [kitN, payKit, Pay.dec, h]

/-- ... and there is no other: whatever the payload reader of a registered class raises leaves `TaggedBlock.read` -/
theorem payload_reader_error_propagates (tb : Descriptor.Tables) (n ver : Nat) (key data : B) (c : TClass) (e : Err)
    (h : keyKind key = .plain c) (he : (c.codec tb 1).dec data 0 = .error e) : (kitN tb n).dec ver key data = .error e := by
  simp only [kitN, payKit, Pay.dec, h, he]

/-! ## the typed layer record, the typed `Lr16` / `Lr32` payload -/

theorem typed_layer_record_roundtrip (tb : Descriptor.Tables) (n ver : Nat) (r : Rec (PayN n))
    (hwf : (r.flat (kitN tb n) ver).WF ver) (hty : r.Typed (kitN tb n) ver) (pre post : B) :
    Rec.dec (kitN tb n) ver (pre ++ (r.flat (kitN tb n) ver).encT ver ++ post) pre.length =
      .ok (r.refresh (kitN tb n), pre.length + ((r.flat (kitN tb n) ver).encT ver).length) :=
  (Rec.dec_step (kitN_law tb n) hwf hty (At.intro_rest pre _ post)).1

/-- `LayerInfoBlock.read` on what `LayerInfoBlock.write` wrote, with the blocks of the nested records typed -/
theorem typed_layer_info_block_roundtrip (tb : Descriptor.Tables) (n ver pad : Nat) (li : Info (PayN n))
    (hwf : LayerInfoBlock.WF ver (li.flat (kitN tb n) ver)) (hty : li.Typed (kitN tb n) ver)
    (hf : LayerInfoBlock.Fits ver (li.flat (kitN tb n) ver)) (pre post : B) :
    Info.bodyDec (kitN tb n) ver (pre ++ LayerInfoBlock.encT ver pad (li.flat (kitN tb n) ver) ++ post) pre.length =
      .ok (li.blockRefresh (kitN tb n), pre.length + LayerInfoBlock.bodyLen ver (li.flat (kitN tb n) ver)) :=
  Info.bodyDec_at (kitN_law tb n) hwf hty hf (At.intro pre _ post)

/-! ## the whole document -/

/-- **the typed document**: reading what `PSD.write` emitted returns the document - every image resource, every
document-level block and every block of every layer record (adjustments, vector data, filter effects, effects, patterns,
linked layers, descriptors, type tool with its engine data, `Lr16` / `Lr32` with nested records and their own typed blocks)
as an object of its registered class - as the writer left it; PSD and PSB, any layer-info padding -/
theorem psd_roundtrip_typed (tb : Descriptor.Tables) (n pad : Nat) (x : TPSDN n) (hwf : x.WF tb (kitBelow tb n) pad) (bs : B)
    (henc : TPSD.enc tb (kitBelow tb n) pad x = .ok bs) :
    TPSD.read tb (kitBelow tb n) bs 0 = .ok (x.refresh tb (kitBelow tb n), bs.length) := by
  rw [TPSD.enc_ok tb henc]
  exact TPSD.read_encT tb (kitBelow_law tb n) hwf

theorem psd_roundtrip_typed_fresh (tb : Descriptor.Tables) (n pad : Nat) (x : TPSDN n) (hwf : x.WF tb (kitBelow tb n) pad)
    (hfresh : x.refresh tb (kitBelow tb n) = x) (bs : B) (henc : TPSD.enc tb (kitBelow tb n) pad x = .ok bs) :
    TPSD.read tb (kitBelow tb n) bs 0 = .ok (x, bs.length) := by
  have := psd_roundtrip_typed tb n pad x hwf bs henc
  rwa [hfresh] at this

theorem psd_rewrite_identical_typed (tb : Descriptor.Tables) (n pad : Nat) (x : TPSDN n) (hwf : x.WF tb (kitBelow tb n) pad)
    (bs : B) (henc : TPSD.enc tb (kitBelow tb n) pad x = .ok bs) (x' : TPSDN n) (q : Nat)
    (hread : TPSD.read tb (kitBelow tb n) bs 0 = .ok (x', q)) : TPSD.enc tb (kitBelow tb n) pad x' = .ok bs := by
  rw [psd_roundtrip_typed tb n pad x hwf bs henc] at hread
  cases hread
  rw [TPSD.enc_refresh tb (kitBelow_law tb n), henc]

/-- the typed theorem extends `psd_roundtrip_resources`: same bytes, and the reader with typed resources and
`LayerInfoBlock`-typed document-level blocks returns the view of the typed document in which every other payload is the
bytes it writes - which is also the view of what the typed reader returns -/
theorem typed_refines_resources (tb : Descriptor.Tables) (n pad : Nat) (x : TPSDN n) (hwf : x.WF tb (kitBelow tb n) pad) (bs : B)
    (henc : TPSD.enc tb (kitBelow tb n) pad x = .ok bs) :
    ResPSD.enc tb pad (x.flatR tb (kitBelow tb n)) = .ok bs ∧
      ResPSD.read tb bs 0 = .ok ((x.flatR tb (kitBelow tb n)).refresh, bs.length) ∧
      (x.refresh tb (kitBelow tb n)).flatR tb (kitBelow tb n) = (x.flatR tb (kitBelow tb n)).refresh := by
  have h1 := TPSD.enc_below tb henc
  exact ⟨h1, C01Payload3.psd_roundtrip_resources tb pad _ hwf.1 bs h1, TPSD.flatR_refresh tb (kitBelow_law tb n) x⟩

/-- ... and, through `resources_refine_deep` / `deep_refines_skeleton`, the skeleton theorem `C01.psd_roundtrip` -/
theorem typed_refines_skeleton (tb : Descriptor.Tables) (n pad : Nat) (x : TPSDN n) (hwf : x.WF tb (kitBelow tb n) pad) (bs : B)
    (henc : TPSD.enc tb (kitBelow tb n) pad x = .ok bs) :
    PSD.enc pad (x.flat tb (kitBelow tb n)) = .ok bs ∧ PSD.read bs 0 = .ok ((x.flat tb (kitBelow tb n)).refresh, bs.length) := by
  have h1 := (typed_refines_resources tb n pad x hwf bs henc).1
  have h2 := (C01Payload3.resources_refine_deep tb pad _ hwf.1 bs h1).1
  have h3 := C01Payload.deep_refines_skeleton pad _ hwf.1.1 bs h2
  rw [TPSD.flat_flatR] at h3
  rw [DeepPSD.flat_refresh, TPSD.flat_flatR] at h3
  exact h3

theorem psd_enc_rejects_typed (tb : Descriptor.Tables) (n pad : Nat) (x : TPSDN n) (e : Err)
    (h : TPSD.enc tb (kitBelow tb n) pad x = .error e) : e = .structError ∨ e = .indexError := by
  unfold TPSD.enc at h
  split at h
  · rename_i e' he
    cases h
    unfold ResPSD.enc at he
    split at he
    · exact C01Payload.psd_enc_rejects_deep pad _ e he
    · cases he; exact Or.inl rfl
  · split at h
    · cases h
    · cases h; exact Or.inl rfl

/-! ## non-vacuity -/

theorem typed_sample_wf :
    TPSD.WF Typed.Samples.rtb (kitBelow Typed.Samples.rtb 1) 4 Typed.Samples.doc ∧
    TPSD.payloadFits Typed.Samples.rtb (kitBelow Typed.Samples.rtb 1) Typed.Samples.doc ∧
    ResPSD.payloadFits Typed.Samples.rtb (Typed.Samples.doc.flatR Typed.Samples.rtb (kitBelow Typed.Samples.rtb 1)) ∧
    ((Typed.Samples.doc.flatR Typed.Samples.rtb (kitBelow Typed.Samples.rtb 1)).flat Typed.Samples.rtb).flat.writeError 4 = none ∧
    DeepPSD.payloadFits ((Typed.Samples.doc.flatR Typed.Samples.rtb (kitBelow Typed.Samples.rtb 1)).flat Typed.Samples.rtb) := by
  decide +kernel

example : ∃ bs, TPSD.enc Typed.Samples.rtb (kitBelow Typed.Samples.rtb 1) 4 Typed.Samples.doc = .ok bs ∧
    TPSD.read Typed.Samples.rtb (kitBelow Typed.Samples.rtb 1) bs 0 =
      .ok (Typed.Samples.doc.refresh Typed.Samples.rtb (kitBelow Typed.Samples.rtb 1), bs.length) := by
  obtain ⟨hwf, h0, h1, h2, h3⟩ := typed_sample_wf
  have henc := TPSD.enc_eq Typed.Samples.rtb h0 h1 h2 h3
  exact ⟨_, henc, psd_roundtrip_typed Typed.Samples.rtb 1 4 _ hwf _ henc⟩

theorem engine_samples_wf :
    (TypeToolTyped.codec Typed.Samples.rtb 4).WF Typed.Samples.typeTool ∧ (TypeToolTyped.codec Typed.Samples.rtb 4).Fits Typed.Samples.typeTool ∧
    (TypeToolTyped.codec Typed.Samples.rtb 4).WF Typed.Samples.typeToolBytes ∧ (TypeToolTyped.codec Typed.Samples.rtb 4).Fits Typed.Samples.typeToolBytes ∧
    EngineData2.codec.WF Typed.Samples.tree ∧ EngineData2.codec.Fits Typed.Samples.tree := Typed.Samples.typeTool_facts.1

/-! ### points excluded by `WF` (iii): the key decides the class -/

/-- bytes under the engine-data key that parse are read as an `EngineData` object (and written back in the indented
layout): such a `TySh` is not what the reader leaves -/
theorem type_tool_engine_bytes_follow_the_key :
    ¬ (TypeToolTyped.codec Typed.Samples.rtb 4).WF Typed.Samples.typeToolParsable ∧
      ((TypeToolTyped.codec Typed.Samples.rtb 4).dec ((TypeToolTyped.codec Typed.Samples.rtb 4).encT Typed.Samples.typeToolParsable) 0).map
        (fun r => r.1.engine.isSome) = .ok true := by
  obtain ⟨_, hs, hw, hf⟩ := Typed.Samples.typeTool_facts
  refine ⟨fun h => hs h.2, ?_⟩
  -- the reader returns the engine-data step on the bytes view (`TypeToolTyped.dec_at`): only that step is evaluated
  rw [TypeToolTyped.dec_at _ 4 hw hf (At.self _)]
  decide +kernel

/-- raw bytes under a registered key are parsed as the class of the key; a payload of another class under a key is read
as the class of the key (here: `IntegerElement` under `lsct` is a section divider of kind 7: `ValueError`) -/
theorem block_payload_follows_the_key :
    ¬ Typed.Samples.rawUnderRegisteredKey.WF (kitN Typed.Samples.rtb 0) 1 1 ∧ ¬ Typed.Samples.classUnderOtherKey.WF (kitN Typed.Samples.rtb 0) 1 1 ∧
      (Blk.dec (kitN Typed.Samples.rtb 0) 1 1 (Typed.Samples.rawUnderRegisteredKey.encT (kitN Typed.Samples.rtb 0) 1 1) 0).map
        (fun r => r.1.map (fun t => match t.data with | .cls .integerElement v => some (v : Nat) | _ => none)) = .ok (some (some (1 : Nat))) ∧
      Descriptor.errorOf (Blk.dec (kitN Typed.Samples.rtb 0) 1 1 (Typed.Samples.classUnderOtherKey.encT (kitN Typed.Samples.rtb 0) 1 1) 0) =
        some .valueError := by decide +kernel

/-- the reader with no level left below a block raises `RecursionError` on an `Lr16` whose records hold blocks; with one
level it reads it -/
theorem nesting_beyond_the_levels :
    Descriptor.errorOf (Blk.dec (kitN Typed.Samples.rtb 0) 2 4
      (Blk.encT (kitN Typed.Samples.rtb 1) 2 4 ⟨Psd.Samples.s8BIM, Payload.Samples.kLr16, .info Typed.Samples.smallNested⟩) 0) = some .recursionError ∧
    (Blk.dec (kitN Typed.Samples.rtb 1) 2 4
      (Blk.encT (kitN Typed.Samples.rtb 1) 2 4 ⟨Psd.Samples.s8BIM, Payload.Samples.kLr16, .info Typed.Samples.smallNested⟩) 0).toBool = true := by
  decide +kernel

/-! ## ties -/

/-- every key of `tagged_blocks.TYPES` is dispatched to the class registered for it, every registered class is in the model,
the `LayerInfoBlock` keys are those of the deep document, an unknown key is not registered -/
theorem key_kind_tied :
    Generated.TypedDoc.taggedRegistry.all (fun r => match keyKind r.1 with
      | .plain c => c.name == r.2
      | .layerInfo => r.2 == "LayerInfoBlock"
      | _ => false) = true ∧
    layerInfoKeys.all (fun key => Generated.TypedDoc.taggedRegistry.lookup key == some "LayerInfoBlock") = true ∧
    keyKind Typed.Samples.kZzzz = .unregistered := by decide +kernel

theorem tagged_registry_tied : Generated.TypedDoc.taggedRegistry = Tables.taggedRegistry := rfl

/-- the payload read is `kls.frombytes(raw_data, version=version)` for a registered key and `raw_data` otherwise, and it is
not inside a `try` -/
theorem tagged_block_dispatch_tied :
    Generated.TypedDoc.taggedBlockDispatch = Tables.taggedBlockDispatch ∧
      Generated.TypedDoc.taggedBlockExcepts = Tables.taggedBlockExcepts := ⟨rfl, rfl⟩

/-- the engine-data step of `TypeToolObjectSetting.read` (key, parse of a `bytes` value in place, `except Exception`),
`RawData.write` (the value's own `write` when it has one), the default layouts of `Dict.write` / `EngineData2.write` -/
theorem engine_data_tied :
    Generated.TypedDoc.typeToolEngine = Tables.typeToolEngine ∧ Generated.TypedDoc.engineDataKey = Tables.engineDataKey ∧
      Generated.TypedDoc.rawDataWriter = Tables.rawDataWriter ∧
      Generated.TypedDoc.engineDataLayouts = Tables.engineDataLayouts := ⟨rfl, rfl, rfl, rfl⟩

end PsdVerif.C01Typed
