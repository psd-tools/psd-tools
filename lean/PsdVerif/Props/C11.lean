/-
C11 — compositing agrees with the published compositing model.
The code model (`Model/Composite.lean`, one `_apply_source` step and the recursion over
layers, groups, masks and clip runs) against the Porter–Duff / PDF 1.7 §11.3–11.4 formulas,
in premultiplied form, for every rational input in range; and, for whole layer trees, against the
published model written independently as a denotation of the tree (`Model/CompositeSpec.lean`), whose group-alpha
rule after a knockout element is a parameter (`KoRule`).
-/
import PsdVerif.Lemmas.CompositeEval
import PsdVerif.Lemmas.CompositeSpecKnockout
import PsdVerif.Lemmas.CompositeSpecEval

namespace PsdVerif.C11
open PsdVerif.Composite

/-- **Basic compositing formula** (PDF 1.7 §11.3.6, with shape and opacity kept apart as in
§11.4.5): after one non-knockout `_apply_source` step with source colour `Cs`, shape `fs`,
alpha `αs` and blend function `B`,
`α' = Union(α, αs)` and `α'·C' = (1−αs)·α·C + αs·((1−α)·Cs + α·B(C, Cs))`.
The code's `_divide`/`_clip` never alter this (the quotient is always in `[0,1]`; where
`α' = 0` both sides are 0). -/
theorem apply_source_eq_pdf {bl : Color → Color → Color} {st : PState} {Cs : Color} {fs αs : Rat}
    (h : Inv st) (hs : SrcOk Cs fs αs) (hb : BlendOk bl) :
    let r := applySource bl st Cs fs αs false
    r.a = union st.a αs ∧ r.sg = union st.sg fs ∧ r.ag = union st.ag αs ∧
    ∀ ch, r.c ch * r.a = (1 - αs) * st.a * st.c ch + αs * ((1 - st.a) * Cs ch + st.a * bl st.c Cs ch) := by
  intro r
  exact ⟨applySource_a bl st Cs fs αs h, rfl, by simp [r], fun ch =>
    (applySource_mul h hs hb false ch).trans (by simp only [stepNum, backdrop, Bool.false_eq_true, if_false]; ring)⟩

/-- **Porter–Duff "over"**: with the normal blend function, `α'·C' = αs·Cs + (1−αs)·α·C`. -/
theorem normal_is_source_over {st : PState} {Cs : Color} {fs αs : Rat} (h : Inv st) (hs : SrcOk Cs fs αs) (ch : Nat) :
    (applySource blNormal st Cs fs αs false).c ch * (applySource blNormal st Cs fs αs false).a
      = αs * Cs ch + (1 - αs) * (st.a * st.c ch) := by
  have hb : BlendOk blNormal := fun _ cs _ hcs => hcs
  rw [applySource_mul h hs hb false ch]
  simp only [stepNum, backdrop, blNormal, Bool.false_eq_true, if_false]
  ring

/-- a stack of plain sources with normal blending, folded the Porter–Duff way on premultiplied colour -/
def overFold (p : Rat) : List (Rat × Rat) → Rat
  | [] => p
  | (cs, αs) :: rest => overFold (αs * cs + (1 - αs) * p) rest

def alphaFold (a : Rat) : List (Rat × Rat) → Rat
  | [] => a
  | (_, αs) :: rest => alphaFold (union a αs) rest

/-- **A flat stack is the Porter–Duff fold.** Compositing sources `(Cs, αs)` (shape = alpha) with
normal blending one after the other gives premultiplied colour `overFold` and alpha `alphaFold`
of the per-channel values, whatever the stack length. -/
theorem flat_stack_is_porter_duff (ch : Nat) (srcs : List (Color × Rat)) (st : PState) (h : Inv st)
    (hs : ∀ s ∈ srcs, SrcOk s.1 s.2 s.2) :
    let r := srcs.foldl (fun st s => applySource blNormal st s.1 s.2 s.2 false) st
    r.c ch * r.a = overFold (st.c ch * st.a) (srcs.map fun s => (s.1 ch, s.2)) ∧
    r.a = alphaFold st.a (srcs.map fun s => (s.1 ch, s.2)) := by
  induction srcs generalizing st with
  | nil => exact ⟨rfl, rfl⟩
  | cons s rest ih =>
    have hs1 := hs s (List.mem_cons_self ..)
    have hinv := applySource_inv (bl := blNormal) h hs1 false
    have := ih (applySource blNormal st s.1 s.2 s.2 false) hinv (fun t ht => hs t (List.mem_cons_of_mem _ ht))
    simp only [List.foldl_cons, List.map_cons, overFold, alphaFold]
    rw [normal_is_source_over h hs1 ch, applySource_a _ _ _ _ _ h] at this
    have e : s.2 * s.1 ch + (1 - s.2) * (st.c ch * st.a) = s.2 * s.1 ch + (1 - s.2) * (st.a * st.c ch) := by ring
    rw [e]
    exact this

/-- **Knockout step** in premultiplied form: the source replaces what the group painted so far and is
composited with the group's *initial* backdrop `(C₀, α₀)`:
`α'·C' = (1−fs)·α·C + (fs−αs)·α₀·C₀ + αs·((1−α₀)·Cs + α₀·B(C₀, Cs))`. -/
theorem apply_source_knockout_eq_pdf {bl : Color → Color → Color} {st : PState} {Cs : Color} {fs αs : Rat}
    (h : Inv st) (hs : SrcOk Cs fs αs) (hb : BlendOk bl) (ch : Nat) :
    let r := applySource bl st Cs fs αs true
    r.c ch * r.a = (1 - fs) * st.a * st.c ch + (fs - αs) * st.a0 * st.c0 ch
      + αs * ((1 - st.a0) * Cs ch + st.a0 * bl st.c0 Cs ch) := by
  intro r
  exact (applySource_mul h hs hb true ch).trans (by simp only [stepNum, backdrop, if_true]; ring)

/-- **State in range**: through the whole recursion (groups, masks, clip runs, knockout) colours,
shapes and alphas stay in `[0,1]`, `alpha = Union(alpha₀, alpha_g)` and `alpha_g ≤ shape_g`. -/
theorem state_in_range (B : Mode → Color → Color → Color) (V : Rect) (x y : Int) (cc : Bool) (st : PState)
    (hst : Inv st) (n : Node) (hn : nodeOk n) : Inv (applyNode B V x y cc st n) :=
  applyNode_inv B V x y cc st hst n hn

/-- the hypotheses are satisfiable -/
example : Inv (PState.init white 0 false) := inv_init white_ok unit01_zero false

/-- **The evaluator is the model.** The driver command `comp.pixel`, which the correspondence check runs
against the real compositor, evaluates `compositeDocF` (colours tabulated after every step, so that a stack
of `n` sources costs `O(n)` instead of `3^n` rational operations); it returns exactly what `compositeDoc`
returns, for every number `k` of tabulated channels. -/
theorem evaluator_is_model (k : Nat) (B : Mode → Color → Color → Color) (V : Rect) (x y : Int) (color : Color)
    (alpha : Rat) (layers : List Node) :
    compositeDocF k B V x y color alpha layers = compositeDoc B V x y color alpha layers :=
  compositeDocF_eq k B V x y color alpha layers

/-- **The backdrop removal of `Compositor.color` never clips.** For every state reached from the start of a
group through any list of layers (leaves, masks, nested isolated / pass-through groups, clip runs, knockout
elements) `0 ≤ α·C − (1−αg)·α₀·C₀ ≤ αg` in every channel, hence the value `finish` returns satisfies
`colour × αg = α·C − (1−αg)·α₀·C₀`: PDF 1.7 §11.4.8 `C = Cn + (Cn − C0)·(α0/αgn − α0)` times `αgn`, with
`_clip` and the `0/0 → 1` fallback inactive. -/
theorem group_result_unclipped {B : Mode → Color → Color → Color} (hB : BOk B) (V : Rect) (x y : Int)
    {color : Color} {alpha : Rat} (hc : ColorOk color) (ha : Unit01 alpha) (iso : Bool) (layers : List Node)
    (hl : listOk layers) :
    let st := applyList B V x y (PState.init color alpha iso) layers
    ∀ ch, (0 ≤ st.c ch * st.a - (1 - st.ag) * st.a0 * st.c0 ch ∧ st.c ch * st.a - (1 - st.ag) * st.a0 * st.c0 ch ≤ st.ag) ∧
      finishColor st ch * st.ag = st.c ch * st.a - (1 - st.ag) * st.a0 * st.c0 ch := by
  intro st ch
  have i0 := inv_init hc ha iso
  have hinv := applyList_inv B V x y _ i0 layers hl
  have hx := applyList_xinv hB V x y _ i0 (xinv_init color alpha iso) layers hl
  exact ⟨hx ch, finishColor_mul hinv hx ch⟩

/-- the hypotheses are satisfiable -/
example : BOk (fun _ => blNormal) := fun _ _ _ _ hcs => hcs
/-- the hypotheses are satisfiable -/
example : listOk [] := trivial

/-- **One element**: an `_apply_source` step of the code is one step of the published recurrences
(`specSource`: §11.4.5 in premultiplied form) — for a knockout element with the group-alpha rule as coded. -/
theorem apply_source_refines_spec {bl : Color → Color → Color} {st : PState} {σ : SState} {Cs Ps : Color}
    {fs αs : Rat} (h : Inv st) (hr : Rel st σ) (hs : SrcOk Cs fs αs) (hb : BlendOk bl)
    (hP : ∀ ch, Ps ch = Cs ch * αs) (k : KoRule) (knockout : Bool) (hk : knockout = true → k = .pdf17) :
    Rel (applySource bl st Cs fs αs knockout) (specSource k bl σ Ps fs αs knockout) := by
  cases knockout
  · rw [specSource_rule_irrelevant k .pdf17]; exact applySource_rel h hr hs hb hP false
  · rw [hk rfl]; exact applySource_rel h hr hs hb hP true

/-- the hypotheses are satisfiable: the start of any group, isolated or not -/
example (color : Color) (alpha : Rat) (hc : ColorOk color) (ha : Unit01 alpha) (iso : Bool) :
    Inv (PState.init color alpha iso) ∧ Rel (PState.init color alpha iso) (SState.init (fun ch => color ch * alpha) alpha iso) :=
  ⟨inv_init hc ha iso, rel_init iso (fun _ => rfl)⟩

/-! The group alpha after a knockout element is a parameter of the published model (`KoRule`, header of
`Model/CompositeSpec.lean`): `pdf17` is what the code computes, `alphaCoherent` the variant for which alpha is the sum
of the colour weights. The code model refines `specNode .pdf17` on every tree (`compositor_refines_spec`) and
`specNode k` for either `k` on trees without knockout flags (`compositor_refines_spec_partial`); on a knockout layer
the two rules differ (`knockout_rules_differ`), by `knockout_alpha_excess` per step. -/

/-- **The two rules differ on a knockout layer**: document backdrop white with alpha 1/2 (what a pass-through
group over a half-transparent white layer hands to its children), one white, fully covering layer with the
knockout flag and opacity 1/2, normal blending. With `KoRule.alphaCoherent`: alpha 1/2 and premultiplied colour 1/2,
i.e. white. Code model (and `KoRule.pdf17`): alpha 3/4 and colour 5/6 — white over white is grey. (All hypotheses of the refinement
theorems hold for this input.) -/
theorem knockout_rules_differ :
    BOk allNormal ∧ ColorOk white ∧ Unit01 (1/2 : Rat) ∧ listOk [koWhiteLayer] ∧
    (compositeDoc allNormal unitRect 0 0 white (1/2) [koWhiteLayer]).2.2 = 3/4 ∧
    (specDoc .alphaCoherent allNormal unitRect 0 0 (fun ch => 1/2 * white ch) (1/2) [koWhiteLayer]).2.2 = 1/2 ∧
    (compositeDoc allNormal unitRect 0 0 white (1/2) [koWhiteLayer]).1 0 = 5/6 ∧
    (specDoc .alphaCoherent allNormal unitRect 0 0 (fun ch => 1/2 * white ch) (1/2) [koWhiteLayer]).1 0 = 1/2 :=
  ⟨allNormal_ok, white_ok, ⟨by norm_num, by norm_num⟩, koWhiteLayer_ok, by decide +kernel, by decide +kernel,
    by decide +kernel, by decide +kernel⟩

/-- **By how much.** After a knockout `_apply_source` step the code's alpha is the `alphaCoherent` alpha
`Union(α₀, (1−fs)·αg + αs)` plus `(1−α₀)·(fs−αs)·α₀`; the `alphaCoherent` alpha is exactly the sum of the weights of the
colour recurrence `(1−fs)·α + (fs−αs)·α₀ + αs` (which is why white stays white there). The excess vanishes iff
`α₀ = 0`, `α₀ = 1` or `fs = αs`. -/
theorem knockout_alpha_excess (bl : Color → Color → Color) {st : PState} (h : Inv st) (Cs : Color) (fs αs : Rat) :
    (applySource bl st Cs fs αs true).a
      = union st.a0 (KoRule.alphaCoherent.alpha fs αs st.ag st.a0) + (1 - st.a0) * (fs - αs) * st.a0 ∧
    union st.a0 (KoRule.alphaCoherent.alpha fs αs st.ag st.a0) = (1 - fs) * st.a + (fs - αs) * st.a0 + αs :=
  Composite.knockout_alpha_excess bl h Cs fs αs

/-- **`compositor_refines_spec`, trees without knockout flags** — one layer with everything below it, against the
published model with either knockout rule. From related states (`Rel`: equal shape `fg`, group alpha `αg`, alpha `α`, backdrop alpha `α0`;
spec's premultiplied colours `P = C·α`, `P0 = C0·α0`) the code model `applyNode` and the published model
`specNode` reach related states. Covers pixel layers, raster masks with density and background, opacity and
fill opacity, nested isolated and pass-through groups with backdrop removal, clip runs (clipping groups), the
four early exits and the viewport/bbox bookkeeping. The code's `_divide` fallback and both `_clip`s are thereby
shown inert: the code computes exactly the published polynomial recurrences. Knockout elements:
`compositor_refines_spec`. -/
theorem compositor_refines_spec_partial {B : Mode → Color → Color → Color} (hB : BOk B) (V : Rect) (x y : Int)
    (clipCompositing : Bool) (st : PState) (σ : SState) (hst : Inv st) (hr : Rel st σ) (n : Node) (hn : nodeOk n)
    (hko : nodeNoKo n) (k : KoRule) :
    Rel (applyNode B V x y clipCompositing st n) (specNode k B V x y clipCompositing σ n) := by
  rw [specNode_rule_irrelevant k .pdf17 B V x y clipCompositing σ n hko]
  exact applyNode_rel hB V x y clipCompositing st σ hst hr n hn

/-- the hypotheses are satisfiable -/
example : nodeNoKo (.group { visible := true, bbox := unitRect, opacity := 1, fill := 1, hasMask := false,
                             maskBBox := Rect.zero, maskValue := 1, maskBackground := 0, maskDensity := 1, mode := 0,
                             knockout := false, clipping := false, hasClipTarget := false } true [] []) :=
  ⟨rfl, trivial, trivial⟩

/-- … a stack of layers (the loop of `composite`) -/
theorem compositor_refines_spec_partial_list {B : Mode → Color → Color → Color} (hB : BOk B) (V : Rect) (x y : Int)
    (st : PState) (σ : SState) (hst : Inv st) (hr : Rel st σ) (ns : List Node) (hn : listOk ns)
    (hko : listNoKo ns) (k : KoRule) :
    Rel (applyList B V x y st ns) (specList k B V x y σ ns) := by
  rw [specList_rule_irrelevant k .pdf17 B V x y σ ns hko]
  exact applyList_rel hB V x y st σ hst hr ns hn

/-- … a clip run (the loop of `_apply_clip_layers`) -/
theorem compositor_refines_spec_partial_clip_run {B : Mode → Color → Color → Color} (hB : BOk B) (V : Rect) (x y : Int)
    (st : PState) (σ : SState) (hst : Inv st) (hr : Rel st σ) (ns : List Node) (hn : listOk ns)
    (hko : listNoKo ns) (k : KoRule) :
    Rel (applyClips B V x y st ns) (specClips k B V x y σ ns) := by
  rw [specClips_rule_irrelevant k .pdf17 B V x y σ ns hko]
  exact applyClips_rel hB V x y st σ hst hr ns hn

/-- **Whole documents without knockout flags**: `composite(psd, color, alpha)` at a pixel returns the published
model's shape and alpha, and `colour × alpha = ` the published premultiplied group colour — so the colour is the
published one wherever the result alpha is not zero (under zero alpha the published model defines no colour). -/
theorem compositor_refines_spec_partial_doc {B : Mode → Color → Color → Color} (hB : BOk B) (V : Rect) (x y : Int)
    {color : Color} {alpha : Rat} (hc : ColorOk color) (ha : Unit01 alpha) (layers : List Node) (hl : listOk layers)
    (hko : listNoKo layers) (k : KoRule) :
    let code := compositeDoc B V x y color alpha layers
    let spec := specDoc k B V x y (fun ch => alpha * color ch) alpha layers
    code.2.1 = spec.2.1 ∧ code.2.2 = spec.2.2 ∧ (∀ ch, code.1 ch * code.2.2 = spec.1 ch) ∧
      (code.2.2 ≠ 0 → ∀ ch, code.1 ch = spec.1 ch / spec.2.2) := by
  intro code spec
  have hs : spec = specDoc .pdf17 B V x y (fun ch => alpha * color ch) alpha layers :=
    specDoc_rule_irrelevant k .pdf17 B V x y _ alpha layers hko
  obtain ⟨h1, h2, h3⟩ := compositeDoc_rel hB V x y hc ha layers hl
  rw [← hs] at h1 h2 h3
  exact ⟨h1, h2, h3, colour_of_premul h2 h3⟩

/-- the hypotheses are satisfiable -/
example : ColorOk white ∧ Unit01 (0 : Rat) ∧ listNoKo [] := ⟨white_ok, unit01_zero, trivial⟩

/-- **Every tree, knockout included**: the code model refines the published model with `KoRule.pdf17`, the group
alpha of a knockout element being `αg_i = (1−fs)·αg_{i-1} + (fs−αs)·α0 + αs`. Everything else about knockout (the
element sees the group's initial backdrop, `(fs−αs)·α0·C0` shows through, knockout groups start from the initial
backdrop) does not depend on the rule. -/
theorem compositor_refines_spec {B : Mode → Color → Color → Color} (hB : BOk B) (V : Rect) (x y : Int)
    (clipCompositing : Bool) (st : PState) (σ : SState) (hst : Inv st) (hr : Rel st σ) (n : Node) (hn : nodeOk n) :
    Rel (applyNode B V x y clipCompositing st n) (specNode .pdf17 B V x y clipCompositing σ n) :=
  applyNode_rel hB V x y clipCompositing st σ hst hr n hn

theorem compositor_refines_spec_list {B : Mode → Color → Color → Color} (hB : BOk B) (V : Rect) (x y : Int)
    (st : PState) (σ : SState) (hst : Inv st) (hr : Rel st σ) (ns : List Node) (hn : listOk ns) :
    Rel (applyList B V x y st ns) (specList .pdf17 B V x y σ ns) :=
  applyList_rel hB V x y st σ hst hr ns hn

theorem compositor_refines_spec_clip_run {B : Mode → Color → Color → Color} (hB : BOk B) (V : Rect) (x y : Int)
    (st : PState) (σ : SState) (hst : Inv st) (hr : Rel st σ) (ns : List Node) (hn : listOk ns) :
    Rel (applyClips B V x y st ns) (specClips .pdf17 B V x y σ ns) :=
  applyClips_rel hB V x y st σ hst hr ns hn

theorem compositor_refines_spec_doc {B : Mode → Color → Color → Color} (hB : BOk B) (V : Rect) (x y : Int)
    {color : Color} {alpha : Rat} (hc : ColorOk color) (ha : Unit01 alpha) (layers : List Node) (hl : listOk layers) :
    let code := compositeDoc B V x y color alpha layers
    let spec := specDoc .pdf17 B V x y (fun ch => alpha * color ch) alpha layers
    code.2.1 = spec.2.1 ∧ code.2.2 = spec.2.2 ∧ (∀ ch, code.1 ch * code.2.2 = spec.1 ch) ∧
      (code.2.2 ≠ 0 → ∀ ch, code.1 ch = spec.1 ch / spec.2.2) := by
  intro code spec
  obtain ⟨h1, h2, h3⟩ := compositeDoc_rel hB V x y hc ha layers hl
  exact ⟨h1, h2, h3, colour_of_premul h2 h3⟩

/-- the hypotheses are satisfiable -/
example : listOk [koWhiteLayer] := koWhiteLayer_ok

/-- **The spec's evaluator is the spec.** The driver commands `comp.spec` (`KoRule.pdf17`) and `comp.spec.alt`
(`KoRule.alphaCoherent`), which every run compares with `comp.pixel` on the correspondence cases, evaluate `specDocF`
(colours tabulated after every step); it returns exactly what `specDoc` returns. -/
theorem spec_evaluator_is_spec (r : KoRule) (k : Nat) (B : Mode → Color → Color → Color) (V : Rect) (x y : Int)
    (P : Color) (alpha : Rat) (layers : List Node) :
    specDocF r k B V x y P alpha layers = specDoc r B V x y P alpha layers :=
  specDocF_eq r k B V x y P alpha layers

end PsdVerif.C11
