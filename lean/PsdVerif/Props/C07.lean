/-
C07 — imported pixels come back unchanged (band / plane / inversion bookkeeping).
Property theorems only; helper lemmas live in `Lemmas/Pixels.lean`.

Pixel content is universally quantified (`α`: 8-bit samples, `σ`: stored samples);
PIL's `convert`, `ImageChops.invert`, the depth encoding and the matte removal are
parameters with their laws as hypotheses (`Pil.Lawful`; `Px.LawfulAt d`: the sample laws at the depth
of the document, which `Px.Lawful` gives for every depth). `Props/C07Samples.lean` discharges both
for the arithmetic the code performs.
-/
import PsdVerif.Lemmas.Pixels
import PsdVerif.Generated.Pixels

namespace PsdVerif.C07
open PsdVerif PsdVerif.Pixels

/-! ### the tables of the source are the model's (regenerated on every run) -/

theorem tables_tied :
    Generated.Pixels.expectedChannels = CMode.all.map (fun c => (c.name, c.expected)) ∧
    Generated.Pixels.colorModeChannels = CMode.all.map (fun c => (c.name, c.channels)) ∧
    Generated.Pixels.colorModeChannelsAlpha = CMode.all.map (fun c => (c.name, c.channels + 1)) ∧
    Generated.Pixels.pilChannels = Mode.all.map (fun m => (m.name, m.pilChannels)) ∧
    Generated.Pixels.pilMode =
      CMode.all.flatMap (fun c => [false, true].map fun a => (c.name, a, (c.pilMode a).name)) ∧
    Generated.Pixels.colorModeOf = Mode.all.map (fun m => (m.name, m.cmode.name)) ∧
    (∀ p ∈ Generated.Pixels.pilDepth, p.2 = 8) := ⟨rfl, rfl, rfl, rfl, rfl, rfl, by decide⟩

section
variable {α σ : Type}

/-! ### document import → save → open → `topil()` -/

/-- For every image of mode 1, L, LA, RGB or CMYK the exported document is the source
(bitmap sources after their documented conversion to grayscale), band for band, with its
transparency (LA) and with an even number of inversions (CMYK). -/
theorem doc_import_export_partial (C : Pil α) (hC : C.Lawful) (P : Px α σ) (hP : P.LawfulAt 8)
    (img : Image α) (hwf : img.WF) (hm : img.mode ≠ .RGBA) :
    exportDocPil P (docImport C P img).1 (docImport C P img).2 = .ok (some (normalise C img)) := by
  by_cases h1 : img.mode = .one
  · have hm' : (C.conv .L img).mode = .L := hC.conv_mode _ _
    have hwf' := hC.conv_wf .L img hwf
    have := doc_core C P hP (C.conv .L img) hwf' (by rw [hm']; decide) (by rw [hm']; decide)
    simpa [docImport, normalise, h1, hm'] using this
  · have := doc_core C P hP img hwf h1 hm
    simpa [normalise, h1] using this

example : ∃ img : Image Nat, img.WF ∧ img.mode ≠ .RGBA :=
  ⟨{ mode := .CMYK, width := 1, height := 1, bands := [[1], [2], [3], [4]] }, by decide, by decide⟩

/-- RGBA: what comes back is the source with the white background "removed" from colour
planes that `frompil` stored as they came. -/
theorem doc_import_export_rgba (C : Pil α) (P : Px α σ) (hP : P.LawfulAt 8) (w h : Nat) (r g b a : List α) :
    let img : Image α := { mode := .RGBA, width := w, height := h, bands := [r, g, b, a] }
    exportDocPil P (docImport C P img).1 (docImport C P img).2 = .ok (some
      { img with bands := [List.zipWith P.unmatte r a, List.zipWith P.unmatte g a,
                           List.zipWith P.unmatte b a, a] }) := by
  have hls := hP.load_store
  doc_simp; simp [hls]

/-- … hence exact precisely on pixels whose alpha leaves the colour alone
(with the real arithmetic: alpha 0 or 255). -/
theorem doc_import_export_rgba_partial (C : Pil α) (P : Px α σ) (hP : P.LawfulAt 8) (w h : Nat)
    (r g b a : List α)
    (hu : ∀ c ∈ [r, g, b], List.zipWith P.unmatte c a = c) :
    let img : Image α := { mode := .RGBA, width := w, height := h, bands := [r, g, b, a] }
    exportDocPil P (docImport C P img).1 (docImport C P img).2 = .ok (some img) := by
  have := doc_import_export_rgba C P hP w h r g b a
  simp only at this ⊢
  rw [this, hu r (by simp), hu g (by simp), hu b (by simp)]

/-- the 8-bit arithmetic of `_remove_white_background` (truncating, clipped to 0…255) -/
def unmatte8 (x a : Nat) : Nat :=
  if a = 0 then x else min 255 ((x + a - 255) * 255 / a)

def px8 : Px Nat Nat :=
  { inv := fun x => 255 - x, full := 255, unmatte := unmatte8, store := fun _ x => x, load := fun _ x => x }

def pilId : Pil Nat := { conv := fun _ i => i }

example : ∃ r g b a : List Nat, ∀ c ∈ [r, g, b], List.zipWith px8.unmatte c a = c :=
  ⟨[10], [20], [30], [255], by decide⟩

/-- The full statement fails for RGBA: a half-transparent pixel (100, 100, 100, 128) comes
back as (0, 0, 0, 128). -/
theorem doc_import_export_rgba_fails :
    ¬ (∀ img : Image Nat, img.WF →
        exportDocPil px8 (docImport pilId px8 img).1 (docImport pilId px8 img).2
          = .ok (some (normalise pilId img))) := by
  intro h
  exact absurd (h { mode := .RGBA, width := 1, height := 1, bands := [[100], [100], [100], [128]] } (by decide))
    (by decide)

/-! ### layer import → save → open → `layer.topil()` -/

/-- For every source mode, every document colour mode (grayscale, RGB, CMYK), with or
without an alpha channel in the document, every depth and offset: the layer comes back at
its offset; its colour bands are the bands of `img.convert(doc.pil_mode)`; its transparency is
the source alpha when the image has one and opaque otherwise. (PIL has no CMYK mode with
alpha: there the transparency is what `topil(channel=-1)` returns.) -/
theorem layer_import_export (C : Pil α) (hC : C.Lawful) (P : Px α σ)
    (img : Image α) (hwf : img.WF) (hdr : Header) (hP : P.LawfulAt hdr.depth) (hb : hdr.cmode ≠ .bitmap) (top left : Int) :
    let src := normalise C img
    let alpha := (srcAlpha src).getD (List.replicate (img.width * img.height) P.full)
    ∃ l, layerImport C P img hdr top left = .ok l ∧
      (l.top, l.left, l.bottom, l.right) = (top, left, top + img.height, left + img.width) ∧
      exportLayerPil P hdr l = .ok
        { mode := layerPilMode hdr.cmode, width := img.width, height := img.height,
          bands := (C.conv hdr.pilMode src).bands.take hdr.cmode.channels ++
            (if hdr.cmode = .cmyk then [] else [alpha]) } ∧
      exportLayerAlpha P hdr l = .ok (some alpha) := by
  intro src alpha
  have hsz := normalise_size C hC img
  have hj := layer_converted P hdr hP (srcAlpha src) (C.conv hdr.pilMode src)
    (hC.conv_wf _ _ (normalise_wf C hC img hwf)) hb
    (decide (hdr.channels > (hdr.cmode.pilMode false).pilChannels))
    (by rw [hC.conv_mode]; rfl) top left
  rw [hC.conv_width, hC.conv_height, hsz.1, hsz.2] at hj
  rw [layerImport_eq C hC P img hwf hdr top left]
  exact hj

example : ∃ (img : Image Nat) (hdr : Header), img.WF ∧ hdr.cmode ≠ .bitmap :=
  ⟨{ mode := .RGBA, width := 1, height := 1, bands := [[1], [2], [3], [4]] },
   { cmode := .rgb, channels := 3, depth := 16, width := 2, height := 2 }, by decide, by decide⟩

end

/-! ### the PIL export and the NumPy export read the same planes -/

/-- Documents, grayscale and RGB: same colour planes in the same order with the same
treatment (no inversion, same matte removal); the band PIL appends is the plane NumPy has
at the transparency index. Premises on the metadata: a merged-transparency block only in
documents that have a channel beyond the colour channels, and alpha identifiers only for
such channels. -/
theorem pil_numpy_agree_doc_partial (m : Meta) (hc : m.header.cmode = .gray ∨ m.header.cmode = .rgb)
    (hmt : m.mergedTransparency = true → m.header.channels > m.header.cmode.expected)
    (hids : m.alphaIds.length + m.header.cmode.expected ≤ m.header.channels)
    (mode : Mode) (rs : List Route) (h : pilDocRoutes m = .ok (some (mode, rs))) :
    rs.take m.header.cmode.expected = (numpyDocRoutes m).take m.header.cmode.expected ∧
    ∀ r ∈ rs.drop m.header.cmode.expected, (numpyDocRoutes m)[r.plane]? = some r := by
  -- transparency only with an extra channel
  have hT : m.hasTransparency = true → m.header.channels > m.header.cmode.expected := by
    intro ht
    unfold Meta.hasTransparency at ht
    by_cases hm : m.mergedTransparency = true
    · exact hmt hm
    · simp only [hm] at ht
      by_cases hch : m.header.channels > m.header.cmode.expected
      · exact hch
      · simp [hch] at ht
  unfold pilDocRoutes at h
  cases hp : m.hasPreview with
  | false => simp [hp] at h
  | true =>
    simp only [hp, Bool.not_true, Bool.false_eq_true, if_false] at h
    cases ht : m.hasTransparency with
    | true =>
      have hch := hT ht
      simp only [ht, if_true] at h
      cases hpi : pyIndex m.header.channels m.transparencyIndex with
      | none => simp [hpi] at h
      | some a =>
        have hmod := pyIndex_emod _ _ a hpi
        have halt := pyIndex_lt _ _ a hpi
        have hage := transparency_plane_ge m hids hch a hpi
        simp only [hpi] at h
        rcases hc with hg | hg
        · simp only [hg, CMode.pilMode, Mode.pilChannels, Mode.nbands, CMode.expected] at h hch ⊢
          have h1 : min 1 m.header.channels = 1 := by omega
          simp only [h1, ne_eq, not_true_eq_false, if_false, Except.ok.injEq, Option.some.injEq,
            Prod.mk.injEq] at h
          obtain ⟨_, rfl⟩ := h
          have hr : numpyDocRoutes m = (List.range m.header.channels).map fun k => ({ plane := k } : Route) := by
            simp [numpyDocRoutes, hg]
          rw [hr, take_map_range m.header.channels _ _ (by omega)]
          refine ⟨by simp [List.range, List.range.loop], ?_⟩
          intro r hr'
          simp [List.range, List.range.loop] at hr'
          subst hr'
          simp [halt]
        · simp only [hg, CMode.pilMode, Mode.pilChannels, Mode.nbands, CMode.expected] at h hch ⊢
          have h1 : min 3 m.header.channels = 3 := by omega
          simp only [h1, ne_eq, not_true_eq_false, if_false, Except.ok.injEq, Option.some.injEq,
            Prod.mk.injEq] at h
          obtain ⟨_, rfl⟩ := h
          have hr : numpyDocRoutes m = (List.range m.header.channels).map fun k =>
                if k < 3 then ({ plane := k, unmatteBy := some a } : Route) else { plane := k } := by
            simp [numpyDocRoutes, hg, hch, ht, hmod]
          rw [hr, take_map_range m.header.channels _ _ (by omega)]
          refine ⟨by simp [List.range, List.range.loop], ?_⟩
          intro r hr'
          simp [List.range, List.range.loop] at hr'
          subst hr'
          rw [hg, CMode.expected] at hage
          have : ¬ a < 3 := by omega
          simp [halt, this]
    | false =>
      simp only [ht, Bool.false_eq_true, if_false] at h
      rcases hc with hg | hg
      · simp only [hg, CMode.pilMode, Mode.pilChannels, Mode.nbands, CMode.expected] at h ⊢
        by_cases h1 : min 1 m.header.channels = 1
        · simp only [h1, ne_eq, not_true_eq_false, if_false, Except.ok.injEq, Option.some.injEq,
            Prod.mk.injEq] at h
          obtain ⟨_, rfl⟩ := h
          have hr : numpyDocRoutes m = (List.range m.header.channels).map fun k => ({ plane := k } : Route) := by
            simp [numpyDocRoutes, hg]
          rw [hr, take_map_range m.header.channels _ _ (by omega)]
          simp [List.range, List.range.loop]
        · simp [h1] at h
      · simp only [hg, CMode.pilMode, Mode.pilChannels, Mode.nbands, CMode.expected] at h ⊢
        by_cases h1 : min 3 m.header.channels = 3
        · simp only [h1, ne_eq, not_true_eq_false, if_false, Except.ok.injEq, Option.some.injEq,
            Prod.mk.injEq] at h
          obtain ⟨_, rfl⟩ := h
          have hr : numpyDocRoutes m = (List.range m.header.channels).map fun k => ({ plane := k } : Route) := by
            simp [numpyDocRoutes, hg, ht]
          rw [hr, take_map_range m.header.channels _ _ (by omega)]
          simp [List.range, List.range.loop]
        · simp [h1] at h

example : ∃ m : Meta, (m.header.cmode = .gray ∨ m.header.cmode = .rgb) ∧
    (m.mergedTransparency = true → m.header.channels > m.header.cmode.expected) ∧
    m.alphaIds.length + m.header.cmode.expected ≤ m.header.channels ∧
    pilDocRoutes m = .ok (some (.RGBA, [⟨0, false, some 3⟩, ⟨1, false, some 3⟩, ⟨2, false, some 3⟩, ⟨3, false, none⟩])) :=
  ⟨{ header := { cmode := .rgb, channels := 4, depth := 8, width := 1, height := 1 } }, by decide, by decide, by decide, by decide⟩

/-- The full statement fails for CMYK: `topil()` inverts the four colour planes, `numpy()`
returns them as stored. -/
theorem pil_numpy_agree_doc_fails :
    ¬ (∀ (m : Meta) (mode : Mode) (rs : List Route), pilDocRoutes m = .ok (some (mode, rs)) →
        rs.take m.header.cmode.expected = (numpyDocRoutes m).take m.header.cmode.expected) := by
  intro h
  exact absurd (h { header := { cmode := .cmyk, channels := 4, depth := 8, width := 1, height := 1 } }
    .CMYK _ rfl) (by decide)

/-- Layers as `PixelLayer.frompil` builds them (channel ids −1, 0, …, n−1), grayscale and
RGB: `layer.topil()` and `layer.numpy()` read the same channels in the same order, the
transparency last, nothing inverted. -/
theorem pil_numpy_agree_layer_partial (hdr : Header) (hc : hdr.cmode = .gray ∨ hdr.cmode = .rgb) :
    ∃ rs, pilLayerRoutes hdr ((-1 : Int) :: (List.range hdr.cmode.channels).map Int.ofNat)
        = .ok (layerPilMode hdr.cmode, rs) ∧
      rs = numpyLayerRoutes hdr ((-1 : Int) :: (List.range hdr.cmode.channels).map Int.ofNat) := by
  obtain ⟨cm, ch, dp, w, h⟩ := hdr
  rcases hc with rfl | rfl <;> exact ⟨_, rfl, rfl⟩

/-- … and for CMYK layers the colour channels come out inverted from `topil()` and as
stored from `numpy()`, which also has the transparency that PIL cannot carry. -/
theorem pil_numpy_agree_layer_fails :
    ¬ (∀ hdr : Header, ∀ mode rs,
        pilLayerRoutes hdr ((-1 : Int) :: (List.range hdr.cmode.channels).map Int.ofNat) = .ok (mode, rs) →
        rs = (numpyLayerRoutes hdr ((-1 : Int) :: (List.range hdr.cmode.channels).map Int.ofNat)).take rs.length) := by
  intro h
  exact absurd (h { cmode := .cmyk, channels := 4, depth := 8, width := 1, height := 1 } .CMYK _ rfl) (by decide)

/-! ### parity and alpha, read off the model's own symbolic run

The driver runs the model on one-sample symbolic planes (`Sym`): this is what the harness
compares with the real pipeline. On these runs, for every source mode, document colour
mode, document alpha and depth: every band that `topil()` returns is an un-inverted,
fully decoded band of the converted source (even parity), and the transparency is the
source alpha or opaque. -/

def Sym.clean : Sym → Bool
  | .orig _ | .conv _ _ | .opaque => true
  | _ => false

def symLayerOk (m : Mode) (c : CMode) (alpha : Bool) (depth : Nat) : Bool :=
  let hdr : Header := { cmode := c, channels := c.channels + (if alpha then 1 else 0), depth := depth,
                        width := 4, height := 4 }
  match layerImport symPil symPx (symImage m) hdr 0 0 with
  | .error _ => false
  | .ok l =>
    (match exportLayerPil symPx hdr l with
     | .ok i => i.mode == layerPilMode c && i.bands.all (fun b => b.all Sym.clean)
     | .error _ => false) &&
    (match exportLayerAlpha symPx hdr l with
     | .ok (some a) => a == (if m.hasAlpha then [Sym.orig (m.nbands - 1)] else [Sym.opaque])
     | _ => false)

theorem sym_layer_parity_even :
    ∀ m ∈ Mode.all, ∀ c ∈ [CMode.gray, CMode.rgb, CMode.cmyk], ∀ alpha ∈ [false, true],
      ∀ depth ∈ [8, 16, 32], symLayerOk m c alpha depth = true := by decide +kernel

def symDocOk (m : Mode) : Bool :=
  let d := docImport symPil symPx (symImage m)
  match exportDocPil symPx d.1 d.2 with
  | .ok (some i) => i.bands.all (fun b => b.all Sym.clean)
  | _ => false

/-- documents: all modes but RGBA come back clean; RGBA comes back with the matte removal on it -/
theorem sym_doc_parity_even : ∀ m ∈ Mode.all, symDocOk m = (m != .RGBA) := by decide

end PsdVerif.C07
