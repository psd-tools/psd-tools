/-
C14 — read-only operations are pure; derived values are never stale.

`Fresh s` (Lemmas/TreeFresh.lean): every cached box of a container that is in a document equals
what `Group.extract_bbox` computes from the current tree (an artboard caches its own rectangle).
`SameObs s s'`: `s'` differs from `s` in caches only. All statements are about `Cfg.current`
(the repaired code); `legacy_…` are the machine-checked counterexamples of the snapshot.
-/
import PsdVerif.Lemmas.FreshTable
import PsdVerif.Generated.FreshTable

namespace PsdVerif.C14
open PsdVerif PsdVerif.TreeSt

/-! ### Derived values are never stale -/

theorem fresh_init (limit : Nat) : Fresh (State.empty limit) := by
  intro g _ _ b hb
  cases hb

/-- **Freshness step.** From a well-formed tree whose cached boxes are fresh, an operation (under
the guard of the inserting operations and below the recursion limit; refused operations included)
leaves every cached box of a layer that is in a document equal to what `Group.extract_bbox`
computes from the new tree. The proof needs the four repairs of `CacheCfg`
(three cache repairs and the item check of `_check_valid_layers`) and the validation of `group_layers`. -/
theorem fresh_step (s : State) (op : Op) (i : Inv s) (f : Fresh s) (hg : Guard s op)
    (hne : (step .current s op).2 ≠ .error .recursionError) : Fresh (step .current s op).1 :=
  (good_step s op ⟨i, f⟩ hg hne).fresh

/-- over histories: whatever was read or edited before -/
theorem fresh_history (s : State) (ops : List Op) (i : Inv s) (f : Fresh s) (hg : Guarded .current s ops) :
    Fresh (runState .current s ops) :=
  (good_run s ops ⟨i, f⟩ hg).fresh

/-- hence, at every point of a guarded history from the empty store, the box answered for a layer
that is in a document is the fresh one -/
theorem answers_fresh_history (ops : List Op) (limit : Nat) (hg : Guarded .current (State.empty limit) ops) (x : Id)
    (ha : Attached (runState .current (State.empty limit) ops) x) :
    (obsBbox (runState .current (State.empty limit) ops) x).2 = bboxAnswer (runState .current (State.empty limit) ops) x :=
  (good_run _ ops ⟨inv_empty limit, fresh_init limit⟩ hg).fresh.answer ha

/-! ### Read-only operations are pure -/

/-- **Observations change nothing observable**: lists, back pointers, kinds, flags, rectangles and
dirty flags are what they were; only caches may have been filled. -/
theorem observe_pure (s : State) (o : Obs) : SameObs s (step .current s (.observe o)).1 :=
  observe_obs s o

/-- … and what they fill in is fresh: an observation keeps every cache fresh. -/
theorem observe_keeps_fresh (s : State) (o : Obs) (f : Fresh s) : Fresh (step .current s (.observe o)).1 :=
  fresh_observe o f

/-- **Answers are fresh**: when the cache of `x` is fresh (or empty), `x.bbox` is the value computed
from the tree alone. -/
theorem answers_fresh (s : State) (x : Id) (h : CacheOk s x) : (obsBbox s x).2 = bboxAnswer s x :=
  obsBbox_answer x h

/-- the fresh answer depends on the tree only -/
theorem bboxAnswer_tree (s s' : State) (h : SameTree s s') (x : Id) : bboxAnswer s' x = bboxAnswer s x := by
  unfold bboxAnswer
  rw [h.cont, h.box, h.kind, extractBbox_congr h]

/-- **Later answers are the same**: after any observation the box of a node whose cache was fresh is
answered exactly as if the observation had not been made. -/
theorem later_answers_same (s : State) (o : Obs) (x : Id) (h : CacheOk s x) :
    (obsBbox (step .current s (.observe o)).1 x).2 = (obsBbox s x).2 := by
  show (obsBbox (observe s o).1 x).2 = (obsBbox s x).2
  rw [answers_fresh _ x (cacheOk_observe o x h), answers_fresh s x h]
  exact bboxAnswer_tree s _ (observe_same s o) x

/-- a property getter or query outside the modelled answers (`name`, `kind`, `locks`, `mask`, `effects`,
`tagged_blocks`, `has_*`, … — the harness enumerates them by reflection) writes nothing at all -/
theorem getter_writes_nothing (s : State) (x : Id) : (step .current s (.observe (.getter x))).1 = s := rfl

/-- **No read-only call changes which tagged blocks a record carries** — what a later save writes for the layer
(`SameObs` includes the key lists: a getter that creates a block, as a `locks` getter might, is not pure). -/
theorem observe_keeps_blocks (s : State) (o : Obs) : (step .current s (.observe o)).1.blocks = s.blocks :=
  (observe_pure s o).blocks

/-- … over any sequence of read-only calls: nothing but caches differs afterwards -/
theorem observations_pure (s : State) (os : List Obs) : SameObs s (runState .current s (os.map .observe)) := by
  induction os generalizing s with
  | nil => exact SameObs.refl s
  | cons o os ih => exact (observe_pure s o).trans (ih (step .current s (.observe o)).1)

/-! ### Degenerate end states: what the fresh answer is when nothing is left

`fresh_history` holds for every guarded history, in particular for those that end with a group emptied, a
document emptied, or every layer hidden. These are the values the harness compares with a freshly opened twin. -/

theorem extList_all_hidden (s : State) (r : Id → Except Err BBox) (cs : List Id)
    (h : ∀ c, c ∈ cs → isVis s c = .ok false) : extList r s cs = .ok [] := by
  induction cs with
  | nil => rfl
  | cons c cs ih =>
    simp only [extList]
    rw [h c (List.mem_cons_self)]
    exact ih (fun c' hc' => h c' (List.mem_cons_of_mem _ hc'))

/-- a group none of whose children is visible — in particular a group whose last child was removed — has the
fresh box `(0,0,0,0)` -/
theorem nothing_visible_group_answer (s : State) (g : Id) (hk : s.kind g = .group) (hl : s.limit ≠ 0)
    (h : ∀ c, c ∈ s.children g → isVis s c = .ok false) : bboxAnswer s g = .ok BBox.zero := by
  obtain ⟨f, hf⟩ := Nat.exists_eq_succ_of_ne_zero hl
  unfold bboxAnswer extractBbox
  simp only [State.cont, hk, isCont, hf, extF, extList_all_hidden s _ _ h]
  simp [unionAll]

/-- a document none of whose layers is visible — in particular an emptied document — answers its canvas -/
theorem nothing_visible_document_answer (s : State) (d : Id) (hk : s.kind d = .doc) (hl : s.limit ≠ 0)
    (h : ∀ c, c ∈ s.children d → isVis s c = .ok false) : bboxAnswer s d = .ok (s.box d) := by
  obtain ⟨f, hf⟩ := Nat.exists_eq_succ_of_ne_zero hl
  unfold bboxAnswer extractBbox
  simp only [State.cont, hk, isCont, hf, extF, extList_all_hidden s _ _ h]
  simp [unionAll]

/-- **never stale in a degenerate end state**: after ANY guarded history, a group in a document that has no
visible child left answers `(0,0,0,0)`, whatever was cached before -/
theorem emptied_group_never_stale (ops : List Op) (limit : Nat) (hg : Guarded .current (State.empty limit) ops) (g : Id)
    (ha : Attached (runState .current (State.empty limit) ops) g)
    (hk : (runState .current (State.empty limit) ops).kind g = .group)
    (hl : (runState .current (State.empty limit) ops).limit ≠ 0)
    (h : ∀ c, c ∈ (runState .current (State.empty limit) ops).children g →
      isVis (runState .current (State.empty limit) ops) c = .ok false) :
    (obsBbox (runState .current (State.empty limit) ops) g).2 = .ok BBox.zero := by
  rw [answers_fresh_history ops limit hg g ha]
  exact nothing_visible_group_answer _ g hk hl h

/-! ### Concrete states: non-vacuity and the counterexamples of the snapshot -/

/-- document 0 lists [1, 2]: 1 a pixel layer at (0,0,2,2), 2 an empty group; 3 a detached layer at (1,1,3,3) -/
def demo : State :=
  runState .current (State.empty 50)
    [.newDoc ⟨0, 0, 8, 8⟩, .newLayer (some 0) ⟨0, 0, 2, 2⟩, .newGroup (some 0), .newLayer (some 0) ⟨1, 1, 3, 3⟩,
     .append 0 1]

/-- read the box of the empty group, then append a layer: the repaired code drops the cached box … -/
theorem append_after_read_fresh :
    let s := runState .current demo [.observe (.bbox 2), .append 2 3]
    s.cache 2 = none ∧ (extractBbox s 2).toOption = some ⟨1, 1, 3, 3⟩ := by decide +kernel

/-- … the snapshot kept `(0,0,0,0)` (and the compositor then skipped the group) (fixed: 52bed49). -/
theorem legacy_append_after_read_stale :
    let s := runState .legacy demo [.observe (.bbox 2), .append 2 3]
    s.cache 2 = some BBox.zero ∧ (extractBbox s 2).toOption = some ⟨1, 1, 3, 3⟩ := by decide +kernel

/-- `psd.bbox` read once was never refreshed: the snapshot's climb stopped below the document
(fixed: 6b2ac1c) -/
theorem legacy_document_bbox_stale :
    let s := runState .legacy demo [.observe (.bbox 0), .setLeft 1 4]
    s.cache 0 = some ⟨0, 0, 2, 2⟩ ∧ (extractBbox s 0).toOption = some ⟨4, 0, 6, 2⟩ := by decide +kernel

theorem document_bbox_refreshed :
    let s := runState .current demo [.observe (.bbox 0), .setLeft 1 4]
    s.cache 0 = none := by decide +kernel

/-- document 0 lists [1]; group 1 lists [2]; group 2 lists [3]; 3 a pixel layer at (1,1,3,3) -/
def nested : State :=
  runState .current (State.empty 50)
    [.newDoc ⟨0, 0, 8, 8⟩, .newGroup (some 0), .newGroup (some 1), .newLayer (some 0) ⟨1, 1, 3, 3⟩, .append 2 3]

/-- hiding a group changes the boxes of the groups below it (visibility is inherited); the snapshot,
and the code with the first two cache repairs only, kept the cached box of the inner group
(fixed: 29b367a) -/
theorem legacy_hidden_group_below_stale :
    let s := runState ⟨true, true, true, true, false, true⟩ nested [.observe (.bbox 2), .setVisible 1 false]
    s.cache 2 = some ⟨1, 1, 3, 3⟩ ∧ (extractBbox s 2).toOption = some BBox.zero := by decide +kernel

theorem hidden_group_below_refreshed :
    let s := runState .current nested [.observe (.bbox 2), .setVisible 1 false]
    s.cache 2 = none := by decide +kernel

/-- the last child of a group removed after every box above it was read: all of them are dropped, the group
answers `(0,0,0,0)` and the document its canvas -/
theorem last_child_removed_refreshed :
    let s := runState .current nested [.observe (.bbox 2), .observe (.bbox 1), .observe (.bbox 0), .deleteLayer 3]
    s.children 2 = [] ∧ s.cache 2 = none ∧ s.cache 1 = none ∧ s.cache 0 = none ∧
      (obsBbox s 2).2.toOption = some BBox.zero ∧ (obsBbox s 0).2.toOption = some ⟨0, 0, 8, 8⟩ := by decide +kernel

/-- the last visible layer hidden after the document's box was read -/
theorem last_visible_hidden_refreshed :
    let s := runState .current demo [.observe (.bbox 0), .setVisible 1 false]
    s.cache 0 = none ∧ (extractBbox s 0).toOption = some BBox.zero ∧ (obsBbox s 0).2.toOption = some ⟨0, 0, 8, 8⟩ := by
  decide +kernel

/-- the document emptied after its box was read -/
theorem emptied_document_refreshed :
    let s := runState .current demo [.observe (.bbox 0), .observe (.bbox 2), .clear 0]
    s.children 0 = [] ∧ s.cache 0 = none ∧ (obsBbox s 0).2.toOption = some ⟨0, 0, 8, 8⟩ := by decide +kernel

/-- non-vacuity of `emptied_group_never_stale` / `nothing_visible_group_answer`: group 2 of `demo` is empty -/
example : demo.kind 2 = .group ∧ demo.limit ≠ 0 ∧ (∀ c, c ∈ demo.children 2 → isVis demo c = .ok false) ∧
    bboxAnswer demo 2 = .ok BBox.zero :=
  ⟨by decide, by decide, by decide, nothing_visible_group_answer demo 2 (by decide) (by decide) (by decide)⟩

theorem demo_inv : Inv demo := by
  have i4 : Inv (runState .current (State.empty 50)
      [.newDoc ⟨0, 0, 8, 8⟩, .newLayer (some 0) ⟨0, 0, 2, 2⟩, .newGroup (some 0), .newLayer (some 0) ⟨1, 1, 3, 3⟩]) :=
    inv_run _ _ (inv_empty 50) ⟨trivial, by decide, trivial, by decide, trivial, by decide, trivial, by decide, trivial⟩
  exact inv_step _ (.append 0 1) i4 (detached_of_bounded i4 (by decide)) (by decide)

/-- non-vacuity of `fresh_step`: a guarded edit from a state with a filled, fresh cache that the
edit must (and does) drop -/
example : (step .current demo (.observe (.bbox 2))).1.cache 2 = some BBox.zero ∧
    Guard (step .current demo (.observe (.bbox 2))).1 (.append 2 3) ∧
    Inv (step .current demo (.observe (.bbox 2))).1 :=
  ⟨by decide, detached_of_bounded ((observe_same demo _).inv demo_inv) (by decide), (observe_same demo _).inv demo_inv⟩

/-- **Known finding** `C14/bbox-stale/detached-node-with-stale-parent`: why `Fresh` speaks about
layers that are in a document. A layer removed from a group keeps its parent pointer; its
`is_visible()` — hence its box — still follows that pointer, but no invalidation can reach it.
Here group 2 is removed from group 1 while 1 sits in the detached group 4; its box is read
(invisible: `(0,0,0,0)`); then 4 is appended to the document, which makes 2 "visible" again. -/
theorem detached_stale_parent_witness :
    let s := runState .current nested [.newGroup none, .moveToGroup 1 4, .clear 1, .observe (.bbox 2), .append 0 4]
    s.cache 2 = some BBox.zero ∧ (extractBbox s 2).toOption = some ⟨1, 1, 3, 3⟩ ∧ (∀ c, c < s.next → 2 ∉ s.children c) := by
  decide +kernel

/-! ## The invalidation structure, tied to the source

`fresh_step` … `emptied_group_never_stale` above are about `TreeSt.step`, a hand-written transcription of the
mutators. Below, the mutators are NOT hand-modelled: the machine of `Model/FreshState.lean` interprets the table
`Generated/FreshTable.lean`, regenerated from the AST of `api/*.py` on every run — per public mutator and
straight-line segment, which input of which objects it mutates, which `_invalidate_bbox()` calls and `_bbox = None`
sweeps it makes on which objects, under which tests. A mutation changes the named input of the named objects
adversarially; an invalidation clears exactly the set the table says. -/

section Table
open PsdVerif.FreshState

/-- What the machine assumes about `_invalidate_bbox` is what the source says: the climb visits the object and
every `GroupMixin` parent up to the document, clears each `_bbox` on the way and has no early exit; the document's
own method clears its own box. (`Table.climb` is derived from these two bodies by the extractor.) -/
theorem invalidate_tied :
    Generated.FreshTable.layerInvalidateSrc =
      "node: Any = self\nseen: set[int] = set()\nwhile node is not None and id(node) not in seen:\n    seen.add(id(node))\n    if isinstance(node, (GroupMixin, ShapeLayer)):\n        node._bbox = None\n    node = node.parent if isinstance(node.parent, GroupMixin) else None" ∧
    Generated.FreshTable.docInvalidateSrc = "self._bbox = None" ∧
    Generated.FreshTable.table.climb = .toRoot :=
  ⟨rfl, rfl, rfl⟩

/-- KEPT FRESH. If the table says that the climb goes to the root and that in every segment of every public mutator
each raw mutation of an input of a box sits in a covered block — members leaving / a new list / a visibility flag / a
rectangle, with the invalidation of the object and its ancestors (and, where visibility is inherited, of everything
below) in the same segment under no further test (`tableOk`) — then after ANY history of mutator segments — any
objects named, any outcome of the tests, any new value of the mutated inputs within C09's side conditions
(`GuardedHist`: what leaves was a member, what arrives is detached and does not contain the container, no
repetition, recursion limit not hit) — every cached box of a container that is in a document equals what
`Group.extract_bbox` computes from the current tree. -/
theorem kept_fresh (t : Table) (ht : tableOk t = true) (s : State) (i : Inv s) (f : Fresh s) (h : List SegInst)
    (hg : GuardedHist t s h) : Fresh (runSegments t s h) :=
  (runSegments_good t ht h s ⟨i, f⟩ hg).fresh

/-- … and the tree stays well formed, so the theorem applies again after any read (`observe_keeps_fresh`). -/
theorem kept_wellformed (t : Table) (ht : tableOk t = true) (s : State) (i : Inv s) (f : Fresh s) (h : List SegInst)
    (hg : GuardedHist t s h) : Inv (runSegments t s h) :=
  (runSegments_good t ht h s ⟨i, f⟩ hg).inv

/-- The table regenerated from the source satisfies the hypothesis. -/
theorem current_tree_kept_fresh : tableOk Generated.FreshTable.table = true := by decide +kernel

/-- Hence, for the code as it is. -/
theorem kept_fresh_now (s : State) (i : Inv s) (f : Fresh s) (h : List SegInst)
    (hg : GuardedHist Generated.FreshTable.table s h) : Fresh (runSegments Generated.FreshTable.table s h) :=
  kept_fresh _ current_tree_kept_fresh s i f h hg

/-- … and the box answered afterwards for any layer that is in a document is the one computed from the tree alone. -/
theorem answers_fresh_now (s : State) (i : Inv s) (f : Fresh s) (h : List SegInst)
    (hg : GuardedHist Generated.FreshTable.table s h) (x : Id)
    (ha : Attached (runSegments Generated.FreshTable.table s h) x) :
    (obsBbox (runSegments Generated.FreshTable.table s h) x).2 = bboxAnswer (runSegments Generated.FreshTable.table s h) x :=
  (kept_fresh_now s i f h hg).answer ha

/-! ### The hypothesis is necessary -/

/-- document 0 lists [1]; group 1 lists [2]; group 2 lists [3]; 3 a pixel layer at (1,1,3,3); every box read -/
def allRead : State := runState .current nested [.observe (.bbox 2), .observe (.bbox 1), .observe (.bbox 0)]

/-- what an edit may leave behind: group 2 emptied and hidden, layer 3 moved (a mutation copies from here only the
input it names, of the object it names) -/
def edited : State :=
  { allRead with children := upd allRead.children 2 [], visible := upd allRead.visible 2 false,
                 box := upd allRead.box 3 ⟨4, 4, 6, 6⟩ }

/-- is some cached box of these containers not what `extract_bbox` gives now? -/
def staleAmong (s : State) (gs : List Id) : Bool :=
  gs.any fun g => match s.cache g with
    | some b => (extractBbox s g).toOption != some b
    | none => false

/-- the node a row is tried on: the pixel layer for a rectangle, group 2 otherwise -/
def tryOn (t : Table) (name : String) : Id :=
  match t.rows.find? (fun r => r.name == name) with
  | some r => if r.firstInput == some .rect then 3 else 2
  | none => 2

/-- Each mutator's invalidations are needed: for every row of the regenerated table, the same call (every owner
expression naming group 2 — the pixel layer for the rectangle setters —, all tests true) from the tree with every box
read leaves no stale box with the table as it is, and a stale one with that row's `_invalidate_bbox()` calls and
`_bbox = None` sweeps removed. -/
theorem every_invalidation_needed :
    ∀ name ∈ Generated.FreshTable.table.rows.map (·.name),
      staleAmong (runSegments Generated.FreshTable.table allRead
        (callHist Generated.FreshTable.table name (tryOn Generated.FreshTable.table name) edited)) [0, 1, 2] = false ∧
      staleAmong (runSegments (dropInval Generated.FreshTable.table name) allRead
        (callHist (dropInval Generated.FreshTable.table name) name (tryOn Generated.FreshTable.table name) edited)) [0, 1, 2] = true := by
  decide +kernel

/-- A climb that gives up at the first empty cache does not do (`if node._bbox is None: break`): the box of group 2
was never read, those of group 1 and of the document were; the last layer of group 2 is removed. -/
theorem climb_stopping_at_empty_goes_stale :
    let t : Table := { Generated.FreshTable.table with climb := .stopAtEmpty }
    let s0 := runState .current nested [.observe (.bbox 1), .observe (.bbox 0)]
    tableOk t = false ∧ s0.cache 2 = none ∧
    staleAmong (runSegments t s0 (callHist t "GroupMixin.remove" 2 edited)) [0, 1, 2] = true ∧
    staleAmong (runSegments Generated.FreshTable.table s0 (callHist Generated.FreshTable.table "GroupMixin.remove" 2 edited)) [0, 1, 2] = false := by
  decide +kernel

/-- a climb that stops below the document (the snapshot) does not do either -/
theorem climb_below_document_goes_stale :
    let t : Table := { Generated.FreshTable.table with climb := .belowDoc }
    tableOk t = false ∧
    staleAmong (runSegments t allRead (callHist t "GroupMixin.remove" 2 edited)) [0, 1, 2] = true := by
  decide +kernel

/-- document 0 ∋ group 1 ∋ group 2 ∋ group 3 ∋ pixel layer 4 at (1,1,3,3): nesting depth three below the document -/
def nested3 : State :=
  runState .current (State.empty 50)
    [.newDoc ⟨0, 0, 8, 8⟩, .newGroup (some 0), .newGroup (some 1), .newGroup (some 2), .newLayer (some 0) ⟨1, 1, 3, 3⟩,
     .append 3 4]

/-- Resetting the DIRECT children only does not do (`for layer in self` instead of `self.descendants()` in the
`visible` setter): the box of group 3 is read, then group 1 — two levels above it — is hidden. Group 2 is reset,
group 3 keeps `(1,1,3,3)` although nothing in it is visible any more. Needs nesting depth three. -/
theorem children_only_reset_goes_stale :
    let t : Table := { Generated.FreshTable.table with rows :=
      [⟨"Layer.visible.setter", [[.inval "self" [], .reset "self" .children [], .mutate "self" .self .visible "visible=?" []]]⟩] }
    let s0 := runState .current nested3 [.observe (.bbox 3), .observe (.bbox 2)]
    let new : State := { s0 with visible := upd s0.visible 1 false }
    tableOk t = false ∧
    staleAmong (runSegments t s0 (callHist t "Layer.visible.setter" 1 new)) [0, 1, 2, 3] = true ∧
    (runSegments t s0 (callHist t "Layer.visible.setter" 1 new)).cache 2 = none ∧
    staleAmong (runSegments Generated.FreshTable.table s0 (callHist Generated.FreshTable.table "Layer.visible.setter" 1 new)) [0, 1, 2, 3] = false := by
  decide +kernel

/-- Invalidating on the TARGET side only of a move does not do (`move_to_group` detaching with a raw
`_layers.remove`): group 2 moves from group 1 to a second group 4 of the document; the box of group 1 was read. -/
theorem target_side_only_move_goes_stale :
    let t : Table := { Generated.FreshTable.table with rows :=
      [⟨"Layer.move_to_group", [[.mutate "self.parent" .self .shrink "_layers.remove" [],
        .mutate "group" .self .relist "_layers.extend" [], .mutate "group" .descendants .psd "psd=group" [],
        .reset "group" .descendants [], .mutate "group" .children .parent "parent=group" [], .dirty "group" [],
        .inval "group" []]]⟩] }
    let s0 := runState .current nested [.newGroup (some 0), .observe (.bbox 1), .observe (.bbox 0)]
    let new : State := { s0 with children := upd (upd s0.children 1 []) 4 [2] }
    let si := callInst "Layer.move_to_group" 0 [("self.parent", 1), ("group", 4)] [] [] 0 new
    tableOk t = false ∧
    staleAmong (runSegments t s0 [si]) [0, 1, 2, 4] = true ∧
    staleAmong (runSegments Generated.FreshTable.table s0 [si]) [0, 1, 2, 4] = false := by
  decide +kernel

/-- An invalidation under a test the mutation is not under does not do. -/
theorem conditional_invalidation_rejected :
    covered [.mutate "self" .self .shrink "_layers.remove" [], .dirty "self" [], .inval "self" ["g1:self._bbox is not None"]] = false := by
  decide +kernel

/-- Filling or clearing the stored flags by hand is outside what the table can vouch for (a memoised box assigned
outside the `bbox` getter; `_updated_layers = False`). -/
theorem direct_store_rejected :
    covered [.store "self" "_bbox = (0, 0, 0, 0)" []] = false ∧
    covered [.store "self" "_updated_layers = False" []] = false := by
  decide +kernel

/-- a read of a box between the invalidation and the mutation it is meant to cover may re-fill the cache: only the
read of a plain layer's own extent in its `left` / `top` setters is accepted (groups have no such setter) -/
theorem read_between_rejected :
    covered [.inval "self" [], .reset "self" .descendants [], .read "self" "bbox" [], .mutate "self" .self .visible "visible=?" []] = false := by
  decide +kernel

/-! ### Non-vacuity -/

theorem nested_good : Good nested := by
  have g4 : Good (runState .current (State.empty 50)
      [.newDoc ⟨0, 0, 8, 8⟩, .newGroup (some 0), .newGroup (some 1), .newLayer (some 0) ⟨1, 1, 3, 3⟩]) :=
    good_run _ _ ⟨inv_empty 50, fresh_init 50⟩
      ⟨trivial, by decide, trivial, by decide, trivial, by decide, trivial, by decide, trivial⟩
  exact good_step _ (.append 2 3) g4 (detached_of_bounded g4.inv (by decide)) (by decide)

/-- the hypotheses of `kept_fresh` hold of the state the witnesses start from … -/
theorem allRead_good : Inv allRead ∧ Fresh allRead := by
  have := good_run nested [.observe (.bbox 2), .observe (.bbox 1), .observe (.bbox 0)] nested_good
    ⟨trivial, by decide, trivial, by decide, trivial, by decide, trivial⟩
  exact ⟨this.inv, this.fresh⟩

/-- a literal two-row table of the covered shapes (independent of the regenerated one) -/
def tinyTable : Table :=
  ⟨.toRoot, [⟨"GroupMixin.remove", [[.mutate "self" .self .shrink "_layers.remove" [], .dirty "self" [], .inval "self" []]]⟩,
             ⟨"Layer.visible.setter", [[.inval "self" [], .reset "self" .descendants [], .mutate "self" .self .visible "visible=?" []]]⟩]⟩

-- … and the side conditions on the raw mutations (`GuardedHist`) are satisfiable: emptying group 2, hiding group 1
example : tableOk tinyTable = true ∧
    GuardedHist tinyTable allRead [callInst "GroupMixin.remove" 0 [] [] [] 2 edited] ∧
    GuardedHist tinyTable allRead [callInst "Layer.visible.setter" 0 [] [] [] 1 edited] :=
  ⟨by decide,
   ⟨⟨fun _ => ⟨by decide, by decide, by decide⟩, trivial, trivial, trivial⟩, trivial⟩,
   ⟨⟨trivial, trivial, fun _ => ⟨by decide, [2, 3], by decide⟩, trivial⟩, trivial⟩⟩

-- the state the witnesses start from has every cache filled
example : allRead.cache 2 = some ⟨1, 1, 3, 3⟩ ∧ allRead.cache 1 = some ⟨1, 1, 3, 3⟩ ∧ allRead.cache 0 = some ⟨1, 1, 3, 3⟩ := by
  decide +kernel

end Table

end PsdVerif.C14
