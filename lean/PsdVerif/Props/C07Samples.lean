/-
C07 — imported pixels come back unchanged: the SAMPLE ARITHMETIC, concrete and proved.

`Props/C07.lean` proves the routes (which stored plane feeds which exported band, inversion parity,
un-matting) for any sample arithmetic `Px α σ` and any `Pil α` that have the laws `Px.LawfulAt d` / `Pil.Lawful`.
Here the arithmetic is the one the code performs (`Model/PixelSamples.lean`: `px`, `pil`, `npView`), the laws are
THEOREMS (`px_lawful_concrete`, `pil_lawful_concrete`), and the route theorems are restated without hypotheses on
the arithmetic (`layer_import_export_concrete`, `doc_import_export_concrete`, `layer_numpy_export_concrete` …).
The constants, dtypes, operators, rounding calls and inversion sites of the source are regenerated from the AST
on every run (`Generated/PixelSamples.lean`) and tied by `samples_tied`.

Property theorems only; helper lemmas live in `Lemmas/PixelSamples.lean` and `Lemmas/Pixels.lean`.
-/
import PsdVerif.Model.PixelSamples
import PsdVerif.Lemmas.PixelSamples
import Mathlib.Tactic.FieldSimp
import PsdVerif.Props.C07
import PsdVerif.Generated.PixelSamples

namespace PsdVerif.C07
open PsdVerif PsdVerif.Pixels PsdVerif.MergedPixels PsdVerif.PixelSamples

/-! ### the arithmetic of the source is the model's (regenerated from the AST on every run) -/

/-- `plane()` of `PixelLayer.frompil` (dtype, operator, constant per depth; every call, so an added `np.round`,
`//` or `>>` is seen), the order of the steps of both `frompil`s, `_create_image` (raw modes, the lambda of
`point` as the linear form PIL makes of it, the `convert` target), `_parse_array` (dtypes, divisors), every
inversion with its guard — three `ImageChops.invert` under `mode == 'CMYK'`, none on the NumPy path —, the
callers and the expression of the matte removal, the depth and file version handed to the channel decoders, as
the model has them. -/
-- (48a22b5: a mode-`1` band in a document whose depth is not 1 — a bitmap document made by `PSDImage.new` — is widened
-- to `L` first, bit ↦ 0 / 255 as `toGray .one`; the per-depth arithmetic below then applies to that byte.)
theorem samples_tied :
    Generated.PixelSamples.planeBody =
      ["if band.mode == '1' and depth != 1: { band = band.convert('L') }", "if psd_file is not None and depth == 16: { return (np.asarray(band).astype('>u2') * 257).tobytes() }", "if psd_file is not None and depth == 32: { return (np.asarray(band).astype('>f4') / 255.0).astype('>f4').tobytes() }", "return band.tobytes()"] ∧
    Generated.PixelSamples.planeArith =
      [(16, [("Mult", (importMul16 : Int), 1)], ["astype:>u2"], ["np.asarray", "astype", "tobytes"]), (32, [("Div", (importDiv32 : Int), 1)], ["astype:>f4", "astype:>f4"], ["np.asarray", "astype", "astype", "tobytes"])] ∧
    Generated.PixelSamples.frompilIfs =
      ["if pil_im.mode == '1': { pil_im = pil_im.convert('L') }", "if pil_im.has_transparency_data: { alpha = pil_im.convert('RGBA').getchannel('A') }", "if psd_file is not None: { pil_im = pil_im.convert(psd_file.pil_mode) } else {  }", "if pil_im.mode == 'CMYK': { pil_im = ImageChops.invert(pil_im) }", "if psd_file is not None: { depth, version = (psd_file.depth, psd_file.version) }", "if alpha is None: { alpha = Image.new('L', pil_im.size, 255) }"] ∧
    Generated.PixelSamples.depthDefault =
      "get_pil_depth(pil_im.mode.rstrip('A'))" ∧
    Generated.PixelSamples.setDataArgs =
      ["plane(alpha) | pil_im.width, pil_im.height, depth, version", "plane(pil_im.getchannel(channel_index)) | pil_im.width, pil_im.height, depth, version"] ∧
    Generated.PixelSamples.layerInversions =
      [("pil_im.mode == 'CMYK'", "pil_im = ImageChops.invert(pil_im)")] ∧
    Generated.PixelSamples.docFrompil =
      ["if image.mode == '1': { image = image.convert('L') }", "header = cls._make_header(image.mode, image.size)", "if image.mode == 'CMYK': { image = ImageChops.invert(image) } else { if image.mode in ('La', 'RGBa'): { image = image.convert(image.mode.upper()) } }", "image_data = ImageData(compression=compression)", "image_data.set_data([channel.tobytes() for channel in image.split()], header)", "return cls(PSD(header=header, image_data=image_data, image_resources=ImageResources.new()))"] ∧
    Generated.PixelSamples.docInversions =
      [("image.mode == 'CMYK'", "image = ImageChops.invert(image)")] ∧
    Generated.PixelSamples.headerDepthDefault =
      "8" ∧
    Generated.PixelSamples.headerAsserts =
      ["depth in (8, 16, 32)"] ∧
    Generated.PixelSamples.createImage =
      ["depth == 8: return Image.frombytes('L', size, data, 'raw')", "depth == 16: image = Image.frombytes('I', size, data, 'raw', 'I;16B'); return image.point(lambda x: x * (1.0 / 256.0)).convert('L')", "depth == 32: image = Image.frombytes('F', size, data, 'raw', 'F;32BF'); return image.point(lambda x: x * 256.0).convert('L')", "depth == 1: return Image.frombytes('1', size, data, 'raw', '1;I')", "else: raise ValueError('Unsupported depth: %g' % depth)"] ∧
    Generated.PixelSamples.createRows =
      [(8, "L", "raw", ((1 : Int), 1, (0 : Int), 1), "-", ["Image.frombytes"]), (16, "I", "I;16B", ((1 : Int), pilDiv16, (0 : Int), 1), "L", ["Image.frombytes", "point", "convert"]), (32, "F", "F;32BF", ((pilMul32 : Int), 1, (0 : Int), 1), "L", ["Image.frombytes", "point", "convert"]), (1, "1", "1;I", ((1 : Int), 1, (0 : Int), 1), "-", ["Image.frombytes"])] ∧
    Generated.PixelSamples.postProcess =
      ["if image.mode == 'CMYK': { image = ImageChops.invert(image) }", "if icc_profile: { image = _apply_icc(image, icc_profile) }", "if alpha and image.mode in ('RGB', 'L'): { image.putalpha(alpha) }", "return image"] ∧
    Generated.PixelSamples.pilInversions =
      [("image.mode == 'CMYK'", "image = ImageChops.invert(image)")] ∧
    Generated.PixelSamples.unmatteCallers =
      ["convert_image_data_to_pil"] ∧
    Generated.PixelSamples.unmatteExprs =
      ["args['convert'](args['float'](args['x'] + args['a'] - 255) * 255.0 / args['float'](args['max'](args['a'], 1)) * args['float'](args['min'](args['a'], 1)) + args['float'](args['x']) * args['float'](1 - args['min'](args['a'], 1)), 'L')", "convert(float(x + a - 255) * 255.0 / float(max(a, 1)) * float(min(a, 1)) + float(x) * float(1 - min(a, 1)), \"L\")"] ∧
    Generated.PixelSamples.layerTail =
      "return post_process(image, alpha, icc)" ∧
    Generated.PixelSamples.docTail =
      ["image = post_process(image, alpha, icc)", "return _remove_white_background(image)"] ∧
    Generated.PixelSamples.parseArray =
      ["depth == 8: parsed = np.frombuffer(data, '>u1'); if lut is not None: { parsed = lut[parsed] }; return parsed.astype(np.float32) / 255.0", "depth == 16: return np.frombuffer(data, '>u2').astype(np.float32) / 65535.0", "depth == 32: return np.frombuffer(data, '>f4').astype(np.float32)", "depth == 1: return np.unpackbits(np.frombuffer(data, np.uint8)).astype(np.float32)", "else: raise ValueError('Unsupported depth: %g' % depth)"] ∧
    Generated.PixelSamples.pilGetData =
      ["convert_image_data_to_pil: psd._record.image_data.get_data(psd._record.header)", "_get_channel: channel_data.get_data(width, height, depth, layer._psd.version)"] ∧
    Generated.PixelSamples.numpyGetData =
      ["get_image_data: psd._record.image_data.get_data(psd._record.header, False)", "_find_channel: data.get_data(width, height, depth, version)"] ∧
    Generated.PixelSamples.parseRows =
      [(8, ["frombuffer:>u1", "astype:np.float32"], [("Div", (npDiv8 : Int), 1)], ["np.frombuffer", "astype"]), (16, ["frombuffer:>u2", "astype:np.float32"], [("Div", (npDiv16 : Int), 1)], ["np.frombuffer", "astype"]), (32, ["frombuffer:>f4", "astype:np.float32"], [], ["np.frombuffer", "astype"]), (1, ["frombuffer:np.uint8", "astype:np.float32"], [], ["np.frombuffer", "np.unpackbits", "astype"])] ∧
    Generated.PixelSamples.removeBackground =
      ["if psd.color_mode == ColorMode.RGB and data.shape[2] > 3 and has_transparency(psd): { color = data[:, :, :3]; index = get_transparency_index(psd) % data.shape[2]; alpha = data[:, :, index:index + 1]; a = np.repeat(alpha, color.shape[2], axis=2); color[a > 0] = (color + alpha - 1)[a > 0] / a[a > 0]; data[:, :, :3] = color }", "return data"] ∧
    Generated.PixelSamples.numpyConstMinus =
      [] :=
  ⟨rfl, rfl, rfl, rfl, rfl, rfl, rfl, rfl, rfl, rfl, rfl, rfl, rfl, rfl, rfl, rfl, rfl, rfl, rfl, rfl, rfl, rfl, rfl, rfl⟩

/-! ### the laws of `Props/C07.lean` hold for the real arithmetic -/

/-- the 8-bit / 16-bit / binary32 sample arithmetic satisfies `Px.LawfulAt` at every depth the pipeline
handles: `ImageChops.invert` is an involution on samples, and `_create_image` undoes `plane()` -/
theorem px_lawful_concrete : ∀ d ∈ depths, px.LawfulAt d := fun _ hd => px_lawfulAt hd

example : (8 : Nat) ∈ depths ∧ (16 : Nat) ∈ depths ∧ (32 : Nat) ∈ depths := by decide

/-- PIL's `convert`, modelled per pixel, has the laws the route theorems ask for -/
theorem pil_lawful_concrete : pil.Lawful := pil_lawful

/-- `Px.Lawful` itself (the laws at EVERY natural as a depth) is more than the code offers: at a depth
`_create_image` rejects there is nothing to undo the import with. -/
theorem px_not_lawful_everywhere : ¬ px.Lawful :=
  fun h => absurd (h.load_store 7 ⟨5, by decide⟩) (by decide)

/-! ### PIL export ∘ import = id on 0 … 255 -/

/-- for each depth: what `_create_image` makes of the sample `plane()` stored is the sample -/
theorem decode_encode_8_16_32 : ∀ d ∈ depths, ∀ v ≤ 255, pilLoad d (store d v) = some v :=
  fun _ hd _ hv => load_store hd hv

example : (16 : Nat) ∈ depths ∧ (200 : Nat) ≤ 255 := by decide

/-- the same in closed form: 8 bit the byte; 16 bit `(v · 257) / 256 = v` (the code is the byte twice);
32 bit `⌊binary32(v / 255) · 256⌋ = v`, clipped at 255 -/
theorem decode_encode_explicit (v : Nat) (hv : v ≤ 255) :
    store 8 v = v ∧
    store 16 v = v * 257 ∧ v * 257 / 256 = v ∧ v * 257 % 256 = v ∧
    store 32 v = f32Bits ((v : Rat) / 255) ∧ f2l (f32Value (f32Bits ((v : Rat) / 255)) * 256) = v := by
  exact ⟨store_8 v, store_16 hv, by omega, by omega, store_32 v, (sample_floats ⟨v, by omega⟩).1⟩

example : (77 : Nat) ≤ 255 := by decide

/-- The variant `v << 8` of the 16-bit encoding is undone by the PIL export all the same … -/
theorem shift_variant_pil (v : Nat) (hv : v ≤ 255) : pilLoad 16 (storeShift v) = some v := by
  simp only [pilLoad, i2l, pilDiv16, storeShift]
  simp; omega

example : (255 : Nat) ≤ 255 := by decide

/-- … but not by the NumPy export: `(v << 8) / 65535 ≠ v / 255` (white comes back as 0.99611, and
`round(numpy · 255)` is 254) — which is why the import multiplies by 257. -/
theorem shift_variant_numpy_fails :
    ¬ (∀ v ≤ 255, ((storeShift v : Nat) : Rat) / (npDiv16 : Rat) = (v : Rat) / 255) ∧
    npLoad 16 (storeShift 255) ≠ npLoad 16 (store 16 255) ∧
    (∀ b, npLoad 16 (storeShift 255) = some b → roundHalfEven (f32Value b * 255) = 254) := by
  have h2 : npLoad 16 (storeShift 255) = some (f32Bits ((65280 : Rat) / 65535)) := by decide +kernel
  refine ⟨fun h => absurd (h 255 (by decide)) (by decide +kernel), by decide +kernel, fun b hb => ?_⟩
  cases h2.symm.trans hb
  decide +kernel

/-- Rounding instead of truncating in the 16 → 8 bit reduction (`x / 256 + 0.5`) would return `v + 1` for the
upper half of the range: 128 ↦ 129. -/
theorem rounding_variant_fails : pilLoad16Rounding (store 16 128) = 129 ∧
    ¬ (∀ v ≤ 255, pilLoad16Rounding (store 16 v) = v) :=
  have h128 : pilLoad16Rounding (store 16 128) = 129 := by decide
  ⟨h128, fun h => absurd (h128.symm.trans (h 128 (by decide))) (by decide)⟩

/-! ### the NumPy export of an imported sample -/

/-- At every depth the NumPy export of an imported `v` is THE SAME float: the binary32 nearest to `v / 255`
(depth 8: `float32(v) / 255`; depth 16: `float32(v · 257) / 65535`, and `v · 257 / 65535 = v / 255` exactly;
depth 32: the stored `float32(v) / 255` itself). -/
theorem numpy_export_value : ∀ d ∈ depths, ∀ v ≤ 255, npLoad d (store d v) = some (f32Bits ((v : Rat) / 255)) :=
  fun _ hd _ hv => np_store hd hv

example : (32 : Nat) ∈ depths ∧ (3 : Nat) ≤ 255 := by decide

/-- the quotient that `_parse_array` rounds is exactly `v / 255` as a rational number, at depths 8 and 16 -/
theorem numpy_export_quotient (d : Nat) (hd : d = 8 ∨ d = 16) (v : Nat) (hv : v ≤ 255) :
    npQuotient d (store d v) = some ((v : Rat) / 255) := by
  rcases hd with rfl | rfl
  · simp [npQuotient, store_8, npDiv8]
  · have := quotient_16 hv
    simp only [npQuotient]
    simp [this]

example : ((16 : Nat) = 8 ∨ (16 : Nat) = 16) ∧ (255 : Nat) ≤ 255 := by decide

/-- … the float returned is within 2⁻²⁵ of `v / 255` (so within 1e-6), it IS the nearest binary32 (`v / 255` lies
between the midpoints to the two neighbouring floats, whatever the rounding algorithm), and it equals `v / 255`
only for `v ∈ {0, 255}` -/
theorem numpy_export_nearest (v : Nat) (hv : v ≤ 255) :
    let b := f32Bits ((v : Rat) / 255)
    ((v : Rat) / 255 - 1 / 2 ^ 25 ≤ f32Value b ∧ f32Value b ≤ (v : Rat) / 255 + 1 / 2 ^ 25) ∧
    (2 * ((v : Rat) / 255) ≤ f32Value b + f32Value (b + 1) ∧
      (0 < v → f32Value (b - 1) + f32Value b ≤ 2 * ((v : Rat) / 255))) ∧
    ((f32Value b = (v : Rat) / 255) = (v = 0 ∨ v = 255)) :=
  (sample_floats ⟨v, by omega⟩).2.1

example : (128 : Nat) ≤ 255 := by decide

/-! ### the PIL export and the NumPy export agree on every sample -/

/-- for every depth and every `v`: the PIL export is `v`, the NumPy export is a float `x` with
`round(x · 255) = v` -/
theorem pil_numpy_agree_samples : ∀ d ∈ depths, ∀ v ≤ 255,
    ∃ b, npLoad d (store d v) = some b ∧ pilLoad d (store d v) = some v ∧
      roundHalfEven (f32Value b * 255) = (v : Int) :=
  fun _ hd v hv => ⟨_, np_store hd hv, load_store hd hv, (sample_floats ⟨v, by omega⟩).2.2.1⟩

example : (8 : Nat) ∈ depths ∧ (254 : Nat) ≤ 255 := by decide

/-! ### CMYK inversion -/

/-- `ImageChops.invert` (`255 − v`) is an involution on 8-bit samples; on the stored 16-bit code it is
`65535 − c`, an involution too, and the two commute with the import; on the values the NumPy export shows it
is `1 − x` exactly (`(255 − v) / 255 = 1 − v / 255`). -/
theorem inversion_involution (v : Nat) (hv : v ≤ 255) :
    inv8 (inv8 v) = v ∧ inv8 v ≤ 255 ∧
    store 16 (inv8 v) = inv16 (store 16 v) ∧ inv16 (inv16 (store 16 v)) = store 16 v ∧
    ((inv8 v : Nat) : Rat) / 255 = 1 - (v : Rat) / 255 := by
  have h16 := store_16 hv
  have h16' := store_16 (show inv8 v ≤ 255 by unfold inv8; omega)
  refine ⟨by unfold inv8; omega, by unfold inv8; omega, ?_, ?_, ?_⟩
  · rw [h16, h16']; unfold inv8 inv16; omega
  · rw [h16]; unfold inv16; omega
  · unfold inv8
    rw [Nat.cast_sub hv]
    push_cast
    field_simp

example : (40 : Nat) ≤ 255 := by decide

/-- In binary32 the inversion `1 − x` is NOT an involution on the values the NumPy export returns (it loses the
low bits of small values: `v = 1`), only on the upper half of the range; it stays within 2⁻²⁴ of the NumPy value
of the inverted sample. The pipeline never inverts floats: all three inversions are on 8-bit samples
(`samples_tied`: `numpyConstMinus = []`). -/
theorem float_inversion (v : Nat) (hv : v ≤ 255) :
    (((inv8 v : Nat) : Rat) / 255 - 1 / 2 ^ 24 ≤ rnd (1 - npValue v) ∧
      rnd (1 - npValue v) ≤ ((inv8 v : Nat) : Rat) / 255 + 1 / 2 ^ 24) ∧
    (128 ≤ v → rnd (1 - rnd (1 - npValue v)) = npValue v) ∧
    rnd (1 - rnd (1 - npValue 1)) ≠ npValue 1 :=
  have h := (sample_floats ⟨v, by omega⟩).2.2.2
  ⟨h.1, h.2, by decide +kernel⟩

example : (200 : Nat) ≤ 255 := by decide

/-! ### alpha -/

/-- opaque (`Image.new("L", size, 255)`) is stored as the maximal code of every depth — 0xff, 0xffff, the
binary32 1.0 — and comes back as 255 from the PIL export and exactly 1.0 from the NumPy export; transparent
(0) is the zero code and comes back as 0 and 0.0 -/
theorem alpha_opaque_max_code :
    storeBytes 8 opaque8 = [0xff] ∧ storeBytes 16 opaque8 = [0xff, 0xff] ∧ storeBytes 32 opaque8 = [0x3f, 0x80, 0, 0] ∧
    (∀ d ∈ depths, pilLoad d (store d opaque8) = some 255 ∧
      ∃ b, npLoad d (store d opaque8) = some b ∧ f32Value b = 1) ∧
    (∀ d ∈ depths, store d 0 = 0 ∧ pilLoad d 0 = some 0 ∧ ∃ b, npLoad d 0 = some b ∧ f32Value b = 0) := by
  decide +kernel

/-! ### matte removal -/

/-- `_remove_white_background` leaves a colour sample alone when its alpha is 0 or 255 (and only then for
every colour: the half-transparent gray (100, 128) becomes 0) -/
theorem unmatte_exact_on_solid :
    (∀ x a : Fin 256, (a.val = 0 ∨ a.val = 255) → unmatte8 x.val a.val = x.val) ∧ unmatte8 100 128 = 0 :=
  ⟨fun x _ ha => unmatte8_solid (by omega) ha, by decide⟩

/-! ### the route theorems for the real arithmetic -/

/-- LAYER import → save → open → `layer.topil()`, unconditionally for the real arithmetic: every source mode,
every document colour mode with or without alpha channel, depth 8 / 16 / 32, any offset. -/
theorem layer_import_export_concrete (img : Image S8) (hwf : img.WF) (hdr : Header) (hd : hdr.depth ∈ depths)
    (hb : hdr.cmode ≠ .bitmap) (top left : Int) :
    let src := normalise pil img
    let alpha := (srcAlpha src).getD (List.replicate (img.width * img.height) px.full)
    ∃ l, layerImport pil px img hdr top left = .ok l ∧
      (l.top, l.left, l.bottom, l.right) = (top, left, top + img.height, left + img.width) ∧
      exportLayerPil px hdr l = .ok
        { mode := layerPilMode hdr.cmode, width := img.width, height := img.height,
          bands := (pil.conv hdr.pilMode src).bands.take hdr.cmode.channels ++
            (if hdr.cmode = .cmyk then [] else [alpha]) } ∧
      exportLayerAlpha px hdr l = .ok (some alpha) :=
  layer_import_export pil pil_lawful px img hwf hdr (px_lawfulAt hd) hb top left

example : ∃ (img : Image S8) (hdr : Header), img.WF ∧ hdr.depth ∈ depths ∧ hdr.cmode ≠ .bitmap :=
  ⟨{ mode := .RGBA, width := 1, height := 1, bands := [[1], [2], [3], [4]] },
   { cmode := .cmyk, channels := 4, depth := 32, width := 2, height := 2 }, by decide, by decide, by decide⟩

/-- DOCUMENT import → save → open → `topil()` for the real arithmetic, every mode except RGBA -/
theorem doc_import_export_concrete (img : Image S8) (hwf : img.WF) (hm : img.mode ≠ .RGBA) :
    exportDocPil px (docImport pil px img).1 (docImport pil px img).2 = .ok (some (normalise pil img)) :=
  doc_import_export_partial pil pil_lawful px (px_lawfulAt (by decide)) img hwf hm

example : ∃ img : Image S8, img.WF ∧ img.mode ≠ .RGBA :=
  ⟨{ mode := .one, width := 2, height := 1, bands := [[0, 1]] }, by decide, by decide⟩

/-- … and RGBA documents exactly when every alpha sample is 0 or 255 (the known finding otherwise) -/
theorem doc_import_export_rgba_concrete_partial (w h : Nat) (r g b a : List S8)
    (hl : r.length = a.length ∧ g.length = a.length ∧ b.length = a.length)
    (ha : ∀ x ∈ a, x.val = 0 ∨ x.val = 255) :
    let img : Image S8 := { mode := .RGBA, width := w, height := h, bands := [r, g, b, a] }
    exportDocPil px (docImport pil px img).1 (docImport pil px img).2 = .ok (some img) := by
  apply doc_import_export_rgba_partial pil px (px_lawfulAt (by decide)) w h r g b a
  intro c hc
  have hcl : c.length = a.length := by
    simp only [List.mem_cons, List.not_mem_nil, or_false] at hc
    rcases hc with rfl | rfl | rfl
    · exact hl.1
    · exact hl.2.1
    · exact hl.2.2
  exact zipWith_unmatte_solid c a hcl ha

example : ∃ r g b a : List S8, (r.length = a.length ∧ g.length = a.length ∧ b.length = a.length) ∧
    ∀ x ∈ a, x.val = 0 ∨ x.val = 255 := ⟨[10], [20], [30], [⟨255, by omega⟩], by decide,
     fun x hx => by rw [List.mem_singleton] at hx; subst hx; exact Or.inr rfl⟩

/-- The full statement fails for RGBA with the real arithmetic: (100, 100, 100, 128) comes back as (0, 0, 0, 128). -/
theorem doc_import_export_rgba_concrete_fails :
    ¬ (∀ img : Image S8, img.WF →
        exportDocPil px (docImport pil px img).1 (docImport pil px img).2 = .ok (some (normalise pil img))) :=
  fun h => by
    have h1 := h { mode := .RGBA, width := 1, height := 1, bands := [[100], [100], [100], [128]] } (by decide)
    rw [show exportDocPil px _ _ = _ from
      doc_import_export_rgba pil px (px_lawfulAt (by decide)) 1 1 [100] [100] [100] [128]] at h1
    exact absurd (congrArg (fun r => r.toOption.join.map Image.bands) h1) (by decide)

/-! ### the NumPy export of an imported layer / document: every sample is `v / 255` -/

/-- `layer.numpy()` of an imported layer, every depth: the colour bands of `img.convert(doc.pil_mode)` — in the
STORAGE convention, i.e. inverted in a CMYK document — followed by the transparency, every sample `x` as the
float nearest to `x / 255`. -/
theorem layer_numpy_export_concrete (img : Image S8) (hwf : img.WF) (hdr : Header) (hd : hdr.depth ∈ depths)
    (hb : hdr.cmode ≠ .bitmap) (top left : Int) :
    let src := normalise pil img
    let alpha := (srcAlpha src).getD (List.replicate (img.width * img.height) px.full)
    let conv := pil.conv hdr.pilMode src
    ∃ l, layerImport pil px img hdr top left = .ok l ∧
      exportLayerNumpy (npView hdr.depth) hdr l = .ok
        (((if hdr.cmode = .cmyk then conv.invert px else conv).bands.take hdr.cmode.channels ++ [alpha]).map
          (·.map asFloat)) := by
  intro src alpha conv
  have hsrc := normalise_wf pil pil_lawful img hwf
  have hsz := normalise_size pil pil_lawful img
  have hj := layer_converted_numpy px (npView hdr.depth) hdr (srcAlpha src) conv
    (pil_lawful.conv_wf _ _ hsrc) hb (decide (hdr.channels > (hdr.cmode.pilMode false).pilChannels))
    (by rw [pil_lawful.conv_mode]; rfl) top left
  rw [pil_lawful.conv_width, pil_lawful.conv_height, hsz.1, hsz.2, npView_store hd] at hj
  rw [layerImport_eq pil pil_lawful px img hwf hdr top left]
  exact hj

example : ∃ (img : Image S8) (hdr : Header), img.WF ∧ hdr.depth ∈ depths ∧ hdr.cmode ≠ .bitmap :=
  ⟨{ mode := .LA, width := 1, height := 1, bands := [[1], [2]] },
   { cmode := .rgb, channels := 3, depth := 16, width := 2, height := 2 }, by decide, by decide, by decide⟩

/-- hence, in grayscale and RGB documents, `layer.numpy()` IS `layer.topil()` sample for sample (`x ↦ x / 255`,
nearest float); in CMYK documents it is the inverted colour (the known convention split) plus the transparency
that PIL cannot carry. -/
theorem pil_numpy_agree_layer_concrete (img : Image S8) (hwf : img.WF) (hdr : Header) (hd : hdr.depth ∈ depths)
    (hc : hdr.cmode = .gray ∨ hdr.cmode = .rgb) (top left : Int) :
    ∃ l out, layerImport pil px img hdr top left = .ok l ∧ exportLayerPil px hdr l = .ok out ∧
      exportLayerNumpy (npView hdr.depth) hdr l = .ok (out.bands.map (·.map asFloat)) := by
  have hb : hdr.cmode ≠ .bitmap := by rcases hc with h | h <;> rw [h] <;> decide
  have hk : hdr.cmode ≠ .cmyk := by rcases hc with h | h <;> rw [h] <;> decide
  obtain ⟨l, h1, _, h3, _⟩ := layer_import_export_concrete img hwf hdr hd hb top left
  obtain ⟨l', h1', h2'⟩ := layer_numpy_export_concrete img hwf hdr hd hb top left
  rw [h1] at h1'
  cases h1'
  refine ⟨l, _, h1, h3, ?_⟩
  rw [h2']
  simp [hk]

example : ∃ (img : Image S8) (hdr : Header), img.WF ∧ hdr.depth ∈ depths ∧ (hdr.cmode = .gray ∨ hdr.cmode = .rgb) :=
  ⟨{ mode := .CMYK, width := 1, height := 1, bands := [[1], [2], [3], [4]] },
   { cmode := .gray, channels := 2, depth := 32, width := 2, height := 2 }, by decide, by decide, by decide⟩

/-- `numpy()` of an imported document (every mode except RGBA): every plane of the source — inverted for CMYK —
with every sample `x` as the float nearest to `x / 255` -/
theorem doc_numpy_export_concrete (img : Image S8) (hwf : img.WF) (hm : img.mode ≠ .RGBA) :
    let src := normalise pil img
    exportDocNumpy (npView 8) (docImport pil px img).1 (docImport pil px img).2 = .ok
      ((if src.mode = .CMYK then src.invert px else src).bands.map (·.map asFloat)) := by
  intro src
  have h8 : (8 : Nat) ∈ depths := by decide
  by_cases h1 : img.mode = .one
  · have hm' : (pil.conv .L img).mode = .L := pil_lawful.conv_mode _ _
    have hwf' := pil_lawful.conv_wf .L img hwf
    have := doc_core_numpy pil px (npView 8) (pil.conv .L img) hwf' (by rw [hm']; decide) (by rw [hm']; decide)
    rw [npView_store h8] at this
    simpa [docImport, normalise, h1, hm', src] using this
  · have := doc_core_numpy pil px (npView 8) img hwf h1 hm
    rw [npView_store h8] at this
    simpa [normalise, h1, src] using this

example : ∃ img : Image S8, img.WF ∧ img.mode ≠ .RGBA :=
  ⟨{ mode := .CMYK, width := 1, height := 1, bands := [[1], [2], [3], [4]] }, by decide, by decide⟩

end PsdVerif.C07
