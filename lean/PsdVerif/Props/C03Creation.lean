/-
C03 — the header / plane-count relation of the creation entry points.
-/
import PsdVerif.Props.C04
import PsdVerif.Lemmas.C03PixelsRle
import PsdVerif.Lemmas.Merged
import PsdVerif.Model.Creation
import PsdVerif.Generated.Creation

namespace PsdVerif.C03Creation
open PsdVerif PsdVerif.Creation PsdVerif.C03Pixels
open PsdVerif.Rle PsdVerif.Compression

/-! ### The regenerated table: every (entry point, accepted mode) of the current tree -/

/-- The model's copy of the specification's colour-plane table is the live `ColorMode.channels`. -/
theorem creation_color_channels_tied :
    ∀ r ∈ Generated.Creation.rows, colorChannels r.colorMode = some r.colorChannels := by decide +kernel

/-- `_make_header`: `header.channels` = colour planes of the mode + 1 exactly when the mode carries
transparency (`PixelLayer.frompil`: channel records = transparency mask + colour planes of the document). -/
theorem creation_header_rule : ∀ r ∈ Generated.Creation.rows, r.declares = true := by decide +kernel

/-- Every creation entry point stores exactly `header.channels` planes of the declared size, for every
mode it accepts. -/
theorem creation_planes_match_header : ∀ r ∈ Generated.Creation.rows, r.truthful = true := by decide +kernel

/-- non-vacuity: the table covers the three entry points and more than the modes a hand-written list would -/
example : Generated.Creation.rows.length ≥ 60 := by decide +kernel
example : (Generated.Creation.rows.filter (fun r => r.entry == "frompil" && r.mode == "LAB")).length = 1 := by decide +kernel
example : (Generated.Creation.rows.filter (fun r => r.entry == "layer")).length ≥ 20 := by decide +kernel

/-! ### What the agreement buys on the compression model (`ImageData.set_data`) -/

/-- **RAW**: when the entry point hands over as many planes as the header declares, each of the declared
size, the image data section holds exactly `channels` planes of `height` rows of `rowSize` bytes. -/
theorem created_raw_size (z : ZCodec) (planes : List BList) (w h channels depth version : Nat) (img : Psd.ImageData)
    (hs : setImage z .raw planes w h channels depth version = .ok img)
    (hp : ∀ p ∈ planes, p.length = rowSize w depth * h) (hn : planes.length = channels) :
    img.compression = 0 ∧ img.data.length = channels * (rowSize w depth * h) := by
  unfold setImage imageSet compress at hs
  simp only at hs
  injection hs with hs
  subst hs
  exact ⟨rfl, by rw [← hn]; exact Merged.flatten_length_of_all planes _ hp⟩

/-- … and whatever the number of planes: the section holds what was handed over, not what the header says -/
theorem raw_stores_what_it_is_given (z : ZCodec) (planes : List BList) (w h channels depth version : Nat)
    (img : Psd.ImageData) (hs : setImage z .raw planes w h channels depth version = .ok img)
    (hp : ∀ p ∈ planes, p.length = rowSize w depth * h) :
    img.data.length = planes.length * (rowSize w depth * h) := by
  unfold setImage imageSet compress at hs
  simp only at hs
  injection hs with hs
  subst hs
  exact Merged.flatten_length_of_all planes _ hp

/-- hence the hypothesis `planes.length = channels` of `created_raw_size` is needed: three planes under a
four-channel header (what a Lab image is when "alpha" is read off a band called A) leave the section one
plane short … -/
theorem short_planes_raw :
    ∃ img, setImage C04.zId .raw [[1, 2], [3, 4], [5, 6]] 2 1 4 8 1 = .ok img ∧
      img.data.length = 3 * 2 ∧ img.data.length ≠ 4 * (rowSize 2 8 * 1) :=
  ⟨⟨0, [1, 2, 3, 4, 5, 6]⟩, by decide +kernel, by decide, by decide⟩

/-- … and with RLE the row table has `channels · height` entries of which the last `height` are 0: rows that
expand to nothing instead of a scan line. -/
theorem short_planes_rle :
    setImage C04.zId .rle [[1, 2], [3, 4], [5, 6]] 2 1 4 8 1 =
      .ok ⟨1, [0, 3, 0, 3, 0, 3, 0, 0, 1, 1, 2, 1, 3, 4, 1, 5, 6]⟩ := by decide +kernel

/-- the same three planes under a three-channel header: three entries, three scan lines -/
example : setImage C04.zId .rle [[1, 2], [3, 4], [5, 6]] 2 1 3 8 1 =
    .ok ⟨1, [0, 3, 0, 3, 0, 3, 1, 1, 2, 1, 3, 4, 1, 5, 6]⟩ := by decide +kernel

end PsdVerif.C03Creation
