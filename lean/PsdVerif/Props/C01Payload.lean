/-
C01 (payload classes) — the payload classes brought into the model survive write → read and re-write identically.

Unit 1  `LayerInfoBlock` (Lr16 / Lr32): Model/PayloadLayerInfo.lean, Lemmas/PayloadLayerInfo{1,2}.lean.

Unit 2  the fixed-layout tagged-block payloads of psd/base.py, psd/tagged_blocks.py, psd/color.py:
        Model/PayloadBase.lean (`PCodec`), Model/PayloadSimple.lean, Lemmas/PayloadBase.lean, Lemmas/PayloadSimple.lean.

Unit 3  psd/effects_layer.py (`lrFX`): Model/PayloadEffects.lean, Lemmas/PayloadEffects.lean.

Unit 4  psd/patterns.py (`Patt` / `Pat2` / `Pat3`): Model/PayloadPatterns.lean, Lemmas/PayloadPatterns.lean.

Unit 5  psd/linked_layer.py (`lnkD` / `lnk2` / `lnk3` / `lnkE`): Model/PayloadLinked.lean, Lemmas/PayloadLinked.lean.

Unit 6  the descriptor-wrapping payloads of psd/tagged_blocks.py (`SoLd` / `SoLE`, `PlLd` / `plLd`, `TySh`):
        Model/PayloadDescWrap.lean, Lemmas/PayloadDescWrap.lean.

Units 2-6:
* every class is a `PCodec`: `c.enc v` is `v.tobytes(...)` (or `struct.error`), `c.dec` the reader at a cursor,
  `c.consumed v` the number of written bytes the reader consumes (some writers end with `write_padding`; no payload
  reader consumes that filler), `c.encW` the bytes with the count `write` returns.
* `RoundTrip c` : anywhere in a stream · `RoundTripAtEnd c` : when nothing follows (the reader probes what follows:
  `is_readable`, lenient `fp.read`) · `RewriteIdentical c` · `WrittenIsLength c` · `TaggedBlockPayload c` : as the payload
  of a skeleton tagged block (`TaggedBlock.read` runs the payload reader on exactly the bytes of the length block).
  The definitions are in Lemmas/PayloadBase.lean.

Unit 1:
* `LayerInfoBlock.enc v pad li` is `li.tobytes(version=v, padding=pad)`, `LayerInfoBlock.dec v` is
  `LayerInfoBlock.read(fp, version=v)`. As in Props/C01.lean the value read back is the object *as the writer left
  it* (`blockRefresh`: `_update_channel_length` overwrites `channel_info.length` before the records are written);
  the `…_fresh` corollaries are the `= li` statements.
* The reader does not consume the writer's trailing filler (`write_padding(fp, written, padding)`): the cursor stops
  at `bodyLen`; the second conjunct says that filler is all that follows.
* `TBlock` is a tagged block whose `data` is a typed payload; `TBlock.dec` is `TaggedBlock.read` *with* the payload
  dispatch (`kls.frombytes(raw_data, version=version)`), `t.flat` its skeleton view (payload = the bytes it writes).
* `DeepPSD` is a document whose document-level blocks are typed: `psd_roundtrip_deep` is the whole-file round trip
  with the nested layer structure (records, masks, channel data of the Lr16/Lr32 block), not its bytes.
* WF tags as in Model/Psd.lean; the one (F) clause of this unit has the witness `layer_info_block_none_not_roundtrip`.
-/
import PsdVerif.Lemmas.PayloadLayerInfo2
import PsdVerif.Lemmas.PayloadSimple
import PsdVerif.Lemmas.PayloadEffects
import PsdVerif.Lemmas.PayloadPatterns
import PsdVerif.Lemmas.PayloadLinked
import PsdVerif.Lemmas.PayloadDescWrap
import PsdVerif.Lemmas.PayloadSampleFacts
import PsdVerif.Model.PayloadTables

namespace PsdVerif.C01Payload
open PsdVerif PsdVerif.Codec PsdVerif.Psd PsdVerif.Payload

/-! ## unit 1: LayerInfoBlock -/

/-- anywhere in a stream, `LayerInfoBlock.read` returns what `LayerInfoBlock.write` wrote (as the writer left it) and
stops at the end of the body; what follows in the written bytes is the writer's filler -/
theorem layer_info_block_roundtrip (v pad : Nat) (li : LayerInfo) (hwf : LayerInfoBlock.WF v li) (bs pre post : B)
    (henc : LayerInfoBlock.enc v pad li = .ok bs) :
    LayerInfoBlock.dec v (pre ++ bs ++ post) pre.length = .ok (blockRefresh li, pre.length + LayerInfoBlock.bodyLen v li) ∧
      LayerInfoBlock.bodyLen v li + padAmount (LayerInfoBlock.bodyLen v li) pad = bs.length := by
  obtain ⟨hf, rfl⟩ := LayerInfoBlock.enc_ok henc
  exact ⟨LayerInfoBlock.dec_at hwf hf (At.intro pre _ post), (LayerInfoBlock.length_encT v pad li).symm⟩

/-- when the stored channel lengths already agree with the channel data (always so for an object that was read, and
after any earlier `write`), the object read back is the original -/
theorem layer_info_block_roundtrip_fresh (v pad : Nat) (li : LayerInfo) (hwf : LayerInfoBlock.WF v li)
    (hfresh : blockRefresh li = li) (bs pre post : B) (henc : LayerInfoBlock.enc v pad li = .ok bs) :
    LayerInfoBlock.dec v (pre ++ bs ++ post) pre.length = .ok (li, pre.length + LayerInfoBlock.bodyLen v li) := by
  have h := (layer_info_block_roundtrip v pad li hwf bs pre post henc).1
  rwa [hfresh] at h

theorem layer_info_block_rewrite_identical (v pad : Nat) (li : LayerInfo) (hwf : LayerInfoBlock.WF v li) (bs : B)
    (henc : LayerInfoBlock.enc v pad li = .ok bs) (li' : LayerInfo) (n : Nat)
    (hread : LayerInfoBlock.dec v bs 0 = .ok (li', n)) : LayerInfoBlock.enc v pad li' = .ok bs := by
  have h := (layer_info_block_roundtrip v pad li hwf bs [] [] henc).1
  simp only [List.nil_append, List.append_nil, List.length_nil] at h
  rw [h] at hread
  cases hread
  rw [LayerInfoBlock.enc_refresh, henc]

/-- the byte count `write` returns is the number of bytes it emitted -/
theorem layer_info_block_written_is_length (v pad : Nat) (li : LayerInfo) (bs : B)
    (henc : LayerInfoBlock.enc v pad li = .ok bs) : LayerInfoBlock.encW v pad li = .ok (bs, bs.length) := by
  obtain ⟨hf, rfl⟩ := LayerInfoBlock.enc_ok henc
  simp only [LayerInfoBlock.encW, if_pos hf, LayerInfoBlock.encP_eq]

/-- the writer rejects (`struct.error`), it never corrupts -/
theorem layer_info_block_enc_rejects (v pad : Nat) (li : LayerInfo) (e : Err) (h : LayerInfoBlock.enc v pad li = .error e) :
    e = .structError := by
  unfold LayerInfoBlock.enc at h
  split at h
  · cases h
  · cases h; rfl

/-! ### composition with the skeleton's tagged block -/

/-- a skeleton tagged block whose payload bytes are the encoding of a nested `LayerInfo`: `TaggedBlock.read` takes the
length block (`tagged_block_roundtrip`) and `LayerInfoBlock.frombytes` on exactly those bytes returns the nested
structure -/
theorem tagged_block_layer_info_payload_roundtrip (v pad : Nat) (hp : pad = 1 ∨ pad = 2 ∨ pad = 4)
    (t : Psd.TaggedBlock) (hwf : t.WF v) (li : LayerInfo) (hli : LayerInfoBlock.WF v li)
    (henc : LayerInfoBlock.enc v (innerPad pad) li = .ok t.data) (pre post : B) :
    Psd.TaggedBlock.dec v pad (pre ++ t.encT v pad ++ post) pre.length = .ok (some t, pre.length + (t.encT v pad).length) ∧
      LayerInfoBlock.dec v t.data 0 = .ok (blockRefresh li, LayerInfoBlock.bodyLen v li) := by
  refine ⟨Psd.TaggedBlock.dec_at hp hwf (At.intro pre _ post), ?_⟩
  simpa using (layer_info_block_roundtrip v _ li hli t.data [] [] henc).1

/-- the typed tagged block: `TaggedBlock.read` *with* the payload dispatch returns the block with its nested structure -/
theorem typed_tagged_block_roundtrip (v pad : Nat) (hp : pad = 1 ∨ pad = 2 ∨ pad = 4) (t : TBlock) (hwf : t.WF v pad)
    (bs pre post : B) (henc : t.enc v pad = .ok bs) :
    TBlock.dec v pad (pre ++ bs ++ post) pre.length = .ok (some t.refresh, pre.length + bs.length) := by
  obtain ⟨_, rfl⟩ := TBlock.enc_ok henc
  exact TBlock.dec_at hp hwf (At.intro pre _ post)

theorem typed_tagged_block_rewrite_identical (v pad : Nat) (hp : pad = 1 ∨ pad = 2 ∨ pad = 4) (t : TBlock)
    (hwf : t.WF v pad) (bs : B) (henc : t.enc v pad = .ok bs) (t' : TBlock) (n : Nat)
    (hread : TBlock.dec v pad bs 0 = .ok (some t', n)) : t'.enc v pad = .ok bs := by
  have h := typed_tagged_block_roundtrip v pad hp t hwf bs [] [] henc
  simp only [List.nil_append, List.append_nil, List.length_nil] at h
  rw [h] at hread
  cases hread
  rw [TBlock.enc_refresh, henc]

theorem typed_tagged_block_written_is_length (v pad : Nat) (t : TBlock) (bs : B) (henc : t.enc v pad = .ok bs) :
    t.encP v pad = (bs, bs.length) := by
  obtain ⟨_, rfl⟩ := TBlock.enc_ok henc
  exact TBlock.encP_eq v pad t

/-- the bytes of a typed block are the bytes of its skeleton view, and the typed reader refines the skeleton's:
same signature, key and cursor, the payload decoded in place -/
theorem typed_block_is_skeleton_block (v pad : Nat) (hp : pad = 1 ∨ pad = 2 ∨ pad = 4) (t : TBlock) (hwf : t.WF v pad)
    (pre post : B) :
    Psd.TaggedBlock.dec v pad (pre ++ t.encT v pad ++ post) pre.length =
        .ok (some (t.flat v pad), pre.length + (t.encT v pad).length) ∧
      TBlock.dec v pad (pre ++ t.encT v pad ++ post) pre.length =
        .ok (some t.refresh, pre.length + (t.encT v pad).length) ∧
      t.refresh.flat v pad = t.flat v pad :=
  ⟨Psd.TaggedBlock.dec_at hp hwf.1 (At.intro pre _ post), TBlock.dec_at hp hwf (At.intro pre _ post),
    TBlock.flat_refresh v pad t⟩

/-- typed blocks on a nested stream: the loop stops when fewer than 8 bytes follow -/
theorem typed_tagged_blocks_roundtrip_nested (v pad : Nat) (hp : pad = 1 ∨ pad = 2 ∨ pad = 4) (ts : List TBlock)
    (hwf : tblocksWF v pad ts) (pre post : B) (hpost : post.length < 8) :
    tblocksDec v pad none (pre ++ tblocksT v pad ts ++ post) pre.length =
      .ok (ts.map TBlock.refresh, pre.length + (tblocksT v pad ts).length) := by
  apply tblocksDec_at hp hwf none (At.intro pre _ post) (by intro e he; cases he)
  unfold taggedCond
  rw [isReadable_false (by simp only [List.length_append]; omega)]
  rfl

/-! ### the whole file, with the nested structure -/

/-- a document whose layers live in Lr16/Lr32: reading what `PSD.write` emitted returns the document — header, resources,
the (empty) main layer info, the global mask info and the *typed* blocks with their nested records, masks and channel
data — as the writer left it -/
theorem psd_roundtrip_deep (pad : Nat) (x : DeepPSD) (hwf : x.WF pad) (bs : B) (henc : DeepPSD.enc pad x = .ok bs) :
    DeepPSD.read bs 0 = .ok (x.refresh, bs.length) := by
  rw [DeepPSD.enc_ok henc]
  exact DeepPSD.read_encT hwf

theorem psd_roundtrip_deep_fresh (pad : Nat) (x : DeepPSD) (hwf : x.WF pad) (hfresh : x.refresh = x) (bs : B)
    (henc : DeepPSD.enc pad x = .ok bs) : DeepPSD.read bs 0 = .ok (x, bs.length) := by
  rw [psd_roundtrip_deep pad x hwf bs henc, hfresh]

theorem psd_rewrite_identical_deep (pad : Nat) (x : DeepPSD) (hwf : x.WF pad) (bs : B) (henc : DeepPSD.enc pad x = .ok bs)
    (x' : DeepPSD) (n : Nat) (hread : DeepPSD.read bs 0 = .ok (x', n)) : DeepPSD.enc pad x' = .ok bs := by
  rw [psd_roundtrip_deep pad x hwf bs henc] at hread
  cases hread
  rw [DeepPSD.enc_refresh, henc]

/-- the deep writer emits exactly what the skeleton writer emits for the bytes view, and the skeleton reader returns
the bytes view of what the deep reader returns: the deep theorem *extends* `C01.psd_roundtrip`, it does not replace it -/
theorem deep_refines_skeleton (pad : Nat) (x : DeepPSD) (hwf : x.WF pad) (bs : B) (henc : DeepPSD.enc pad x = .ok bs) :
    PSD.enc pad x.flat = .ok bs ∧ PSD.read bs 0 = .ok (x.refresh.flat, bs.length) := by
  have h1 := DeepPSD.enc_below henc
  refine ⟨h1, ?_⟩
  rw [DeepPSD.flat_refresh, PSD.enc_ok h1]
  exact PSD.read_encT hwf.1

theorem psd_enc_rejects_deep (pad : Nat) (x : DeepPSD) (e : Err) (h : DeepPSD.enc pad x = .error e) :
    e = .structError ∨ e = .indexError := by
  unfold DeepPSD.enc at h
  split at h
  · rename_i e' he
    cases h
    unfold PSD.writeError at he
    split at he
    · cases he; exact Or.inl rfl
    · split at he
      · cases he; exact Or.inr rfl
      · split at he
        · cases he; exact Or.inl rfl
        · cases he
  · split at h
    · cases h
    · cases h; exact Or.inl rfl

/-! ### non-vacuity -/

/-- six records (two nested groups, a masked layer with mask parameters and real-mask fields, record-level tagged blocks)
inside an Lr16 block -/
theorem sample_block_wf : LayerInfoBlock.WF 2 Samples.nestedLayers ∧ LayerInfoBlock.WF 1 Samples.nestedStale :=
  Samples.nested_samples_ok.2.2.2.1

example : ∃ bs, LayerInfoBlock.enc 2 4 Samples.nestedLayers = .ok bs ∧
    LayerInfoBlock.dec 2 bs 0 = .ok (Samples.nestedLayers, LayerInfoBlock.bodyLen 2 Samples.nestedLayers) := by
  have h := Samples.nested_samples_ok.2.2.2.2
  have e := LayerInfoBlock.dec_encT (pad := 4) sample_block_wf.1 h.1
  rw [h.2] at e
  exact ⟨_, LayerInfoBlock.enc_of_fits h.1, e⟩

/-- a 16-bit PSB: empty main layer info, global mask info, `Lr16` with the nested layers, a raw 8-byte-length block -/
theorem sample_deep_wf : DeepPSD.WF 4 Samples.deepDoc ∧ DeepPSD.WF 4 Samples.deepDocStale := Samples.nested_samples_ok.1

example : ∃ bs, DeepPSD.enc 4 Samples.deepDoc = .ok bs ∧ bs.length = 832 ∧
    DeepPSD.read bs 0 = .ok (Samples.deepDoc, bs.length) := by
  have h := Samples.nested_samples_ok.2.1
  have e := DeepPSD.read_encT sample_deep_wf.1
  rw [h.2.2.2] at e
  exact ⟨_, DeepPSD.enc_of h.1 h.2.1, h.2.2.1, e⟩

/-- stale channel lengths: the document read back is the refreshed one, which is the fresh sample -/
example : Samples.deepDocStale.refresh = Samples.deepDoc ∧ Samples.deepDocStale.refresh ≠ Samples.deepDocStale :=
  Samples.nested_samples_ok.2.2.1

/-! ### the point excluded by the (F) clause -/

/-- `LayerInfoBlock()` (layer_count 0, records `None`, channel data `None`) is written as the count alone and re-read
with two empty lists: `_read_body` has no count-0 shortcut (known finding C01/none-vs-empty/layer-info-block-count0) -/
theorem layer_info_block_none_not_roundtrip :
    LayerInfoBlock.enc 1 4 Samples.blockNone = .ok [0, 0, 0, 0] ∧
      LayerInfoBlock.dec 1 [0, 0, 0, 0] 0 = .ok (⟨0, some [], some []⟩, 2) ∧
      (⟨0, some [], some []⟩ : LayerInfo) ≠ blockRefresh Samples.blockNone := by decide +kernel

/-! ### ties to the regenerated tables -/

/-- the keys registered for `LayerInfoBlock`, and both have an 8-byte length field in a PSB -/
theorem layer_info_keys_tied :
    Generated.Payload.layerInfoBlockKeys = Tables.layerInfoBlockKeys ∧
      (∀ k ∈ layerInfoKeys, k ∈ Psd.G.bigKeys ∧ k.length = 4) := ⟨rfl, by decide⟩

/-- `LayerInfoBlock` is `LayerInfo` with `read = _read_body`, `write = _write_body` (no length prefix, no count-0
shortcut), and the three inherited bodies are the ones the model transliterates -/
theorem layer_info_block_source_tied :
    Generated.Payload.layerInfoBlockBases = Tables.layerInfoBlockBases ∧
      Generated.Payload.layerInfoBlockRead = Tables.layerInfoBlockRead ∧
      Generated.Payload.layerInfoBlockWrite = Tables.layerInfoBlockWrite ∧
      Generated.Payload.layerInfoBodies = Tables.layerInfoBodies := ⟨rfl, rfl, rfl, rfl⟩

/-- how `TaggedBlock.read/write` call the payload: inner padding, keyword arguments -/
theorem tagged_block_payload_calls_tied :
    Generated.Payload.taggedBlockInnerPadding = Tables.taggedBlockInnerPadding ∧
      Generated.Payload.taggedBlockPayloadWrite = Tables.taggedBlockPayloadWrite ∧
      Generated.Payload.taggedBlockPayloadRead = Tables.taggedBlockPayloadRead := ⟨rfl, rfl, rfl⟩

theorem unit1_calls_tied : Generated.Payload.unit1Calls = Tables.unit1Calls := rfl

/-! ## unit 2: fixed-layout payloads -/

section unit2
open PCodec

/-! ### base.py -/

theorem empty_element_roundtrip : RoundTrip EmptyElement.codec := roundTrip_of EmptyElement.rt
theorem empty_element_rewrite_identical : RewriteIdentical EmptyElement.codec := rewriteIdentical_of EmptyElement.rt.atEnd
theorem empty_element_written_is_length : WrittenIsLength EmptyElement.codec := writtenIsLength_of EmptyElement.count

theorem numeric_element_roundtrip : RoundTrip NumericElement.codec := roundTrip_of NumericElement.rt
theorem numeric_element_rewrite_identical : RewriteIdentical NumericElement.codec := rewriteIdentical_of NumericElement.rt.atEnd
theorem numeric_element_written_is_length : WrittenIsLength NumericElement.codec := writtenIsLength_of NumericElement.count

/-- also `ProtectedSetting`, which is an `IntegerElement` with properties -/
theorem integer_element_roundtrip : RoundTrip IntegerElement.codec := roundTrip_of IntegerElement.rt
theorem integer_element_rewrite_identical : RewriteIdentical IntegerElement.codec := rewriteIdentical_of IntegerElement.rt.atEnd
theorem integer_element_written_is_length : WrittenIsLength IntegerElement.codec := writtenIsLength_of IntegerElement.count

theorem short_integer_element_roundtrip : RoundTrip ShortIntegerElement.codec := roundTrip_of ShortIntegerElement.rt
theorem short_integer_element_rewrite_identical : RewriteIdentical ShortIntegerElement.codec :=
  rewriteIdentical_of ShortIntegerElement.rt.atEnd
theorem short_integer_element_written_is_length : WrittenIsLength ShortIntegerElement.codec :=
  writtenIsLength_of ShortIntegerElement.count

theorem byte_element_roundtrip : RoundTrip ByteElement.codec := roundTrip_of ByteElement.rt
theorem byte_element_rewrite_identical : RewriteIdentical ByteElement.codec := rewriteIdentical_of ByteElement.rt.atEnd
theorem byte_element_written_is_length : WrittenIsLength ByteElement.codec := writtenIsLength_of ByteElement.count

theorem boolean_element_roundtrip : RoundTrip BooleanElement.codec := roundTrip_of BooleanElement.rt
theorem boolean_element_rewrite_identical : RewriteIdentical BooleanElement.codec := rewriteIdentical_of BooleanElement.rt.atEnd
theorem boolean_element_written_is_length : WrittenIsLength BooleanElement.codec := writtenIsLength_of BooleanElement.count

/-- written with padding `pw`, read with `pr` (`pr = 1`: the reader stops before the writer's filler; `pr = pw`: after it) -/
theorem string_element_roundtrip (pw pr : Nat) : RoundTrip (StringElement.codec pw pr) := roundTrip_of (StringElement.rt pw pr)
theorem string_element_rewrite_identical (pw pr : Nat) : RewriteIdentical (StringElement.codec pw pr) :=
  rewriteIdentical_of (StringElement.rt pw pr).atEnd
theorem string_element_written_is_length (pw pr : Nat) : WrittenIsLength (StringElement.codec pw pr) :=
  writtenIsLength_of (StringElement.count pw pr)

/-! ### color.py -/

theorem color_roundtrip : RoundTrip Color.codec := roundTrip_of Color.rt
theorem color_rewrite_identical : RewriteIdentical Color.codec := rewriteIdentical_of Color.rt.atEnd
theorem color_written_is_length : WrittenIsLength Color.codec := writtenIsLength_of Color.count

/-! ### tagged_blocks.py -/

/-- `Bytes.read` is `fp.read(4)`: lenient, so the law is at the end of a stream (a value of at most four bytes) … -/
theorem bytes_roundtrip_at_end : RoundTripAtEnd BytesElement.codec := roundTripAtEnd_of BytesElement.rt
/-- … and anywhere for a value of exactly four bytes -/
theorem bytes_roundtrip_four (v : B) (h4 : v.length = 4) (pre post : B) :
    BytesElement.codec.dec (pre ++ v ++ post) pre.length = .ok (v, pre.length + 4) :=
  BytesElement.rt_anywhere v h4 (At.intro pre v post)
theorem bytes_rewrite_identical : RewriteIdentical BytesElement.codec := rewriteIdentical_of BytesElement.rt
theorem bytes_written_is_length : WrittenIsLength BytesElement.codec := writtenIsLength_of BytesElement.count

theorem sheet_color_setting_roundtrip : RoundTrip SheetColorSetting.codec := roundTrip_of SheetColorSetting.rt
theorem sheet_color_setting_rewrite_identical : RewriteIdentical SheetColorSetting.codec :=
  rewriteIdentical_of SheetColorSetting.rt.atEnd
theorem sheet_color_setting_written_is_length : WrittenIsLength SheetColorSetting.codec :=
  writtenIsLength_of SheetColorSetting.count

theorem reference_point_roundtrip : RoundTrip ReferencePoint.codec := roundTrip_of ReferencePoint.rt
theorem reference_point_rewrite_identical : RewriteIdentical ReferencePoint.codec := rewriteIdentical_of ReferencePoint.rt.atEnd
theorem reference_point_written_is_length : WrittenIsLength ReferencePoint.codec := writtenIsLength_of ReferencePoint.count

/-- the reader decides by the remaining length whether signature + blend mode and the sub type are present: at end only -/
theorem section_divider_setting_roundtrip_at_end : RoundTripAtEnd SectionDividerSetting.codec :=
  roundTripAtEnd_of SectionDividerSetting.rt
theorem section_divider_setting_rewrite_identical : RewriteIdentical SectionDividerSetting.codec :=
  rewriteIdentical_of SectionDividerSetting.rt
theorem section_divider_setting_written_is_length : WrittenIsLength SectionDividerSetting.codec :=
  writtenIsLength_of SectionDividerSetting.count

theorem user_mask_roundtrip : RoundTrip UserMask.codec := roundTrip_of UserMask.rt
theorem user_mask_rewrite_identical : RewriteIdentical UserMask.codec := rewriteIdentical_of UserMask.rt.atEnd
theorem user_mask_written_is_length : WrittenIsLength UserMask.codec := writtenIsLength_of UserMask.count

theorem filter_mask_roundtrip : RoundTrip FilterMask.codec := roundTrip_of FilterMask.rt
theorem filter_mask_rewrite_identical : RewriteIdentical FilterMask.codec := rewriteIdentical_of FilterMask.rt.atEnd
theorem filter_mask_written_is_length : WrittenIsLength FilterMask.codec := writtenIsLength_of FilterMask.count

/-- `while is_readable(fp, 4)`: at end only -/
theorem channel_blending_restrictions_roundtrip_at_end : RoundTripAtEnd ChannelBlendingRestrictionsSetting.codec :=
  roundTripAtEnd_of ChannelBlendingRestrictionsSetting.rt
theorem channel_blending_restrictions_rewrite_identical : RewriteIdentical ChannelBlendingRestrictionsSetting.codec :=
  rewriteIdentical_of ChannelBlendingRestrictionsSetting.rt
theorem channel_blending_restrictions_written_is_length : WrittenIsLength ChannelBlendingRestrictionsSetting.codec :=
  writtenIsLength_of ChannelBlendingRestrictionsSetting.count

/-- `while is_readable(fp, 8)`: at end only; the writer's filler (below 8 bytes) ends the loop -/
theorem pixel_source_data2_roundtrip_at_end (pad : Nat) : RoundTripAtEnd (PixelSourceData2.codec pad) :=
  roundTripAtEnd_of (PixelSourceData2.rt pad)
theorem pixel_source_data2_rewrite_identical (pad : Nat) : RewriteIdentical (PixelSourceData2.codec pad) :=
  rewriteIdentical_of (PixelSourceData2.rt pad)
theorem pixel_source_data2_written_is_length (pad : Nat) : WrittenIsLength (PixelSourceData2.codec pad) :=
  writtenIsLength_of (PixelSourceData2.count pad)

/-- one item of the metadata block; `data` is a descriptor block (Props/C01Descriptor.lean), an integer or raw bytes -/
theorem metadata_setting_roundtrip (tb : Descriptor.Tables) : RoundTrip (MetadataSetting.codec tb) :=
  roundTrip_of (MetadataSetting.rt tb)
theorem metadata_settings_roundtrip (tb : Descriptor.Tables) : RoundTrip (MetadataSettings.codec tb) :=
  roundTrip_of (MetadataSettings.rt tb)
theorem metadata_settings_rewrite_identical (tb : Descriptor.Tables) : RewriteIdentical (MetadataSettings.codec tb) :=
  rewriteIdentical_of (MetadataSettings.rt tb).atEnd
theorem metadata_settings_written_is_length (tb : Descriptor.Tables) : WrittenIsLength (MetadataSettings.codec tb) :=
  writtenIsLength_of (MetadataSettings.count tb)

theorem annotation_roundtrip : RoundTrip Annotation.codec := roundTrip_of Annotation.rt
/-- the reader stops before the final `write_padding(fp, written, 4)` -/
theorem annotations_roundtrip : RoundTrip Annotations.codec := roundTrip_of Annotations.rt
theorem annotations_rewrite_identical : RewriteIdentical Annotations.codec := rewriteIdentical_of Annotations.rt.atEnd
theorem annotations_written_is_length : WrittenIsLength Annotations.codec := writtenIsLength_of Annotations.count

/-! ### as payloads of the skeleton's tagged block (`TYPES` of tagged_blocks.py, see `unit2_registry_tied`) -/

theorem tagged_block_empty_element : TaggedBlockPayload EmptyElement.codec := taggedBlockPayload_of EmptyElement.rt.atEnd
theorem tagged_block_integer_element : TaggedBlockPayload IntegerElement.codec := taggedBlockPayload_of IntegerElement.rt.atEnd
theorem tagged_block_short_integer_element : TaggedBlockPayload ShortIntegerElement.codec :=
  taggedBlockPayload_of ShortIntegerElement.rt.atEnd
theorem tagged_block_byte_element : TaggedBlockPayload ByteElement.codec := taggedBlockPayload_of ByteElement.rt.atEnd
/-- `luni`: written with the inner padding, read with the default padding 1 -/
theorem tagged_block_string_element (pad : Nat) : TaggedBlockPayload (StringElement.codec (innerPad pad) 1) :=
  taggedBlockPayload_of (StringElement.rt _ 1).atEnd
theorem tagged_block_bytes : TaggedBlockPayload BytesElement.codec := taggedBlockPayload_of BytesElement.rt
theorem tagged_block_sheet_color_setting : TaggedBlockPayload SheetColorSetting.codec :=
  taggedBlockPayload_of SheetColorSetting.rt.atEnd
theorem tagged_block_reference_point : TaggedBlockPayload ReferencePoint.codec := taggedBlockPayload_of ReferencePoint.rt.atEnd
theorem tagged_block_section_divider_setting : TaggedBlockPayload SectionDividerSetting.codec :=
  taggedBlockPayload_of SectionDividerSetting.rt
theorem tagged_block_user_mask : TaggedBlockPayload UserMask.codec := taggedBlockPayload_of UserMask.rt.atEnd
theorem tagged_block_filter_mask : TaggedBlockPayload FilterMask.codec := taggedBlockPayload_of FilterMask.rt.atEnd
theorem tagged_block_channel_blending_restrictions : TaggedBlockPayload ChannelBlendingRestrictionsSetting.codec :=
  taggedBlockPayload_of ChannelBlendingRestrictionsSetting.rt
theorem tagged_block_pixel_source_data2 (pad : Nat) : TaggedBlockPayload (PixelSourceData2.codec (innerPad pad)) :=
  taggedBlockPayload_of (PixelSourceData2.rt _)
theorem tagged_block_metadata_settings (tb : Descriptor.Tables) : TaggedBlockPayload (MetadataSettings.codec tb) :=
  taggedBlockPayload_of (MetadataSettings.rt tb).atEnd
theorem tagged_block_annotations : TaggedBlockPayload Annotations.codec := taggedBlockPayload_of Annotations.rt.atEnd

/-- the readers of the classes without trailing filler consume everything the writer wrote -/
theorem unit2_consumes_all :
    (∀ v, NumericElement.codec.consumed v = (NumericElement.codec.encT v).length) ∧
    (∀ v, IntegerElement.codec.consumed v = (IntegerElement.codec.encT v).length) ∧
    (∀ v, ShortIntegerElement.codec.consumed v = (ShortIntegerElement.codec.encT v).length) ∧
    (∀ v, ByteElement.codec.consumed v = (ByteElement.codec.encT v).length) ∧
    (∀ v, BooleanElement.codec.consumed v = (BooleanElement.codec.encT v).length) ∧
    (∀ v, Color.codec.Fits v → Color.codec.consumed v = (Color.codec.encT v).length) ∧
    (∀ v, SheetColorSetting.codec.consumed v = (SheetColorSetting.codec.encT v).length) ∧
    (∀ v, ReferencePoint.codec.Fits v → ReferencePoint.codec.consumed v = (ReferencePoint.codec.encT v).length) ∧
    (∀ v, UserMask.codec.Fits v → UserMask.codec.consumed v = (UserMask.codec.encT v).length) ∧
    (∀ v, FilterMask.codec.Fits v → FilterMask.codec.consumed v = (FilterMask.codec.encT v).length) := by
  refine ⟨fun v => (length_f64T v).symm, fun v => (length_beBytes 4 v).symm, ?_, ?_, ?_, ?_, ?_, ?_, ?_, ?_⟩
  · intro v; simp [ShortIntegerElement.codec, length_beBytes, length_zeros]
  · intro v; simp [ByteElement.codec, length_beBytes, length_zeros]
  · intro v; simp [BooleanElement.codec, length_boolT, length_zeros]
  · intro v hf; exact (Color.length_encT v hf).symm
  · intro v; simp [SheetColorSetting.codec, length_beBytes, length_zeros]
  · intro v hf
    have hf : v.length = 2 := hf
    simp [ReferencePoint.codec, length_listT_const f64T 8 v (fun x _ => length_f64T x), hf]
  · intro v hf; simp [UserMask.codec, Color.length_encT v.color hf.1, length_beBytes, length_zeros]
  · intro v hf; simp [FilterMask.codec, Color.length_encT v.color hf.1, length_beBytes]

/-- what the filler-writing classes leave unread is the filler -/
theorem unit2_filler :
    (∀ pw s, (StringElement.codec pw 1).encT s = ((StringElement.codec pw 1).encT s).take ((StringElement.codec pw 1).consumed s) ++
        zeros (padAmount (4 + 2 * (Unicode.encUnits s).length) pw)) ∧
    (∀ pad vs, (PixelSourceData2.codec pad).encT vs = ((PixelSourceData2.codec pad).encT vs).take ((PixelSourceData2.codec pad).consumed vs) ++
        zeros (padAmount ((PixelSourceData2.codec pad).consumed vs) pad)) ∧
    (∀ x, Annotations.codec.encT x = (Annotations.codec.encT x).take (Annotations.codec.consumed x) ++
        zeros (padAmount (Annotations.codec.consumed x) 4)) := by
  refine ⟨?_, ?_, ?_⟩
  · intro pw s
    have hl := ustr_body_length s
    simp only [StringElement.codec, ustrT, if_true, ← hl, List.take_left']
  · intro pad vs
    simp only [PixelSourceData2.codec, List.take_left']
  · intro x
    simp only [Annotations.codec, Annotations.encT, List.take_left']

/-! ### non-vacuity: every optional branch -/

theorem unit2_samples_wf :
    Color.codec.Fits Samples.rgb ∧ Color.codec.Fits Samples.lab ∧ Color.codec.Fits Samples.customSpace ∧
    SectionDividerSetting.codec.WF Samples.dividerKindOnly ∧ SectionDividerSetting.codec.WF Samples.dividerBlend ∧
    SectionDividerSetting.codec.WF Samples.dividerSub ∧
    (MetadataSettings.codec Descriptor.realTables).WF Samples.metadata ∧
    (MetadataSettings.codec Descriptor.realTables).Fits Samples.metadata ∧
    Annotations.codec.WF Samples.annotations ∧ Annotations.codec.Fits Samples.annotations ∧
    (PixelSourceData2.codec 4).WF Samples.pixelSources ∧ (StringElement.codec 4 1).WF [0x4C, 0xD800, 0x1F600] :=
  Samples.descriptor_samples_ok.1

example : ∃ bs, SectionDividerSetting.codec.enc Samples.dividerSub = .ok bs ∧ bs.length = 16 ∧
    SectionDividerSetting.codec.dec bs 0 = .ok (Samples.dividerSub, 16) := by
  have hwf_dividerSub : SectionDividerSetting.codec.WF Samples.dividerSub := unit2_samples_wf.2.2.2.2.2.1
  have hf : SectionDividerSetting.codec.Fits Samples.dividerSub := by decide +kernel
  have hl : (SectionDividerSetting.codec.encT Samples.dividerSub).length = 16 := by decide +kernel
  exact ⟨_, enc_of_fits hf, hl, hl ▸ dec_encT SectionDividerSetting.rt hwf_dividerSub hf⟩

example : ∃ bs, (MetadataSettings.codec Descriptor.realTables).enc Samples.metadata = .ok bs ∧
    (MetadataSettings.codec Descriptor.realTables).dec bs 0 = .ok (Samples.metadata, bs.length) := by
  have hwf_metadata : (MetadataSettings.codec Descriptor.realTables).WF Samples.metadata := unit2_samples_wf.2.2.2.2.2.2.1
  have hfits_metadata : (MetadataSettings.codec Descriptor.realTables).Fits Samples.metadata := unit2_samples_wf.2.2.2.2.2.2.2.1
  refine ⟨_, enc_of_fits hfits_metadata, ?_⟩
  rw [dec_encT (MetadataSettings.rt _).atEnd hwf_metadata hfits_metadata,
    MetadataSettings.consumed_eq]

example : ∃ bs, Annotations.codec.enc Samples.annotations = .ok bs ∧ bs.length % 4 = 0 ∧
    Annotations.codec.dec bs 0 = .ok (Samples.annotations, Samples.annotations.bodyT.length) := by
  have hwf_annotations : Annotations.codec.WF Samples.annotations := unit2_samples_wf.2.2.2.2.2.2.2.2.1
  have hfits_annotations : Annotations.codec.Fits Samples.annotations := unit2_samples_wf.2.2.2.2.2.2.2.2.2.1
  have hf := hfits_annotations
  exact ⟨_, enc_of_fits hf, Annotations.length_encT_mod Samples.annotations,
    dec_encT Annotations.rt.atEnd hwf_annotations hf⟩

/-! ### points excluded by `WF` (evaluated here, replayed on the real code by the harness) -/

/-- `SectionDividerSetting(kind, sub_type=5)`: without signature and blend mode the writer stores the kind only -/
theorem section_divider_subtype_alone_not_roundtrip :
    SectionDividerSetting.codec.enc Samples.dividerSubOnly = .ok [0, 0, 0, 1] ∧
      SectionDividerSetting.codec.dec [0, 0, 0, 1] 0 = .ok (⟨1, none, none, none⟩, 4) := by decide +kernel

/-- `SectionDividerSetting(kind, signature=b"8BIM")` without a blend mode: the signature is not stored either -/
theorem section_divider_signature_alone_not_roundtrip :
    SectionDividerSetting.codec.enc Samples.dividerSigOnly = .ok [0, 0, 0, 1] ∧
      SectionDividerSetting.codec.dec [0, 0, 0, 1] 0 = .ok (⟨1, none, none, none⟩, 4) := by decide +kernel

/-- `Bytes(b"\x01\x02\x03\x04\x05")`: five bytes are written, `fp.read(4)` returns four -/
theorem bytes_longer_than_four_not_roundtrip :
    BytesElement.codec.enc [1, 2, 3, 4, 5] = .ok [1, 2, 3, 4, 5] ∧
      BytesElement.codec.dec [1, 2, 3, 4, 5] 0 = .ok ([1, 2, 3, 4], 4) := by decide +kernel

/-- raw bytes under the key `cust`: the reader decodes the data of that key as a descriptor block and fails -/
theorem metadata_raw_under_descriptor_key_not_roundtrip :
    ∃ bs, (MetadataSetting.codec Descriptor.realTables).enc Samples.metadataMismatch = .ok bs ∧
      Descriptor.errorOf ((MetadataSetting.codec Descriptor.realTables).dec bs 0) = some .ioError := by
  refine ⟨(MetadataSetting.codec Descriptor.realTables).encT Samples.metadataMismatch, by decide +kernel, by decide +kernel⟩

/-! ### ties to the regenerated tables -/

theorem unit2_enums_tied :
    Generated.Payload.sectionDividerKinds = Tables.sectionDividerKinds ∧ Generated.Payload.sheetColors = Tables.sheetColors ∧
    Generated.Payload.colorSpaceLab = Tables.colorSpaceLab ∧ Generated.Payload.metadataSignatures = Tables.metadataSignatures ∧
    Generated.Payload.metadataIntKeys = Tables.metadataIntKeys ∧
    Generated.Payload.metadataDescriptorKeys = Tables.metadataDescriptorKeys ∧
    Generated.Payload.annotationKinds = Tables.annotationKinds ∧ Generated.Payload.annotationMarkers = Tables.annotationMarkers :=
  ⟨rfl, rfl, rfl, rfl, rfl, rfl, rfl, rfl⟩

/-- the tests that decide the optional parts of a section divider (reader: a sub type only behind signature and blend
mode, since repo commit f04fc34) -/
theorem section_divider_conditions_tied : Generated.Payload.sectionDividerConditions = Tables.sectionDividerConditions := rfl

/-- an 8-byte block (kind + 4 more bytes) is read as the kind alone: the reader no longer takes a sub type that the writer
could not have stored (it did before f04fc34) -/
theorem section_divider_eight_bytes_no_sub_type :
    SectionDividerSetting.codec.dec [0, 0, 0, 1, 0, 0, 0, 5] 0 = .ok (⟨1, none, none, none⟩, 4) := by decide +kernel

/-- which key of `tagged_blocks.TYPES` holds which of the modelled classes -/
theorem unit2_registry_tied : Generated.Payload.unit2Registry = Tables.unit2Registry := rfl

/-- every call of a `utils` primitive in `read` / `write` of the modelled classes, with its arguments (struct formats,
`is_readable` sizes, length-block formats and paddings), in source order -/
theorem unit2_calls_tied : Generated.Payload.unit2Calls = Tables.unit2Calls := rfl

end unit2

/-! ## unit 3: effects_layer.py -/

section unit3
open PCodec

theorem common_state_info_roundtrip : RoundTrip CommonStateInfo.codec := roundTrip_of CommonStateInfo.rt
theorem common_state_info_rewrite_identical : RewriteIdentical CommonStateInfo.codec := rewriteIdentical_of CommonStateInfo.rt.atEnd
theorem common_state_info_written_is_length : WrittenIsLength CommonStateInfo.codec := writtenIsLength_of CommonStateInfo.count

/-- drop shadow and inner shadow: no dependence on the version (the native colour is always stored) -/
theorem shadow_info_roundtrip : RoundTrip ShadowInfo.codec := roundTrip_of ShadowInfo.rt
theorem shadow_info_rewrite_identical : RewriteIdentical ShadowInfo.codec := rewriteIdentical_of ShadowInfo.rt.atEnd
theorem shadow_info_written_is_length : WrittenIsLength ShadowInfo.codec := writtenIsLength_of ShadowInfo.count

/-- the native colour is present exactly when `version >= 2` (`WF`): then writer (`if self.native_color`) and reader
(`if version >= 2`) agree -/
theorem outer_glow_info_roundtrip : RoundTrip OuterGlowInfo.codec := roundTrip_of OuterGlowInfo.rt
theorem outer_glow_info_rewrite_identical : RewriteIdentical OuterGlowInfo.codec := rewriteIdentical_of OuterGlowInfo.rt.atEnd
theorem outer_glow_info_written_is_length : WrittenIsLength OuterGlowInfo.codec := writtenIsLength_of OuterGlowInfo.count

theorem inner_glow_info_roundtrip : RoundTrip InnerGlowInfo.codec := roundTrip_of InnerGlowInfo.rt
theorem inner_glow_info_rewrite_identical : RewriteIdentical InnerGlowInfo.codec := rewriteIdentical_of InnerGlowInfo.rt.atEnd
theorem inner_glow_info_written_is_length : WrittenIsLength InnerGlowInfo.codec := writtenIsLength_of InnerGlowInfo.count

/-- every version: below 2 without, from 2 on with the two real colours (full strength after repo commits 3d75013 - what
the writer stores - and 077ef93 - when the reader takes them) -/
theorem bevel_info_roundtrip : RoundTrip BevelInfo.codec := roundTrip_of BevelInfo.rt
theorem bevel_info_rewrite_identical : RewriteIdentical BevelInfo.codec := rewriteIdentical_of BevelInfo.rt.atEnd
theorem bevel_info_written_is_length : WrittenIsLength BevelInfo.codec := writtenIsLength_of BevelInfo.count

theorem solid_fill_info_roundtrip : RoundTrip SolidFillInfo.codec := roundTrip_of SolidFillInfo.rt
theorem solid_fill_info_rewrite_identical : RewriteIdentical SolidFillInfo.codec := rewriteIdentical_of SolidFillInfo.rt.atEnd
theorem solid_fill_info_written_is_length : WrittenIsLength SolidFillInfo.codec := writtenIsLength_of SolidFillInfo.count

/-- the dict of effect infos: every item in its own length block, read by the class its key selects; the reader stops
before the final `write_padding(fp, written, 4)` -/
theorem effects_layer_roundtrip : RoundTrip EffectsLayer.codec := roundTrip_of EffectsLayer.rt
theorem effects_layer_rewrite_identical : RewriteIdentical EffectsLayer.codec := rewriteIdentical_of EffectsLayer.rt.atEnd
theorem effects_layer_written_is_length : WrittenIsLength EffectsLayer.codec := writtenIsLength_of EffectsLayer.count
theorem tagged_block_effects_layer : TaggedBlockPayload EffectsLayer.codec := taggedBlockPayload_of EffectsLayer.rt.atEnd

theorem effects_layer_filler (x : EffectsLayer) :
    EffectsLayer.codec.encT x = (EffectsLayer.codec.encT x).take (EffectsLayer.codec.consumed x) ++
      zeros (padAmount (EffectsLayer.codec.consumed x) 4) := by
  simp only [EffectsLayer.codec, EffectsLayer.encT, List.take_left']

/-! ### non-vacuity -/

theorem unit3_samples_wf :
    EffectsLayer.codec.WF Samples.effects ∧ EffectsLayer.codec.Fits Samples.effects ∧
    EffectsLayer.codec.WF Samples.effectsOld ∧ EffectsLayer.codec.Fits Samples.effectsOld ∧
    BevelInfo.codec.WF Samples.bevel3 ∧ BevelInfo.codec.Fits Samples.bevel3 := by decide +kernel

example : ∃ bs, EffectsLayer.codec.enc Samples.effects = .ok bs ∧ bs.length % 4 = 0 ∧
    EffectsLayer.codec.dec bs 0 = .ok (Samples.effects, Samples.effects.bodyT.length) := by
  have hwf_effects : EffectsLayer.codec.WF Samples.effects := unit3_samples_wf.1
  have hfits_effects : EffectsLayer.codec.Fits Samples.effects := unit3_samples_wf.2.1
  exact ⟨_, enc_of_fits hfits_effects, EffectsLayer.length_encT_mod Samples.effects,
    dec_encT EffectsLayer.rt.atEnd hwf_effects hfits_effects⟩

/-- a bevel effect of version 3 survives (it did not before 077ef93: see `bevel_version3_lost_real_colours_before_fix`) -/
example : ∃ bs, BevelInfo.codec.enc Samples.bevel3 = .ok bs ∧ bs.length = 78 ∧ BevelInfo.codec.dec bs 0 = .ok (Samples.bevel3, 78) := by
  have hwf_bevel3 : BevelInfo.codec.WF Samples.bevel3 := unit3_samples_wf.2.2.2.2.1
  have hfits_bevel3 : BevelInfo.codec.Fits Samples.bevel3 := unit3_samples_wf.2.2.2.2.2
  have hl : (BevelInfo.codec.encT Samples.bevel3).length = 78 := by decide +kernel
  exact ⟨_, enc_of_fits hfits_bevel3, hl,
    hl ▸ dec_encT BevelInfo.rt.atEnd hwf_bevel3 hfits_bevel3⟩

/-! ### the defect repaired by 077ef93, on the reader as it was -/

/-- with the reader's old test `version == 2` a bevel effect of version 3 was re-read without the real colours the writer
had stored (and the re-read object could not be written again: `None.write`) -/
theorem bevel_version3_lost_real_colours_before_fix :
    BevelInfo.codec.enc Samples.bevel3 = .ok (BevelInfo.encT Samples.bevel3) ∧
      Samples.bevelDecOld (BevelInfo.encT Samples.bevel3) 0 = .ok (Samples.bevel 3 none, 58) ∧
      Samples.bevel 3 none ≠ Samples.bevel3 ∧ ¬ BevelInfo.codec.Fits (Samples.bevel 3 none) := by decide +kernel

/-! ### points excluded by `WF` (iii): a trailer that does not match the version -/

/-- `OuterGlowInfo(version=2)` without a native colour: nothing is written for it, the reader runs out of data -/
theorem outer_glow_v2_without_native_not_roundtrip :
    ∃ bs, OuterGlowInfo.codec.enc Samples.outerGlow2NoNative = .ok bs ∧ OuterGlowInfo.codec.dec bs 0 = .error .ioError :=
  ⟨OuterGlowInfo.encT Samples.outerGlow2NoNative, by decide +kernel, by decide +kernel⟩

/-- `OuterGlowInfo(version=0, native_color=c)`: the colour is written (`if self.native_color`) and not read -/
theorem outer_glow_v0_with_native_not_roundtrip :
    ∃ bs, OuterGlowInfo.codec.enc Samples.outerGlow0Native = .ok bs ∧
      OuterGlowInfo.codec.dec bs 0 = .ok (Samples.outerGlow0, bs.length - 10) :=
  ⟨OuterGlowInfo.encT Samples.outerGlow0Native, by decide +kernel, by decide +kernel⟩

/-- `InnerGlowInfo(version=0, invert=1, native_color=c)` / `BevelInfo(version=0, real colours)`: the trailer is not written -/
theorem trailer_below_version2_not_stored :
    InnerGlowInfo.codec.enc Samples.innerGlow0Trailer = InnerGlowInfo.codec.enc Samples.innerGlow0 ∧
      BevelInfo.codec.enc Samples.bevel0Real = BevelInfo.codec.enc Samples.bevel0 := by decide +kernel

/-! ### ties -/

/-- `EffectsLayer.EFFECT_TYPES` is the model's key → class table, and every `EffectOSType` member has a class -/
theorem effect_types_tied :
    Generated.Payload.effectTypes = effectTypes.map (fun kc => (kc.1, kc.2.name)) ∧
      Generated.Payload.effectTypes = Tables.effectTypes ∧
      (∀ k ∈ Generated.Payload.effectKeys, (classOfKey k).isSome) ∧ Generated.Payload.effectKeys = Tables.effectKeys :=
  ⟨rfl, rfl, by decide, rfl⟩

/-- the tests that decide the version-dependent trailers, as written in the source -/
theorem effect_conditions_tied : Generated.Payload.effectConditions = Tables.effectConditions := rfl

theorem unit3_registry_tied : Generated.Payload.unit3Registry = Tables.unit3Registry := rfl
theorem unit3_calls_tied : Generated.Payload.unit3Calls = Tables.unit3Calls := rfl

end unit3

/-! ## unit 4: patterns.py -/

section unit4
open PCodec

/-- one channel: not written · written without content (`depth is None`) · geometry + (opaque) pixel bytes, read back with
`fp.read(length - 23)` -/
theorem virtual_memory_array_roundtrip : RoundTrip VMA.codec := roundTrip_of VMA.rt
theorem virtual_memory_array_rewrite_identical : RewriteIdentical VMA.codec := rewriteIdentical_of VMA.rt.atEnd
theorem virtual_memory_array_written_is_length : WrittenIsLength VMA.codec := writtenIsLength_of VMA.count

/-- `num_channels + 2` arrays inside a length block -/
theorem virtual_memory_array_list_roundtrip : RoundTrip VMAL.codec := roundTrip_of VMAL.rt
theorem virtual_memory_array_list_rewrite_identical : RewriteIdentical VMAL.codec := rewriteIdentical_of VMAL.rt.atEnd
theorem virtual_memory_array_list_written_is_length : WrittenIsLength VMAL.codec := writtenIsLength_of VMAL.count

theorem pattern_roundtrip : RoundTrip Pattern.codec := roundTrip_of Pattern.rt
theorem pattern_rewrite_identical : RewriteIdentical Pattern.codec := rewriteIdentical_of Pattern.rt.atEnd
theorem pattern_written_is_length : WrittenIsLength Pattern.codec := writtenIsLength_of Pattern.count

/-- `while is_readable(fp, 4)`: at the end of a stream -/
theorem patterns_roundtrip_at_end : RoundTripAtEnd Patterns.codec := roundTripAtEnd_of Patterns.rt
theorem patterns_rewrite_identical : RewriteIdentical Patterns.codec := rewriteIdentical_of Patterns.rt
theorem patterns_written_is_length : WrittenIsLength Patterns.codec := writtenIsLength_of Patterns.count
theorem tagged_block_patterns : TaggedBlockPayload Patterns.codec := taggedBlockPayload_of Patterns.rt

/-! ### non-vacuity -/

theorem unit4_samples_wf : Patterns.codec.WF Samples.patterns ∧ Patterns.codec.Fits Samples.patterns := by decide +kernel

example : ∃ bs, Patterns.codec.enc Samples.patterns = .ok bs ∧ bs.length % 4 = 0 ∧
    Patterns.codec.dec bs 0 = .ok (Samples.patterns, bs.length) := by
  have hwf_patterns : Patterns.codec.WF Samples.patterns := unit4_samples_wf.1
  have hfits_patterns : Patterns.codec.Fits Samples.patterns := unit4_samples_wf.2
  exact ⟨_, enc_of_fits hfits_patterns, Patterns.length_encT_mod Samples.patterns,
    dec_encT Patterns.rt hwf_patterns hfits_patterns⟩

/-! ### points excluded by `WF` -/

/-- `VirtualMemoryArray(is_written=0, depth=8, ...)`: an array that is not written stores its flag only -/
theorem unwritten_array_with_content_not_roundtrip :
    VMA.codec.enc Samples.vmaUnwrittenContent = .ok [0, 0, 0, 0] ∧ VMA.codec.dec [0, 0, 0, 0] 0 = .ok (Samples.vmaUnwritten, 4) := by
  decide +kernel

/-- (F) `Pattern(image_mode=RGB, color_table=[])`: the empty table is written as nothing and re-read as `None` -/
theorem pattern_empty_color_table_not_roundtrip :
    Pattern.codec.enc Samples.patternEmptyTable = Pattern.codec.enc Samples.patternRgb ∧
      Samples.patternEmptyTable ≠ Samples.patternRgb ∧ Pattern.codec.WF Samples.patternRgb := by decide +kernel

/-! ### ties -/

theorem unit4_tied :
    Generated.Payload.colorModeIndexed = Tables.colorModeIndexed ∧ Generated.Payload.patternConditions = Tables.patternConditions ∧
      Generated.Payload.unit4Registry = Tables.unit4Registry := ⟨rfl, rfl, rfl⟩

theorem unit4_calls_tied : Generated.Payload.unit4Calls = Tables.unit4Calls := rfl

end unit4

/-! ## unit 5: linked_layer.py -/

section unit5
open PCodec

/-- one linked layer, every kind (DATA / EXTERNAL / ALIAS) × version (1 … 7): the optional fields each has, the position
of the data (after the file size from version 3 on, last in version 2, absent in version 1 of an external item), the
open-file and linked-file descriptor blocks; anywhere in a stream; the reader stops before the final filler -/
theorem linked_layer_roundtrip (tb : Descriptor.Tables) (pad : Nat) : RoundTrip (LinkedLayer.codec tb pad) :=
  roundTrip_of (LinkedLayer.rt tb pad)
theorem linked_layer_rewrite_identical (tb : Descriptor.Tables) (pad : Nat) : RewriteIdentical (LinkedLayer.codec tb pad) :=
  rewriteIdentical_of (LinkedLayer.rt tb pad).atEnd
theorem linked_layer_written_is_length (tb : Descriptor.Tables) (pad : Nat) : WrittenIsLength (LinkedLayer.codec tb pad) :=
  writtenIsLength_of (LinkedLayer.count tb pad)

/-- `while is_readable(fp, 8)`, one `Q` length block (padding 4) per item: at the end of a stream -/
theorem linked_layers_roundtrip_at_end (tb : Descriptor.Tables) : RoundTripAtEnd (LinkedLayers.codec tb) :=
  roundTripAtEnd_of (LinkedLayers.rt tb)
theorem linked_layers_rewrite_identical (tb : Descriptor.Tables) : RewriteIdentical (LinkedLayers.codec tb) :=
  rewriteIdentical_of (LinkedLayers.rt tb)
theorem linked_layers_written_is_length (tb : Descriptor.Tables) : WrittenIsLength (LinkedLayers.codec tb) :=
  writtenIsLength_of (LinkedLayers.count tb)
theorem tagged_block_linked_layers (tb : Descriptor.Tables) : TaggedBlockPayload (LinkedLayers.codec tb) :=
  taggedBlockPayload_of (LinkedLayers.rt tb)

/-! ### non-vacuity: every kind, every version threshold -/

theorem unit5_samples_wf :
    (LinkedLayers.codec Descriptor.realTables).WF Samples.linkedAll ∧ (LinkedLayers.codec Descriptor.realTables).Fits Samples.linkedAll := by
  have h := Samples.descriptor_samples_ok.2.1
  exact ⟨fun x hx => (h x hx).1, fun x hx => ⟨(h x hx).2.1, LinkedLayer.length_encT_one _ x ▸ (h x hx).2.2⟩⟩

example : ∃ bs, (LinkedLayers.codec Descriptor.realTables).enc Samples.linkedAll = .ok bs ∧
    (LinkedLayers.codec Descriptor.realTables).dec bs 0 = .ok (Samples.linkedAll, bs.length) := by
  have hwf_linkedAll : (LinkedLayers.codec Descriptor.realTables).WF Samples.linkedAll := unit5_samples_wf.1
  have hfits_linkedAll : (LinkedLayers.codec Descriptor.realTables).Fits Samples.linkedAll := unit5_samples_wf.2
  exact ⟨_, enc_of_fits hfits_linkedAll, dec_encT (LinkedLayers.rt _) hwf_linkedAll hfits_linkedAll⟩

/-! ### points excluded by `WF` (iii): a field the kind / version does not have -/

/-- an alias with data, an external item of version 1 with data: the size is written, the data is not, `None` comes back -/
theorem linked_data_not_stored :
    ((LinkedLayer.codec Descriptor.realTables 1).dec (LinkedLayer.encT Descriptor.realTables 1 Samples.linkedAliasData) 0).map
        (fun r => r.1.data) = .ok none ∧
      ((LinkedLayer.codec Descriptor.realTables 1).dec (LinkedLayer.encT Descriptor.realTables 1 Samples.linkedExt1Data) 0).map
        (fun r => r.1.data) = .ok none := by
  have hwf_linkedAll : (LinkedLayers.codec Descriptor.realTables).WF Samples.linkedAll := unit5_samples_wf.1
  have hfits_linkedAll : (LinkedLayers.codec Descriptor.realTables).Fits Samples.linkedAll := unit5_samples_wf.2
  -- both are items of `Samples.linkedAll` given a `data`, which the well-formedness of the other fields and the reader
  -- ignore: the reader returns them with the data it takes (`readData`)
  have ha : Samples.linkedAlias1 ∈ Samples.linkedAll := by simp [Samples.linkedAll]
  have hx : Samples.linkedExt 1 ∈ Samples.linkedAll := by simp [Samples.linkedAll]
  have e1 := LinkedLayer.dec_at_butData Descriptor.realTables 1 (x := Samples.linkedAliasData)
    ((hwf_linkedAll _ ha).butData.with_data (some [1, 2, 3])) ((hfits_linkedAll _ ha).1.with_data [1, 2, 3] (by decide))
    (At.self _)
  have e2 := LinkedLayer.dec_at_butData Descriptor.realTables 1 (x := Samples.linkedExt1Data)
    ((hwf_linkedAll _ hx).butData.with_data (some [1, 2, 3])) ((hfits_linkedAll _ hx).1.with_data [1, 2, 3] (by decide))
    (At.self _)
  rw [LinkedLayer.codec_dec, e1, e2]
  exact ⟨rfl, rfl⟩

/-- a child id in version 4 is written (`if self.child_id is not None`) but not read (`if version >= 5`) -/
theorem linked_child_id_below_version5_not_read :
    ((LinkedLayer.codec Descriptor.realTables 1).dec (LinkedLayer.encT Descriptor.realTables 1 Samples.linkedChildV4) 0).map
        (fun r => (r.1.childId, r.2 + 6)) = .ok (none, (LinkedLayer.encT Descriptor.realTables 1 Samples.linkedChildV4).length) := by
  have hwf_linkedAll : (LinkedLayers.codec Descriptor.realTables).WF Samples.linkedAll := unit5_samples_wf.1
  have hfits_linkedAll : (LinkedLayers.codec Descriptor.realTables).Fits Samples.linkedAll := unit5_samples_wf.2
  -- the bytes are those of the version-4 item without a child id, then the six bytes of the child id: the reader returns
  -- that item and leaves the six bytes
  have hb : LinkedLayer.encT Descriptor.realTables 1 Samples.linkedChildV4 =
      LinkedLayer.encT Descriptor.realTables 1 (Samples.linkedExt 4) ++ ustrT 1 [120] :=
    LinkedLayer.encT_childId _ (Samples.linkedExt 4) [120] rfl rfl rfl (by decide +kernel)
  have hm : Samples.linkedExt 4 ∈ Samples.linkedAll := by simp [Samples.linkedAll]
  have e := LinkedLayer.dec_at Descriptor.realTables 1 (hwf_linkedAll _ hm) (hfits_linkedAll _ hm).1
    (At.self (LinkedLayer.encT Descriptor.realTables 1 (Samples.linkedExt 4) ++ ustrT 1 [120])).left
  have hc : (Samples.linkedExt 4).childId = none := rfl
  have hl : (ustrT 1 [120]).length = 6 := by decide
  rw [hb, LinkedLayer.codec_dec, e]
  simp only [Except.map, hc, List.length_append, LinkedLayer.encT, padAmount_one, length_zeros, hl, Nat.zero_add, Nat.add_zero]

/-! ### ties -/

theorem unit5_tied :
    Generated.Payload.linkedLayerTypes = Tables.linkedLayerTypes ∧ Generated.Payload.linkedData = Tables.linkedData ∧
      Generated.Payload.linkedExternal = Tables.linkedExternal ∧ Generated.Payload.linkedAlias = Tables.linkedAlias ∧
      Generated.Payload.linkedVersionMin = Tables.linkedVersionMin ∧ Generated.Payload.linkedVersionMax = Tables.linkedVersionMax ∧
      Generated.Payload.unit5Registry = Tables.unit5Registry := ⟨rfl, rfl, rfl, rfl, rfl, rfl, rfl⟩

/-- the tests that decide which optional field is read / written, as the source has them -/
theorem linked_conditions_tied : Generated.Payload.linkedConditions = Tables.linkedConditions := rfl

theorem unit5_calls_tied : Generated.Payload.unit5Calls = Tables.unit5Calls := rfl

end unit5

/-! ## unit 6: SmartObjectLayerData, PlacedLayerData, TypeToolObjectSetting -/

section unit6
open PCodec

/-- kind + version + a descriptor block (composed with Props/C01Descriptor.lean); the reader stops before the final filler -/
theorem smart_object_layer_data_roundtrip (tb : Descriptor.Tables) (pad : Nat) : RoundTrip (SmartObjectLayerData.codec tb pad) :=
  roundTrip_of (SmartObjectLayerData.rt tb pad)
theorem smart_object_layer_data_rewrite_identical (tb : Descriptor.Tables) (pad : Nat) :
    RewriteIdentical (SmartObjectLayerData.codec tb pad) := rewriteIdentical_of (SmartObjectLayerData.rt tb pad).atEnd
theorem smart_object_layer_data_written_is_length (tb : Descriptor.Tables) (pad : Nat) :
    WrittenIsLength (SmartObjectLayerData.codec tb pad) := writtenIsLength_of (SmartObjectLayerData.count tb pad)
theorem tagged_block_smart_object_layer_data (tb : Descriptor.Tables) (pad : Nat) :
    TaggedBlockPayload (SmartObjectLayerData.codec tb (innerPad pad)) := taggedBlockPayload_of (SmartObjectLayerData.rt tb _).atEnd

/-- uuid, page numbers, layer type, the 8 doubles of the transform, the warp `DescriptorBlock2` -/
theorem placed_layer_data_roundtrip (tb : Descriptor.Tables) (pad : Nat) : RoundTrip (PlacedLayerData.codec tb pad) :=
  roundTrip_of (PlacedLayerData.rt tb pad)
theorem placed_layer_data_rewrite_identical (tb : Descriptor.Tables) (pad : Nat) : RewriteIdentical (PlacedLayerData.codec tb pad) :=
  rewriteIdentical_of (PlacedLayerData.rt tb pad).atEnd
theorem placed_layer_data_written_is_length (tb : Descriptor.Tables) (pad : Nat) : WrittenIsLength (PlacedLayerData.codec tb pad) :=
  writtenIsLength_of (PlacedLayerData.count tb pad)
theorem tagged_block_placed_layer_data (tb : Descriptor.Tables) (pad : Nat) :
    TaggedBlockPayload (PlacedLayerData.codec tb (innerPad pad)) := taggedBlockPayload_of (PlacedLayerData.rt tb _).atEnd

/-- version, the 6 doubles of the transform, text version + text descriptor, warp version + warp descriptor, the bounding
box. (The in-place parse of the `EngineData` raw value by the reader is not modelled: the value stays the bytes; C18.) -/
theorem type_tool_object_setting_roundtrip (tb : Descriptor.Tables) (pad : Nat) : RoundTrip (TypeToolObjectSetting.codec tb pad) :=
  roundTrip_of (TypeToolObjectSetting.rt tb pad)
theorem type_tool_object_setting_rewrite_identical (tb : Descriptor.Tables) (pad : Nat) :
    RewriteIdentical (TypeToolObjectSetting.codec tb pad) := rewriteIdentical_of (TypeToolObjectSetting.rt tb pad).atEnd
theorem type_tool_object_setting_written_is_length (tb : Descriptor.Tables) (pad : Nat) :
    WrittenIsLength (TypeToolObjectSetting.codec tb pad) := writtenIsLength_of (TypeToolObjectSetting.count tb pad)
theorem tagged_block_type_tool_object_setting (tb : Descriptor.Tables) (pad : Nat) :
    TaggedBlockPayload (TypeToolObjectSetting.codec tb (innerPad pad)) := taggedBlockPayload_of (TypeToolObjectSetting.rt tb _).atEnd

theorem unit6_samples_wf :
    (SmartObjectLayerData.codec Descriptor.realTables 4).WF Samples.smartObject ∧
    (SmartObjectLayerData.codec Descriptor.realTables 4).Fits Samples.smartObject ∧
    (PlacedLayerData.codec Descriptor.realTables 4).WF Samples.placedLayer ∧ (PlacedLayerData.codec Descriptor.realTables 4).Fits Samples.placedLayer ∧
    (TypeToolObjectSetting.codec Descriptor.realTables 4).WF Samples.typeTool ∧
    (TypeToolObjectSetting.codec Descriptor.realTables 4).Fits Samples.typeTool := Samples.descriptor_samples_ok.2.2

example : ∃ bs, (TypeToolObjectSetting.codec Descriptor.realTables 4).enc Samples.typeTool = .ok bs ∧ bs.length % 4 = 0 ∧
    ((TypeToolObjectSetting.codec Descriptor.realTables 4).dec bs 0).map (·.2) =
      .ok ((TypeToolObjectSetting.codec Descriptor.realTables 4).consumed Samples.typeTool) := by
  have hwf_typeTool : (TypeToolObjectSetting.codec Descriptor.realTables 4).WF Samples.typeTool := unit6_samples_wf.2.2.2.2.1
  have hfits_typeTool : (TypeToolObjectSetting.codec Descriptor.realTables 4).Fits Samples.typeTool := unit6_samples_wf.2.2.2.2.2
  refine ⟨_, enc_of_fits hfits_typeTool, TypeToolObjectSetting.length_encT_mod _ (by decide) Samples.typeTool, ?_⟩
  rw [dec_encT (TypeToolObjectSetting.rt _ _).atEnd hwf_typeTool hfits_typeTool]
  rfl

theorem unit6_tied :
    Generated.Payload.smartObjectKinds = Tables.smartObjectKinds ∧ Generated.Payload.smartObjectVersions = Tables.smartObjectVersions ∧
      Generated.Payload.placedVersions = Tables.placedVersions ∧ Generated.Payload.placedLayerTypes = Tables.placedLayerTypes ∧
      Generated.Payload.typeToolTextVersions = Tables.typeToolTextVersions ∧
      Generated.Payload.typeToolWarpVersions = Tables.typeToolWarpVersions ∧ Generated.Payload.unit6Registry = Tables.unit6Registry :=
  ⟨rfl, rfl, rfl, rfl, rfl, rfl, rfl⟩

theorem unit6_calls_tied : Generated.Payload.unit6Calls = Tables.unit6Calls := rfl

end unit6

end PsdVerif.C01Payload
