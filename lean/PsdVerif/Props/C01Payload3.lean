/-
C01 (payload classes, third batch) — the payloads of image resources, the adjustment payloads, vector data and filter
effects survive write → read and re-write identically.

Unit 7   psd/image_resources.py: Model/Payload3Resources.lean, Lemmas/Payload3Resources.lean
Unit 8   psd/adjustments.py:     Model/Payload3Adjust.lean, Lemmas/Payload3Adjust.lean, Lemmas/Payload3Curves.lean
Unit 9   psd/vector.py:          Model/Payload3Vector.lean, Lemmas/Payload3Vector.lean
Unit 10  psd/filter_effects.py:  Model/Payload3Filter.lean, Lemmas/Payload3Filter.lean
(the `struct`-format codec and the `PCodec` combinators they are built from: Model/Payload3Base.lean, Lemmas/Payload3Base.lean)

As in Props/C01Payload.lean, every class is a `PCodec` (Model/PayloadBase.lean); `RoundTrip c`: anywhere in
a stream, `RoundTripAtEnd c`: when nothing follows (the reader probes what follows), `RewriteIdentical c`,
`WrittenIsLength c`, `TaggedBlockPayload c`: as the payload of a skeleton tagged block, `ResourcePayload c`: as the
payload of a skeleton image resource (`ImageResource.read` runs `TYPES[key].frombytes` on exactly the bytes of the length
block; Lemmas/Payload3Base.lean). A flat record is a row of `struct` values (`Row`); `f` / `d` fields are their patterns and
fixed-point fields (16.16, 8.24) their stored integers: the float conversions are outside the model.
-/
import PsdVerif.Lemmas.Payload3SampleFacts
import PsdVerif.Model.Payload3Tables
import PsdVerif.Model.PayloadLayerInfo
import PsdVerif.Props.C01Payload

namespace PsdVerif.C01Payload3
open PsdVerif PsdVerif.Codec PsdVerif.Psd PsdVerif.Payload PsdVerif.Payload.PCodec PsdVerif.Payload3

/-! ## unit 7: image resources -/

section unit7

/-- `while is_readable(fp, 4)`: at the end of the resource -/
theorem alpha_identifiers_roundtrip_at_end : RoundTripAtEnd (AlphaIdentifiers.codec) := roundTripAtEnd_of AlphaIdentifiers.rt
theorem alpha_identifiers_rewrite_identical : RewriteIdentical (AlphaIdentifiers.codec) := rewriteIdentical_of AlphaIdentifiers.rt
theorem alpha_identifiers_written_is_length : WrittenIsLength (AlphaIdentifiers.codec) := writtenIsLength_of AlphaIdentifiers.count
theorem image_resource_alpha_identifiers : ResourcePayload (AlphaIdentifiers.codec) := resourcePayload_of AlphaIdentifiers.rt

theorem alpha_names_pascal_roundtrip_at_end : RoundTripAtEnd (AlphaNamesPascal.codec) := roundTripAtEnd_of AlphaNamesPascal.rt
theorem alpha_names_pascal_rewrite_identical : RewriteIdentical (AlphaNamesPascal.codec) := rewriteIdentical_of AlphaNamesPascal.rt
theorem alpha_names_pascal_written_is_length : WrittenIsLength (AlphaNamesPascal.codec) := writtenIsLength_of AlphaNamesPascal.count
theorem image_resource_alpha_names_pascal : ResourcePayload (AlphaNamesPascal.codec) := resourcePayload_of AlphaNamesPascal.rt

theorem alpha_names_unicode_roundtrip_at_end : RoundTripAtEnd (AlphaNamesUnicode.codec) := roundTripAtEnd_of AlphaNamesUnicode.rt
theorem alpha_names_unicode_rewrite_identical : RewriteIdentical (AlphaNamesUnicode.codec) := rewriteIdentical_of AlphaNamesUnicode.rt
theorem alpha_names_unicode_written_is_length : WrittenIsLength (AlphaNamesUnicode.codec) := writtenIsLength_of AlphaNamesUnicode.count
theorem image_resource_alpha_names_unicode : ResourcePayload (AlphaNamesUnicode.codec) := resourcePayload_of AlphaNamesUnicode.rt

theorem alpha_channel_roundtrip : RoundTrip (AlphaChannel.codec) := roundTrip_of AlphaChannel.rt
theorem alpha_channel_rewrite_identical : RewriteIdentical (AlphaChannel.codec) := rewriteIdentical_of AlphaChannel.rt.atEnd
theorem alpha_channel_written_is_length : WrittenIsLength (AlphaChannel.codec) := writtenIsLength_of AlphaChannel.count

theorem display_info_roundtrip_at_end : RoundTripAtEnd (DisplayInfo.codec) := roundTripAtEnd_of DisplayInfo.rt
theorem display_info_rewrite_identical : RewriteIdentical (DisplayInfo.codec) := rewriteIdentical_of DisplayInfo.rt
theorem display_info_written_is_length : WrittenIsLength (DisplayInfo.codec) := writtenIsLength_of DisplayInfo.count
theorem image_resource_display_info : ResourcePayload (DisplayInfo.codec) := resourcePayload_of DisplayInfo.rt

/-- `Byte` of image_resources.py (`B`; the tagged-block `ByteElement` is `B3x`) -/
theorem resource_byte_roundtrip : RoundTrip (Byte.codec) := roundTrip_of Byte.rt
theorem resource_byte_rewrite_identical : RewriteIdentical (Byte.codec) := rewriteIdentical_of Byte.rt.atEnd
theorem resource_byte_written_is_length : WrittenIsLength (Byte.codec) := writtenIsLength_of Byte.count
theorem image_resource_resource_byte : ResourcePayload (Byte.codec) := resourcePayload_of Byte.rt.atEnd

theorem grid_guides_info_roundtrip : RoundTrip (GridGuidesInfo.codec) := roundTrip_of GridGuidesInfo.rt
theorem grid_guides_info_rewrite_identical : RewriteIdentical (GridGuidesInfo.codec) := rewriteIdentical_of GridGuidesInfo.rt.atEnd
theorem grid_guides_info_written_is_length : WrittenIsLength (GridGuidesInfo.codec) := writtenIsLength_of GridGuidesInfo.count
theorem image_resource_grid_guides_info : ResourcePayload (GridGuidesInfo.codec) := resourcePayload_of GridGuidesInfo.rt.atEnd

/-- frequency and angle are the stored 16.16 integers -/
theorem halftone_screen_roundtrip : RoundTrip (HalftoneScreen.codec) := roundTrip_of HalftoneScreen.rt
theorem halftone_screen_rewrite_identical : RewriteIdentical (HalftoneScreen.codec) := rewriteIdentical_of HalftoneScreen.rt.atEnd
theorem halftone_screen_written_is_length : WrittenIsLength (HalftoneScreen.codec) := writtenIsLength_of HalftoneScreen.count

theorem halftone_screens_roundtrip_at_end : RoundTripAtEnd (HalftoneScreens.codec) := roundTripAtEnd_of HalftoneScreens.rt
theorem halftone_screens_rewrite_identical : RewriteIdentical (HalftoneScreens.codec) := rewriteIdentical_of HalftoneScreens.rt
theorem halftone_screens_written_is_length : WrittenIsLength (HalftoneScreens.codec) := writtenIsLength_of HalftoneScreens.count
theorem image_resource_halftone_screens : ResourcePayload (HalftoneScreens.codec) := resourcePayload_of HalftoneScreens.rt

theorem resource_integer_roundtrip : RoundTrip (Integer.codec) := roundTrip_of Integer.rt
theorem resource_integer_rewrite_identical : RewriteIdentical (Integer.codec) := rewriteIdentical_of Integer.rt.atEnd
theorem resource_integer_written_is_length : WrittenIsLength (Integer.codec) := writtenIsLength_of Integer.count
theorem image_resource_resource_integer : ResourcePayload (Integer.codec) := resourcePayload_of Integer.rt.atEnd

theorem layer_group_enabled_ids_roundtrip_at_end : RoundTripAtEnd (LayerGroupEnabledIDs.codec) := roundTripAtEnd_of LayerGroupEnabledIDs.rt
theorem layer_group_enabled_ids_rewrite_identical : RewriteIdentical (LayerGroupEnabledIDs.codec) := rewriteIdentical_of LayerGroupEnabledIDs.rt
theorem layer_group_enabled_ids_written_is_length : WrittenIsLength (LayerGroupEnabledIDs.codec) := writtenIsLength_of LayerGroupEnabledIDs.count
theorem image_resource_layer_group_enabled_ids : ResourcePayload (LayerGroupEnabledIDs.codec) := resourcePayload_of LayerGroupEnabledIDs.rt

theorem layer_group_info_roundtrip_at_end : RoundTripAtEnd (LayerGroupInfo.codec) := roundTripAtEnd_of LayerGroupInfo.rt
theorem layer_group_info_rewrite_identical : RewriteIdentical (LayerGroupInfo.codec) := rewriteIdentical_of LayerGroupInfo.rt
theorem layer_group_info_written_is_length : WrittenIsLength (LayerGroupInfo.codec) := writtenIsLength_of LayerGroupInfo.count
theorem image_resource_layer_group_info : ResourcePayload (LayerGroupInfo.codec) := resourcePayload_of LayerGroupInfo.rt

theorem layer_selection_ids_roundtrip : RoundTrip (LayerSelectionIDs.codec) := roundTrip_of LayerSelectionIDs.rt
theorem layer_selection_ids_rewrite_identical : RewriteIdentical (LayerSelectionIDs.codec) := rewriteIdentical_of LayerSelectionIDs.rt.atEnd
theorem layer_selection_ids_written_is_length : WrittenIsLength (LayerSelectionIDs.codec) := writtenIsLength_of LayerSelectionIDs.count
theorem image_resource_layer_selection_ids : ResourcePayload (LayerSelectionIDs.codec) := resourcePayload_of LayerSelectionIDs.rt.atEnd

theorem resource_short_integer_roundtrip : RoundTrip (ShortInteger.codec) := roundTrip_of ShortInteger.rt
theorem resource_short_integer_rewrite_identical : RewriteIdentical (ShortInteger.codec) := rewriteIdentical_of ShortInteger.rt.atEnd
theorem resource_short_integer_written_is_length : WrittenIsLength (ShortInteger.codec) := writtenIsLength_of ShortInteger.count
theorem image_resource_resource_short_integer : ResourcePayload (ShortInteger.codec) := resourcePayload_of ShortInteger.rt.atEnd

/-- written without filler, read with `padding=2`: the lenient `read_padding` finds nothing at the end of the resource -/
theorem pascal_string_roundtrip_at_end : RoundTripAtEnd (PascalString.codec) := roundTripAtEnd_of PascalString.rt
theorem pascal_string_rewrite_identical : RewriteIdentical (PascalString.codec) := rewriteIdentical_of PascalString.rt
theorem pascal_string_written_is_length : WrittenIsLength (PascalString.codec) := writtenIsLength_of PascalString.count
theorem image_resource_pascal_string : ResourcePayload (PascalString.codec) := resourcePayload_of PascalString.rt

theorem pixel_aspect_ratio_roundtrip : RoundTrip (PixelAspectRatio.codec) := roundTrip_of PixelAspectRatio.rt
theorem pixel_aspect_ratio_rewrite_identical : RewriteIdentical (PixelAspectRatio.codec) := rewriteIdentical_of PixelAspectRatio.rt.atEnd
theorem pixel_aspect_ratio_written_is_length : WrittenIsLength (PixelAspectRatio.codec) := writtenIsLength_of PixelAspectRatio.count
theorem image_resource_pixel_aspect_ratio : ResourcePayload (PixelAspectRatio.codec) := resourcePayload_of PixelAspectRatio.rt.atEnd

/-- the ninth flag is read `if is_readable(fp)` -/
theorem print_flags_roundtrip_at_end : RoundTripAtEnd (PrintFlags.codec) := roundTripAtEnd_of PrintFlags.rt
theorem print_flags_rewrite_identical : RewriteIdentical (PrintFlags.codec) := rewriteIdentical_of PrintFlags.rt
theorem print_flags_written_is_length : WrittenIsLength (PrintFlags.codec) := writtenIsLength_of PrintFlags.count
theorem image_resource_print_flags : ResourcePayload (PrintFlags.codec) := resourcePayload_of PrintFlags.rt

theorem print_flags_info_roundtrip : RoundTrip (PrintFlagsInfo.codec) := roundTrip_of PrintFlagsInfo.rt
theorem print_flags_info_rewrite_identical : RewriteIdentical (PrintFlagsInfo.codec) := rewriteIdentical_of PrintFlagsInfo.rt.atEnd
theorem print_flags_info_written_is_length : WrittenIsLength (PrintFlagsInfo.codec) := writtenIsLength_of PrintFlagsInfo.count
theorem image_resource_print_flags_info : ResourcePayload (PrintFlagsInfo.codec) := resourcePayload_of PrintFlagsInfo.rt.atEnd

theorem print_scale_roundtrip : RoundTrip (PrintScale.codec) := roundTrip_of PrintScale.rt
theorem print_scale_rewrite_identical : RewriteIdentical (PrintScale.codec) := rewriteIdentical_of PrintScale.rt.atEnd
theorem print_scale_written_is_length : WrittenIsLength (PrintScale.codec) := writtenIsLength_of PrintScale.count
theorem image_resource_print_scale : ResourcePayload (PrintScale.codec) := resourcePayload_of PrintScale.rt.atEnd

theorem resolution_info_roundtrip : RoundTrip (ResolutionInfo.codec) := roundTrip_of ResolutionInfo.rt
theorem resolution_info_rewrite_identical : RewriteIdentical (ResolutionInfo.codec) := rewriteIdentical_of ResolutionInfo.rt.atEnd
theorem resolution_info_written_is_length : WrittenIsLength (ResolutionInfo.codec) := writtenIsLength_of ResolutionInfo.count
theorem image_resource_resolution_info : ResourcePayload (ResolutionInfo.codec) := resourcePayload_of ResolutionInfo.rt.atEnd

/-- `ThumbnailResource` and `ThumbnailResourceV4` (same `read` / `write`) -/
theorem thumbnail_resource_roundtrip : RoundTrip (Thumbnail.codec) := roundTrip_of Thumbnail.rt
theorem thumbnail_resource_rewrite_identical : RewriteIdentical (Thumbnail.codec) := rewriteIdentical_of Thumbnail.rt.atEnd
theorem thumbnail_resource_written_is_length : WrittenIsLength (Thumbnail.codec) := writtenIsLength_of Thumbnail.count
theorem image_resource_thumbnail_resource : ResourcePayload (Thumbnail.codec) := resourcePayload_of Thumbnail.rt.atEnd

theorem transfer_function_roundtrip : RoundTrip (TransferFunction.codec) := roundTrip_of TransferFunction.rt
theorem transfer_function_rewrite_identical : RewriteIdentical (TransferFunction.codec) := rewriteIdentical_of TransferFunction.rt.atEnd
theorem transfer_function_written_is_length : WrittenIsLength (TransferFunction.codec) := writtenIsLength_of TransferFunction.count

theorem transfer_functions_roundtrip_at_end : RoundTripAtEnd (TransferFunctions.codec) := roundTripAtEnd_of TransferFunctions.rt
theorem transfer_functions_rewrite_identical : RewriteIdentical (TransferFunctions.codec) := rewriteIdentical_of TransferFunctions.rt
theorem transfer_functions_written_is_length : WrittenIsLength (TransferFunctions.codec) := writtenIsLength_of TransferFunctions.count
theorem image_resource_transfer_functions : ResourcePayload (TransferFunctions.codec) := resourcePayload_of TransferFunctions.rt

theorem url_item_roundtrip : RoundTrip (URLItem.codec) := roundTrip_of URLItem.rt
theorem url_item_rewrite_identical : RewriteIdentical (URLItem.codec) := rewriteIdentical_of URLItem.rt.atEnd
theorem url_item_written_is_length : WrittenIsLength (URLItem.codec) := writtenIsLength_of URLItem.count

theorem url_list_roundtrip : RoundTrip (URLList.codec) := roundTrip_of URLList.rt
theorem url_list_rewrite_identical : RewriteIdentical (URLList.codec) := rewriteIdentical_of URLList.rt.atEnd
theorem url_list_written_is_length : WrittenIsLength (URLList.codec) := writtenIsLength_of URLList.count
theorem image_resource_url_list : ResourcePayload (URLList.codec) := resourcePayload_of URLList.rt.atEnd

theorem version_info_roundtrip : RoundTrip (VersionInfo.codec) := roundTrip_of VersionInfo.rt
theorem version_info_rewrite_identical : RewriteIdentical (VersionInfo.codec) := rewriteIdentical_of VersionInfo.rt.atEnd
theorem version_info_written_is_length : WrittenIsLength (VersionInfo.codec) := writtenIsLength_of VersionInfo.count
theorem image_resource_version_info : ResourcePayload (VersionInfo.codec) := resourcePayload_of VersionInfo.rt.atEnd

/-- one slice on its own stream: optional associated id (origin 1), the speculative per-slice descriptor -/
theorem slice_v6_roundtrip_at_end (tb : Descriptor.Tables) : RoundTripAtEnd (SliceV6.codec tb) := roundTripAtEnd_of (SliceV6.rt tb)
theorem slice_v6_rewrite_identical (tb : Descriptor.Tables) : RewriteIdentical (SliceV6.codec tb) := rewriteIdentical_of (SliceV6.rt tb)
theorem slice_v6_written_is_length (tb : Descriptor.Tables) : WrittenIsLength (SliceV6.codec tb) := writtenIsLength_of (SliceV6.count tb)

/-- a slice without descriptor is not followed by a slice whose id is 16 (`SlicesV6.chainOK`, (F)): see `slices_id16_misparse` -/
theorem slices_v6_roundtrip_at_end (tb : Descriptor.Tables) : RoundTripAtEnd (SlicesV6.codec tb) := roundTripAtEnd_of (SlicesV6.rt tb)
theorem slices_v6_rewrite_identical (tb : Descriptor.Tables) : RewriteIdentical (SlicesV6.codec tb) := rewriteIdentical_of (SlicesV6.rt tb)
theorem slices_v6_written_is_length (tb : Descriptor.Tables) : WrittenIsLength (SlicesV6.codec tb) := writtenIsLength_of (SlicesV6.count tb)

theorem slices_roundtrip_at_end (tb : Descriptor.Tables) : RoundTripAtEnd (Slices.codec tb) := roundTripAtEnd_of (Slices.rt tb)
theorem slices_rewrite_identical (tb : Descriptor.Tables) : RewriteIdentical (Slices.codec tb) := rewriteIdentical_of (Slices.rt tb)
theorem slices_written_is_length (tb : Descriptor.Tables) : WrittenIsLength (Slices.codec tb) := writtenIsLength_of (Slices.count tb)
theorem image_resource_slices (tb : Descriptor.Tables) : ResourcePayload (Slices.codec tb) := resourcePayload_of (Slices.rt tb)

/-- `DescriptorBlock` under the ten resource ids registered for it (Props/C01Descriptor.lean), written with `padding=1` -/
theorem descriptor_resource_roundtrip (tb : Descriptor.Tables) : RoundTrip (DescriptorResource.codec tb) := roundTrip_of (DescriptorResource.rt tb)
theorem descriptor_resource_rewrite_identical (tb : Descriptor.Tables) : RewriteIdentical (DescriptorResource.codec tb) := rewriteIdentical_of (DescriptorResource.rt tb).atEnd
theorem descriptor_resource_written_is_length (tb : Descriptor.Tables) : WrittenIsLength (DescriptorResource.codec tb) := writtenIsLength_of (DescriptorResource.count tb)
theorem image_resource_descriptor_block (tb : Descriptor.Tables) : ResourcePayload (DescriptorResource.codec tb) := resourcePayload_of (DescriptorResource.rt tb).atEnd

/-- `Color` (BACKGROUND_COLOR) and `StringElement` (three ids; written with `padding=1`, read with the default) as resource
payloads: the codecs of Props/C01Payload.lean -/
theorem image_resource_color : ResourcePayload Color.codec := resourcePayload_of Color.rt.atEnd
theorem image_resource_string_element : ResourcePayload (StringElement.codec 1 1) := resourcePayload_of (StringElement.rt 1 1).atEnd

/-! ### the typed image resource, the typed resource section, the document with typed resources -/

/-- `ImageResource.read` *with* the payload dispatch returns the resource with its typed payload, anywhere in a stream -/
theorem typed_image_resource_roundtrip (tb : Descriptor.Tables) (r : TRes) (hwf : r.WF tb) (bs pre post : B)
    (henc : r.enc tb = .ok bs) : TRes.dec tb (pre ++ bs ++ post) pre.length = .ok (r, pre.length + bs.length) := by
  unfold TRes.enc at henc
  split at henc
  · cases henc; exact TRes.dec_at tb hwf (At.intro pre _ post)
  · cases henc

theorem typed_image_resource_written_is_length (tb : Descriptor.Tables) (r : TRes) (bs : B) (henc : r.enc tb = .ok bs) :
    r.encP tb = (bs, bs.length) := by
  unfold TRes.enc at henc
  split at henc
  · cases henc; exact TRes.encP_eq tb r
  · cases henc

/-- the bytes of a typed resource are the bytes of its skeleton view, and the skeleton reader returns that view -/
theorem typed_resource_is_skeleton_resource (tb : Descriptor.Tables) (r : TRes) (hwf : r.WF tb) (pre post : B) :
    Psd.Resource.dec (pre ++ r.encT tb ++ post) pre.length = .ok (r.flat tb, pre.length + (r.encT tb).length) :=
  Psd.Resource.dec_at hwf.1 (At.intro pre _ post)

/-- `ImageResources.read` with typed items -/
theorem typed_image_resources_roundtrip (tb : Descriptor.Tables) (rs : List TRes) (hflat : resourcesWF (rs.map (TRes.flat tb)))
    (hwf : ∀ r ∈ rs, r.WF tb) (pre post : B) :
    tresourcesDec tb (pre ++ tresourcesT tb rs ++ post) pre.length = .ok (rs, pre.length + (tresourcesT tb rs).length) :=
  tresourcesDec_at tb hflat hwf (At.intro pre _ post)

/-- the whole file with typed resources and typed document-level blocks: reading what `PSD.write` emitted returns the
document - every registered resource as an object of its class, down to the slices and their descriptors - as the writer
left it -/
theorem psd_roundtrip_resources (tb : Descriptor.Tables) (pad : Nat) (x : ResPSD) (hwf : x.WF tb pad) (bs : B)
    (henc : ResPSD.enc tb pad x = .ok bs) : ResPSD.read tb bs 0 = .ok (x.refresh, bs.length) := by
  rw [ResPSD.enc_ok tb henc]
  exact ResPSD.read_encT tb hwf

theorem psd_rewrite_identical_resources (tb : Descriptor.Tables) (pad : Nat) (x : ResPSD) (hwf : x.WF tb pad) (bs : B)
    (henc : ResPSD.enc tb pad x = .ok bs) (x' : ResPSD) (n : Nat) (hread : ResPSD.read tb bs 0 = .ok (x', n)) :
    ResPSD.enc tb pad x' = .ok bs := by
  rw [psd_roundtrip_resources tb pad x hwf bs henc] at hread
  cases hread
  rw [ResPSD.enc_refresh, henc]

/-- the typed theorem extends `psd_roundtrip_deep`: same bytes, and the deep reader returns the view with the resource
payloads as bytes -/
theorem resources_refine_deep (tb : Descriptor.Tables) (pad : Nat) (x : ResPSD) (hwf : x.WF tb pad) (bs : B)
    (henc : ResPSD.enc tb pad x = .ok bs) :
    DeepPSD.enc pad (x.flat tb) = .ok bs ∧ DeepPSD.read bs 0 = .ok ((x.flat tb).refresh, bs.length) := by
  have h1 := ResPSD.enc_below tb henc
  exact ⟨h1, C01Payload.psd_roundtrip_deep pad _ hwf.1 bs h1⟩

/-- every id of `image_resources.TYPES` is dispatched to the class registered for it -/
theorem key_class_tied :
    Generated.Payload3.unit7Registry.all (fun r => (keyClass r.1).map RClass.name == some r.2) = true ∧ keyClass 4000 = none := by
  decide +kernel

theorem typed_samples_wf : ResPSD.WF Samples.rtb 4 Samples.resDoc ∧ ResPSD.payloadFits Samples.rtb Samples.resDoc :=
  ⟨Samples.resDoc_writes.1, Samples.resDoc_writes.2.1⟩

example : ∃ bs, ResPSD.enc Samples.rtb 4 Samples.resDoc = .ok bs ∧ ResPSD.read Samples.rtb bs 0 = .ok (Samples.resDoc.refresh, bs.length) := by
  obtain ⟨hwf, hf, hw, hd⟩ := Samples.resDoc_writes
  have henc := ResPSD.enc_eq Samples.rtb hf hw hd
  exact ⟨_, henc, psd_roundtrip_resources Samples.rtb 4 _ hwf _ henc⟩

/-- (iii) raw bytes under a registered id are parsed as the class of the id; a typed payload under the id of another class
is read as that other class -/
theorem resource_payload_follows_the_id :
    ¬ TRes.WF Samples.rtb Samples.rawUnderTypedKey ∧ ¬ TRes.WF Samples.rtb Samples.typedUnderOtherKey ∧
      Descriptor.errorOf (TRes.dec Samples.rtb (TRes.encT Samples.rtb Samples.rawUnderTypedKey) 0) = some .ioError ∧
      Descriptor.errorOf (TRes.dec Samples.rtb (TRes.encT Samples.rtb Samples.typedUnderOtherKey) 0) = some .assertionError := by
  decide +kernel

/-! ### non-vacuity -/

theorem unit7_samples_wf :
    (Slices.codec Samples.rtb).WF Samples.slices ∧ (Slices.codec Samples.rtb).Fits Samples.slices ∧
    (Slices.codec Samples.rtb).WF Samples.slices7 ∧ (Slices.codec Samples.rtb).Fits Samples.slices7 ∧
    VersionInfo.codec.WF Samples.versionInfo ∧ VersionInfo.codec.Fits Samples.versionInfo ∧
    PrintFlags.codec.WF Samples.printFlags9 ∧ PrintFlags.codec.WF Samples.printFlags8 ∧
    DisplayInfo.codec.WF Samples.displayInfo ∧ DisplayInfo.codec.Fits Samples.displayInfo ∧
    HalftoneScreens.codec.WF Samples.halftones ∧ HalftoneScreens.codec.Fits Samples.halftones := by decide +kernel

example : ∃ bs, (Slices.codec Samples.rtb).enc Samples.slices = .ok bs ∧
    ((Slices.codec Samples.rtb).dec bs 0).map (·.2) = .ok bs.length := by
  have hwf_slices : (Slices.codec Samples.rtb).WF Samples.slices := unit7_samples_wf.1
  have hfits_slices : (Slices.codec Samples.rtb).Fits Samples.slices := unit7_samples_wf.2.1
  have henc : (Slices.codec Samples.rtb).enc Samples.slices = .ok ((Slices.codec Samples.rtb).encT Samples.slices) :=
    if_pos hfits_slices
  refine ⟨_, henc, ?_⟩
  have h := slices_roundtrip_at_end Samples.rtb _ hwf_slices _ [] henc
  simp only [List.nil_append, List.length_nil, Nat.zero_add] at h
  rw [h]
  decide +kernel

example : ∃ bs, VersionInfo.codec.enc Samples.versionInfo = .ok bs ∧ VersionInfo.codec.dec bs 0 = .ok (Samples.versionInfo, bs.length) := by
  have hwf_versionInfo : VersionInfo.codec.WF Samples.versionInfo := unit7_samples_wf.2.2.2.2.1
  have hfits_versionInfo : VersionInfo.codec.Fits Samples.versionInfo := unit7_samples_wf.2.2.2.2.2.1
  have henc : VersionInfo.codec.enc Samples.versionInfo = .ok (VersionInfo.codec.encT Samples.versionInfo) := if_pos hfits_versionInfo
  refine ⟨_, henc, ?_⟩
  have h := version_info_roundtrip _ hwf_versionInfo _ [] [] henc
  simp only [List.nil_append, List.append_nil, List.length_nil, Nat.zero_add] at h
  rw [h]
  decide +kernel

/-! ### the finding of this unit (repo commit 588bcfb) and the ambiguity that stays -/

/-- slice 1 without descriptor, slice 16 with group id 1000, slice 3: `SliceV6.read` takes the id 16 for the version of a
descriptor block; the speculative `DescriptorBlock.read` at the start of the second slice runs out of data (`IOError`).
Before 588bcfb only `ValueError` was caught there and the resource failed to load. -/
theorem slices_id16_speculative_read_ioerror :
    (SlicesV6.codec Samples.rtb).Fits Samples.slices16 ∧
      Descriptor.errorOf (Descriptor.Block.dec Samples.rtb ((SlicesV6.codec Samples.rtb).encT Samples.slices16) 93) = some .ioError := by
  decide +kernel

/-- ... and is recovered now: the three slices come back (ids, cursor at the end), although `chainOK` does not hold -/
theorem slices_id16_recovered_after_fix :
    ¬ SlicesV6.chainOK Samples.slices16.items ∧
      ((SlicesV6.codec Samples.rtb).dec ((SlicesV6.codec Samples.rtb).encT Samples.slices16) 0).map
          (fun r => (r.1.items.map SliceV6.sliceId, r.1.items.map (fun s => s.data.isNone), r.2)) =
        .ok ([1, 16, 3], [true, true, true], ((SlicesV6.codec Samples.rtb).encT Samples.slices16).length) := by
  decide +kernel

/-- (F) the point `chainOK` excludes and that does not survive: the fields of slice 16 (group id 0, origin 0, a name of two
NUL characters) form a descriptor block (version 16, empty name, class id `00 00 00 02`, no items), which the reader gives
to slice 1; the rest no longer parses (known finding C01/slices/id16-after-slice-without-data) -/
theorem slices_id16_misparse :
    (SlicesV6.codec Samples.rtb).Fits Samples.slices16bad ∧ (∀ s ∈ Samples.slices16bad.items, SliceV6.WF Samples.rtb s) ∧
      Descriptor.errorOf ((SlicesV6.codec Samples.rtb).dec ((SlicesV6.codec Samples.rtb).encT Samples.slices16bad) 0) = some .ioError := by
  decide +kernel

/-- (iii) `SliceV6(origin=1, associated_id=None)`: nothing is written for the id, the reader takes the next field for it -/
theorem slice_origin1_without_id_not_roundtrip :
    (SliceV6.codec Samples.rtb).Fits Samples.sliceOrigin1NoId ∧
      Descriptor.errorOf ((SliceV6.codec Samples.rtb).dec ((SliceV6.codec Samples.rtb).encT Samples.sliceOrigin1NoId) 0) = some .unicodeError := by
  decide +kernel

/-! ### ties -/

theorem unit7_enums_tied :
    Generated.Payload3.alphaChannelModes = Tables.alphaChannelModes ∧ Generated.Payload3.printScaleStyles = Tables.printScaleStyles ∧
    Generated.Payload3.slicesVersions = Tables.slicesVersions ∧ Generated.Payload3.resourceSignatures = Tables.resourceSignatures ∧
    Generated.Payload3.resourceSignatures.all (fun s => decide (s ∈ Psd.G.resourceSignatures)) = true :=
  ⟨rfl, rfl, rfl, rfl, by decide +kernel⟩

/-- how `ImageResource.read` / `write` call the payload (`frombytes` with no keyword: default paddings; `padding=1`) -/
theorem resource_payload_calls_tied :
    Generated.Payload3.resourcePayloadRead = Tables.resourcePayloadRead ∧
      Generated.Payload3.resourcePayloadWrite = Tables.resourcePayloadWrite := ⟨rfl, rfl⟩

/-- `image_resources.TYPES`: which resource id holds which class - and every class in it is modelled -/
theorem unit7_registry_tied :
    Generated.Payload3.unit7Registry = Tables.unit7Registry ∧
      Generated.Payload3.unit7Registry.all (fun r => decide (r.2 ∈ Tables.unit7Modelled)) = true := ⟨rfl, by decide +kernel⟩

theorem unit7_calls_tied : Generated.Payload3.unit7Calls = Tables.unit7Calls := rfl
/-- the `if` / `while` tests, the asserts, the exception classes caught (`SliceV6.read`: `(ValueError, IOError)` since
588bcfb), the base classes -/
theorem unit7_conditions_tied :
    Generated.Payload3.unit7Conditions = Tables.unit7Conditions ∧ Generated.Payload3.unit7Asserts = Tables.unit7Asserts ∧
    Generated.Payload3.unit7Excepts = Tables.unit7Excepts ∧ Generated.Payload3.unit7Bases = Tables.unit7Bases :=
  ⟨rfl, rfl, rfl, rfl⟩

/-- the `struct` formats of the models are the format strings of the source (`unit7_calls_tied`) -/
theorem unit7_formats_tied :
    parseFmts ["6H", "B"] = some AlphaChannel.fmt ∧ parseFmts ["I", "H", "i", "H4x2?"] = some HalftoneScreen.fmt ∧
    parseFmt "13H" = some TransferFunction.curveFmt ∧ parseFmt "6I2H" = some (Thumbnail.headFmt ++ [U 4] ++ Thumbnail.tailFmt) ∧
    parseFmt "3I" = some SliceV6.headFmt ∧ parseFmt "4I" = some SliceV6.bboxFmt ∧ parseFmt "4B" = some SliceV6.argbFmt ∧
    parseFmt "8?" = some PrintFlags.fmt8 ∧ parseFmt "?" = some [Q] ∧ parseFmt "4I" = some ([U 4, U 4, U 4] ++ [U 4]) ∧
    parseFmt "IB" = some [U 4, U 1] ∧ parseFmt "Id" = some [U 4, U 8] ∧ parseFmt "HBxIH" = some [U 2, U 1, X 1, U 4, U 2] ∧
    parseFmt "H3f" = some [U 2, U 4, U 4, U 4] ∧ parseFmt "I2HI2H" = some [U 4, U 2, U 2, U 4, U 2, U 2] ∧
    parseFmt "2I" = some [U 4, U 4] ∧ parseFmt "I?" = some [U 4, Q] ∧ parseFmt "i" = some [S 4] ∧ parseFmt "H" = some [U 2] ∧
    parseFmt "B" = some [U 1] ∧ parseFmt "I" = some [U 4] := by decide +kernel

end unit7

/-! ## unit 8: adjustments -/

section unit8

theorem brightness_contrast_roundtrip : RoundTrip (BrightnessContrast.codec) := roundTrip_of BrightnessContrast.rt
theorem brightness_contrast_rewrite_identical : RewriteIdentical (BrightnessContrast.codec) := rewriteIdentical_of BrightnessContrast.rt.atEnd
theorem brightness_contrast_written_is_length : WrittenIsLength (BrightnessContrast.codec) := writtenIsLength_of BrightnessContrast.count
theorem tagged_block_brightness_contrast : TaggedBlockPayload (BrightnessContrast.codec) := taggedBlockPayload_of BrightnessContrast.rt.atEnd

theorem color_balance_roundtrip : RoundTrip (ColorBalance.codec) := roundTrip_of ColorBalance.rt
theorem color_balance_rewrite_identical : RewriteIdentical (ColorBalance.codec) := rewriteIdentical_of ColorBalance.rt.atEnd
theorem color_balance_written_is_length : WrittenIsLength (ColorBalance.codec) := writtenIsLength_of ColorBalance.count
theorem tagged_block_color_balance : TaggedBlockPayload (ColorBalance.codec) := taggedBlockPayload_of ColorBalance.rt.atEnd

/-- a `DescriptorBlock2` whose header is `HI`; composed with Props/C01Descriptor.lean -/
theorem color_lookup_roundtrip (tb : Descriptor.Tables) (pad : Nat) : RoundTrip (ColorLookup.codec tb pad) := roundTrip_of (ColorLookup.rt tb pad)
theorem color_lookup_rewrite_identical (tb : Descriptor.Tables) (pad : Nat) : RewriteIdentical (ColorLookup.codec tb pad) := rewriteIdentical_of (ColorLookup.rt tb pad).atEnd
theorem color_lookup_written_is_length (tb : Descriptor.Tables) (pad : Nat) : WrittenIsLength (ColorLookup.codec tb pad) := writtenIsLength_of (ColorLookup.count tb pad)
theorem tagged_block_color_lookup (tb : Descriptor.Tables) (pad : Nat) : TaggedBlockPayload (ColorLookup.codec tb (innerPad pad)) := taggedBlockPayload_of (ColorLookup.rt tb _).atEnd

/-- `unknown = fp.read()`: at the end of the block -/
theorem channel_mixer_roundtrip_at_end : RoundTripAtEnd (ChannelMixer.codec) := roundTripAtEnd_of ChannelMixer.rt
theorem channel_mixer_rewrite_identical : RewriteIdentical (ChannelMixer.codec) := rewriteIdentical_of ChannelMixer.rt
theorem channel_mixer_written_is_length : WrittenIsLength (ChannelMixer.codec) := writtenIsLength_of ChannelMixer.count
theorem tagged_block_channel_mixer : TaggedBlockPayload (ChannelMixer.codec) := taggedBlockPayload_of ChannelMixer.rt

/-- maps or curves, the count from the bit map (version 1) or the count field (version 4), the extra marker (version 1) unless its read runs out of data -/
theorem curves_roundtrip_at_end : RoundTripAtEnd (Curves.codec) := roundTripAtEnd_of Curves.rt
theorem curves_rewrite_identical : RewriteIdentical (Curves.codec) := rewriteIdentical_of Curves.rt
theorem curves_written_is_length : WrittenIsLength (Curves.codec) := writtenIsLength_of Curves.count
theorem tagged_block_curves : TaggedBlockPayload (Curves.codec) := taggedBlockPayload_of Curves.rt

/-- the method is stored in version 3 only -/
theorem gradient_map_roundtrip : RoundTrip (GradientMap.codec) := roundTrip_of GradientMap.rt
theorem gradient_map_rewrite_identical : RewriteIdentical (GradientMap.codec) := rewriteIdentical_of GradientMap.rt.atEnd
theorem gradient_map_written_is_length : WrittenIsLength (GradientMap.codec) := writtenIsLength_of GradientMap.count
theorem tagged_block_gradient_map : TaggedBlockPayload (GradientMap.codec) := taggedBlockPayload_of GradientMap.rt.atEnd

theorem color_stop_roundtrip : RoundTrip (ColorStop.codec) := roundTrip_of ColorStop.rt
theorem color_stop_rewrite_identical : RewriteIdentical (ColorStop.codec) := rewriteIdentical_of ColorStop.rt.atEnd
theorem color_stop_written_is_length : WrittenIsLength (ColorStop.codec) := writtenIsLength_of ColorStop.count

theorem transparency_stop_roundtrip : RoundTrip (TransparencyStop.codec) := roundTrip_of TransparencyStop.rt
theorem transparency_stop_rewrite_identical : RewriteIdentical (TransparencyStop.codec) := rewriteIdentical_of TransparencyStop.rt.atEnd
theorem transparency_stop_written_is_length : WrittenIsLength (TransparencyStop.codec) := writtenIsLength_of TransparencyStop.count

theorem exposure_roundtrip (pad : Nat) : RoundTrip (Exposure.codec pad) := roundTrip_of (Exposure.rt pad)
theorem exposure_rewrite_identical (pad : Nat) : RewriteIdentical (Exposure.codec pad) := rewriteIdentical_of (Exposure.rt pad).atEnd
theorem exposure_written_is_length (pad : Nat) : WrittenIsLength (Exposure.codec pad) := writtenIsLength_of (Exposure.count pad)
theorem tagged_block_exposure (pad : Nat) : TaggedBlockPayload (Exposure.codec (innerPad pad)) := taggedBlockPayload_of (Exposure.rt _).atEnd

theorem hue_saturation_roundtrip : RoundTrip (HueSaturation.codec) := roundTrip_of HueSaturation.rt
theorem hue_saturation_rewrite_identical : RewriteIdentical (HueSaturation.codec) := rewriteIdentical_of HueSaturation.rt.atEnd
theorem hue_saturation_written_is_length : WrittenIsLength (HueSaturation.codec) := writtenIsLength_of HueSaturation.count
theorem tagged_block_hue_saturation : TaggedBlockPayload (HueSaturation.codec) := taggedBlockPayload_of HueSaturation.rt.atEnd

/-- 29 records, then the `Lvls` trailer with the records beyond 29 when `extra_version` is set (`is_readable(fp, 6)`) -/
theorem levels_roundtrip_at_end : RoundTripAtEnd (Levels.codec) := roundTripAtEnd_of Levels.rt
theorem levels_rewrite_identical : RewriteIdentical (Levels.codec) := rewriteIdentical_of Levels.rt
theorem levels_written_is_length : WrittenIsLength (Levels.codec) := writtenIsLength_of Levels.count
theorem tagged_block_levels : TaggedBlockPayload (Levels.codec) := taggedBlockPayload_of Levels.rt

theorem level_record_roundtrip : RoundTrip (LevelRecord.codec) := roundTrip_of LevelRecord.rt
theorem level_record_rewrite_identical : RewriteIdentical (LevelRecord.codec) := rewriteIdentical_of LevelRecord.rt.atEnd
theorem level_record_written_is_length : WrittenIsLength (LevelRecord.codec) := writtenIsLength_of LevelRecord.count

theorem photo_filter_roundtrip : RoundTrip (PhotoFilter.codec) := roundTrip_of PhotoFilter.rt
theorem photo_filter_rewrite_identical : RewriteIdentical (PhotoFilter.codec) := rewriteIdentical_of PhotoFilter.rt.atEnd
theorem photo_filter_written_is_length : WrittenIsLength (PhotoFilter.codec) := writtenIsLength_of PhotoFilter.count
theorem tagged_block_photo_filter : TaggedBlockPayload (PhotoFilter.codec) := taggedBlockPayload_of PhotoFilter.rt.atEnd

theorem selective_color_roundtrip : RoundTrip (SelectiveColor.codec) := roundTrip_of SelectiveColor.rt
theorem selective_color_rewrite_identical : RewriteIdentical (SelectiveColor.codec) := rewriteIdentical_of SelectiveColor.rt.atEnd
theorem selective_color_written_is_length : WrittenIsLength (SelectiveColor.codec) := writtenIsLength_of SelectiveColor.count
theorem tagged_block_selective_color : TaggedBlockPayload (SelectiveColor.codec) := taggedBlockPayload_of SelectiveColor.rt.atEnd

/-! ### non-vacuity -/

theorem unit8_samples_wf :
    Levels.codec.WF Samples.levels29 ∧ Levels.codec.Fits Samples.levels29 ∧ Levels.codec.WF Samples.levels31 ∧ Levels.codec.Fits Samples.levels31 ∧
    Curves.codec.WF Samples.curves1 ∧ Curves.codec.Fits Samples.curves1 ∧ Curves.codec.WF Samples.curves1NoExtra ∧ Curves.codec.WF Samples.curves4 ∧
    PhotoFilter.codec.WF Samples.photo3 ∧ PhotoFilter.codec.WF Samples.photo2 ∧
    GradientMap.codec.WF Samples.gradient3 ∧ GradientMap.codec.Fits Samples.gradient3 ∧ GradientMap.codec.WF Samples.gradient1 ∧
    HueSaturation.codec.WF (Samples.hue 6) ∧ HueSaturation.codec.Fits (Samples.hue 6) := by decide +kernel

example : ∃ bs, Levels.codec.enc Samples.levels31 = .ok bs ∧ bs.length = 320 ∧ Levels.codec.dec bs 0 = .ok (Samples.levels31, 320) := by
  have hwf_levels31 : Levels.codec.WF Samples.levels31 := unit8_samples_wf.2.2.1
  have hfits_levels31 : Levels.codec.Fits Samples.levels31 := unit8_samples_wf.2.2.2.1
  have henc : Levels.codec.enc Samples.levels31 = .ok (Levels.codec.encT Samples.levels31) := if_pos hfits_levels31
  refine ⟨_, henc, by decide +kernel, ?_⟩
  have hc : Levels.codec.consumed Samples.levels31 = 320 := by decide +kernel
  simpa [hc] using levels_roundtrip_at_end _ hwf_levels31 _ [] henc

example : ∃ bs, Curves.codec.enc Samples.curves1 = .ok bs ∧ bs.length % 4 = 0 ∧
    Curves.codec.dec bs 0 = .ok (Samples.curves1, Curves.codec.consumed Samples.curves1) := by
  have hwf_curves1 : Curves.codec.WF Samples.curves1 := unit8_samples_wf.2.2.2.2.1
  have hfits_curves1 : Curves.codec.Fits Samples.curves1 := unit8_samples_wf.2.2.2.2.2.1
  have henc : Curves.codec.enc Samples.curves1 = .ok (Curves.codec.encT Samples.curves1) := if_pos hfits_curves1
  refine ⟨_, henc, by decide +kernel, ?_⟩
  simpa using curves_roundtrip_at_end _ hwf_curves1 _ [] henc

/-! ### points excluded by `WF` (iii): values the format has no place for -/

/-- `Levels` with 30 records and no extra version: the writer stores the first 29, the 30th is lost -/
theorem levels_records_beyond_29_need_the_trailer :
    Levels.codec.enc Samples.levels30NoTrailer = Levels.codec.enc Samples.levels29 ∧ Samples.levels30NoTrailer ≠ Samples.levels29 := by
  decide +kernel

/-- `HueSaturation` with five items: written as they are, the reader wants six (`IOError`) -/
theorem hue_saturation_needs_six_items :
    HueSaturation.codec.Fits (Samples.hue 5) ∧
      Descriptor.errorOf (HueSaturation.codec.dec (HueSaturation.codec.encT (Samples.hue 5)) 0) = some .ioError := by decide +kernel

/-- `PhotoFilter(version=3, color_space=..., color_components=...)`: only `xyz` is stored, the colour comes back as `None` -/
theorem photo_filter_v3_colour_not_stored :
    PhotoFilter.codec.enc Samples.photo3Colour = PhotoFilter.codec.enc Samples.photo3 ∧ Samples.photo3Colour ≠ Samples.photo3 := by
  decide +kernel

/-- `Curves(version=4, extra=marker)`: the marker is written and never read (`if version == 1`) -/
theorem curves_v4_marker_not_read :
    Curves.codec.Fits Samples.curves4Marker ∧
      (Curves.codec.dec (Curves.codec.encT Samples.curves4Marker) 0).map (fun r => r.1.extra) = .ok none := by decide +kernel

/-- `GradientMap(version=1, method=b"Lnr ")`: the method is stored in version 3 only -/
theorem gradient_map_v1_method_not_stored :
    GradientMap.codec.enc Samples.gradient1Lnr = GradientMap.codec.enc Samples.gradient1 ∧ Samples.gradient1Lnr.1.2 ≠ Samples.gradient1.1.2 := by
  decide +kernel

/-! ### ties -/

theorem unit8_validators_tied :
    Generated.Payload3.channelMixerVersions = Tables.channelMixerVersions ∧ Generated.Payload3.curvesExtraVersions = Tables.curvesExtraVersions ∧
    Generated.Payload3.gradientMapVersions = Tables.gradientMapVersions ∧ Generated.Payload3.gradientMethods = Tables.gradientMethods ∧
    Generated.Payload3.gradientExpansions = Tables.gradientExpansions ∧ Generated.Payload3.gradientLengths = Tables.gradientLengths ∧
    Generated.Payload3.levelsVersions = Tables.levelsVersions ∧ Generated.Payload3.photoFilterVersions = Tables.photoFilterVersions ∧
    Generated.Payload3.selectiveColorVersions = Tables.selectiveColorVersions := ⟨rfl, rfl, rfl, rfl, rfl, rfl, rfl, rfl, rfl⟩

/-- `ADJUSTMENT_TYPES` as registered in `tagged_blocks.TYPES`, and every class in it is modelled -/
theorem unit8_registry_tied :
    Generated.Payload3.unit8Registry = Tables.unit8Registry ∧
      Generated.Payload3.unit8Registry.all (fun r => decide (r.2 ∈ Tables.unit8Modelled)) = true := ⟨rfl, by decide +kernel⟩

theorem unit8_calls_tied : Generated.Payload3.unit8Calls = Tables.unit8Calls := rfl
/-- the `if` tests that decide the optional parts (`Levels.write`: `self.extra_version is not None`, `Levels.read`:
`is_readable(fp, 6)`, ...), the asserts, the `except IOError` of `Curves.read`, the base classes -/
theorem unit8_conditions_tied :
    Generated.Payload3.unit8Conditions = Tables.unit8Conditions ∧ Generated.Payload3.unit8Asserts = Tables.unit8Asserts ∧
    Generated.Payload3.unit8Excepts = Tables.unit8Excepts ∧ Generated.Payload3.unit8Bases = Tables.unit8Bases :=
  ⟨rfl, rfl, rfl, rfl⟩

theorem unit8_formats_tied :
    parseFmt "3HBx" = some [U 2, U 2, U 2, U 1, X 1] ∧ parseFmt "3h" = some s2x3 ∧ parseFmt "4h" = some s2x4 ∧ parseFmt "4H" = some u2x4 ∧
    parseFmt "2H" = some [U 2, U 2] ∧ parseFmt "5h" = some [S 2, S 2, S 2, S 2, S 2] ∧ parseFmt "H3f" = some [U 2, U 4, U 4, U 4] ∧
    parseFmt "HBx" = some [U 2, U 1, X 1] ∧ parseFmt "5H" = some LevelRecord.fmt ∧ parseFmt "2I5H2x" = some ColorStop.fmt ∧
    parseFmts ["2IH", "4H2x"] = some ColorStop.fmt ∧ parseFmt "2IH" = some TransparencyStop.fmt ∧
    parseFmt "3I" = some PhotoFilter.xyzFmt ∧ parseFmt "H4H" = some PhotoFilter.colorFmt ∧ parseFmt "IB" = some PhotoFilter.tailFmt ∧
    parseFmt "H2B" = some GradientMap.headFmt ∧ parseFmt "4HI2HIH" = some (u2x4 ++ [U 4, U 2, U 2] ++ [U 4, U 2]) ∧
    parseFmts ["4H", "I2H", "IH"] = some (u2x4 ++ [U 4, U 2, U 2] ++ [U 4, U 2]) ∧ parseFmt "2x" = some [X 2] ∧
    parseFmt "BHI" = some [U 1, U 2, U 4] ∧ parseFmt "256B" = some mapFmt ∧ parseFmt "2H" = some pairFmt ∧
    parseFmt "4sHI" = some CurvesExtraMarker.hdrFmt ∧ parseFmt "HI" = some [U 2, U 4] ∧ parseFmt "4sH" = some [SN 4, U 2] := by
  decide +kernel

end unit8

/-! ## unit 9: vector data -/

section unit9

/-- one record with its selector: fill rule, initial fill, clipboard, knot (4 classes), subpath (2 classes, recursive) -/
theorem path_record_roundtrip : RoundTrip (PItem.codec) := roundTrip_of PItem.rt
theorem path_record_rewrite_identical : RewriteIdentical (PItem.codec) := rewriteIdentical_of PItem.rt.atEnd
theorem path_record_written_is_length : WrittenIsLength (PItem.codec) := writtenIsLength_of PItem.count

/-- `while is_readable(fp, 26)`; the filler stays below a record -/
theorem path_roundtrip_at_end (pad : Nat) : RoundTripAtEnd (Path.codec pad) := roundTripAtEnd_of (Path.rt pad)
theorem path_rewrite_identical (pad : Nat) : RewriteIdentical (Path.codec pad) := rewriteIdentical_of (Path.rt pad)
theorem path_written_is_length (pad : Nat) : WrittenIsLength (Path.codec pad) := writtenIsLength_of (Path.count pad)

theorem vector_mask_setting_roundtrip_at_end : RoundTripAtEnd (VectorMaskSetting.codec) := roundTripAtEnd_of VectorMaskSetting.rt
theorem vector_mask_setting_rewrite_identical : RewriteIdentical (VectorMaskSetting.codec) := rewriteIdentical_of VectorMaskSetting.rt
theorem vector_mask_setting_written_is_length : WrittenIsLength (VectorMaskSetting.codec) := writtenIsLength_of VectorMaskSetting.count
theorem tagged_block_vector_mask_setting : TaggedBlockPayload (VectorMaskSetting.codec) := taggedBlockPayload_of VectorMaskSetting.rt

theorem vector_stroke_content_setting_roundtrip (tb : Descriptor.Tables) (pad : Nat) : RoundTrip (VectorStrokeContentSetting.codec tb pad) := roundTrip_of (VectorStrokeContentSetting.rt tb pad)
theorem vector_stroke_content_setting_rewrite_identical (tb : Descriptor.Tables) (pad : Nat) : RewriteIdentical (VectorStrokeContentSetting.codec tb pad) := rewriteIdentical_of (VectorStrokeContentSetting.rt tb pad).atEnd
theorem vector_stroke_content_setting_written_is_length (tb : Descriptor.Tables) (pad : Nat) : WrittenIsLength (VectorStrokeContentSetting.codec tb pad) := writtenIsLength_of (VectorStrokeContentSetting.count tb pad)
theorem tagged_block_vector_stroke_content_setting (tb : Descriptor.Tables) (pad : Nat) : TaggedBlockPayload (VectorStrokeContentSetting.codec tb (innerPad pad)) := taggedBlockPayload_of (VectorStrokeContentSetting.rt tb _).atEnd

/-- `DescriptorBlock` as a tagged-block payload: `vstk` (VectorStrokeSetting), `blwh`, `vibA`, `SoCo`, `GdFl`, `PtFl` and the other keys registered for it -/
theorem descriptor_payload_roundtrip (tb : Descriptor.Tables) (pad : Nat) : RoundTrip (DescriptorPayload.codec tb pad) := roundTrip_of (DescriptorPayload.rt tb pad)
theorem descriptor_payload_rewrite_identical (tb : Descriptor.Tables) (pad : Nat) : RewriteIdentical (DescriptorPayload.codec tb pad) := rewriteIdentical_of (DescriptorPayload.rt tb pad).atEnd
theorem descriptor_payload_written_is_length (tb : Descriptor.Tables) (pad : Nat) : WrittenIsLength (DescriptorPayload.codec tb pad) := writtenIsLength_of (DescriptorPayload.count tb pad)
theorem tagged_block_descriptor_block (tb : Descriptor.Tables) (pad : Nat) : TaggedBlockPayload (DescriptorPayload.codec tb (innerPad pad)) := taggedBlockPayload_of (DescriptorPayload.rt tb _).atEnd

/-- `DescriptorBlock2` as a tagged-block payload: `vogk` (VectorOriginationData) and the object-based effects keys -/
theorem descriptor2_payload_roundtrip (tb : Descriptor.Tables) (pad : Nat) : RoundTrip (Descriptor2Payload.codec tb pad) := roundTrip_of (Descriptor2Payload.rt tb pad)
theorem descriptor2_payload_rewrite_identical (tb : Descriptor.Tables) (pad : Nat) : RewriteIdentical (Descriptor2Payload.codec tb pad) := rewriteIdentical_of (Descriptor2Payload.rt tb pad).atEnd
theorem descriptor2_payload_written_is_length (tb : Descriptor.Tables) (pad : Nat) : WrittenIsLength (Descriptor2Payload.codec tb pad) := writtenIsLength_of (Descriptor2Payload.count tb pad)
theorem tagged_block_descriptor_block2 (tb : Descriptor.Tables) (pad : Nat) : TaggedBlockPayload (Descriptor2Payload.codec tb (innerPad pad)) := taggedBlockPayload_of (Descriptor2Payload.rt tb _).atEnd

/-! ### non-vacuity -/

theorem unit9_samples_wf :
    (Path.codec 4).WF Samples.path ∧ (Path.codec 4).Fits Samples.path ∧
      VectorMaskSetting.codec.WF Samples.vectorMask ∧ VectorMaskSetting.codec.Fits Samples.vectorMask := by decide +kernel

/-- eleven 26-byte records (two of them nested one level deeper), then the filler -/
example : ∃ bs, (Path.codec 4).enc Samples.path = .ok bs ∧ bs.length = 288 ∧ (Path.codec 4).consumed Samples.path = 286 := by
  have hfits_path : (Path.codec 4).Fits Samples.path := unit9_samples_wf.2.1
  have henc : (Path.codec 4).enc Samples.path = .ok ((Path.codec 4).encT Samples.path) := if_pos hfits_path
  exact ⟨_, henc, by decide +kernel, by decide +kernel⟩

/-! ### ties -/

/-- `vector.TYPES`: selector ↦ class; the kinds the model gives them; the selectors of the three classes that are alone in
their kind -/
theorem unit9_selectors_tied :
    Generated.Payload3.pathSelectors = Tables.pathSelectors ∧ Generated.Payload3.pathResourceIDs = Tables.pathResourceIDs ∧
    Generated.Payload3.pathResourceIDs.all (fun s => (kindOf s).isSome) = true ∧
    Generated.Payload3.pathSelectors.all (fun r => (PKind.ofName r.2).isSome) = true ∧
    kindOf 6 = some .fill ∧ kindOf 7 = some .clipboard ∧ kindOf 8 = some .initial ∧ kindOf 9 = none :=
  ⟨rfl, rfl, by decide +kernel⟩

/-- `decode_fixed_point` / `encode_fixed_point`: division / multiplication by 2^24 around the stored integer -/
theorem unit9_fixed_point_tied :
    Generated.Payload3.decodeFixedPoint = Tables.decodeFixedPoint ∧ Generated.Payload3.encodeFixedPoint = Tables.encodeFixedPoint := ⟨rfl, rfl⟩

theorem unit9_registry_tied : Generated.Payload3.unit9Registry = Tables.unit9Registry := rfl
theorem unit9_calls_tied : Generated.Payload3.unit9Calls = Tables.unit9Calls := rfl
theorem unit9_conditions_tied :
    Generated.Payload3.unit9Conditions = Tables.unit9Conditions ∧ Generated.Payload3.unit9Asserts = Tables.unit9Asserts ∧
    Generated.Payload3.unit9Excepts = Tables.unit9Excepts ∧ Generated.Payload3.unit9Bases = Tables.unit9Bases :=
  ⟨rfl, rfl, rfl, rfl⟩

theorem unit9_formats_tied :
    parseFmt "6i" = some knotFmt ∧ parseFmt "5i4x" = some clipFmt ∧ parseFmt "H22x" = some initFmt ∧
    parseFmt "HhH2I10s" = some ([U 2] ++ subFmt) ∧ parseFmt "24x" = some [X 24] ∧ parseFmt "2I" = some VectorMaskSetting.headFmt ∧
    parseFmt "4sI" = some [SN 4, U 4] ∧ parseFmts ["H", "24x"] = some [U 2, X 24] ∧
    fmtSize knotFmt = 24 ∧ fmtSize clipFmt = 24 ∧ fmtSize initFmt = 24 ∧ fmtSize ([U 2] ++ subFmt) = 24 := by decide +kernel

end unit9

/-! ## unit 10: filter effects -/

section unit10

theorem filter_effect_channel_roundtrip : RoundTrip (FEChannel.codec) := roundTrip_of FEChannel.rt
theorem filter_effect_channel_rewrite_identical : RewriteIdentical (FEChannel.codec) := rewriteIdentical_of FEChannel.rt.atEnd
theorem filter_effect_channel_written_is_length : WrittenIsLength (FEChannel.codec) := writtenIsLength_of FEChannel.count

theorem filter_effect_extra_roundtrip : RoundTrip (FEExtra.codec) := roundTrip_of FEExtra.rt
theorem filter_effect_extra_rewrite_identical : RewriteIdentical (FEExtra.codec) := rewriteIdentical_of FEExtra.rt.atEnd
theorem filter_effect_extra_written_is_length : WrittenIsLength (FEExtra.codec) := writtenIsLength_of FEExtra.count

/-- the extra is read `if is_readable(fp)`: every effect is read on the stream of its own length block -/
theorem filter_effect_roundtrip_at_end : RoundTripAtEnd (FilterEffect.codec) := roundTripAtEnd_of FilterEffect.rt
theorem filter_effect_rewrite_identical : RewriteIdentical (FilterEffect.codec) := rewriteIdentical_of FilterEffect.rt
theorem filter_effect_written_is_length : WrittenIsLength (FilterEffect.codec) := writtenIsLength_of FilterEffect.count

theorem filter_effects_roundtrip_at_end : RoundTripAtEnd (FilterEffects.codec) := roundTripAtEnd_of FilterEffects.rt
theorem filter_effects_rewrite_identical : RewriteIdentical (FilterEffects.codec) := rewriteIdentical_of FilterEffects.rt
theorem filter_effects_written_is_length : WrittenIsLength (FilterEffects.codec) := writtenIsLength_of FilterEffects.count
theorem tagged_block_filter_effects : TaggedBlockPayload (FilterEffects.codec) := taggedBlockPayload_of FilterEffects.rt

/-! ### non-vacuity -/

theorem unit10_samples_wf : FilterEffects.codec.WF Samples.effects ∧ FilterEffects.codec.Fits Samples.effects := by decide +kernel

example : ∃ bs, FilterEffects.codec.enc Samples.effects = .ok bs ∧ FilterEffects.codec.dec bs 0 = .ok (Samples.effects, bs.length) := by
  have hwf_effects : FilterEffects.codec.WF Payload3.Samples.effects := unit10_samples_wf.1
  have hfits_effects : FilterEffects.codec.Fits Payload3.Samples.effects := unit10_samples_wf.2
  have henc : FilterEffects.codec.enc Samples.effects = .ok (FilterEffects.codec.encT Samples.effects) := if_pos hfits_effects
  refine ⟨_, henc, ?_⟩
  have h := filter_effects_roundtrip_at_end _ hwf_effects _ [] henc
  simp only [List.nil_append, List.length_nil, Nat.zero_add] at h
  have hc : FilterEffects.codec.consumed Samples.effects = (FilterEffects.codec.encT Samples.effects).length := by decide +kernel
  rw [h, hc]

/-- (iii) `FilterEffectChannel(is_written=0, compression=1, data=...)`: a channel that is not written stores its flag only -/
theorem filter_channel_unwritten_content_not_stored :
    FEChannel.codec.enc Samples.channelUnwrittenContent = .ok [0, 0, 0, 0] ∧ FEChannel.codec.dec [0, 0, 0, 0] 0 = .ok (⟨0, none⟩, 4) := by
  decide +kernel

/-! ### ties -/

theorem unit10_registry_tied : Generated.Payload3.unit10Registry = Tables.unit10Registry := rfl
theorem unit10_calls_tied : Generated.Payload3.unit10Calls = Tables.unit10Calls := rfl
theorem unit10_conditions_tied :
    Generated.Payload3.unit10Conditions = Tables.unit10Conditions ∧ Generated.Payload3.unit10Asserts = Tables.unit10Asserts ∧
    Generated.Payload3.unit10Excepts = Tables.unit10Excepts ∧ Generated.Payload3.unit10Bases = Tables.unit10Bases :=
  ⟨rfl, rfl, rfl, rfl⟩
theorem unit10_formats_tied :
    parseFmt "4i" = some s4x4 ∧ parseFmt "2I" = some [U 4, U 4] ∧ parseFmt "I" = some [U 4] ∧ parseFmt "H" = some [U 2] ∧
      parseFmt "B" = some [U 1] := by decide +kernel

end unit10

end PsdVerif.C01Payload3
