/-
C13 — compositing obeys viewport, no-op and grouping laws.
Property theorems about `Model/Composite.lean`; helper lemmas are in `Lemmas/Composite*.lean`.
All statements are at one (arbitrary) pixel `(x, y)`, for every rational input.
-/
import PsdVerif.Lemmas.CompositeView
import PsdVerif.Lemmas.CompositeGen

namespace PsdVerif.C13
open PsdVerif.Composite

/-- Whatever the stack (any nesting, masks, clipping, knockout, any blend functions that keep
`[0,1]`): the composited colour, shape and alpha are in `[0,1]`. Finite is automatic (rationals). -/
theorem result_in_unit_interval (B : Mode → Color → Color → Color) (V : Rect) (x y : Int)
    (color : Color) (alpha : Rat) (hc : ColorOk color) (ha : Unit01 alpha) (layers : List Node) (hl : listOk layers) :
    let r := compositeDoc B V x y color alpha layers
    ColorOk r.1 ∧ Unit01 r.2.1 ∧ Unit01 r.2.2 := by
  intro r
  have h := applyList_inv B V x y _ (inv_init hc ha false) layers hl
  exact ⟨fun ch => clip_unit _, h.sg, h.ag⟩

theorem hidden_noop (B : Mode → Color → Color → Color) (V : Rect) (x y : Int) (cc : Bool) (st : PState) (n : Node)
    (h : n.props.visible = false) : applyNode B V x y cc st n = st := by
  cases n <;> (simp only [Node.props] at h; unfold applyNode; simp [h])

theorem outside_viewport_noop (B : Mode → Color → Color → Color) (V : Rect) (x y : Int) (cc : Bool) (st : PState) (n : Node)
    (h : intersect V n.props.bbox = Rect.zero) : applyNode B V x y cc st n = st := by
  cases n <;> (simp only [Node.props] at h; unfold applyNode; simp [h])

/-- a layer that is transparent at the pixel (its box does not cover it, or its shape there is 0 —
stated through the source it generates) changes nothing observable: shape, alpha, and colour
wherever alpha is not zero -/
theorem transparent_noop (B : Mode → Color → Color → Color) (V : Rect) (x y : Int) (st : PState) (hst : Inv st)
    (n : Node) (hko : n.props.knockout = false) (hz : Gen.Zero (nodeGen B V x y n)) :
    Same (applyNode B V x y false st n) st := by
  rw [applyNode_eq_stepGen B V x y false st n hko]
  split
  · exact Same.refl st
  · obtain ⟨z1, z2⟩ := hz st.c st.a
    unfold stepGen
    simp only [z1, z2]
    exact applySource_zero _ st hst _

/-- a pixel layer at zero opacity: alpha and colour are untouched (the accumulated *shape* may grow) -/
theorem zero_opacity_noop (B : Mode → Color → Color → Color) (V : Rect) (x y : Int) (st : PState) (hst : Inv st)
    (pr : Props) (hasPixels : Bool) (color : Color) (shape : Rat) (hko : pr.knockout = false) (hop : pr.opacity = 0) :
    let r := applyNode B V x y false st (.leaf pr hasPixels color shape [])
    r.ag = st.ag ∧ r.a = st.a ∧ (st.a ≠ 0 → ∀ ch, r.c ch = st.c ch) := by
  intro r
  have hr : r = applyNode B V x y false st (.leaf pr hasPixels color shape []) := rfl
  rw [applyNode_eq_stepGen B V x y false st _ (by simpa [Node.props] using hko)] at hr
  split at hr
  · rw [hr]; exact ⟨rfl, rfl, fun _ _ => rfl⟩
  · rw [hr]
    have : (nodeGen B V x y (.leaf pr hasPixels color shape []) st.c st.a).alpha = 0 := by
      simp [nodeGen, hop]
    unfold stepGen
    simp only [this]
    exact applySource_zero_alpha _ st hst _ _

/-- the hypotheses are satisfiable -/
example : Gen.Zero (nodeGen (fun _ => blNormal) ⟨0, 0, 4, 4⟩ 1 1
    (.leaf ⟨true, ⟨2, 2, 4, 4⟩, 1, 1, false, Rect.zero, 1, 0, 1, 0, false, false, false⟩ true white 1 [])) :=
  nodeGen_zero_outside _ _ 1 1 (by decide) _ (by decide)

/-- Compositing in a sub-viewport gives, at every pixel of the sub-viewport, exactly what the
larger viewport gives there — for layers that meet both viewports in the same rectangle (no layer
is dropped by the early exit in one run and kept in the other); the general case differs only in
colour under zero alpha: `viewport_is_crop` below. -/
theorem viewport_is_crop_covered (B : Mode → Color → Color → Color) (V' V : Rect) (x y : Int)
    (h' : V'.contains x y = true) (h : V.contains x y = true) (color : Color) (alpha : Rat)
    (layers : List Node) (hv : ∀ n ∈ layers, viewEq V' V n) :
    compositeDoc B V' x y color alpha layers = compositeDoc B V x y color alpha layers := by
  unfold compositeDoc
  rw [applyList_congr_view B V V' x y layers (fun n hn st => applyNode_view B V' V x y h' h false st n (hv n hn))]

/-- a full-opacity, unmasked pass-through group that is not knocked out, not clipped and has no clip layers -/
structure PlainPassThrough (B : Mode → Color → Color → Color) (pr : Props) : Prop where
  visible : pr.visible = true
  opacity : pr.opacity = 1
  fill : pr.fill = 1
  noMask : pr.hasMask = false
  noKnockout : pr.knockout = false
  notClipped : (pr.clipping && pr.hasClipTarget) = false
  normal : B pr.mode = blNormal

/-- what `apply` does with a plain pass-through group at a pixel inside the group's viewport -/
theorem plain_group_apply (B : Mode → Color → Color → Color) (V : Rect) (x y : Int) (st : PState)
    (pr : Props) (children : List Node) (hp : PlainPassThrough B pr)
    (hV : intersect V pr.bbox ≠ Rect.zero) (hin : (intersect V pr.bbox).contains x y = true) :
    applyNode B V x y false st (.group pr true children []) =
      applySource blNormal st
        (finishColor (applyList B (intersect V pr.bbox) x y (PState.init st.c st.a false) children))
        (applyList B (intersect V pr.bbox) x y (PState.init st.c st.a false) children).sg
        (applyList B (intersect V pr.bbox) x y (PState.init st.c st.a false) children).ag false := by
  unfold applyNode
  simp only [hp.visible, hV, hp.notClipped, hp.noKnockout, hin, Bool.not_true, Bool.false_eq_true, if_false,
    if_true, Bool.not_false, Bool.true_and, List.isEmpty_nil]
  unfold finishApply maskFactors
  simp only [hp.noMask, Bool.false_eq_true, if_false, hp.opacity, hp.fill, hp.normal, hp.noKnockout, mul_one]

/-- **Pass-through group, pixel inside the group's viewport.** Wrapping consecutive layers in a
full-opacity, unmasked pass-through group changes nothing: same shape, alpha, and the same colour
wherever alpha is not zero. `hview` is discharged by `passthrough_group_transparent` below. -/
theorem passthrough_group_transparent_inside
    (B : Mode → Color → Color → Color) (hB : BOk B) (V : Rect) (x y : Int) (st : PState) (hst : Inv st)
    (pr : Props) (children : List Node) (hp : PlainPassThrough B pr)
    (hV : intersect V pr.bbox ≠ Rect.zero) (hin : (intersect V pr.bbox).contains x y = true)
    (hch : listOk children) (hnko : ∀ n ∈ children, n.props.knockout = false)
    (hview : ∀ n ∈ children, ∀ s, applyNode B (intersect V pr.bbox) x y false s n = applyNode B V x y false s n) :
    let g := applyNode B V x y false st (.group pr true children [])
    let i := applyList B V x y st children
    g.sg = i.sg ∧ g.ag = i.ag ∧ g.a = i.a ∧ g.a0 = i.a0 ∧ g.c0 = i.c0 ∧ (i.a ≠ 0 → ∀ ch, g.c ch = i.c ch) := by
  intro g i
  simp only [g, i, plain_group_apply B V x y st pr children hp hV hin, applyList_congr_view B V _ x y children hview]
  have h := passthrough_inline hB V x y hst children hch hnko
  exact ⟨h.sg, h.ag, h.a, h.a0, h.c0, h.c⟩

/-- Pass-through group, pixel of `V` outside the group's box: the group does not cover the pixel, nor does any
child (they lie inside the group's box); whatever the group's properties. -/
theorem passthrough_group_transparent_outside
    (B : Mode → Color → Color → Color) (V : Rect) (x y : Int) (hxy : V.contains x y = true)
    (st : PState) (hst : Composite.Inv st) (pr : Props) (children : List Node)
    (hV : intersect V pr.bbox ≠ Rect.zero) (hin : ¬ (intersect V pr.bbox).contains x y = true)
    (hch : listOk children)
    (hbox : ∀ n ∈ children, ∀ px py, n.props.bbox.contains px py = true → pr.bbox.contains px py = true) :
    Same (applyNode B V x y false st (.group pr true children [])) (applyList B V x y st children) := by
  have hin' : (intersect V pr.bbox).contains x y = false := by simpa using hin
  have hprout : pr.bbox.contains x y = false := by
    rw [contains_intersect hV, hxy, Bool.true_and] at hin'; exact hin'
  have hg := applyNode_outside_sim B V x y hxy false st hst (.group pr true children []) hprout
  have hi := applyList_outside_sim B V x y hxy st hst children hch fun n hn => by
    cases hc : n.props.bbox.contains x y with
    | false => rfl
    | true => have := hbox n hn x y hc; rw [hprout] at this; exact absurd this (by simp)
  exact Same.of_sim (hg.trans hi.symm) ((applyNode_c0 ..).trans (applyList_c0 ..).symm)

/-- **Pass-through group.** For children that lie inside the group's box (so that they meet the
group's viewport `V ∩ bbox` and the outer viewport `V` in the same rectangle), at every pixel of
`V`: compositing the group equals compositing its children inline. -/
theorem passthrough_group_transparent
    (B : Mode → Color → Color → Color) (hB : BOk B) (V : Rect) (x y : Int) (hxy : V.contains x y = true)
    (st : PState) (hst : Composite.Inv st)
    (pr : Props) (children : List Node) (hp : PlainPassThrough B pr)
    (hV : intersect V pr.bbox ≠ Rect.zero)
    (hch : listOk children) (hnko : ∀ n ∈ children, n.props.knockout = false)
    (hcov : ∀ n ∈ children, viewEq (intersect V pr.bbox) V n)
    (hbox : ∀ n ∈ children, ∀ px py, n.props.bbox.contains px py = true → pr.bbox.contains px py = true) :
    Same (applyNode B V x y false st (.group pr true children [])) (applyList B V x y st children) := by
  by_cases hin : (intersect V pr.bbox).contains x y = true
  · have hview : ∀ n ∈ children, ∀ s, applyNode B (intersect V pr.bbox) x y false s n = applyNode B V x y false s n :=
      fun n hn s => applyNode_view B _ V x y hin hxy false s n (hcov n hn)
    obtain ⟨h1, h2, h3, h4, h5, h6⟩ :=
      passthrough_group_transparent_inside B hB V x y st hst pr children hp hV hin hch hnko hview
    exact ⟨h1, h2, h3, h4, h5, h6⟩
  · exact passthrough_group_transparent_outside B V x y hxy st hst pr children hV hin hch hbox

/-- **Sub-viewport = crop.** For any two viewports containing the pixel (e.g. a sub-viewport and the
full canvas), any backdrop and any well-formed stack: the composited shape and alpha at the pixel
are equal, and so is the colour wherever the alpha is not zero. -/
theorem viewport_is_crop (B : Mode → Color → Color → Color) (V' V : Rect) (x y : Int)
    (h' : V'.contains x y = true) (h : V.contains x y = true) (color : Color) (alpha : Rat)
    (hc : ColorOk color) (ha : Unit01 alpha) (layers : List Node) (hl : listOk layers) :
    let r' := compositeDoc B V' x y color alpha layers
    let r := compositeDoc B V x y color alpha layers
    r'.2.1 = r.2.1 ∧ r'.2.2 = r.2.2 ∧ (r.2.2 ≠ 0 → r'.1 = r.1) := by
  intro r' r
  have i := inv_init hc ha false
  have hs := applyList_sim B V' V x y h' h _ _ (Sim.refl _) i i layers hl
  have it := applyList_inv B V x y _ i layers hl
  exact ⟨hs.sg, hs.ag, fun hne => finishColor_sim hs it hne⟩

theorem applyList_append (B : Mode → Color → Color → Color) (V : Rect) (x y : Int) (st : PState) (a b : List Node) :
    applyList B V x y st (a ++ b) = applyList B V x y (applyList B V x y st a) b := by
  induction a generalizing st with
  | nil => simp [applyList]
  | cons n a ih => simp only [List.cons_append, applyList]; exact ih _

theorem listOk_append {a b : List Node} : listOk (a ++ b) ↔ listOk a ∧ listOk b := by
  induction a with
  | nil => simp [listOk]
  | cons n a ih => simp only [List.cons_append, listOk, ih, and_assoc]

/-- **Inserting a no-op layer anywhere in a stack changes nothing observable**: if the layer leaves
the state it meets indistinguishable (hidden: `hidden_noop`; outside the viewport:
`outside_viewport_noop`; not covering the pixel: `applyNode_outside_sim`; transparent there:
`transparent_noop`), then the whole stack composites to the same shape, alpha and colour
(where alpha ≠ 0), whatever comes before and after it. -/
theorem noop_insert (B : Mode → Color → Color → Color) (V : Rect) (x y : Int) (hV : V.contains x y = true)
    (st : PState) (hst : Composite.Inv st) (pre post : List Node) (n : Node)
    (hpre : listOk pre) (hn : nodeOk n) (hpost : listOk post)
    (hnoop : ∀ s, Composite.Inv s → Sim (applyNode B V x y false s n) s) :
    Sim (applyList B V x y st (pre ++ n :: post)) (applyList B V x y st (pre ++ post)) := by
  rw [applyList_append, applyList_append]
  have ip := applyList_inv B V x y st hst pre hpre
  have e : applyList B V x y (applyList B V x y st pre) (n :: post)
      = applyList B V x y (applyNode B V x y false (applyList B V x y st pre) n) post := by
    simp only [applyList]
  rw [e]
  exact applyList_sim B V V x y hV hV _ _ (hnoop _ ip) (applyNode_inv B V x y false _ ip n hn) ip post hpost

/-- a layer whose box does not cover the pixel is such a no-op -/
theorem outside_pixel_is_noop (B : Mode → Color → Color → Color) (V : Rect) (x y : Int) (hV : V.contains x y = true)
    (n : Node) (hout : n.props.bbox.contains x y = false) :
    ∀ s, Composite.Inv s → Sim (applyNode B V x y false s n) s :=
  fun s hs => applyNode_outside_sim B V x y hV false s hs n hout

/-- **Pass-through groups are transparent to the result — general form.** No assumption on how the
children meet the viewports: at every pixel of `V`, a full-opacity, unmasked pass-through group
(not knocked out, not clipped, no clip layers of its own) whose non-knockout children lie inside
its box composites exactly like its children inline: same shape and alpha, same colour wherever
alpha is not zero, and the same for everything composited afterwards (`Sim` is a congruence). -/
theorem passthrough_group_transparent_general
    (B : Mode → Color → Color → Color) (hB : BOk B) (V : Rect) (x y : Int) (hxy : V.contains x y = true)
    (st : PState) (hst : Composite.Inv st)
    (pr : Props) (children : List Node) (hp : PlainPassThrough B pr)
    (hV : intersect V pr.bbox ≠ Rect.zero)
    (hch : listOk children) (hnko : ∀ n ∈ children, n.props.knockout = false)
    (hbox : ∀ n ∈ children, ∀ px py, n.props.bbox.contains px py = true → pr.bbox.contains px py = true) :
    Sim (applyNode B V x y false st (.group pr true children [])) (applyList B V x y st children) := by
  by_cases hin : (intersect V pr.bbox).contains x y = true
  · rw [plain_group_apply B V x y st pr children hp hV hin]
    have i0 := inv_init hst.c hst.a false
    -- the children inside the group's viewport vs inside V: indistinguishable
    have hsub := applyList_sim B (intersect V pr.bbox) V x y hin hxy _ _ (Sim.refl _) i0 i0 children hch
    have is2 := applyList_inv B V x y _ i0 children hch
    rw [hsub.sg, hsub.ag]
    have h1 : Sim
        (applySource blNormal st (finishColor (applyList B (intersect V pr.bbox) x y (PState.init st.c st.a false) children))
          (applyList B V x y (PState.init st.c st.a false) children).sg
          (applyList B V x y (PState.init st.c st.a false) children).ag false)
        (applySource blNormal st (finishColor (applyList B V x y (PState.init st.c st.a false) children))
          (applyList B V x y (PState.init st.c st.a false) children).sg
          (applyList B V x y (PState.init st.c st.a false) children).ag false) :=
      applySource_sim blNormal (Sim.refl st) (fun hne => finishColor_sim hsub is2 hne) false
    apply h1.trans
    -- and leaving the group = inline (exact algebra)
    exact (passthrough_inline hB V x y hst children hch hnko).sim
  · exact (passthrough_group_transparent_outside B V x y hxy st hst pr children hV hin hch hbox).sim

end PsdVerif.C13
