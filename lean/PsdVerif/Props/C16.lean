/-
C16 — attribute edits are observable at once and persist.

Model: `Model/Attr.lean` (the accessors of api/layers.py as repaired by the commits listed in
findings.d/C16.json); the predicates of the statements (`WF`, `Saveable`, `EnvLaws`, `storable`, `runSets` …) are defined
at the head of `Lemmas/Attr.lean`. `E : Env` carries the `BlendMode` table and the string codecs; the statements
hold for every `E` with `EnvLaws E`, and `generated_env_laws` instantiates them with the tables regenerated from the
source on every run.

Hypotheses that recur:
* `WF l`       — a group layer carries a section divider block (how `_init`/`Group.new` make groups);
* `valid E a v` — the value is in the property's domain (names ≤ 255 code points, every `BlendMode`
                  member, opacity 0..255, int32 offsets, 32-bit lock flags);
* `set … = .ok l'` — the edit was accepted (position edits of groups, artboards and shapes are
                  refused by the code: `set_position_refused`);
* `Saveable E l` — the state is one the record writer accepts and the reader returns unchanged (everything in range);
* `storable …`  — the unicode codec takes the name / the moved rectangle stays inside int32.
-/
import PsdVerif.Generated.Attr
import PsdVerif.Lemmas.Attr
import PsdVerif.Generated.AttrTable
import PsdVerif.Lemmas.AttrTable

namespace PsdVerif.C16
open PsdVerif PsdVerif.Attr

/-- The keys and enum values the model names are the source's (regenerated every run). -/
theorem tables_tied :
    Generated.Attr.tagLuni = kLuni ∧ Generated.Attr.tagLsct = kLsct ∧ Generated.Attr.tagLsdk = kLsdk ∧
    Generated.Attr.tagLspf = kLspf ∧ kNorm ∈ Generated.Attr.blendKeys ∧ kPass ∈ Generated.Attr.blendKeys ∧
    Generated.Attr.clippingValues = [0, 1] ∧ Generated.Attr.clippingNonBase = 1 ∧
    Generated.Attr.dividerOpen = 1 ∧ Generated.Attr.dividerClosed = 2 ∧ Generated.Attr.dividerValues = [0, 1, 2, 3] :=
  ⟨rfl, rfl, rfl, rfl, by decide, by decide, rfl, rfl, rfl, rfl, rfl⟩

/-- Get after set: an accepted edit of a layer whose groups have their divider block is read back by the getter of
the same attribute. -/
theorem get_set (E : Env) (a : Attr) (v : Val) (l l' : Layer) (hwf : WF l)
    (hv : valid E a v) (h : Attr.set E a v l = .ok l') : Attr.get a l' = .ok v := by
  cases Edit.of_set h with
  | name => simp only [Attr.get, findBlock_setData_same, dataVal]
  | visible => rfl
  | opacity i hi => simp only [Attr.get, Int.toNat_of_nonneg hi.1]
  | blend m hm hg => simp only [Attr.get, hg, Bool.false_eq_true, if_false]
  | blendBare m hm hg hk =>
    -- a group has its divider block
    obtain ⟨d, hd⟩ := hwf hg
    simp only [setting, hk] at hd
    cases hd
  | blendDivider m hm hg k hk d hd =>
    simp only [Attr.get, hg, if_true, setting_mapData_same _ _ _ hk, hd, Option.map_some, putBlend]
  | left i w hm => simp only [Attr.get, hm, if_true]
  | top i w hm => simp only [Attr.get, hm, if_true]
  | clipping b => cases b <;> rfl
  | lockInPlace i hi b hb =>
    simp only [Attr.get, findBlock_mapData_same, hb, Option.map_some, dataVal, Int.toNat_of_nonneg hi]
  | lockNew i hi => simp only [Attr.get, findBlock_setData_same, dataVal, Int.toNat_of_nonneg hi]

/-- Frame: an accepted edit of one attribute leaves what the getter of every other attribute returns. -/
theorem frame (E : Env) (a b : Attr) (v : Val) (l l' : Layer) (hab : a ≠ b)
    (h : Attr.set E a v l = .ok l') : Attr.get b l' = Attr.get b l := by
  -- the name, the divider and the locks live under four different keys
  obtain ⟨hus, huk, hup, -, hsp, hkp⟩ := keys_distinct
  cases Edit.of_set h with
  -- an edit of one block: the getters that read blocks find theirs, under another key, where it was
  | name =>
    cases b with
    | name => exact absurd rfl hab
    | blendMode => simp only [Attr.get, setting_setData _ _ _ huk.symm hus.symm]
    | locks => simp only [Attr.get, findBlock_setData_other _ _ _ _ hup.symm]
    | _ => rfl
  | blendDivider m hm hg k hk =>
    cases b with
    | blendMode => exact absurd rfl hab
    | name => simp only [Attr.get, findBlock_mapData_other _ _ _ _ (settingKey_ne _ _ hk).1]
    | locks => simp only [Attr.get, findBlock_mapData_other _ _ _ _ (settingKey_ne _ _ hk).2]
    | _ => rfl
  | lockInPlace =>
    cases b with
    | locks => exact absurd rfl hab
    | name => simp only [Attr.get, findBlock_mapData_other _ _ _ _ hup]
    | blendMode => simp only [Attr.get, setting_mapData_other _ _ _ hkp hsp]
    | _ => rfl
  | lockNew =>
    cases b with
    | locks => exact absurd rfl hab
    | name => simp only [Attr.get, findBlock_setData_other _ _ _ _ hup]
    | blendMode => simp only [Attr.get, setting_setData _ _ _ hkp hsp]
    | _ => rfl
  -- an edit of one record field: every other getter reads other fields
  | visible | opacity | blend | blendBare | left | top | clipping => cases b <;> first | rfl | exact absurd rfl hab

/-- what every successful edit leaves alone -/
theorem set_context (E : Env) (a : Attr) (v : Val) (l l' : Layer) (h : Attr.set E a v l = .ok l') :
    l'.kind = l.kind ∧ l'.pixels = l.pixels ∧ l'.psd = l.psd := by
  cases Edit.of_set h <;> exact ⟨rfl, rfl, rfl⟩

theorem size_frame (E : Env) (a : Attr) (v : Val) (l l' : Layer) (h1 : a ≠ .left) (h2 : a ≠ .top)
    (h : Attr.set E a v l = .ok l') : width l' = width l ∧ height l' = height l := by
  cases Edit.of_set h with
  | left => exact absurd rfl h1
  | top => exact absurd rfl h2
  | _ => exact ⟨rfl, rfl⟩

theorem wf_set (E : Env) (a : Attr) (v : Val) (l l' : Layer) (hwf : WF l) (h : Attr.set E a v l = .ok l') : WF l' := by
  obtain ⟨hus, huk, -, -, hsp, hkp⟩ := keys_distinct
  cases Edit.of_set h with
  | name => exact fun hg => by simpa only [setting_setData _ _ _ huk.symm hus.symm] using hwf hg
  | blendDivider m hm hg k hk d hd => exact fun _ => ⟨_, by rw [setting_mapData_same _ _ _ hk, hd]; rfl⟩
  | lockInPlace => exact fun hg => by simpa only [setting_mapData_other _ _ _ hkp hsp] using hwf hg
  | lockNew => exact fun hg => by simpa only [setting_setData _ _ _ hkp hsp] using hwf hg
  | _ => exact hwf

theorem move_left_keeps_width_partial (E : Env) (v w : Int) (l l' : Layer)
    (h : Attr.set E .left (.int v) l = .ok l') (hw : width l = .ok w)
    (hfill : l.kind = .fill → v + w ≠ 0) : width l' = .ok w := by
  cases Edit.of_set h with
  | left _ w' _ hw' =>
    cases hw.symm.trans hw'
    simp only [width, rightOf]
    by_cases hk : l.kind = .fill
    · simp [hk, hfill hk]; omega
    · simp [hk]; omega

theorem move_left_keeps_height (E : Env) (v : Int) (l l' : Layer)
    (h : Attr.set E .left (.int v) l = .ok l') : height l' = height l := by
  cases Edit.of_set h; rfl

theorem move_top_keeps_height_partial (E : Env) (v w : Int) (l l' : Layer)
    (h : Attr.set E .top (.int v) l = .ok l') (hw : height l = .ok w)
    (hfill : l.kind = .fill → v + w ≠ 0) : height l' = .ok w := by
  cases Edit.of_set h with
  | top _ w' _ hw' =>
    cases hw.symm.trans hw'
    simp only [height, bottomOf]
    by_cases hk : l.kind = .fill
    · simp [hk, hfill hk]; omega
    · simp [hk]; omega

theorem move_top_keeps_width (E : Env) (v : Int) (l l' : Layer)
    (h : Attr.set E .top (.int v) l = .ok l') : width l' = width l := by
  cases Edit.of_set h; rfl

/-- The side condition is exact: when a fill layer is moved so that its right edge becomes 0,
`FillLayer.right` falls back to the canvas width `W`, and the width becomes `W - v`. -/
theorem fill_move_far_edge_zero (E : Env) (v w W H : Int) (l l' : Layer) (hk : l.kind = .fill)
    (hp : l.psd = some (W, H)) (h : Attr.set E .left (.int v) l = .ok l') (hw : width l = .ok w)
    (h0 : v + w = 0) : width l' = .ok (W - v) := by
  cases Edit.of_set h with
  | left _ w' _ hw' =>
    cases hw.symm.trans hw'
    simp [width, rightOf, hk, h0, hp]

/-- an environment with empty tables: the position setters consult none of them -/
def envNone : Env := mkEnv [] [] false false

/-- a 32 px wide fill layer in a 64 px wide document -/
def fillW : Layer :=
  { kind := .fill, top := 0, left := 0, bottom := 32, right := 32, blend := kNorm, opacity := 255,
    clipping := 0, flags := {}, legacyName := [], blocks := [], pixels := [], psd := some (64, 64) }

/-- ... so the full statement fails (known finding `C16/move/fill/far-edge-zero-falls-back-to-canvas`;
the harness replays `layer.left = -width` on solid-color-fill.psd). -/
theorem fill_move_changes_width :
    ∃ l', Attr.set envNone .left (.int (-32)) fillW = .ok l' ∧ width fillW = .ok 32 ∧ width l' = .ok 96 :=
  ⟨{ fillW with left := -32, right := 0 }, rfl, rfl, rfl⟩

/-- the side condition is satisfiable: every move of a non-fill layer, and e.g. this move of a fill layer -/
example : ∃ l', Attr.set envNone .left (.int 5) fillW = .ok l' ∧ width l' = .ok 32 :=
  ⟨{ fillW with left := 5, right := 37 }, rfl, rfl⟩

/-- While every record owns its flags object, an attribute edit of
layer `i` leaves every other layer of the process — same document or not — exactly as it was:
every getter, the size, the pixels, and what `save` writes for it. -/
theorem edit_frames_other_layers (E : Env) (a : Attr) (v : Val) (i j : Nat) (d d' : Doc)
    (ho : d.Owned) (hij : i ≠ j) (h : d.edit E a v i = .ok d') :
    d'.view j = d.view j ∧
    (∀ b, (d'.view j).map (get b) = (d.view j).map (get b)) ∧
    (d'.view j).map (save E) = (d.view j).map (save E) := by
  obtain ⟨li, ri, l, l', hri, -, -, rfl⟩ := Doc.edit_ok h
  have key : Doc.view ⟨d.recs.set i (l', ri), d.heap.set ri l'.flags⟩ j = d.view j := by
    unfold Doc.view
    simp only [List.getElem?_set_ne hij]
    cases hrj : d.recs[j]? with
    | none => rfl
    | some q => simp only [List.getElem?_set_ne (ho.1 i j li q.1 ri q.2 hri hrj hij)]
  exact ⟨key, fun b => by rw [key], by rw [key]⟩

/-- an edit keeps the ownership (no setter rebinds or shares an element) -/
theorem edit_owned (E : Env) (a : Attr) (v : Val) (i : Nat) (d d' : Doc)
    (ho : d.Owned) (h : d.edit E a v i = .ok d') : d'.Owned := by
  obtain ⟨li, ri, l, l', hri, -, -, rfl⟩ := Doc.edit_ok h
  -- the addresses are what they were
  have haddr : ∀ (k : Nat) (lk : Layer) (rk : Nat), (d.recs.set i (l', ri))[k]? = some (lk, rk) →
      ∃ lk' : Layer, d.recs[k]? = some (lk', rk) := by
    intro k lk rk hk
    by_cases hik : i = k
    · subst hik
      rw [List.getElem?_set_self (List.getElem?_eq_some_iff.mp hri).1] at hk
      cases hk
      exact ⟨li, hri⟩
    · rw [List.getElem?_set_ne hik] at hk
      exact ⟨lk, hk⟩
  refine ⟨?_, ?_⟩
  · intro a b la lb ra rb h1 h2 hab
    obtain ⟨la', h1'⟩ := haddr a la ra h1
    obtain ⟨lb', h2'⟩ := haddr b lb rb h2
    exact ho.1 a b la' lb' ra rb h1' h2' hab
  · intro k lk rk hk
    obtain ⟨lk', hk'⟩ := haddr k lk rk hk
    simpa using ho.2 k lk' rk hk'

/-- a layer built by a constructor (`factory=LayerFlags`) owns its flags, starts with exactly the
attributes the constructor gave it — whatever was edited before — and leaves the others alone -/
theorem new_layer_owned (l : Layer) (d : Doc) (ho : d.Owned) :
    (d.newLayer l).Owned ∧ (d.newLayer l).view d.recs.length = some l ∧
    ∀ j, j < d.recs.length → (d.newLayer l).view j = d.view j := by
  have hget : ∀ (k : Nat) (lk : Layer) (rk : Nat), (d.recs ++ [(l, d.heap.length)])[k]? = some (lk, rk) →
      (k < d.recs.length ∧ d.recs[k]? = some (lk, rk)) ∨ (k = d.recs.length ∧ rk = d.heap.length) := by
    intro k lk rk hk
    rw [List.getElem?_append] at hk
    split at hk
    · exact .inl ⟨‹_›, hk⟩
    · rw [List.getElem?_singleton] at hk
      split at hk
      · cases hk; exact .inr ⟨by omega, rfl⟩
      · cases hk
  refine ⟨⟨?_, ?_⟩, ?_, ?_⟩
  · intro a b la lb ra rb h1 h2 hab
    rcases hget a la ra h1 with ⟨_, h1'⟩ | ⟨ha, hra⟩ <;> rcases hget b lb rb h2 with ⟨_, h2'⟩ | ⟨hb, hrb⟩
    · exact ho.1 a b la lb ra rb h1' h2' hab
    · have := ho.2 a la ra h1'; omega
    · have := ho.2 b lb rb h2'; omega
    · omega
  · intro k lk rk hk
    simp only [Doc.newLayer, List.length_append, List.length_cons, List.length_nil]
    rcases hget k lk rk hk with ⟨_, hk'⟩ | ⟨_, hr⟩
    · have := ho.2 k lk rk hk'; omega
    · omega
  · simp [Doc.view, Doc.newLayer]
  · intro j hj
    unfold Doc.view Doc.newLayer
    simp only [List.getElem?_append_left hj]
    cases hrj : d.recs[j]? with
    | none => rfl
    | some q =>
      obtain ⟨lj, rj⟩ := q
      have := ho.2 j lj rj hrj
      simp only [List.getElem?_append_left this]

/-- … along any history of edits of other layers and of layer creations: layer `j` reads the same
after it, and the ownership is kept. -/
theorem history_frames_other_layers (E : Env) (ops : List DocOp) (d : Doc) (j : Nat)
    (ho : d.Owned) (hj : j < d.recs.length)
    (hops : ∀ o ∈ ops, ∀ i a v, o = .edit i a v → i ≠ j) :
    (Doc.run E d ops).Owned ∧ (Doc.run E d ops).view j = d.view j ∧ j < (Doc.run E d ops).recs.length := by
  induction ops generalizing d with
  | nil => exact ⟨ho, rfl, hj⟩
  | cons o os ih =>
    have hrest : ∀ o' ∈ os, ∀ i a v, o' = .edit i a v → i ≠ j :=
      fun o' ho' => hops o' (List.mem_cons_of_mem _ ho')
    unfold Doc.run
    cases hs : d.step E o with
    | error e => simpa [hs] using ih d ho hj hrest
    | ok d1 =>
      cases o with
      | edit i a v =>
        have hij : i ≠ j := hops _ (List.mem_cons_self ..) i a v rfl
        simp only [Doc.step] at hs
        have ho1 := edit_owned E a v i d d1 ho hs
        have hv := (edit_frames_other_layers E a v i j d d1 ho hij hs).1
        have hlen : j < d1.recs.length := by
          obtain ⟨_, _, _, _, -, -, -, rfl⟩ := Doc.edit_ok hs
          simpa using hj
        obtain ⟨r1, r2, r3⟩ := ih d1 ho1 hlen hrest
        exact ⟨r1, by rw [r2, hv], r3⟩
      | new l =>
        simp only [Doc.step, Except.ok.injEq] at hs
        subst hs
        obtain ⟨n1, _, n3⟩ := new_layer_owned l d ho
        have hlen : j < (d.newLayer l).recs.length := by simp [Doc.newLayer]; omega
        obtain ⟨r1, r2, r3⟩ := ih (d.newLayer l) n1 hlen hrest
        exact ⟨r1, by rw [r2, n3 j hj], r3⟩

/-- The tie of `Doc.newLayer` to the source: no attrs field of the record classes
(psd/layer_and_mask.py, regenerated every run) takes its default from one shared mutable object;
`LayerRecord.flags` in particular is built by a factory, per record. -/
theorem record_defaults_owned :
    Generated.Attr.recordDefaults.all (fun p => p.2 == "factory" || p.2 == "immutable" || p.2 == "required") = true ∧
    ("LayerRecord.flags", "factory") ∈ Generated.Attr.recordDefaults := by decide +kernel

/-- the hypotheses are satisfiable: two constructed layers own their flags -/
example : (Doc.newLayer (groupNew [66] true) (Doc.newLayer (groupNew [65] true) ⟨[], []⟩)).Owned :=
  (new_layer_owned _ _ (new_layer_owned _ _ ⟨by simp, by simp⟩).1).1

/-- Why ownership is needed: with ONE default `LayerFlags` object for every record built without
explicit flags (`attr.ib(default=LayerFlags())` instead of `factory=LayerFlags`), hiding the first
API-created group hides the second one and every layer created later. -/
theorem shared_default_breaks_frame :
    let d0 : Doc := ⟨[], [{}]⟩                -- address 0: the default object of the class
    let d := (d0.newLayerSharedDefault 0 (groupNew [65] true)).newLayerSharedDefault 0 (groupNew [66] true)
    (d.view 1).map (get .visible) = some (.ok (.bool true)) ∧
    ((d.edit envNone .visible (.bool false) 0).map fun d' => (d'.view 1).map (get .visible))
      = .ok (some (.ok (.bool false))) ∧
    ((d.edit envNone .visible (.bool false) 0).map fun d' =>
        ((d'.newLayerSharedDefault 0 (groupNew [67] true)).view 2).map (get .visible))
      = .ok (some (.ok (.bool false))) := by decide +kernel

theorem saveable_set (E : Env) (hE : EnvLaws E) (a : Attr) (v : Val) (l l' : Layer)
    (hs : Saveable E l) (hv : valid E a v) (hst : storable E a v l) (h : Attr.set E a v l = .ok l') :
    Saveable E l' := by
  cases Edit.of_set h with
  | name s hlen =>
    exact { hs with legacy := legacyOf_saveable hE s hlen,
                    blocks := forall_mem_setData hs.blocks ⟨Or.inl rfl, rfl, rfl, hst⟩ }
  | visible => exact { hs with }
  | opacity i hi => exact { hs with opacity := by show i.toNat ≤ 255; omega }
  | blend m hm => exact { hs with blend := ⟨hm, hE.keys4 m hm⟩ }
  | blendBare m hm => exact { hs with blend := groupBlend_ok hE hm }
  | blendDivider m hm =>
    exact { hs with blend := groupBlend_ok hE hm,
                    blocks := forall_mem_mapData hs.blocks fun b hb _ => blockOk_putBlend E hE m hm b (hs.blocks b hb) }
  | left i w hm hw =>
    exact { hs with rect := ⟨hs.rect.1, by simp only [inI32, hv.1, hv.2, decide_true, Bool.and_self], hs.rect.2.2.1,
                             hst w hw⟩ }
  | top i w hm hw =>
    exact { hs with rect := ⟨by simp only [inI32, hv.1, hv.2, decide_true, Bool.and_self], hs.rect.2.1, hst w hw,
                             hs.rect.2.2.2⟩ }
  | clipping b => exact { hs with clipping := by show (if b = true then 1 else 0) ≤ 1; split <;> omega }
  | lockInPlace i =>
    have hn : i.toNat < 4294967296 := by have := hv.2; omega
    exact { hs with blocks := forall_mem_mapData hs.blocks fun b hb hk =>
                      ⟨(hs.blocks b hb).1, (hs.blocks b hb).2.1, hk, hn⟩ }
  | lockNew i =>
    have hn : i.toNat < 4294967296 := by have := hv.2; omega
    exact { hs with blocks := forall_mem_setData hs.blocks ⟨Or.inl rfl, rfl, rfl, hn⟩ }

/-- What is written is read back identically. -/
theorem reopen_save (E : Env) (l : Layer) (h : Saveable E l) :
    ∃ st, save E l = .ok st ∧ reopen E l st = .ok l := roundtrip E l h

/-- An accepted edit of a writable state with a value of the domain is read back
after save and reopen - and so is every other attribute and the pixel component. -/
theorem persists (E : Env) (hE : EnvLaws E) (a : Attr) (v : Val) (l l' : Layer)
    (hwf : WF l) (hs : Saveable E l) (hv : valid E a v) (hst : storable E a v l)
    (h : Attr.set E a v l = .ok l') :
    ∃ st l'', save E l' = .ok st ∧ reopen E l' st = .ok l'' ∧ Attr.get a l'' = .ok v ∧
      (∀ b, a ≠ b → Attr.get b l'' = Attr.get b l) ∧ l''.pixels = l.pixels ∧ l''.kind = l.kind := by
  obtain ⟨st, h1, h2⟩ := roundtrip E l' (saveable_set E hE a v l l' hs hv hst h)
  have hc := set_context E a v l l' h
  exact ⟨st, l', h1, h2, get_set E a v l l' hwf hv h, fun b hab => frame E a b v l l' hab h, hc.2.1, hc.1⟩

/-- The record stores the rectangle as four int32: a state outside is rejected by save. -/
theorem save_rejects_rect_overflow (E : Env) (l : Layer)
    (h : inI32 l.top = false ∨ inI32 l.left = false ∨ inI32 l.bottom = false ∨ inI32 l.right = false) :
    save E l = .error .structError := by
  simp only [save]
  rcases h with h | h | h | h <;> simp [h]

/-- A move to an int32 position whose far edge leaves int32 is accepted in memory (get-after-set
and frame hold) and the result is rejected by save. -/
theorem move_left_overflow_rejected (E : Env) (v w : Int) (l l' : Layer)
    (h : Attr.set E .left (.int v) l = .ok l') (hw : width l = .ok w) (hov : inI32 (v + w) = false) :
    save E l' = .error .structError := by
  cases Edit.of_set h with
  | left _ w' _ hw' =>
    cases hw.symm.trans hw'
    exact save_rejects_rect_overflow E _ (Or.inr (Or.inr (Or.inr hov)))

/-- Position edits are refused for the kinds whose position is derived (the converse is `set_position_accepted`). -/
theorem set_position_refused (E : Env) (v : Int) (l : Layer) (h : l.kind.movable = false) :
    Attr.set E .left (.int v) l = .error .other ∧ Attr.set E .top (.int v) l = .error .other := by
  simp [Attr.set, setLeft, setTop, h]

/-- … and accepted for every other kind; a fill layer needs a document (`hk`), since its far edge may be the canvas's. -/
theorem set_position_accepted (E : Env) (v : Int) (l : Layer) (h : l.kind.movable = true)
    (hk : l.kind ≠ .fill ∨ l.psd ≠ none) :
    (∃ l', Attr.set E .left (.int v) l = .ok l') ∧ (∃ l', Attr.set E .top (.int v) l = .ok l') := by
  obtain ⟨r, hr⟩ := rightOf_ok l hk
  obtain ⟨b, hb⟩ := bottomOf_ok l hk
  exact ⟨⟨_, (Edit.left v _ h (by rw [width, hr])).set_eq⟩, ⟨_, (Edit.top v _ h (by rw [height, hb])).set_eq⟩⟩

/-- Every other edit with a value of the domain is accepted (groups: given the divider block). -/
theorem set_accepted (E : Env) (a : Attr) (v : Val) (l : Layer) (hwf : WF l) (hv : valid E a v)
    (ha : a ≠ .left) (hb : a ≠ .top) (hl : ∀ b, findBlock kLspf l.blocks = some b → ∃ n, b.data = .int n) :
    ∃ l', Attr.set E a v l = .ok l' := by
  unfold valid at hv
  split at hv
  · exact ⟨_, (Edit.name _ (Nat.lt_succ_of_le hv)).set_eq⟩
  · exact ⟨_, rfl⟩
  · exact ⟨_, (Edit.opacity _ hv).set_eq⟩
  · by_cases hg : l.kind.isGroup = true
    · obtain ⟨d, hd⟩ := hwf hg
      obtain ⟨k, hk⟩ := setting_some_key _ _ hd
      exact ⟨_, (Edit.blendDivider _ hv hg k hk d hd).set_eq⟩
    · exact ⟨_, (Edit.blend _ hv (Bool.eq_false_iff.mpr hg)).set_eq⟩
  · exact absurd rfl ha
  · exact absurd rfl hb
  · exact ⟨_, rfl⟩
  · cases hf : findBlock kLspf l.blocks with
    | none => exact ⟨_, (Edit.lockNew _ hv.1 hf).set_eq⟩
    | some b =>
      obtain ⟨n, hn⟩ := hl b hf
      exact ⟨_, (Edit.lockInPlace _ hv.1 b hf n hn).set_eq⟩
  · exact hv.elim

/-- The tables of the current source satisfy what the theorems ask of an environment, for both
unicode-string codecs and both legacy-field policies. -/
theorem generated_env_laws (u f : Bool) :
    EnvLaws (mkEnv Generated.Attr.blendKeys Generated.Attr.macRomanHigh u f) :=
  mkEnv_laws _ _ u f (by decide) (by decide)

/-- With the model's codec instances a name of Unicode scalar values can be stored - under the
one-unit-per-character codec only inside the BMP (above it `save` raises OverflowError: C19). -/
theorem name_storable (keys : List Key) (high : List Nat) (u f : Bool) (s : List Nat) (l : Layer)
    (hs : ∀ c ∈ s, scalar c) (hlen : s.length ≤ 255) (hb : u = false → ∀ c ∈ s, c < 65536) :
    storable (mkEnv keys high u f) .name (.str s) l :=
  uni_roundtrip u s hs hlen hb

theorem astral_name_rejected_ucs2 (keys : List Key) (high : List Nat) (f : Bool) :
    (mkEnv keys high false f).uniEnc [128512] = .error .overflowError := rfl

/-- `Group.new(name)`: every getter has a proper value; the blend mode is PASS_THROUGH. -/
theorem groupNew_attrs (n : List Nat) (o : Bool) :
    Attr.get .name (groupNew n o) = .ok (.str n) ∧ Attr.get .visible (groupNew n o) = .ok (.bool true) ∧
    Attr.get .opacity (groupNew n o) = .ok (.int 255) ∧ Attr.get .blendMode (groupNew n o) = .ok (.key kPass) ∧
    Attr.get .clipping (groupNew n o) = .ok (.bool false) ∧ Attr.get .locks (groupNew n o) = .ok .none := by
  refine ⟨rfl, rfl, rfl, rfl, rfl, rfl⟩

theorem groupNew_wf (n : List Nat) (o : Bool) : WF (groupNew n o) := by
  intro _
  exact ⟨_, rfl⟩

/-- a new group can be written when its name can (the constructor copies the name into the legacy
field without the setter's `?` fallback: C19) -/
theorem groupNew_saveable (E : Env) (hE : EnvLaws E) (hp : kPass ∈ E.blendKeys) (n : List Nat) (o : Bool)
    (hlen : n.length ≤ 255) (hmac : ∃ bs, E.macEnc n = .ok bs)
    (huni : ∃ bs, E.uniEnc n = .ok bs ∧ E.uniDec bs = .ok n) : Saveable E (groupNew n o) := by
  obtain ⟨bs, hbs⟩ := hmac
  refine ⟨⟨rfl, rfl, rfl, rfl⟩, ⟨hE.norm, rfl⟩, by simp [groupNew], by simp [groupNew], ?_, ?_⟩
  · exact ⟨bs, hbs, by rw [hE.macLen _ _ hbs]; exact hlen, hE.macRT _ _ hbs⟩
  · intro b hb
    simp only [groupNew, List.mem_cons, List.not_mem_nil, or_false] at hb
    rcases hb with rfl | rfl
    · refine ⟨Or.inl rfl, rfl, Or.inl rfl, ?_, Or.inr ⟨rfl, kPass, rfl, hp, rfl, by simp⟩⟩
      cases o <;> simp
    · exact ⟨Or.inl rfl, rfl, rfl, huni⟩

/-- `PixelLayer.frompil(im, psd, name, top, left)`: getters, size, and the name is in the unicode block. -/
theorem frompil_attrs (E : Env) (n : List Nat) (t l w h : Int) (psd : Option (Int × Int)) (px : List UInt8)
    (l0 : Layer) (h0 : frompil E n t l w h psd px = .ok l0) :
    Attr.get .name l0 = .ok (.str n) ∧ Attr.get .visible l0 = .ok (.bool true) ∧
    Attr.get .opacity l0 = .ok (.int 255) ∧ Attr.get .blendMode l0 = .ok (.key kNorm) ∧
    Attr.get .left l0 = .ok (.int l) ∧ Attr.get .top l0 = .ok (.int t) ∧
    Attr.get .clipping l0 = .ok (.bool false) ∧ Attr.get .locks l0 = .ok .none ∧
    width l0 = .ok w ∧ height l0 = .ok h ∧ l0.pixels = px ∧ l0.kind = .pixel := by
  -- the constructor is the name setter on a layer without blocks
  cases Edit.of_set (a := .name) (v := .str n) h0
  refine ⟨?_, rfl, rfl, rfl, rfl, rfl, rfl, rfl, ?_, ?_, rfl, rfl⟩
  · simp only [Attr.get, findBlock_setData_same, dataVal]
  · exact congrArg Except.ok (by omega : l + w - l = w)
  · exact congrArg Except.ok (by omega : t + h - t = h)

theorem frompil_accepts (E : Env) (n : List Nat) (t l w h : Int) (psd : Option (Int × Int)) (px : List UInt8)
    (hlen : n.length ≤ 255) : ∃ l0, frompil E n t l w h psd px = .ok l0 := by
  simp [frompil, setName, Nat.lt_succ_of_le hlen]

theorem frompil_saveable (E : Env) (hE : EnvLaws E) (n : List Nat) (t l w h : Int) (psd : Option (Int × Int))
    (px : List UInt8) (l0 : Layer) (h0 : frompil E n t l w h psd px = .ok l0)
    (hrect : inI32 t = true ∧ inI32 l = true ∧ inI32 (t + h) = true ∧ inI32 (l + w) = true)
    (huni : ∃ bs, E.uniEnc n = .ok bs ∧ E.uniDec bs = .ok n) : Saveable E l0 := by
  cases Edit.of_set (a := .name) (v := .str n) h0 with
  | name _ hlen =>
    exact ⟨hrect, ⟨hE.norm, rfl⟩, Nat.le_refl _, Nat.zero_le _, legacyOf_saveable hE n hlen,
      forall_mem_setData (fun _ hb => nomatch hb) ⟨Or.inl rfl, rfl, rfl, huni⟩⟩

/-- Appending the layer to a document (which sets `_psd`) changes no attribute and nothing that is saved. -/
theorem attach_frame (c : Int × Int) (l : Layer) :
    (∀ a, Attr.get a (attach c l) = Attr.get a l) ∧ (attach c l).pixels = l.pixels ∧
    (WF l → WF (attach c l)) ∧ (∀ E, Saveable E l → Saveable E (attach c l)) := by
  refine ⟨fun a => by cases a <;> rfl, rfl, fun h => h, fun E h => ?_⟩
  obtain ⟨h1, h2, h3, h4, h5, h6⟩ := h
  exact ⟨h1, h2, h3, h4, h5, h6⟩

theorem history_context (E : Env) (ops : List (Attr × Val)) (l l' : Layer) (h : runSets E ops l = .ok l') :
    l'.kind = l.kind ∧ l'.pixels = l.pixels ∧ l'.psd = l.psd := by
  induction ops generalizing l with
  | nil => cases h; exact ⟨rfl, rfl, rfl⟩
  | cons p rest ih =>
    obtain ⟨l1, h1, h⟩ := runSets_cons_ok h
    have hc := set_context E _ _ l l1 h1
    have := ih l1 h
    exact ⟨this.1.trans hc.1, this.2.1.trans hc.2.1, this.2.2.trans hc.2.2⟩

/-- After any accepted history of edits with values of their domains, every getter returns the value
of the last edit of its attribute, or what it returned before when the attribute was not edited. -/
theorem history_get (E : Env) (ops : List (Attr × Val)) (l l' : Layer) (a : Attr) (hwf : WF l)
    (hv : ∀ p ∈ ops, valid E p.1 p.2) (h : runSets E ops l = .ok l') :
    Attr.get a l' = match lastSet a ops with
      | some v => .ok v
      | none => Attr.get a l := by
  induction ops generalizing l with
  | nil => cases h; rfl
  | cons p rest ih =>
    obtain ⟨a', v⟩ := p
    obtain ⟨l1, h1, h⟩ := runSets_cons_ok h
    have hv1 := hv (a', v) (List.mem_cons_self ..)
    rw [ih l1 (wf_set E a' v l l1 hwf h1) (fun q hq => hv q (List.mem_cons_of_mem _ hq)) h]
    simp only [lastSet]
    cases lastSet a rest with
    | some x => rfl
    | none =>
      by_cases haa : a' = a
      · subst haa
        simp only [if_true, get_set E a' v l l1 hwf hv1 h1]
      · simp only [haa, if_false, frame E a' a v l l1 haa h1]

/-- ... and the final state is written and read back identically when every edit could be written. -/
theorem history_persists (E : Env) (hE : EnvLaws E) (ops : List (Attr × Val)) (l l' : Layer)
    (hs : Saveable E l) (hv : ∀ p ∈ ops, valid E p.1 p.2) (hst : StorableRun E ops l)
    (h : runSets E ops l = .ok l') : ∃ st, save E l' = .ok st ∧ reopen E l' st = .ok l' := by
  suffices Saveable E l' from roundtrip E l' this
  induction ops generalizing l with
  | nil => cases h; exact hs
  | cons p rest ih =>
    obtain ⟨a, v⟩ := p
    obtain ⟨l1, h1, h⟩ := runSets_cons_ok h
    exact ih l1 (saveable_set E hE a v l l1 hs (hv (a, v) (List.mem_cons_self ..)) hst.1 h1)
      (fun q hq => hv q (List.mem_cons_of_mem _ hq)) (hst.2 l1 h1) h

/-! ### What went wrong before the repairs (concrete witnesses; the harness replays them on the real code) -/

/-- the environment of the current source with the one-unit-per-character codec -/
def genEnv : Env := mkEnv Generated.Attr.blendKeys Generated.Attr.macRomanHigh false false

/-- `b'mul '`, `BlendMode.MULTIPLY` -/
def kMul : Key := [109, 117, 108, 32]

/-- `Group.new()` before 076e090: the getter returned None, and a blend mode assigned to the new
group was kept in memory but not written - None again after reopen. -/
theorem legacy_groupNew_blend_lost :
    legacyGetBlend (legacyGroupNew [71] true) = .ok .none ∧
    ∃ l1 st l2, legacySetBlend genEnv kMul (legacyGroupNew [71] true) = .ok l1 ∧
      legacyGetBlend l1 = .ok (.key kMul) ∧ save genEnv l1 = .ok st ∧ reopen genEnv l1 st = .ok l2 ∧
      legacyGetBlend l2 = .ok .none := by
  refine ⟨rfl, _, _, _, rfl, rfl, rfl, rfl, rfl⟩

def plainPixel : Layer :=
  { kind := .pixel, top := 0, left := 0, bottom := 2, right := 2, blend := kNorm, opacity := 255,
    clipping := 0, flags := {}, legacyName := [76], blocks := [⟨sig8BIM, kLuni, .str [76]⟩],
    pixels := [1, 2, 3], psd := none }

/-- `lock(6)` before 1e2bade on a layer without a protection block: the getter shows 0. -/
theorem legacy_lock_no_effect :
    ∃ l1, legacySetLocks 6 plainPixel = .ok l1 ∧ Attr.get .locks l1 = .ok (.int 0) := ⟨_, rfl, rfl⟩

/-- `clipping_layer = True` before 700ec90 on a layer without a (non-empty) document: ignored. -/
theorem legacy_clipping_ignored :
    Attr.get .clipping (legacySetClipping true plainPixel) = .ok (.bool false) := rfl

/-- a group stored with `lsdk` before 8501da8: PASS_THROUGH read back NORMAL -/
theorem legacy_lsdk_pass_reads_normal :
    let g : Layer := { groupNew [71] true with
      blocks := [⟨sig8BIM, kLsdk, .divider ⟨1, some sig8BIM, some kMul, none⟩⟩, ⟨sig8BIM, kLuni, .str [71]⟩] }
    ∃ l1, legacySetBlend genEnv kPass g = .ok l1 ∧ legacyGetBlend l1 = .ok (.key kNorm) := ⟨_, rfl, rfl⟩

/-! ### Non-vacuity: the hypotheses are satisfiable, for every kind -/

example : EnvLaws genEnv := generated_env_laws false false

example : valid genEnv .name (.str [26085, 26412, 128512]) ∧ valid genEnv .blendMode (.key kMul) ∧
    valid genEnv .locks (.int 2147483648) ∧ valid genEnv .left (.int (-2147483648)) ∧
    valid genEnv .opacity (.int 0) := by
  refine ⟨?_, ?_, ?_, ?_, ?_⟩
  · show 3 ≤ 255; decide
  · show kMul ∈ Generated.Attr.blendKeys; decide
  · show (0:Int) ≤ 2147483648 ∧ (2147483648:Int) < 4294967296; decide
  · show (-2147483648:Int) ≤ -2147483648 ∧ (-2147483648:Int) ≤ 2147483647; decide
  · show (0:Int) ≤ 0 ∧ (0:Int) ≤ 255; decide

/-- a writable, well-formed state of every kind -/
def sample (k : Kind) : Layer :=
  { kind := k, top := -3, left := 5, bottom := 7, right := 9, blend := kNorm, opacity := 200, clipping := 1,
    flags := { visible := false }, legacyName := [63],
    blocks := [⟨sig8BIM, kLsct, .divider ⟨1, some sig8BIM, some kPass, none⟩⟩, ⟨sig8BIM, kLuni, .str [26085]⟩,
               ⟨sig8B64, [97, 98, 99, 100], .raw [1, 2, 3]⟩, ⟨sig8BIM, kLspf, .int 3⟩],
    pixels := [9, 9], psd := some (16, 12) }

theorem sample_saveable (k : Kind) : Saveable genEnv (sample k) ∧ WF (sample k) := by
  refine ⟨⟨⟨rfl, rfl, rfl, rfl⟩, ⟨(by show kNorm ∈ Generated.Attr.blendKeys; decide), rfl⟩, (by show 200 ≤ 255; decide), (by show 1 ≤ 1; decide), ⟨[63], rfl, by decide, rfl⟩, ?_⟩, fun _ => ⟨_, rfl⟩⟩
  intro b hb
  simp only [sample, List.mem_cons, List.not_mem_nil, or_false] at hb
  rcases hb with rfl | rfl | rfl | rfl
  · exact ⟨Or.inl rfl, rfl, Or.inl rfl, by decide, Or.inr ⟨rfl, kPass, rfl, by decide, rfl, by simp⟩⟩
  · exact ⟨Or.inl rfl, rfl, rfl, uni_roundtrip false [26085] (by decide) (by decide) (by decide)⟩
  · exact ⟨Or.inr rfl, rfl, by decide, by decide, by decide, by decide⟩
  · exact ⟨Or.inl rfl, rfl, rfl, by decide⟩

/-- the persistence theorem applies: e.g. renaming a layer of any kind to a 2-character Japanese name -/
example (k : Kind) : ∃ l' st l'', Attr.set genEnv .name (.str [26085, 26412]) (sample k) = .ok l' ∧
    save genEnv l' = .ok st ∧ reopen genEnv l' st = .ok l'' ∧ Attr.get .name l'' = .ok (.str [26085, 26412]) := by
  obtain ⟨hs, hwf⟩ := sample_saveable k
  have hl' := (Edit.name (E := genEnv) (l := sample k) [26085, 26412] (by decide)).set_eq
  obtain ⟨st, l'', h1, h2, h3, _⟩ := persists genEnv (generated_env_laws false false) .name _ (sample k) _ hwf hs
    (by show 2 ≤ 255; decide) (name_storable _ _ false false _ _ (by decide) (by decide) (by decide)) hl'
  exact ⟨_, st, l'', hl', h1, h2, h3⟩

/-! ## The accessor table

`Model/AttrTable.lean` interprets a TABLE of the accessors — for every public attribute of every layer
class the getter's read path and the setter's effects, read off the source by `harness/extract_c16.py`
(`Generated/AttrTable.lean`) — on an abstract layer. The theorems below hold for ANY table that passes the
decidable check `tableOk`, or the clause of it a theorem names; `current_tree_attr_table_ok` says the regenerated one
passes; the witnesses show that each clause of the check is needed. The clauses, as the docstrings below call them:
(a) the accepted path of a setter writes the location its getter reads, or the setter refuses, and (b) no early return
precedes that write unless its test says the value is already stored (`rowOk`, for every row); (c) storage owned by
another attribute is assigned only through the class's own setter (`delegationOk`); (d) the writers read current
field values only — no cache, or every in-place mutation drops it (`writerOk`); frame: no setter touches what an
unrelated getter of the same class reads (`frameOk`). -/

section Table
open PsdVerif.AttrTable

/-- Get after set, over the table. If a row passes `rowOk` — the setter refuses, or on every path that is
    neither a refusal nor an early return under a test saying "already stored" it assigns the argument to the
    FIRST location of the getter's read path (in place, or by replacing the block), under no test but the
    existence of that block, and nothing overwrites it — then after an accepted call, whatever the outcomes
    of the opaque tests and the values that are not the argument, the getter returns the value just set
    (provided the first location exists afterwards: a group has its divider block). -/
theorem table_get_set (r : Row) (hr : rowOk r = true) (v : Nat) (i : Inst) (s s' : St)
    (h : AttrTable.set r v i s = .ok s') (hp : ∀ p, r.reads.head? = some p → s'.has p = true) :
    AttrTable.get s' r = some v := by
  simp only [rowOk, Bool.and_eq_true, Bool.or_eq_true] at hr
  rcases hr.2 with href | hpath
  · obtain ⟨x, hx⟩ := refusesAll_refuses r v i r.effs s href
    rw [AttrTable.set, hx] at h; cases h
  · cases hreads : r.reads with
    | nil => simp [hreads] at hpath
    | cons p rest =>
      simp only [hreads] at hpath
      have hpp : s'.has p = true := hp p (by simp [hreads])
      have : AttrTable.get s' r = some (s'.mem p) := by simp [AttrTable.get, hreads, firstPresent, hpp]
      rcases okPath_sound r v i p r.effs s s' hpath h hpp with e | e
      · rw [this, e]
      · exact e

/-- A setter that cannot accept (a property without setter, an override that raises) refuses every value and
    leaves the layer exactly as it was: a position edit is refused or takes effect, never accepted without
    effect (`table_get_set` is the other half). -/
theorem table_refusal (r : Row) (hr : refusesAll r.effs = true) (v : Nat) (i : Inst) (s : St) :
    ∃ x, AttrTable.set r v i s = .refused x s :=
  refusesAll_refuses r v i r.effs s hr

/-- When no assignment precedes a refusal in the setter's body, a refused edit changes nothing. -/
theorem table_refused_unchanged (r : Row) (hr : refuseFirst r.effs = true) (v : Nat) (i : Inst) (s s' : St) (x : String)
    (h : AttrTable.set r v i s = .refused x s') : s' = s :=
  refuseFirst_unchanged r v i r.effs s x s' hr h

/-- Frame, over the table: a call of the setter of one attribute — accepted, refused or failed — leaves the
    value every getter of an unrelated attribute of the same class returns (unrelated: the two read paths
    share no location and no block). Other layers are other objects: their stores are not an argument of `set`. -/
theorem table_frame (t : Table) (ht : frameOk t = true) (r r' : Row) (hr : r ∈ t.rows) (hr' : r' ∈ t.rows)
    (hc : r.cls = r'.cls) (hn : related r r' = false) (v : Nat) (i : Inst) (s : St) :
    AttrTable.get (AttrTable.set r v i s).st r' = AttrTable.get s r' := by
  have h1 := List.all_eq_true.mp (List.all_eq_true.mp ht r hr) r' hr'
  simp only [hc, hn, bne_self_eq_false, Bool.false_or] at h1
  apply get_congr
  intro x hx
  apply untouched_kept
  intro e he
  have := List.all_eq_true.mp (List.all_eq_true.mp h1 e he) x hx
  simpa using this

/-- an edit of layer `k` of several layer objects (each has its own store; that records share no element
    object is `record_defaults_owned` / `edit_frames_other_layers` above) -/
def docEdit (d : List St) (k : Nat) (r : Row) (v : Nat) (i : Inst) : List St :=
  match d[k]? with
  | some s => d.set k (AttrTable.set r v i s).st
  | none => d

/-- … and every other layer is left alone. -/
theorem table_frame_other_layer (d : List St) (k j : Nat) (r : Row) (v : Nat) (i : Inst) (h : j ≠ k) :
    (docEdit d k r v i)[j]? = d[j]? := by
  unfold docEdit
  split
  · simp [Ne.symm h]
  · rfl

/-- every edit of the history is a row of the table -/
def opsIn (t : Table) (ops : List Op) : Prop := ∀ o ∈ ops, match o with | .edit r _ _ => r ∈ t.rows | .save => True

/-- Clause (d), `writerOk`, keeps the cache fresh along any history of edits and saves. -/
theorem table_cache_fresh (t : Table) (ht : writerOk t = true) :
    ∀ (ops : List Op) (s : St), opsIn t ops → Fresh t s → Fresh t (runHist t s ops) := by
  intro ops
  induction ops with
  | nil => intro s _ h; exact h
  | cons o ops ih =>
    intro s hin hf
    apply ih _ (fun o' ho' => hin o' (List.mem_cons_of_mem _ ho'))
    cases o with
    | save => exact save_fresh t s hf
    | edit r v i => exact set_fresh t ht s hf r (hin _ (List.mem_cons_self ..)) v i

/-- Persistence, over the table, for histories: after any history of edits and saves in any order (save;
    edit; save — edit; save; edit; save …) on a freshly read layer, what `save` writes and a reopen reads back
    is, for every attribute, what the getter returns now. -/
theorem table_persists (t : Table) (ht : tableOk t = true) (s0 : St) (h0 : Fresh t s0) (ops : List Op)
    (hin : opsIn t ops) (r' : Row) :
    AttrTable.get (AttrTable.reopen (runHist t s0 ops) (AttrTable.save t (runHist t s0 ops)).1) r' = AttrTable.get (runHist t s0 ops) r' :=
  get_reopen_save t _ (table_cache_fresh t (tableOk_writerOk ht) ops s0 hin h0) r'

/-- … in particular the value of an accepted edit made after any such history (with saves before it) is
    the value read back from the next save. -/
theorem table_edit_persists (t : Table) (ht : tableOk t = true) (s0 : St) (h0 : Fresh t s0) (ops : List Op)
    (hin : opsIn t ops) (r : Row) (hr : r ∈ t.rows) (v : Nat) (i : Inst) (s' : St)
    (h : AttrTable.set r v i (runHist t s0 ops) = .ok s') (hp : ∀ p, r.reads.head? = some p → s'.has p = true) :
    AttrTable.get (AttrTable.reopen s' (AttrTable.save t s').1) r = some v := by
  -- the edit keeps the cache fresh, so the save writes what the getter returns: the value just set
  have hf := set_fresh t (tableOk_writerOk ht) _ (table_cache_fresh t (tableOk_writerOk ht) ops s0 hin h0) r hr v i
  rw [h] at hf
  rw [get_reopen_save t s' hf r]
  exact table_get_set r (tableOk_rowOk ht hr) v i _ s' h hp

/-- a freshly read layer holds no encoded bytes -/
theorem reopened_fresh (t : Table) (s : St) (f : Loc → Nat) : Fresh t (AttrTable.reopen s f) :=
  fun _ _ _ => Or.inl rfl

/-- The table regenerated from the source passes the check: (a)–(d) and the frame clause. -/
theorem current_tree_attr_table_ok : tableOk Generated.AttrTable.table = true := by decide +kernel

/-- Every layer class the API defines is represented by rows of the table, and — `lock`/`unlock`, whose
    `assert` follows `set_data`, apart — every setter refuses before it writes. -/
theorem current_tree_classes_covered :
    (Generated.AttrTable.classes.all fun c => Generated.AttrTable.table.rows.any fun r => r.cls == c.2) = true ∧
    (Generated.AttrTable.table.rows.all fun r => refuseFirst r.effs || r.attr == "lock" || r.attr == "unlock") = true := by
  decide +kernel

/-- Hence, for the code as it is: get-after-set for every row … -/
theorem table_get_set_now (r : Row) (hr : r ∈ Generated.AttrTable.table.rows) (v : Nat) (i : Inst) (s s' : St)
    (h : AttrTable.set r v i s = .ok s') (hp : ∀ p, r.reads.head? = some p → s'.has p = true) :
    AttrTable.get s' r = some v :=
  table_get_set r (tableOk_rowOk current_tree_attr_table_ok hr) v i s s' h hp

/-- … and persistence through any history of edits and saves. -/
theorem table_persists_now (s0 : St) (f : Loc → Nat) (ops : List Op) (hin : opsIn Generated.AttrTable.table ops) (r' : Row) :
    let t := Generated.AttrTable.table
    let s := runHist t (AttrTable.reopen s0 f) ops
    AttrTable.get (AttrTable.reopen s (AttrTable.save t s).1) r' = AttrTable.get s r' :=
  table_persists _ current_tree_attr_table_ok _ (reopened_fresh _ s0 f) ops hin r'

/-! ### Each clause is needed -/

/-- a layer: every location holds 0, every block exists, nothing encoded -/
def blank : St := ⟨fun _ => 0, fun _ => true, fun _ => none⟩
/-- all opaque tests true, derived values 9 -/
def yes : Inst := ⟨fun _ => true, fun _ => 9⟩

/-- (a): `offset` written straight into the record of a class whose `left` is derived (shape without pixels,
    group, artboard). -/
def shapeOffsetDirect : Row :=
  ⟨"offset.0", "ShapeLayer", [.derived "self._bbox"], [.derived "self._bbox"],
   [.call "self._invalidate_bbox()" [], .write (.field "left") .arg [] [], .write (.field "top") .derived [] [],
    .write (.field "right") .derived [] [], .write (.field "bottom") .derived [] []]⟩

/-- The write misses what the getter reads: the check rejects the row, and the call is ACCEPTED WITHOUT EFFECT. -/
theorem write_must_hit_read_location :
    rowOk shapeOffsetDirect = false ∧
    (AttrTable.set shapeOffsetDirect 7 yes blank).accepted = true ∧
    AttrTable.get (AttrTable.set shapeOffsetDirect 7 yes blank).st shapeOffsetDirect = some 0 := by
  decide +kernel

/-- (b): `clipping_layer` with `if self._psd is None or clipping == self._record.clipping: return` before the
    record write. -/
def clippingEarlyReturn : Row :=
  ⟨"clipping_layer", "Layer", [.field "clipping"], [.field "clipping"],
   [.ret [⟨"self._psd is None", .free, false⟩], .ret [⟨"clipping == self._record.clipping", .stored, false⟩],
    .write (.field "clipping") .arg [] [], .call "self._psd._compute_clipping_layers()" []]⟩

/-- On a detached layer (the first test true) the assignment is dropped; with only the "already stored" return
    the row passes and the value arrives. -/
theorem early_return_must_imply_stored :
    rowOk clippingEarlyReturn = false ∧
    (AttrTable.set clippingEarlyReturn 1 yes blank).accepted = true ∧
    AttrTable.get (AttrTable.set clippingEarlyReturn 1 yes blank).st clippingEarlyReturn = some 0 ∧
    rowOk { clippingEarlyReturn with effs := clippingEarlyReturn.effs.drop 1 } = true ∧
    AttrTable.get (AttrTable.set { clippingEarlyReturn with effs := clippingEarlyReturn.effs.drop 1 } 1 yes blank).st
      clippingEarlyReturn = some 1 := by
  decide +kernel

/-- (c): a class whose own `left` refuses (but still reads the record), and an `offset` that assigns the
    record in its own body instead of going through `self.left`. -/
def lockedPosition : Table :=
  { rows := [
      ⟨"left", "Layer", [.field "left"], [.field "left"], [.write (.field "left") .arg [] [], .write (.field "right") .derived [] []]⟩,
      ⟨"left", "Pinned", [.field "left"], [.field "left"], [.refuse "NotImplementedError" []]⟩,
      ⟨"offset.0", "Pinned", [.field "left"], [.field "left", .field "top"],
        [.write (.field "left") .arg [] [], .write (.field "top") .derived [] []]⟩],
    caches := [], writerOther := [] }

/-- Every row passes (a) and (b), yet `left = 7` is refused while `offset = (7, …)` moves the layer: the
    override is bypassed. Only (c) sees it. -/
theorem delegation_must_go_through_own_setter :
    lockedPosition.rows.all rowOk = true ∧ delegationOk lockedPosition = false ∧ tableOk lockedPosition = false ∧
    (lockedPosition.rows.map fun r => ((AttrTable.set r 7 yes blank).accepted,
        AttrTable.get (AttrTable.set r 7 yes blank).st ⟨"left", "Pinned", [.field "left"], [], []⟩)) =
      [(true, some 7), (false, some 0), (true, some 7)] := by
  decide +kernel

/-- (d): `TaggedBlock.write` keeps the bytes it encoded and drops them only when `data` is REPLACED; `lock()`
    mutates the element in place. -/
def cachingWriter (invalidates : Bool) : Table :=
  { rows := [
      ⟨"lock", "Layer", [.block "PROTECTED_SETTING" "value"], [.block "PROTECTED_SETTING" "value"],
        [.write (.block "PROTECTED_SETTING" "value") .arg [] ["ProtectedSetting.lock"]] ++
          (if invalidates then [.invalidate "PROTECTED_SETTING" []] else [])⟩,
      ⟨"name", "Layer", [.block "UNICODE_LAYER_NAME" "value", .field "name"], [.block "UNICODE_LAYER_NAME" "value", .field "name"],
        [.write (.field "name") .arg [] [], .replace "UNICODE_LAYER_NAME" "value" .arg [] []]⟩],
    caches := [⟨"TaggedBlock", "_encoded", true⟩], writerOther := [] }

def lockRow (t : Table) : Row := (t.row? "lock" "Layer").getD default
def nameRow (t : Table) : Row := (t.row? "name" "Layer").getD default

/-- save; lock(5); save; reopen reads the OLD lock state (edit; save; reopen alone is fine, and so is the name,
    whose block is replaced); with the cache dropped at the mutation site the table passes and the value persists. -/
theorem cache_must_follow_in_place_mutation :
    let t := cachingWriter false
    let h := runHist t blank [.save, .edit (lockRow t) 5 yes, .edit (nameRow t) 3 yes]
    tableOk t = false ∧ t.rows.all rowOk = true ∧
    AttrTable.get h (lockRow t) = some 5 ∧ AttrTable.get (AttrTable.reopen h (AttrTable.save t h).1) (lockRow t) = some 0 ∧
    AttrTable.get (AttrTable.reopen h (AttrTable.save t h).1) (nameRow t) = some 3 ∧
    (let h1 := runHist t blank [.edit (lockRow t) 5 yes]
     AttrTable.get (AttrTable.reopen h1 (AttrTable.save t h1).1) (lockRow t) = some 5) ∧
    (let t' := cachingWriter true
     let h' := runHist t' blank [.save, .edit (lockRow t') 5 yes, .save, .edit (lockRow t') 6 yes]
     tableOk t' = true ∧ AttrTable.get (AttrTable.reopen h' (AttrTable.save t' h').1) (lockRow t') = some 6) := by
  decide +kernel

/-- frame: a setter that also assigns what another getter reads (`opacity` resetting `clipping`). -/
def frameBreaker : Table :=
  { rows := [
      ⟨"opacity", "Layer", [.field "opacity"], [.field "opacity"],
        [.write (.field "opacity") .arg [] [], .write (.field "clipping") .derived [] []]⟩,
      ⟨"clipping_layer", "Layer", [.field "clipping"], [.field "clipping"], [.write (.field "clipping") .arg [] []]⟩],
    caches := [], writerOther := [] }

theorem frame_clause_needed :
    frameBreaker.rows.all rowOk = true ∧ frameOk frameBreaker = false ∧
    AttrTable.get (AttrTable.set (frameBreaker.rows.headD default) 7 yes blank).st
      ⟨"clipping_layer", "Layer", [.field "clipping"], [], []⟩ = some 9 := by
  decide +kernel

/-! ### Non-vacuity -/

example : Fresh Generated.AttrTable.table blank := fun _ _ _ => Or.inl rfl
example : opsIn (cachingWriter true) [.save, .edit (lockRow (cachingWriter true)) 5 yes] := by
  intro o ho; simp at ho; rcases ho with h | h <;> subst h <;> simp [lockRow, cachingWriter, Table.row?]
-- the Group blend-mode row of the current table: accepted on a group that has its divider block, value in place
example : (Generated.AttrTable.table.row? "blend_mode" "Group").map (fun r =>
    ((AttrTable.set r 4 yes blank).accepted, AttrTable.get (AttrTable.set r 4 yes blank).st r)) = some (true, some 4) := by
  decide +kernel
-- `offset` on a group in the current table: refused, nothing changes
example : (Generated.AttrTable.table.row? "offset.0" "Group").map (fun r => (AttrTable.set r 4 yes blank).accepted) = some false := by
  decide +kernel

end Table

end PsdVerif.C16
