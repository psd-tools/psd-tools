/-
C20 — no cross-document state: results do not depend on processing history.
-/
import PsdVerif.Generated.Globals
import PsdVerif.Generated.Terms
import PsdVerif.Model.Switches
import PsdVerif.Generated.Switches
import PsdVerif.Lemmas.Globals

namespace PsdVerif.C20
open PsdVerif.Globals PsdVerif.Switches

/-! ### The footprint of the current tree (regenerated from the AST on every run) -/

/-- No module-level or class-level mutable object of src/psd_tools is both
mutated by code that runs after import and read by such code. -/
theorem current_tree_clean : ∀ c ∈ Generated.Globals.cells, c.clean = true := by decide +kernel

/-- No function of src/psd_tools uses a module-level or class-level object of unknown, possibly mutable type
that a call built at import (`np.random.RandomState(0)`, `random.Random()`, a class instance, a cache object):
drawing from a shared generator or calling a method on a shared instance is state that one document's processing
leaves for the next.  (Implied by `current_tree_clean`; stated separately because these cells are not containers
and no dict / list / set snapshot sees them.) -/
theorem current_tree_objects_quiet :
    ∀ c ∈ Generated.Globals.cells, c.kind = .moduleObject → c.writtenAtRuntime = false := by decide +kernel

/-- No code of src/psd_tools that runs after import leaves a process-wide switch of the standard
library or of a third-party module (`attr.validators.set_disabled`, `logging.disable`,
`warnings.simplefilter`, `np.seterr`, `sys.setrecursionlimit`, `os.environ[..] = ..`,
`PIL.Image.MAX_IMAGE_PIXELS = ..`, a monkey-patched attribute of an imported module ...) changed:
every such site of the current tree is import-time or scoped by a restoring context manager. -/
theorem current_tree_switches_clean : ∀ s ∈ Generated.Switches.sites, s.clean = true := by decide +kernel

/-- No `attr.ib(default=<mutable object>)`: freshly constructed structures share no default. -/
theorem no_shared_defaults : Generated.Globals.sharedDefaults = [] := rfl

/-- The set of known descriptor terms is an immutable object and holds 4-byte terms only
(regenerated from the live module on every run). -/
theorem terms_immutable : Generated.Terms.termsImmutable = true ∧ Generated.Terms.oddTerms = 0 := ⟨rfl, rfl⟩

/-- non-vacuity: the table is not empty and contains the descriptor registries -/
example : Generated.Globals.cells.length ≥ 10 := by decide

/-! ### Non-interference from the footprint condition -/

section
variable {CellId Val Doc Out : Type}

theorem runOps_agree (all : Op CellId Val Doc Out → Prop)
    (hsep : ∀ o₁ o₂ c, all o₁ → all o₂ → o₁.writes c → ¬ o₂.reads c)
    (ops : List (Op CellId Val Doc Out)) (hops : ∀ o ∈ ops, all o)
    (s₁ s₂ : CellId → Val) (d : Doc)
    (hagree : ∀ c, (¬ ∃ o, all o ∧ o.writes c) → s₁ c = s₂ c) :
    (runOps ops s₁ d).2 = (runOps ops s₂ d).2 := by
  induction ops generalizing s₁ s₂ d with
  | nil => rfl
  | cons op rest ih =>
    have hop : all op := hops op (List.mem_cons_self ..)
    have hread : ∀ c, op.reads c → s₁ c = s₂ c := by
      intro c hc
      apply hagree
      rintro ⟨o, ho, hw⟩
      exact hsep o op c ho hop hw hc
    have h2 := op.reads_only s₁ s₂ d hread
    have hagree' : ∀ c, (¬ ∃ o, all o ∧ o.writes c) → (op.run s₁ d).1 c = (op.run s₂ d).1 c := by
      intro c hc
      have hnw : ¬ op.writes c := fun hw => hc ⟨op, hop, hw⟩
      rw [op.writes_only s₁ d c hnw, op.writes_only s₂ d c hnw]
      exact hagree c hc
    have hrest := ih (fun o ho => hops o (List.mem_cons_of_mem _ ho)) (op.run s₁ d).1 (op.run s₂ d).1
      (op.run s₁ d).2.1 hagree'
    simp only [runOps]
    have hd : (op.run s₁ d).2.1 = (op.run s₂ d).2.1 := by rw [h2]
    have ho : (op.run s₁ d).2.2 = (op.run s₂ d).2.2 := by rw [h2]
    rw [← hd, ← ho, hrest]

theorem afterHistory_unwritten (all : Op CellId Val Doc Out → Prop)
    (h : List (Op CellId Val Doc Out × Doc)) (hh : ∀ p ∈ h, all p.1)
    (s : CellId → Val) (c : CellId) (hc : ¬ ∃ o, all o ∧ o.writes c) :
    afterHistory h s c = s c := by
  induction h generalizing s with
  | nil => rfl
  | cons p rest ih =>
    obtain ⟨op, d⟩ := p
    simp only [afterHistory]
    rw [ih (fun q hq => hh q (List.mem_cons_of_mem _ hq))]
    exact op.writes_only s d c (fun hw => hc ⟨op, hh (op, d) (List.mem_cons_self ..), hw⟩)

/-- **Non-interference.** If no operation of the system reads a cell that some
operation writes, then what a sequence of operations returns for a document
(results and outputs) does not depend on which other documents were processed
before, in any order, from the same initial store. -/
theorem noninterference (all : Op CellId Val Doc Out → Prop)
    (hsep : ∀ o₁ o₂ c, all o₁ → all o₂ → o₁.writes c → ¬ o₂.reads c)
    (init : CellId → Val)
    (h₁ h₂ : List (Op CellId Val Doc Out × Doc))
    (hh₁ : ∀ p ∈ h₁, all p.1) (hh₂ : ∀ p ∈ h₂, all p.1)
    (ops : List (Op CellId Val Doc Out)) (hops : ∀ o ∈ ops, all o) (d : Doc) :
    (runOps ops (afterHistory h₁ init) d).2 = (runOps ops (afterHistory h₂ init) d).2 := by
  apply runOps_agree all hsep ops hops
  intro c hc
  rw [afterHistory_unwritten all h₁ hh₁ init c hc, afterHistory_unwritten all h₂ hh₂ init c hc]

/-- The same statement from a footprint *table*: operations conform to the table
(they write only cells the table marks written, read only cells it marks read)
and every cell of the table is clean. `current_tree_clean` is the last hypothesis (`hclean`) for the
regenerated table; that the library's operations conform to the table (`hconf`) is not proved for any
concrete operation: the harness validates it dynamically (snapshots of every cell around each step). -/
theorem noninterference_of_table (all : Op CellId Val Doc Out → Prop) (T : CellId → Cell)
    (hconf : ∀ o c, all o → (o.writes c → (T c).writtenAtRuntime = true) ∧ (o.reads c → (T c).readObservably = true))
    (hclean : ∀ c, (T c).clean = true)
    (init : CellId → Val)
    (h₁ h₂ : List (Op CellId Val Doc Out × Doc))
    (hh₁ : ∀ p ∈ h₁, all p.1) (hh₂ : ∀ p ∈ h₂, all p.1)
    (ops : List (Op CellId Val Doc Out)) (hops : ∀ o ∈ ops, all o) (d : Doc) :
    (runOps ops (afterHistory h₁ init) d).2 = (runOps ops (afterHistory h₂ init) d).2 := by
  apply noninterference all _ init h₁ h₂ hh₁ hh₂ ops hops d
  intro o₁ o₂ c h1 h2 hw hr
  have hw' := (hconf o₁ c h1).1 hw
  have hr' := (hconf o₂ c h2).2 hr
  have := hclean c
  simp [Cell.clean, hw', hr'] at this

/-- The same statement over BOTH regenerated tables: a cell is either one of psd_tools' own
(`S c = none`, described by the footprint table `T`) or a process-wide switch of a foreign module
(`S c = some s`, described by a site of the switch table; foreign state is assumed to be read by
anybody). Operations conform to the tables; every own cell and every switch site is clean.
`current_tree_clean` and `current_tree_switches_clean` are `hclean` and `hswitch` for the regenerated
tables; `hconf` is, as above, validated dynamically and not proved. -/
theorem noninterference_of_tables (all : Op CellId Val Doc Out → Prop) (T : CellId → Cell)
    (S : CellId → Option Site)
    (hconf : ∀ o c, all o →
      (o.writes c → (S c = none ∧ (T c).writtenAtRuntime = true) ∨ (∃ s, S c = some s ∧ s.written = true)) ∧
      (o.reads c → S c = none → (T c).readObservably = true))
    (hclean : ∀ c, (T c).clean = true)
    (hswitch : ∀ c s, S c = some s → s.clean = true)
    (init : CellId → Val)
    (h₁ h₂ : List (Op CellId Val Doc Out × Doc))
    (hh₁ : ∀ p ∈ h₁, all p.1) (hh₂ : ∀ p ∈ h₂, all p.1)
    (ops : List (Op CellId Val Doc Out)) (hops : ∀ o ∈ ops, all o) (d : Doc) :
    (runOps ops (afterHistory h₁ init) d).2 = (runOps ops (afterHistory h₂ init) d).2 := by
  apply noninterference all _ init h₁ h₂ hh₁ hh₂ ops hops d
  intro o₁ o₂ c h1 h2 hw hr
  rcases (hconf o₁ c h1).1 hw with ⟨hn, hw'⟩ | ⟨s, hs, hsw⟩
  · have hr' := (hconf o₂ c h2).2 hr hn
    have := hclean c
    simp [Cell.clean, hw', hr'] at this
  · have := hswitch c s hs
    simp [Site.clean, hsw] at this

end

/-- non-vacuity of the switch vocabulary: a run-time, unscoped site (what `attr.validators.set_disabled(True)`
inside a reader would be) is NOT clean; the same call as the `with` item of a restoring manager is. -/
example : ({ site := "m:1", callee := "attr.validators.set_disabled", atRuntime := true, restored := false } : Site).clean = false := by decide
example : ({ site := "m:1", callee := "numpy.errstate", atRuntime := true, restored := true } : Site).clean = true := by decide
example : ({ site := "m:1", callee := "warnings.simplefilter", atRuntime := false, restored := false } : Site).clean = true := by decide

/-! ### The descriptor key codec -/

/-- What went wrong before the repair, on a concrete witness: after reading a
file that stores the unknown key `alis` with length 0, the same key is written
differently for every later document. -/
theorem legacy_history_dependent :
    ∃ (terms₀ : List (List UInt8)) (file : List UInt8) (k : List UInt8) (terms₁ : List (List UInt8)),
      (∃ kb p, (legacyReadKey terms₀ file 0).toOption = some (kb, p, terms₁)) ∧
      legacyWriteKey terms₀ k ≠ legacyWriteKey terms₁ k :=
  ⟨[], [0, 0, 0, 0, 97, 108, 105, 115], [97, 108, 105, 115], [[97, 108, 105, 115]],
    ⟨[97, 108, 105, 115], 8, by decide +kernel⟩, by decide +kernel⟩

/-- The current codec: whatever key the library can hold (`Key.WF`) is read back
exactly, from any position, independently of anything read before — there is no
store argument at all: `terms` is the immutable set of known terms. -/
theorem readKey_writeKey (terms : List UInt8 → Bool) (k : Key) (hk : Key.WF terms k)
    (pre post bs : List UInt8) (hw : writeKey terms k = .ok bs) :
    readKey terms (pre ++ bs ++ post) pre.length = .ok (k, pre.length + bs.length) := by
  obtain ⟨h1, h2, h3⟩ := hk
  obtain ⟨kb, imp⟩ := k
  simp only at h1 h2 h3
  -- the three kinds of key the library holds, by the length word that is written for them
  have hframe : ∀ n, n < 4294967296 → kb.length = (if n = 0 then 4 else n) →
      (decide (n = 0) && !terms kb) = imp → bs = u32be n ++ kb →
      readKey terms (pre ++ bs ++ post) pre.length = .ok (⟨kb, imp⟩, pre.length + bs.length) := by
    intro n hn hlen himp hbs
    rw [hbs, readKey_frame terms kb pre post n hn hlen, himp]
  unfold writeKey at hw
  simp only at hw
  cases ht : terms kb <;> cases imp <;>
    simp only [ht, Bool.or_self, Bool.or_true, Bool.true_or, Bool.false_eq_true, if_false, if_true] at hw
  · -- an explicit key: its length is written, and is not 0
    have hne : kb.length ≠ 0 := h3 rfl ht
    split at hw
    · rename_i hlt
      exact hframe kb.length hlt (by rw [if_neg hne]) (by simp [hne]) (by cases hw; rfl)
    · cases hw
  · -- an implicit key: four bytes that are not a known term, length word 0
    exact hframe 0 (by decide) (h1 rfl).1 (by simp [ht]) (by cases hw; rfl)
  · -- a known term: four bytes, length word 0
    exact hframe 0 (by decide) (h2 ht) (by simp [ht]) (by cases hw; rfl)
  · -- an implicit key is never a known term
    rw [(h1 rfl).2] at ht
    cases ht

example : Key.WF (fun b => b == [75, 101, 121, 32]) { bytes := [97, 108, 105, 115], implicit := true } := by
  simp [Key.WF]

end PsdVerif.C20
