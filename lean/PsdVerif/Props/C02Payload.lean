/-
C02 on the payload layer — any payload the reader accepts is re-saved without loss or drift.

Props/C02.lean proves the property for the file skeleton, with tagged-block and image-resource payloads as opaque bytes.
Here it is lifted to the payload classes (every one a `PCodec`, Model/PayloadBase.lean), to the typed tagged block / image
resource and to whole documents with typed resources.

* `Encodable c v`  : `v.tobytes()` succeeds.  `DecOK c` : whatever `c`'s reader returns is encodable AND lies in the domain of
  C01's round-trip law (the reader normalises nothing away).  `Stable c` : for every accepted byte string `b` (on its own
  stream, the way `frombytes` runs the reader): `enc (dec b)` succeeds, its bytes re-read to the same value, and a second
  save gives the same bytes - the three clauses of the property. The saved bytes need NOT be `b` (the property does not ask).
* struct formats: `struct_read_fits_same_format`, and for a (read format, write format) PAIR `struct_pair_fits_iff`; the
  table of pairs of every class is regenerated from the AST of the source: `read_write_formats_compatible`.
* per combinator: `…_dec_ok` (= `…_decOK` of Lemmas/PayloadResave.lean), `stable_of_dec_ok`.
* per class: `<class>_dec_encodable`, `<class>_resave_stable`.
-/
import PsdVerif.Lemmas.PayloadResaveSamples
import PsdVerif.Lemmas.PayloadSimple
import PsdVerif.Lemmas.PayloadEffects
import PsdVerif.Lemmas.PayloadPatterns
import PsdVerif.Lemmas.PayloadLinked
import PsdVerif.Lemmas.PayloadDescWrap
import PsdVerif.Lemmas.Payload3Samples
import PsdVerif.Generated.Terms
import PsdVerif.Model.PayloadResaveTables
import PsdVerif.Generated.C02Formats
import PsdVerif.Generated.C02Guards
import PsdVerif.Props.C01Payload3

namespace PsdVerif.C02
open PsdVerif PsdVerif.Codec PsdVerif.Payload PsdVerif.Payload.PCodec PsdVerif.Payload3

/-- `read_fmt(fmt, fp)` returns a row that `write_fmt(fp, fmt, *row)` accepts (every integer in the range of its field,
`bytes` for `ns`) and that is in the domain of the round-trip law (a `bool` for `?`, all `n` bytes for `ns`) -/
theorem struct_read_fits_same_format (fs : List FI) (hok : fs.all FI.ok = true) (d : B) (p : Nat) (vs : Row) (p' : Nat)
    (h : fmtDec fs d p = .ok (vs, p')) : fmtFits fs vs ∧ fmtWF fs vs ∧ p' = p + fmtSize fs :=
  fmtDec_ok fs hok h

/-- a field unpacked with format `r` and packed with format `w`: the writer accepts whatever the reader returns IFF the pair
is accepting (`FT.accepts`: unsigned into at least as wide unsigned or strictly wider signed, signed into at least as wide
signed, never signed into unsigned, `?` into anything, integers never into `ns`, ...) -/
theorem struct_pair_fits_iff (r w : FT) (hr : r.ok = true) (hw : w.ok = true) :
    (∀ (d : B) (p : Nat) (v : FV) (p' : Nat), r.dec d p = .ok (v, p') → w.Fits v) ↔ r.accepts w = true :=
  FT.accepts_iff hr hw

/-- a whole row: accepting pair of formats => `struct.pack` accepts what `struct.unpack` returned, same size on disk -/
theorem struct_pair_accepting_sound (rs ws : List FI) (hr : rs.all FI.ok = true) (hw : ws.all FI.ok = true)
    (ha : fmtAccepts rs ws = true) (d : B) (p : Nat) (vs : Row) (p' : Nat) (h : fmtDec rs d p = .ok (vs, p')) :
    fmtFits ws vs ∧ fmtSize rs = fmtSize ws :=
  fmtDec_accepts rs ws hr hw ha h

/-- the same width with the other signedness is never accepting, in either direction -/
theorem struct_pair_signedness (a : Nat) : (FT.u a).accepts (.s a) = false ∧ (FT.s a).accepts (.u a) = false :=
  FT.unsigned_signed_not_accepting a

/-- the witness for `I` read / `i` written: `80 00 00 00` is read as 2147483648, which `struct.pack(">i", …)` rejects -/
theorem unsigned_read_signed_write_rejected :
    (FT.u 4).dec [0x80, 0, 0, 0] 0 = .ok (.int 2147483648, 4) ∧ ¬ (FT.s 4).Fits (.int 2147483648) ∧
      (FT.u 4).Fits (.int 2147483648) := by decide +kernel

example : ∃ fs, fs.all FI.ok = true ∧ ∃ d vs p', fmtDec fs d 0 = .ok (vs, p') :=
  ⟨[U 4], rfl, [0x80, 0, 0, 0], [.int 2147483648], 4, by decide +kernel⟩

/-- Every class of `psd_tools.psd` (regenerated from the AST of its reader and writer methods on every run): the `struct`
items its `read` unpacks are, item by item and in the same order, the items its `write` packs - or the class is one of the
nine rows of `ResaveTables.asymmetricFormats`, with exactly the formats listed there. A `write` that packs a field with
another format than `read` unpacks (`i` for `I`, `H` for `I`, a field dropped or added) changes its row and breaks this. -/
theorem read_write_formats_compatible :
    Generated.C02Formats.pairs.all (fun r => r.2.1 == r.2.2 || fmtPairSame r.2.1 r.2.2 ||
      decide (r ∈ ResaveTables.asymmetricFormats)) = true ∧
    ResaveTables.asymmetricFormats.all (fun r => decide (r ∈ Generated.C02Formats.pairs)) = true ∧
    100 ≤ Generated.C02Formats.pairs.length := by decide +kernel

/-- **Optional parts are decided by the same test on both sides.** For every class of `psd_tools.psd` (regenerated from the AST
on every run): each test on a stored field under which the READER parses an optional part (`flags.parameters_applied`,
`version >= 2`, `id == ColorSpaceID.LAB` ...) is, word for word, a test under which the WRITER emits one - or the class is one
of the rows of `ResaveTables.asymmetricGuards`, with exactly the tests listed there. A reader that starts to parse a trailer
under a flag the writer does not look at (the part is read, dropped by the save, and the file re-reads differently) adds a
reader test without a writer counterpart and breaks this. Tests on what is left in the stream (`is_readable`, `length >= 36`)
are not field tests: what they let through is covered by the byte-level search. -/
theorem optional_part_tests_shared :
    Generated.C02Guards.rows.all (fun r => r.2.1.all (fun t => r.2.2.contains t) ||
      decide (r ∈ ResaveTables.asymmetricGuards)) = true ∧
    ResaveTables.asymmetricGuards.all (fun r => decide (r ∈ Generated.C02Guards.rows)) = true ∧
    20 ≤ Generated.C02Guards.rows.length := by decide +kernel

/-- the framing primitives (`…_length_block` with `fmt=` and `padding=`, `…_pascal_string` and `…_unicode_string` with
`padding=`): called with the same arguments, in the same order, by the reader and the writer of every class - or the class
is one of the rows of `ResaveTables.asymmetricFrames` -/
theorem frames_compatible :
    Generated.C02Formats.frames.all (fun r => r.2.1 == r.2.2 || decide (r ∈ ResaveTables.asymmetricFrames)) = true ∧
    ResaveTables.asymmetricFrames.all (fun r => decide (r ∈ Generated.C02Formats.frames)) = true := by decide +kernel

/-- the flat models use ONE format on both sides because the source does: for the 38 classes of `ResaveSamples.modelFormats` both
lists of the regenerated row parse to exactly the items of the model -/
theorem model_formats_are_the_source_pairs :
    ResaveSamples.modelFormats.all (fun m => match Generated.C02Formats.pairs.lookup m.1 with
      | some (r, w) => parseFmts r == some m.2 && parseFmts w == some m.2
      | none => false) = true ∧ 30 ≤ ResaveSamples.modelFormats.length := by decide +kernel

/-- the strong relation of the table implies the accepting one: same items => every value read is accepted -/
theorem same_formats_accepting (reads writes : List String) (h : fmtPairSame reads writes = true) :
    fmtPairAccepts reads writes = true := by
  unfold fmtPairSame at h
  unfold fmtPairAccepts
  split at h
  · rename_i r w hr hw
    simp only [beq_iff_eq] at h
    subst h
    exact fmtAccepts_self r
  · cases h


/-! ## the laws of Lemmas/PayloadResave.lean under the names of the property, per combinator -/

theorem dec_returns_encodable {α : Type} (c : PCodec α) (h : DecOK c) (d : B) (p : Nat) (v : α) (p' : Nat)
    (hd : c.dec d p = .ok (v, p')) : Encodable c v := h.encodable hd

theorem stable_of_dec_ok {α : Type} (c : PCodec α) (h : DecOK c) (hr : c.RtAtEnd) : Stable c := stable_of h hr
theorem stable_of_dec_ok_if {α : Type} (c : PCodec α) (L : α → Prop) (h : DecOKIf c L) (hr : c.RtAtEnd) : StableIf c L :=
  stableIf_of h hr

theorem rec_dec_ok (fs : List FI) (hok : fs.all FI.ok = true) : DecOK (rec fs) := rec_decOK fs hok
theorem seq_dec_ok {α β : Type} (a : PCodec α) (b : PCodec β) (ha : DecOK a) (hb : DecOK b) : DecOK (seq a b) := seq_decOK ha hb
theorem counted_dec_ok {α : Type} (w : Nat) (c : PCodec α) (hc : DecOK c) : DecOK (counted w c) := counted_decOK w hc
theorem exactly_dec_ok {α : Type} (n : Nat) (c : PCodec α) (hc : DecOK c) : DecOK (exactly n c) := exactly_decOK n hc
theorem while_dec_ok {α : Type} (n pad : Nat) (c : PCodec α) (hc : DecOK c) : DecOK (whileR n pad c) := whileR_decOK n pad hc
theorem padded_dec_ok {α : Type} (pad : Nat) (c : PCodec α) (hc : DecOK c) : DecOK (padded pad c) := padded_decOK pad hc
theorem checked_dec_ok {α : Type} (c : PCodec α) (ok : α → Prop) [DecidablePred ok] (e : Err) (hc : DecOK c) :
    DecOK (checked c ok e) := checked_decOK hc
theorem tail_bytes_dec_ok : DecOK tailBytes := tailBytes_decOK
theorem pascal_dec_ok (pw pr : Nat) : DecOK (pascal pw pr) := pascal_decOK pw pr
theorem ustr_dec_ok : DecOK ustr := ustr_decOK
theorem opt_tail_dec_ok {α : Type} (c : PCodec α) (hc : DecOK c) : DecOK (optTail c) := optTail_decOK hc
/-- `blocked` is the one combinator with a derived length: the law holds under exactly that length hypothesis -/
theorem blocked_dec_ok_if {α : Type} (w pad : Nat) (c : PCodec α) (L : α → Prop) (hc : DecOKIf c L) :
    DecOKIf (blocked w pad c) (fun v => L v ∧ FitsU w (c.encT v).length) := blocked_decOKIf w pad hc
theorem blocked_encodable_iff {α : Type} (w pad : Nat) (c : PCodec α) (v : α) (hf : c.Fits v) :
    (blocked w pad c).Fits v ↔ FitsU w (c.encT v).length := blocked_fits_iff w pad v hf
/-- the side-condition forms compose the same way -/
theorem seq_dec_ok_if {α β : Type} (a : PCodec α) (b : PCodec β) (La : α → Prop) (Lb : β → Prop) (ha : DecOKIf a La)
    (hb : DecOKIf b Lb) : DecOKIf (seq a b) (fun v => La v.1 ∧ Lb v.2) := seq_decOKIf ha hb
theorem while_dec_ok_if {α : Type} (n pad : Nat) (c : PCodec α) (L : α → Prop) (hc : DecOKIf c L) :
    DecOKIf (whileR n pad c) (fun vs => ∀ v ∈ vs, L v) := whileR_decOKIf n pad hc
theorem counted_dec_ok_if {α : Type} (w : Nat) (c : PCodec α) (L : α → Prop) (hc : DecOKIf c L) :
    DecOKIf (counted w c) (fun vs => ∀ v ∈ vs, L v) := counted_decOKIf w hc

/-! ## per class: `<class>_dec_encodable` (whatever the class's reader returns is writable and in the domain of the round
trip) and `<class>_resave_stable` (the three clauses). `…_partial`: under the side condition named in the statement - C01's
`chainOK` for the version-6 slices, or the length field of a re-encoded block. C01's round-trip law of a class is `X.rt`:
`RtAtEnd` for a class whose reader runs to the end of its stream, `RtAnywhere` otherwise (then `X.rt.atEnd`). -/

theorem alpha_identifiers_dec_encodable : DecOK AlphaIdentifiers.codec := AlphaIdentifiers.decOK
theorem alpha_identifiers_resave_stable : Stable AlphaIdentifiers.codec := stable_of AlphaIdentifiers.decOK AlphaIdentifiers.rt
theorem alpha_names_pascal_dec_encodable : DecOK AlphaNamesPascal.codec := AlphaNamesPascal.decOK
theorem alpha_names_pascal_resave_stable : Stable AlphaNamesPascal.codec := stable_of AlphaNamesPascal.decOK AlphaNamesPascal.rt
theorem alpha_names_unicode_dec_encodable : DecOK AlphaNamesUnicode.codec := AlphaNamesUnicode.decOK
theorem alpha_names_unicode_resave_stable : Stable AlphaNamesUnicode.codec := stable_of AlphaNamesUnicode.decOK AlphaNamesUnicode.rt
theorem alpha_channel_dec_encodable : DecOK AlphaChannel.codec := AlphaChannel.decOK
theorem alpha_channel_resave_stable : Stable AlphaChannel.codec := stable_of AlphaChannel.decOK AlphaChannel.rt.atEnd
theorem display_info_dec_encodable : DecOK DisplayInfo.codec := DisplayInfo.decOK
theorem display_info_resave_stable : Stable DisplayInfo.codec := stable_of DisplayInfo.decOK DisplayInfo.rt
theorem resource_byte_dec_encodable : DecOK Byte.codec := Byte.decOK
theorem resource_byte_resave_stable : Stable Byte.codec := stable_of Byte.decOK Byte.rt.atEnd
theorem grid_guides_info_dec_encodable : DecOK GridGuidesInfo.codec := GridGuidesInfo.decOK
theorem grid_guides_info_resave_stable : Stable GridGuidesInfo.codec := stable_of GridGuidesInfo.decOK GridGuidesInfo.rt.atEnd
/-- frequency `I` and angle `i` (16.16): read and written with the same formats (`read_write_formats_compatible`) -/
theorem halftone_screen_dec_encodable : DecOK HalftoneScreen.codec := HalftoneScreen.decOK
theorem halftone_screen_resave_stable : Stable HalftoneScreen.codec := stable_of HalftoneScreen.decOK HalftoneScreen.rt.atEnd
theorem halftone_screens_dec_encodable : DecOK HalftoneScreens.codec := HalftoneScreens.decOK
theorem halftone_screens_resave_stable : Stable HalftoneScreens.codec := stable_of HalftoneScreens.decOK HalftoneScreens.rt
theorem resource_integer_dec_encodable : DecOK Integer.codec := Integer.decOK
theorem resource_integer_resave_stable : Stable Integer.codec := stable_of Integer.decOK Integer.rt.atEnd
theorem layer_group_enabled_ids_dec_encodable : DecOK LayerGroupEnabledIDs.codec := LayerGroupEnabledIDs.decOK
theorem layer_group_enabled_ids_resave_stable : Stable LayerGroupEnabledIDs.codec := stable_of LayerGroupEnabledIDs.decOK LayerGroupEnabledIDs.rt
theorem layer_group_info_dec_encodable : DecOK LayerGroupInfo.codec := LayerGroupInfo.decOK
theorem layer_group_info_resave_stable : Stable LayerGroupInfo.codec := stable_of LayerGroupInfo.decOK LayerGroupInfo.rt
theorem layer_selection_ids_dec_encodable : DecOK LayerSelectionIDs.codec := LayerSelectionIDs.decOK
theorem layer_selection_ids_resave_stable : Stable LayerSelectionIDs.codec := stable_of LayerSelectionIDs.decOK LayerSelectionIDs.rt.atEnd
theorem resource_short_integer_dec_encodable : DecOK ShortInteger.codec := ShortInteger.decOK
theorem resource_short_integer_resave_stable : Stable ShortInteger.codec := stable_of ShortInteger.decOK ShortInteger.rt.atEnd
/-- read with `padding=2`, written with `padding=1`: a filler byte tolerated on read is not written back; the three clauses hold -/
theorem pascal_string_dec_encodable : DecOK PascalString.codec := PascalString.decOK
theorem pascal_string_resave_stable : Stable PascalString.codec := stable_of PascalString.decOK PascalString.rt
theorem pixel_aspect_ratio_dec_encodable : DecOK PixelAspectRatio.codec := PixelAspectRatio.decOK
theorem pixel_aspect_ratio_resave_stable : Stable PixelAspectRatio.codec := stable_of PixelAspectRatio.decOK PixelAspectRatio.rt.atEnd
/-- the ninth flag is read when a byte is left; any non-zero flag byte is re-written as 1 -/
theorem print_flags_dec_encodable : DecOK PrintFlags.codec := PrintFlags.decOK
theorem print_flags_resave_stable : Stable PrintFlags.codec := stable_of PrintFlags.decOK PrintFlags.rt
theorem print_flags_info_dec_encodable : DecOK PrintFlagsInfo.codec := PrintFlagsInfo.decOK
theorem print_flags_info_resave_stable : Stable PrintFlagsInfo.codec := stable_of PrintFlagsInfo.decOK PrintFlagsInfo.rt.atEnd
theorem print_scale_dec_encodable : DecOK PrintScale.codec := PrintScale.decOK
theorem print_scale_resave_stable : Stable PrintScale.codec := stable_of PrintScale.decOK PrintScale.rt.atEnd
theorem resolution_info_dec_encodable : DecOK ResolutionInfo.codec := ResolutionInfo.decOK
theorem resolution_info_resave_stable : Stable ResolutionInfo.codec := stable_of ResolutionInfo.decOK ResolutionInfo.rt.atEnd
/-- `fp.read(size)` is lenient: a declared size beyond the data is re-written as the size of what was read -/
theorem thumbnail_resource_dec_encodable : DecOK Thumbnail.codec := Thumbnail.decOK
theorem thumbnail_resource_resave_stable : Stable Thumbnail.codec := stable_of Thumbnail.decOK Thumbnail.rt.atEnd
theorem transfer_function_dec_encodable : DecOK TransferFunction.codec := TransferFunction.decOK
theorem transfer_function_resave_stable : Stable TransferFunction.codec := stable_of TransferFunction.decOK TransferFunction.rt.atEnd
theorem transfer_functions_dec_encodable : DecOK TransferFunctions.codec := TransferFunctions.decOK
theorem transfer_functions_resave_stable : Stable TransferFunctions.codec := stable_of TransferFunctions.decOK TransferFunctions.rt
theorem url_item_dec_encodable : DecOK URLItem.codec := URLItem.decOK
theorem url_item_resave_stable : Stable URLItem.codec := stable_of URLItem.decOK URLItem.rt.atEnd
theorem url_list_dec_encodable : DecOK URLList.codec := URLList.decOK
theorem url_list_resave_stable : Stable URLList.codec := stable_of URLList.decOK URLList.rt.atEnd
theorem version_info_dec_encodable : DecOK VersionInfo.codec := VersionInfo.decOK
theorem version_info_resave_stable : Stable VersionInfo.codec := stable_of VersionInfo.decOK VersionInfo.rt.atEnd
theorem slice_v6_dec_encodable (tb : Descriptor.Tables) (ht : Descriptor.TermsFour tb) : DecOK (SliceV6.codec tb) := SliceV6.decOK tb ht
theorem slice_v6_resave_stable (tb : Descriptor.Tables) (ht : Descriptor.TermsFour tb) : Stable (SliceV6.codec tb) := stable_of (SliceV6.decOK tb ht) (SliceV6.rt tb)
/-- under C01's (F) clause `chainOK`: a slice without descriptor is not followed by a slice whose id is 16 (known finding C01/slices/id16-after-slice-without-data) -/
theorem slices_v6_dec_encodable_partial (tb : Descriptor.Tables) (ht : Descriptor.TermsFour tb) : DecOKIf (SlicesV6.codec tb) SlicesV6.ResaveOK := SlicesV6.decOKIf tb ht
theorem slices_v6_resave_stable_partial (tb : Descriptor.Tables) (ht : Descriptor.TermsFour tb) : StableIf (SlicesV6.codec tb) SlicesV6.ResaveOK := stableIf_of (SlicesV6.decOKIf tb ht) (SlicesV6.rt tb)
theorem slices_dec_encodable_partial (tb : Descriptor.Tables) (ht : Descriptor.TermsFour tb) : DecOKIf (Slices.codec tb) Slices.ResaveOK := Slices.decOKIf tb ht
theorem slices_resave_stable_partial (tb : Descriptor.Tables) (ht : Descriptor.TermsFour tb) : StableIf (Slices.codec tb) Slices.ResaveOK := stableIf_of (Slices.decOKIf tb ht) (Slices.rt tb)
/-- after repo commit bb0349d (a key cut short is an IOError) nothing the descriptor reader returns is outside the round trip -/
theorem descriptor_resource_dec_encodable (tb : Descriptor.Tables) (ht : Descriptor.TermsFour tb) : DecOK (DescriptorResource.codec tb) := DescriptorResource.decOK tb ht
theorem descriptor_resource_resave_stable (tb : Descriptor.Tables) (ht : Descriptor.TermsFour tb) : Stable (DescriptorResource.codec tb) := stable_of (DescriptorResource.decOK tb ht) (DescriptorResource.rt tb).atEnd

theorem brightness_contrast_dec_encodable : DecOK BrightnessContrast.codec := BrightnessContrast.decOK
theorem brightness_contrast_resave_stable : Stable BrightnessContrast.codec := stable_of BrightnessContrast.decOK BrightnessContrast.rt.atEnd
theorem color_balance_dec_encodable : DecOK ColorBalance.codec := ColorBalance.decOK
theorem color_balance_resave_stable : Stable ColorBalance.codec := stable_of ColorBalance.decOK ColorBalance.rt.atEnd
theorem color_lookup_dec_encodable (tb : Descriptor.Tables) (ht : Descriptor.TermsFour tb) (pad : Nat) : DecOK (ColorLookup.codec tb pad) := ColorLookup.decOK tb ht pad
theorem color_lookup_resave_stable (tb : Descriptor.Tables) (ht : Descriptor.TermsFour tb) (pad : Nat) : Stable (ColorLookup.codec tb pad) := stable_of (ColorLookup.decOK tb ht pad) (ColorLookup.rt tb pad).atEnd
theorem channel_mixer_dec_encodable : DecOK ChannelMixer.codec := ChannelMixer.decOK
theorem channel_mixer_resave_stable : Stable ChannelMixer.codec := stable_of ChannelMixer.decOK ChannelMixer.rt
/-- the flag byte is read as a truth value; for version 1 the extra marker is kept only when its read does not run out of data -/
theorem curves_dec_encodable : DecOK Curves.codec := Curves.decOK
theorem curves_resave_stable : Stable Curves.codec := stable_of Curves.decOK Curves.rt
theorem gradient_map_dec_encodable : DecOK GradientMap.codec := GradientMap.decOK
theorem gradient_map_resave_stable : Stable GradientMap.codec := stable_of GradientMap.decOK GradientMap.rt.atEnd
theorem color_stop_dec_encodable : DecOK ColorStop.codec := ColorStop.decOK
theorem color_stop_resave_stable : Stable ColorStop.codec := stable_of ColorStop.decOK ColorStop.rt.atEnd
theorem transparency_stop_dec_encodable : DecOK TransparencyStop.codec := TransparencyStop.decOK
theorem transparency_stop_resave_stable : Stable TransparencyStop.codec := stable_of TransparencyStop.decOK TransparencyStop.rt.atEnd
theorem exposure_dec_encodable (pad : Nat) : DecOK (Exposure.codec pad) := Exposure.decOK pad
theorem exposure_resave_stable (pad : Nat) : Stable (Exposure.codec pad) := stable_of (Exposure.decOK pad) (Exposure.rt pad).atEnd
theorem hue_saturation_dec_encodable : DecOK HueSaturation.codec := HueSaturation.decOK
theorem hue_saturation_resave_stable : Stable HueSaturation.codec := stable_of HueSaturation.decOK HueSaturation.rt.atEnd
/-- a `Lvls` trailer whose count is below 29 is re-written with the count 29 -/
theorem levels_dec_encodable : DecOK Levels.codec := Levels.decOK
theorem levels_resave_stable : Stable Levels.codec := stable_of Levels.decOK Levels.rt
theorem level_record_dec_encodable : DecOK LevelRecord.codec := LevelRecord.decOK
theorem level_record_resave_stable : Stable LevelRecord.codec := stable_of LevelRecord.decOK LevelRecord.rt.atEnd
theorem photo_filter_dec_encodable : DecOK PhotoFilter.codec := PhotoFilter.decOK
theorem photo_filter_resave_stable : Stable PhotoFilter.codec := stable_of PhotoFilter.decOK PhotoFilter.rt.atEnd
theorem selective_color_dec_encodable : DecOK SelectiveColor.codec := SelectiveColor.decOK
theorem selective_color_resave_stable : Stable SelectiveColor.codec := stable_of SelectiveColor.decOK SelectiveColor.rt.atEnd

theorem path_record_dec_encodable : DecOK PItem.codec := PItem.decOK
theorem path_record_resave_stable : Stable PItem.codec := stable_of PItem.decOK PItem.rt.atEnd
/-- `Path` with the paddings its callers pass (1, 4) -/
theorem path_dec_encodable (pad : Nat) (hp : 0 < pad ∧ pad ≤ 26) : DecOK (Path.codec pad) := Path.decOK pad hp
theorem path_resave_stable (pad : Nat) (hp : 0 < pad ∧ pad ≤ 26) : Stable (Path.codec pad) := stable_of (Path.decOK pad hp) (Path.rt pad)
theorem vector_mask_setting_dec_encodable : DecOK VectorMaskSetting.codec := VectorMaskSetting.decOK
theorem vector_mask_setting_resave_stable : Stable VectorMaskSetting.codec := stable_of VectorMaskSetting.decOK VectorMaskSetting.rt
theorem vector_stroke_content_setting_dec_encodable (tb : Descriptor.Tables) (ht : Descriptor.TermsFour tb) (pad : Nat) : DecOK (VectorStrokeContentSetting.codec tb pad) := VectorStrokeContentSetting.decOK tb ht pad
theorem vector_stroke_content_setting_resave_stable (tb : Descriptor.Tables) (ht : Descriptor.TermsFour tb) (pad : Nat) : Stable (VectorStrokeContentSetting.codec tb pad) := stable_of (VectorStrokeContentSetting.decOK tb ht pad) (VectorStrokeContentSetting.rt tb pad).atEnd
theorem descriptor_payload_dec_encodable (tb : Descriptor.Tables) (ht : Descriptor.TermsFour tb) (pad : Nat) : DecOK (DescriptorPayload.codec tb pad) := DescriptorPayload.decOK tb ht pad
theorem descriptor_payload_resave_stable (tb : Descriptor.Tables) (ht : Descriptor.TermsFour tb) (pad : Nat) : Stable (DescriptorPayload.codec tb pad) := stable_of (DescriptorPayload.decOK tb ht pad) (DescriptorPayload.rt tb pad).atEnd
theorem descriptor2_payload_dec_encodable (tb : Descriptor.Tables) (ht : Descriptor.TermsFour tb) (pad : Nat) : DecOK (Descriptor2Payload.codec tb pad) := Descriptor2Payload.decOK tb ht pad
theorem descriptor2_payload_resave_stable (tb : Descriptor.Tables) (ht : Descriptor.TermsFour tb) (pad : Nat) : Stable (Descriptor2Payload.codec tb pad) := stable_of (Descriptor2Payload.decOK tb ht pad) (Descriptor2Payload.rt tb pad).atEnd

theorem filter_effect_channel_dec_encodable : DecOK FEChannel.codec := FEChannel.decOK
theorem filter_effect_channel_resave_stable : Stable FEChannel.codec := stable_of FEChannel.decOK FEChannel.rt.atEnd
theorem filter_effect_extra_dec_encodable : DecOK FEExtra.codec := FEExtra.decOK
theorem filter_effect_extra_resave_stable : Stable FEExtra.codec := stable_of FEExtra.decOK FEExtra.rt.atEnd
/-- the side condition is the 8-byte length field of the re-encoded body -/
theorem filter_effect_dec_encodable_partial : DecOKIf FilterEffect.codec FilterEffect.LenFits := FilterEffect.decOKIf
theorem filter_effect_resave_stable_partial : StableIf FilterEffect.codec FilterEffect.LenFits := stableIf_of FilterEffect.decOKIf FilterEffect.rt
theorem filter_effects_dec_encodable_partial : DecOKIf FilterEffects.codec FilterEffects.LenFits := FilterEffects.decOKIf
theorem filter_effects_resave_stable_partial : StableIf FilterEffects.codec FilterEffects.LenFits := stableIf_of FilterEffects.decOKIf FilterEffects.rt

theorem empty_element_dec_encodable : DecOK EmptyElement.codec := EmptyElement.decOK
theorem empty_element_resave_stable : Stable EmptyElement.codec := stable_of EmptyElement.decOK EmptyElement.rt.atEnd
theorem numeric_element_dec_encodable : DecOK NumericElement.codec := NumericElement.decOK
theorem numeric_element_resave_stable : Stable NumericElement.codec := stable_of NumericElement.decOK NumericElement.rt.atEnd
theorem integer_element_dec_encodable : DecOK IntegerElement.codec := IntegerElement.decOK
theorem integer_element_resave_stable : Stable IntegerElement.codec := stable_of IntegerElement.decOK IntegerElement.rt.atEnd
/-- `try: read_fmt("H2x") except IOError: read_fmt("H")`: a 2-byte payload is re-written with the filler (4 bytes); the three clauses hold -/
theorem short_integer_element_dec_encodable : DecOK ShortIntegerElement.codec := ShortIntegerElement.decOK
theorem short_integer_element_resave_stable : Stable ShortIntegerElement.codec := stable_of ShortIntegerElement.decOK ShortIntegerElement.rt.atEnd
theorem byte_element_dec_encodable : DecOK ByteElement.codec := ByteElement.decOK
theorem byte_element_resave_stable : Stable ByteElement.codec := stable_of ByteElement.decOK ByteElement.rt.atEnd
theorem boolean_element_dec_encodable : DecOK BooleanElement.codec := BooleanElement.decOK
theorem boolean_element_resave_stable : Stable BooleanElement.codec := stable_of BooleanElement.decOK BooleanElement.rt.atEnd
/-- with the paddings the containers pass -/
theorem string_element_dec_encodable (pw pr : Nat) (hp : pr = 1 ∨ pr = pw) (hw : pw ≠ 0) : DecOK (StringElement.codec pw pr) := stringElement_decOK pw pr hp hw
theorem string_element_resave_stable (pw pr : Nat) (hp : pr = 1 ∨ pr = pw) (hw : pw ≠ 0) : Stable (StringElement.codec pw pr) := stable_of (stringElement_decOK pw pr hp hw) (StringElement.rt pw pr).atEnd
theorem color_dec_encodable : DecOK Color.codec := Color.decOK
theorem color_resave_stable : Stable Color.codec := stable_of Color.decOK Color.rt.atEnd
theorem bytes_dec_encodable : DecOK BytesElement.codec := BytesElement.decOK
theorem bytes_resave_stable : Stable BytesElement.codec := stable_of BytesElement.decOK BytesElement.rt
theorem sheet_color_setting_dec_encodable : DecOK SheetColorSetting.codec := SheetColorSetting.decOK
theorem sheet_color_setting_resave_stable : Stable SheetColorSetting.codec := stable_of SheetColorSetting.decOK SheetColorSetting.rt.atEnd
theorem reference_point_dec_encodable : DecOK ReferencePoint.codec := ReferencePoint.decOK
theorem reference_point_resave_stable : Stable ReferencePoint.codec := stable_of ReferencePoint.decOK ReferencePoint.rt.atEnd
/-- 4-7 trailing bytes that are neither signature nor key are not written back -/
theorem section_divider_setting_dec_encodable : DecOK SectionDividerSetting.codec := SectionDividerSetting.decOK
theorem section_divider_setting_resave_stable : Stable SectionDividerSetting.codec := stable_of SectionDividerSetting.decOK SectionDividerSetting.rt
theorem user_mask_dec_encodable : DecOK UserMask.codec := UserMask.decOK
theorem user_mask_resave_stable : Stable UserMask.codec := stable_of UserMask.decOK UserMask.rt.atEnd
theorem filter_mask_dec_encodable : DecOK FilterMask.codec := FilterMask.decOK
theorem filter_mask_resave_stable : Stable FilterMask.codec := stable_of FilterMask.decOK FilterMask.rt.atEnd
theorem channel_blending_restrictions_dec_encodable : DecOK ChannelBlendingRestrictionsSetting.codec := ChannelBlendingRestrictionsSetting.decOK
theorem channel_blending_restrictions_resave_stable : Stable ChannelBlendingRestrictionsSetting.codec := stable_of ChannelBlendingRestrictionsSetting.decOK ChannelBlendingRestrictionsSetting.rt
theorem pixel_source_data2_dec_encodable (pad : Nat) (hp : pad = 1 ∨ pad = 2 ∨ pad = 4) : DecOK (PixelSourceData2.codec pad) := PixelSourceData2.decOK pad hp
theorem pixel_source_data2_resave_stable (pad : Nat) (hp : pad = 1 ∨ pad = 2 ∨ pad = 4) : Stable (PixelSourceData2.codec pad) := stable_of (PixelSourceData2.decOK pad hp) (PixelSourceData2.rt pad)
theorem metadata_setting_dec_encodable_partial (tb : Descriptor.Tables) (ht : Descriptor.TermsFour tb) : DecOKIf (MetadataSetting.codec tb) (MetadataSetting.ResaveOK tb) := MetadataSetting.decOKIf tb ht
theorem metadata_setting_resave_stable_partial (tb : Descriptor.Tables) (ht : Descriptor.TermsFour tb) : StableIf (MetadataSetting.codec tb) (MetadataSetting.ResaveOK tb) := stableIf_of (MetadataSetting.decOKIf tb ht) (MetadataSetting.rt tb).atEnd
theorem metadata_settings_dec_encodable_partial (tb : Descriptor.Tables) (ht : Descriptor.TermsFour tb) : DecOKIf (MetadataSettings.codec tb) (fun xs => ∀ x ∈ xs, MetadataSetting.ResaveOK tb x) := MetadataSettings.decOKIf tb ht
theorem metadata_settings_resave_stable_partial (tb : Descriptor.Tables) (ht : Descriptor.TermsFour tb) : StableIf (MetadataSettings.codec tb) (fun xs => ∀ x ∈ xs, MetadataSetting.ResaveOK tb x) := stableIf_of (MetadataSettings.decOKIf tb ht) (MetadataSettings.rt tb).atEnd
theorem annotation_dec_encodable_partial : DecOKIf Annotation.codec Annotation.ResaveOK := Annotation.decOKIf
theorem annotation_resave_stable_partial : StableIf Annotation.codec Annotation.ResaveOK := stableIf_of Annotation.decOKIf Annotation.rt.atEnd
/-- items whose declared length is 4 or less are skipped by the reader; the count is re-derived -/
theorem annotations_dec_encodable_partial : DecOKIf Annotations.codec Annotations.ResaveOK := Annotations.decOKIf
theorem annotations_resave_stable_partial : StableIf Annotations.codec Annotations.ResaveOK := stableIf_of Annotations.decOKIf Annotations.rt.atEnd
theorem common_state_info_dec_encodable : DecOK CommonStateInfo.codec := CommonStateInfo.decOK
theorem common_state_info_resave_stable : Stable CommonStateInfo.codec := stable_of CommonStateInfo.decOK CommonStateInfo.rt.atEnd
theorem shadow_info_dec_encodable : DecOK ShadowInfo.codec := ShadowInfo.decOK
theorem shadow_info_resave_stable : Stable ShadowInfo.codec := stable_of ShadowInfo.decOK ShadowInfo.rt.atEnd
theorem outer_glow_info_dec_encodable : DecOK OuterGlowInfo.codec := OuterGlowInfo.decOK
theorem outer_glow_info_resave_stable : Stable OuterGlowInfo.codec := stable_of OuterGlowInfo.decOK OuterGlowInfo.rt.atEnd
theorem inner_glow_info_dec_encodable : DecOK InnerGlowInfo.codec := InnerGlowInfo.decOK
theorem inner_glow_info_resave_stable : Stable InnerGlowInfo.codec := stable_of InnerGlowInfo.decOK InnerGlowInfo.rt.atEnd
theorem bevel_info_dec_encodable : DecOK BevelInfo.codec := BevelInfo.decOK
theorem bevel_info_resave_stable : Stable BevelInfo.codec := stable_of BevelInfo.decOK BevelInfo.rt.atEnd
theorem solid_fill_info_dec_encodable : DecOK SolidFillInfo.codec := SolidFillInfo.decOK
theorem solid_fill_info_resave_stable : Stable SolidFillInfo.codec := stable_of SolidFillInfo.decOK SolidFillInfo.rt.atEnd
theorem effects_layer_dec_encodable_partial : DecOKIf EffectsLayer.codec EffectsLayer.LenFits := EffectsLayer.decOKIf
theorem effects_layer_resave_stable_partial : StableIf EffectsLayer.codec EffectsLayer.LenFits := stableIf_of EffectsLayer.decOKIf EffectsLayer.rt.atEnd
/-- a declared length below 23 makes the reader take everything that follows (`fp.read(negative)`); the re-encoded length is the side condition -/
theorem virtual_memory_array_dec_encodable_partial : DecOKIf VMA.codec VMA.LenFits := VMA.decOKIf
theorem virtual_memory_array_resave_stable_partial : StableIf VMA.codec VMA.LenFits := stableIf_of VMA.decOKIf VMA.rt.atEnd
theorem virtual_memory_array_list_dec_encodable_partial : DecOKIf VMAL.codec VMAL.LenFits := VMAL.decOKIf
theorem virtual_memory_array_list_resave_stable_partial : StableIf VMAL.codec VMAL.LenFits := stableIf_of VMAL.decOKIf VMAL.rt.atEnd
theorem pattern_dec_encodable_partial : DecOKIf Pattern.codec (fun x => VMAL.LenFits x.data) := Pattern.decOKIf
theorem pattern_resave_stable_partial : StableIf Pattern.codec (fun x => VMAL.LenFits x.data) := stableIf_of Pattern.decOKIf Pattern.rt.atEnd
theorem patterns_dec_encodable_partial : DecOKIf Patterns.codec Patterns.LenFits := Patterns.decOKIf
theorem patterns_resave_stable_partial : StableIf Patterns.codec Patterns.LenFits := stableIf_of Patterns.decOKIf Patterns.rt
theorem linked_layer_dec_encodable (tb : Descriptor.Tables) (ht : Descriptor.TermsFour tb) (pad : Nat) : DecOK (LinkedLayer.codec tb pad) := LinkedLayer.decOK tb ht pad
theorem linked_layer_resave_stable (tb : Descriptor.Tables) (ht : Descriptor.TermsFour tb) (pad : Nat) : Stable (LinkedLayer.codec tb pad) := stable_of (LinkedLayer.decOK tb ht pad) (LinkedLayer.rt tb pad).atEnd
theorem linked_layers_dec_encodable_partial (tb : Descriptor.Tables) (ht : Descriptor.TermsFour tb) : DecOKIf (LinkedLayers.codec tb) (LinkedLayers.ResaveOK tb) := LinkedLayers.decOKIf tb ht
theorem linked_layers_resave_stable_partial (tb : Descriptor.Tables) (ht : Descriptor.TermsFour tb) : StableIf (LinkedLayers.codec tb) (LinkedLayers.ResaveOK tb) := stableIf_of (LinkedLayers.decOKIf tb ht) (LinkedLayers.rt tb)
theorem smart_object_layer_data_dec_encodable (tb : Descriptor.Tables) (ht : Descriptor.TermsFour tb) (pad : Nat) : DecOK (SmartObjectLayerData.codec tb pad) := SmartObjectLayerData.decOK tb ht pad
theorem smart_object_layer_data_resave_stable (tb : Descriptor.Tables) (ht : Descriptor.TermsFour tb) (pad : Nat) : Stable (SmartObjectLayerData.codec tb pad) := stable_of (SmartObjectLayerData.decOK tb ht pad) (SmartObjectLayerData.rt tb pad).atEnd
theorem placed_layer_data_dec_encodable (tb : Descriptor.Tables) (ht : Descriptor.TermsFour tb) (pad : Nat) : DecOK (PlacedLayerData.codec tb pad) := PlacedLayerData.decOK tb ht pad
theorem placed_layer_data_resave_stable (tb : Descriptor.Tables) (ht : Descriptor.TermsFour tb) (pad : Nat) : Stable (PlacedLayerData.codec tb pad) := stable_of (PlacedLayerData.decOK tb ht pad) (PlacedLayerData.rt tb pad).atEnd
theorem type_tool_object_setting_dec_encodable (tb : Descriptor.Tables) (ht : Descriptor.TermsFour tb) (pad : Nat) : DecOK (TypeToolObjectSetting.codec tb pad) := TypeToolObjectSetting.decOK tb ht pad
theorem type_tool_object_setting_resave_stable (tb : Descriptor.Tables) (ht : Descriptor.TermsFour tb) (pad : Nat) : Stable (TypeToolObjectSetting.codec tb pad) := stable_of (TypeToolObjectSetting.decOK tb ht pad) (TypeToolObjectSetting.rt tb pad).atEnd

/-- the side condition of a `…_partial` theorem is exact whenever it is a consequence of `Fits` (it is, for every length
condition: the length field is one of the conjuncts): a decoded value is writable IFF the condition holds - the payload
analogue of `dec_encodable_iff` -/
theorem dec_encodable_iff_of {α : Type} (c : PCodec α) (L : α → Prop) (h : DecOKIf c L) (hL : ∀ v, c.Fits v → L v)
    (d : B) (p : Nat) (v : α) (p' : Nat) (hd : c.dec d p = .ok (v, p')) : Encodable c v ↔ L v := by
  constructor
  · rintro ⟨bs, hbs⟩
    exact hL v (enc_ok hbs).1
  · exact fun hl => h.encodable hd hl

theorem metadata_setting_dec_encodable_iff (tb : Descriptor.Tables) (ht : Descriptor.TermsFour tb) (d : B) (p : Nat)
    (v : MetadataSetting) (p' : Nat) (hd : (MetadataSetting.codec tb).dec d p = .ok (v, p')) :
    Encodable (MetadataSetting.codec tb) v ↔ MetadataSetting.ResaveOK tb v :=
  dec_encodable_iff_of _ _ (MetadataSetting.decOKIf tb ht) (fun _ h => h.2) d p v p' hd

theorem annotation_dec_encodable_iff (d : B) (p : Nat) (v : Annotation) (p' : Nat) (hd : Annotation.codec.dec d p = .ok (v, p')) :
    Encodable Annotation.codec v ↔ Annotation.ResaveOK v :=
  dec_encodable_iff_of _ _ Annotation.decOKIf (fun _ h => h.2.2.2.2.2.2.2.2.2.1) d p v p' hd

theorem effects_layer_dec_encodable_iff (d : B) (p : Nat) (v : EffectsLayer) (p' : Nat)
    (hd : EffectsLayer.codec.dec d p = .ok (v, p')) : Encodable EffectsLayer.codec v ↔ EffectsLayer.LenFits v :=
  dec_encodable_iff_of _ _ EffectsLayer.decOKIf (fun _ h kv hkv => (h.2.2 kv hkv).2) d p v p' hd

theorem filter_effect_dec_encodable_iff (d : B) (p : Nat) (v : FilterEffect) (p' : Nat)
    (hd : FilterEffect.codec.dec d p = .ok (v, p')) : Encodable FilterEffect.codec v ↔ FilterEffect.LenFits v :=
  dec_encodable_iff_of _ _ FilterEffect.decOKIf (fun _ h => h.2.2.1.2) d p v p' hd

theorem linked_layers_dec_encodable_iff (tb : Descriptor.Tables) (ht : Descriptor.TermsFour tb) (d : B) (p : Nat)
    (v : List LinkedLayer) (p' : Nat) (hd : (LinkedLayers.codec tb).dec d p = .ok (v, p')) :
    Encodable (LinkedLayers.codec tb) v ↔ LinkedLayers.ResaveOK tb v :=
  dec_encodable_iff_of _ _ (LinkedLayers.decOKIf tb ht) (fun _ h x hx => (h x hx).2) d p v p' hd


/-- every known term has 4 bytes: in the regenerated `_TERMS` (no term of another length) and hence in the tables of the
model. A term of another length would be written with the length field 0 and re-read as its first 4 bytes. -/
theorem terms_have_four_bytes : Generated.Terms.oddTerms = 0 ∧ Descriptor.TermsFour Descriptor.realTables :=
  ⟨by decide, Descriptor.realTables_termsFour⟩

/-- a key as `read_length_and_key` returns it: writable, satisfying the key law of C20 / C01, and with all the bytes its
length field announced (4 behind a length field of 0, at least one otherwise) -/
theorem descriptor_key_dec_ok (tb : Descriptor.Tables) (ht : Descriptor.TermsFour tb) (d : B) (p : Nat) (k : Descriptor.Key) (p' : Nat)
    (h : Descriptor.readKeyR tb d p = .ok (k, p')) :
    Descriptor.KeyFits tb k ∧ Descriptor.KeyWF tb k ∧ Descriptor.KeyFull k :=
  Descriptor.ret_readKey tb ht d p k p' h

/-- every class of `descriptor.TYPES`: whatever its reader returns is writable and in the domain of C01's round trip (`WF`:
key law, surrogate law, units, no key twice). Nothing is normalised out of it: explicit / implicit keys are kept as they
are, `RawData`, `Alias`, `Path` are opaque bytes behind their length, unit floats keep their unit, duplicate keys collapse in
the `OrderedDict` (and the count is re-derived), a boolean is any non-zero byte (re-written as 1). -/
theorem descriptor_dec_encodable (tb : Descriptor.Tables) (ht : Descriptor.TermsFour tb) (t : Descriptor.Tag) (d : B) (p : Nat)
    (v : Descriptor.DVal) (p' : Nat) (h : Descriptor.dec tb t d p = .ok (v, p')) :
    Descriptor.WF tb v ∧ ∃ bs, Descriptor.enc tb v = .ok bs := by
  obtain ⟨f, w⟩ := Descriptor.dec_resavable ht t d p v p' h
  exact ⟨w, Descriptor.encT tb v, by simp only [Descriptor.enc, if_pos f]⟩

theorem descriptor_block_dec_encodable (tb : Descriptor.Tables) (ht : Descriptor.TermsFour tb) (d : B) (p : Nat)
    (b : Descriptor.Block) (p' : Nat) (h : Descriptor.Block.dec tb d p = .ok (b, p')) : b.WF tb ∧ b.Fits tb := by
  obtain ⟨f, w⟩ := Descriptor.Block.dec_resavable ht d p b p' h
  exact ⟨w, f⟩

/-- The finding of this layer (repaired by repo commit bb0349d). `keyCutShort` is a `DescriptorBlock` whose last key - length
field 0 - has only the two bytes `ab` left. With the lenient key reader the code had before (`fp.read(length or 4)`: what is
there), the key came back as the 2-byte implicit key `ab`; written back as a layer-level tagged-block payload (`padding=4`:
two filler bytes) the re-read took the filler for the rest of the key (`ab\\0\\0`) - the re-read structure differed from the
one that was saved (clause 2 of the property). Stated on the key level: the lenient reader returns a key that violates the
key law, and the bytes the writer emits for it, followed by the filler, are read as another key. -/
theorem key_cut_short_before_repair :
    ResaveSamples.readKeyLenient Descriptor.realTables.terms ResaveSamples.keyCutShort 40 = .ok (⟨[97, 98], true⟩, 46) ∧
      ¬ Descriptor.KeyWF Descriptor.realTables ⟨[97, 98], true⟩ ∧
      Descriptor.keyT Descriptor.realTables ⟨[97, 98], true⟩ = [0, 0, 0, 0, 97, 98] ∧
      ResaveSamples.readKeyLenient Descriptor.realTables.terms ([0, 0, 0, 0, 97, 98] ++ [0, 0]) 0 = .ok (⟨[97, 98, 0, 0], true⟩, 8) := by
  decide +kernel

/-- ... and the reader of the source (repo commit bb0349d) rejects it: `IOError` -/
theorem key_cut_short_rejected :
    Descriptor.readKeyR Descriptor.realTables ResaveSamples.keyCutShort 40 = .error .ioError ∧
      Descriptor.errorOf ((DescriptorPayload.codec Descriptor.realTables 4).dec ResaveSamples.keyCutShort 0) = some .ioError := by
  decide +kernel

/-- a payload inside a skeleton tagged block (`TaggedBlock.read` runs `kls.frombytes` on the bytes of the length block): the
block with the re-saved payload is well formed, is read back as itself anywhere, and its payload as the value -/
theorem tagged_block_payload_resave {α : Type} (c : PCodec α) (L : α → Prop) (hc : DecOKIf c L) (hr : c.RtAtEnd) (ver pad : Nat)
    (hp : pad = 1 ∨ pad = 2 ∨ pad = 4) (d : B) (p : Nat) (t : Psd.TaggedBlock) (p' : Nat)
    (hd : Psd.TaggedBlock.dec ver pad d p = .ok (some t, p')) (v : α) (n : Nat) (hv : c.dec t.data 0 = .ok (v, n)) (hl : L v)
    (hlen : FitsU (Psd.tbLenW ver t.key) (c.encT v).length) :
    c.enc v = .ok (c.encT v) ∧ (⟨t.signature, t.key, c.encT v⟩ : Psd.TaggedBlock).WF ver ∧
      ∀ pre post : B,
        Psd.TaggedBlock.dec ver pad (pre ++ (⟨t.signature, t.key, c.encT v⟩ : Psd.TaggedBlock).encT ver pad ++ post) pre.length =
            .ok (some ⟨t.signature, t.key, c.encT v⟩,
              pre.length + ((⟨t.signature, t.key, c.encT v⟩ : Psd.TaggedBlock).encT ver pad).length) ∧
          c.dec (c.encT v) 0 = .ok (v, c.consumed v) :=
  tagged_block_resave hc hr ver pad hp hd hv hl hlen

theorem image_resource_payload_resave {α : Type} (c : PCodec α) (L : α → Prop) (hc : DecOKIf c L) (hr : c.RtAtEnd)
    (d : B) (p : Nat) (r : Psd.Resource) (p' : Nat) (hd : Psd.Resource.dec d p = .ok (r, p')) (v : α) (n : Nat)
    (hv : c.dec r.data 0 = .ok (v, n)) (hl : L v) (hlen : FitsU 4 (c.encT v).length) :
    c.enc v = .ok (c.encT v) ∧ (⟨r.signature, r.key, r.name, c.encT v⟩ : Psd.Resource).WF ∧
      ∀ pre post : B,
        Psd.Resource.dec (pre ++ (⟨r.signature, r.key, r.name, c.encT v⟩ : Psd.Resource).encT ++ post) pre.length =
            .ok (⟨r.signature, r.key, r.name, c.encT v⟩,
              pre.length + (⟨r.signature, r.key, r.name, c.encT v⟩ : Psd.Resource).encT.length) ∧
          c.dec (c.encT v) 0 = .ok (v, c.consumed v) :=
  image_resource_resave hc hr hd hv hl hlen

/-- the typed image resource: whatever `ImageResource.read` (with the `TYPES[key].frombytes` dispatch) returns is a
well-formed typed resource that the writer accepts - under the payload's own side condition (slices, descriptor
resources) and the length field of the re-encoded payload -/
theorem typed_image_resource_dec_encodable_partial (tb : Descriptor.Tables) (ht : Descriptor.TermsFour tb) (d : B) (p : Nat)
    (r : TRes) (p' : Nat) (h : TRes.dec tb d p = .ok (r, p')) (hl : r.ResaveOK tb) : r.WF tb ∧ ∃ bs, r.enc tb = .ok bs := by
  obtain ⟨w, f⟩ := TRes.dec_ok tb ht h hl
  exact ⟨w, r.encT tb, by simp only [TRes.enc, if_pos f]⟩

/-- ... and the three clauses for it -/
theorem typed_image_resource_resave_stable_partial (tb : Descriptor.Tables) (ht : Descriptor.TermsFour tb) (b : B) (r : TRes)
    (n : Nat) (h : TRes.dec tb b 0 = .ok (r, n)) (hl : r.ResaveOK tb) :
    ∃ bs, r.enc tb = .ok bs ∧ TRes.dec tb bs 0 = .ok (r, bs.length) := by
  obtain ⟨w, bs, hbs⟩ := typed_image_resource_dec_encodable_partial tb ht b 0 r n h hl
  refine ⟨bs, hbs, ?_⟩
  have hb : bs = r.encT tb := by
    unfold TRes.enc at hbs
    split at hbs
    · cases hbs; rfl
    · cases hbs
  subst hb
  have := TRes.dec_at tb w (At.self (r.encT tb))
  simpa using this

/-- Whole documents with typed resources: whatever `PSD.read` returns, every image resource in it is a well-formed typed
resource that the writer accepts (the typed layer adds no way for `PSD.write` to fail: it fails exactly when the writer
of the deep skeleton does), the resource ids are distinct. -/
theorem dec_encodable_typed (tb : Descriptor.Tables) (ht : Descriptor.TermsFour tb) (pad : Nat) (b : B) (x : ResPSD) (p : Nat)
    (h : ResPSD.read tb b 0 = .ok (x, p)) (hl : x.ResourcesOK tb) :
    (∀ r ∈ x.resources, r.WF tb) ∧ (x.resources.map TRes.key).Nodup ∧
      ResPSD.enc tb pad x = DeepPSD.enc pad (x.flat tb) := by
  obtain ⟨a, c⟩ := ResPSD.read_resources_ok tb ht h hl
  refine ⟨fun r hr => (a r hr).1, c, ?_⟩
  have hpf : ResPSD.payloadFits tb x := fun r hr => (a r hr).2.1
  simp only [ResPSD.enc, if_pos hpf]

/-- The property for a document with typed resources, given that its skeleton part (header, colour mode data, the layer
and mask section with its nested Lr16 / Lr32 blocks, the image data - `(x.flat tb).WF`, what Props/C02.lean proves the
skeleton reader returns for the plain skeleton) is well formed: the saved bytes are read back, to the end, as the
structure that was saved (as the writer left it), and saving that again gives the same bytes. -/
theorem resave_stable_typed_partial (tb : Descriptor.Tables) (ht : Descriptor.TermsFour tb) (pad : Nat) (b : B) (x : ResPSD)
    (p : Nat) (s : B) (h : ResPSD.read tb b 0 = .ok (x, p)) (hl : x.ResourcesOK tb) (hdeep : (x.flat tb).WF pad)
    (hs : ResPSD.enc tb pad x = .ok s) :
    ResPSD.read tb s 0 = .ok (x.refresh, s.length) ∧ ResPSD.enc tb pad x.refresh = .ok s := by
  obtain ⟨a, _, _⟩ := dec_encodable_typed tb ht pad b x p h hl
  have hwf : ResPSD.WF tb pad x := ⟨hdeep, a⟩
  refine ⟨?_, by rw [ResPSD.enc_refresh, hs]⟩
  rw [ResPSD.enc_ok tb hs]
  exact ResPSD.read_encT tb hwf


/-- Readers that normalise: the re-saved bytes differ from the accepted ones, and (by the class's `…_resave_stable`) all three
clauses hold - the property does not ask for the original bytes. Each line is replayed on the real code by the harness
(harness/corpus/C02payload.json). -/
theorem normalising_readers :
    -- `try: read_fmt("H2x") except IOError: read_fmt("H")`: a 2-byte payload comes back with the filler
    ResaveSamples.resaved ShortIntegerElement.codec [0, 5] = .ok [0, 5, 0, 0] ∧
    ResaveSamples.resaved ByteElement.codec [5] = .ok [5, 0, 0, 0] ∧
    ResaveSamples.resaved BooleanElement.codec [7] = .ok [1, 0, 0, 0] ∧
    -- trailing bytes the reader never looks at are not written back
    ResaveSamples.resaved Byte.codec [7, 1, 2] = .ok [7] ∧
    -- read with `padding=2`, written with `padding=1`
    ResaveSamples.resaved PascalString.codec [0, 0] = .ok [0] ∧
    -- a flag byte is any non-zero byte; the filler of `H4x2?` is zeroed
    ResaveSamples.resaved PrintFlags.codec [2, 0, 0, 0, 0, 0, 0, 0xff] = .ok [1, 0, 0, 0, 0, 0, 0, 1] ∧
    -- `fp.read(size)` is lenient: the declared size 9 of a thumbnail with 2 bytes of data becomes 2
    ResaveSamples.resaved Thumbnail.codec ([0, 0, 0, 1, 0, 0, 0, 1, 0, 0, 0, 1, 0, 0, 0, 4, 0, 0, 0, 2] ++ [0, 0, 0, 9] ++ [0, 24, 0, 1] ++ [7, 8]) =
      .ok ([0, 0, 0, 1, 0, 0, 0, 1, 0, 0, 0, 1, 0, 0, 0, 4, 0, 0, 0, 2] ++ [0, 0, 0, 2] ++ [0, 24, 0, 1] ++ [7, 8]) ∧
    -- `Bytes`: `fp.read(4)` of a 6-byte payload
    ResaveSamples.resaved BytesElement.codec [1, 2, 3, 4, 5, 6] = .ok [1, 2, 3, 4] ∧
    -- a section divider with 5 stray bytes behind the kind
    ResaveSamples.resaved SectionDividerSetting.codec [0, 0, 0, 1, 9, 9, 9, 9, 9] = .ok [0, 0, 0, 1] := by decide +kernel


/-- an accepted payload that no writer produces: a halftone screen whose frequency has the top bit set, a flag byte 2, four
non-zero filler bytes. It is re-saved (frequency kept, flag written as 1, filler zeroed): the three clauses hold. -/
example : ∃ v, HalftoneScreens.codec.dec [0x80, 0, 0, 0, 0, 1, 0xff, 0xff, 0, 0, 0, 1, 9, 9, 9, 9, 2, 0] 0 = .ok (v, 18) ∧
    ∃ b', HalftoneScreens.codec.enc v = .ok b' ∧ b' = [0x80, 0, 0, 0, 0, 1, 0xff, 0xff, 0, 0, 0, 1, 0, 0, 0, 0, 1, 0] ∧
      HalftoneScreens.codec.dec b' 0 = .ok (v, 18) :=
  ⟨[[.int 2147483648, .int 1, .int (-65536), .int 1, .int 1, .int 0]], by decide +kernel,
    [0x80, 0, 0, 0, 0, 1, 0xff, 0xff, 0, 0, 0, 1, 0, 0, 0, 0, 1, 0], by decide +kernel, rfl, by decide +kernel⟩

example : ∃ b v n, HalftoneScreens.codec.dec b 0 = .ok (v, n) ∧ ∃ b', HalftoneScreens.codec.enc v = .ok b' ∧ b' ≠ b :=
  ⟨[0x80, 0, 0, 0, 0, 1, 0xff, 0xff, 0, 0, 0, 1, 9, 9, 9, 9, 2, 0],
    [[.int 2147483648, .int 1, .int (-65536), .int 1, .int 1, .int 0]], 18, by decide +kernel,
    [0x80, 0, 0, 0, 0, 1, 0xff, 0xff, 0, 0, 0, 1, 0, 0, 0, 0, 1, 0], by decide +kernel, by decide +kernel⟩

/-- an accepted descriptor payload: the block of `keyCutShort` with its last key in full -/
example : ResaveSamples.blockView ((DescriptorPayload.codec Descriptor.realTables 4).dec (ResaveSamples.keyCutShort ++ [99, 100]) 0) =
    .ok (ResaveSamples.keyCutShort ++ [99, 100], 48) := by decide +kernel

/-- non-vacuity of the typed-document theorem: the sample document of C01 (typed resources down to the slices and their
descriptors), read from its own bytes, satisfies every hypothesis -/
example : ∃ b x p s, ResPSD.read Samples.rtb b 0 = .ok (x, p) ∧ x.ResourcesOK Samples.rtb ∧ (x.flat Samples.rtb).WF 4 ∧
    ResPSD.enc Samples.rtb 4 x = .ok s ∧ ResPSD.read Samples.rtb s 0 = .ok (x.refresh, s.length) := by
  -- the sample is the document as `write` leaves it
  have hfresh : Samples.resDoc.refresh = Samples.resDoc := rfl
  have hwf := C01Payload3.typed_samples_wf.1
  have henc := ResPSD.enc_of_wf Samples.rtb hwf
  have hread := ResPSD.read_encT Samples.rtb hwf
  rw [hfresh] at hread
  exact ⟨_, _, _, _, hread, fun r hr => (hwf.2 r hr).resaveOK, hwf.1, henc, hfresh.symm ▸ hread⟩


end PsdVerif.C02
