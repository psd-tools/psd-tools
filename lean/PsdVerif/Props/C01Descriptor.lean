/-
C01 (descriptors) — every constructible descriptor value survives write → read, and re-writes identically.

Model: `Model/Descriptor.lean` (all of psd/descriptor.py: the 25 classes registered in `TYPES`,
`DescriptorBlock`, `DescriptorBlock2`). The lemmas are in `Lemmas/Descriptor*.lean`.

* `tb : Tables` are the three tables the code consults (`_TERMS`, `Unit`, `Enum`); the theorems hold for
  any tables, `realTables` are the ones regenerated from the source on this run.
* `enc tb v` is `v.tobytes()` (the value without its OSType; the enclosing container writes the OSType),
  `dec tb v.tag` is `type(v).frombytes` / `.read(fp)` at a cursor, `decTagged` reads OSType + value.
* `WF` (Model/Descriptor.lean): keys satisfy `Key.WF` (C20), strings have no adjacent surrogate pair (C19),
  the unit of a unit float is a member of `Unit`/`Enum`, a `dict` holds each key once, the validators of the
  block versions. On-disk widths are not in `WF`: they are the hypothesis `enc tb v = .ok bs`.
* doubles are their 64-bit patterns; "equal" is equality of patterns (Python's `==` is false on NaN).
-/
import PsdVerif.Lemmas.Descriptor3
import PsdVerif.Lemmas.Descriptor4
import PsdVerif.Lemmas.CodecPsd1

namespace PsdVerif.C01Descriptor
open PsdVerif PsdVerif.Codec PsdVerif.Descriptor

/-! ### the value classes -/

/-- every value of every class: what the class's reader returns on the written bytes, anywhere in a stream,
is the value, and the cursor is at the end of the written bytes -/
theorem descriptor_roundtrip (tb : Tables) (v : DVal) (hwf : WF tb v) (bs pre post : B) (henc : enc tb v = .ok bs) :
    dec tb v.tag (pre ++ bs ++ post) pre.length = .ok (v, pre.length + bs.length) := by
  obtain ⟨hf, rfl⟩ := enc_ok henc
  exact (dec_step hwf hf (At.intro_rest pre _ post)).1

/-- the same for an item as a container stores it: OSType, then the value (`TYPES` dispatch) -/
theorem descriptor_item_roundtrip (tb : Tables) (v : DVal) (hwf : WF tb v) (bs pre post : B) (henc : enc tb v = .ok bs) :
    decTagged tb (pre ++ (v.tag.bytes ++ bs) ++ post) pre.length = .ok (v, pre.length + (v.tag.bytes ++ bs).length) := by
  obtain ⟨hf, rfl⟩ := enc_ok henc
  have h := At.intro pre (v.tag.bytes ++ encT tb v) post
  have h1 := need_le tb v
  have h2 := h.bound
  rw [List.length_append, Tag.length_bytes] at h2
  exact (readTag_reads v.tag).bind (decBody_reads tb v _ hwf hf (by omega)) _ _ h

/-- what is read back is written again as the same bytes -/
theorem descriptor_rewrite_identical (tb : Tables) (v : DVal) (hwf : WF tb v) (bs : B) (henc : enc tb v = .ok bs)
    (v' : DVal) (n : Nat) (hread : dec tb v.tag bs 0 = .ok (v', n)) : enc tb v' = .ok bs := by
  obtain ⟨hf, rfl⟩ := enc_ok henc
  rw [dec_encT hwf hf] at hread
  cases hread
  exact henc

/-- the byte count `write` returns is the number of bytes it emitted (every `written +=` of the methods) -/
theorem written_is_length (tb : Tables) (v : DVal) (bs : B) (henc : enc tb v = .ok bs) :
    encW tb v = (bs, bs.length) := by
  obtain ⟨_, rfl⟩ := enc_ok henc
  exact encW_eq tb v

/-- the writer rejects (struct.error), it never corrupts -/
theorem descriptor_enc_rejects (tb : Tables) (v : DVal) (e : Err) (h : enc tb v = .error e) : e = .structError := by
  unfold enc at h
  split at h
  · cases h
  · cases h; rfl

/-- the reader's recursion through `TYPES` is modelled on fuel; `dec` supplies enough of it for every stream:
from a cursor inside the stream it never reports `recursionError` (the model's "out of fuel") — on any bytes,
well-formed or not -/
theorem dec_never_out_of_fuel (tb : Tables) (t : Tag) (d : B) (p : Nat) (hp : p ≤ d.length) :
    dec tb t d p ≠ .error .recursionError := by
  have h := good_dec tb d t p (Nat.zero_le _) hp
  unfold OkAt at h
  intro he
  rw [he] at h
  exact h rfl

/-- whatever the reader accepts, the cursor moved forward and stayed inside the stream -/
theorem dec_cursor_bounds (tb : Tables) (t : Tag) (d : B) (p : Nat) (hp : p ≤ d.length) (v : DVal) (p' : Nat)
    (h : dec tb t d p = .ok (v, p')) : p ≤ p' ∧ p' ≤ d.length := by
  have hg := good_dec tb d t p (Nat.zero_le _) hp
  unfold OkAt at hg
  rw [h] at hg
  exact hg

/-! ### the block wrappers -/

/-- `DescriptorBlock`: the reader returns the block and stops where the body ends; the writer's filler
(`write_padding(fp, written, padding)`) is all that follows -/
theorem descriptor_block_roundtrip (tb : Tables) (pad : Nat) (b : Block) (hwf : b.WF tb) (bs pre post : B)
    (henc : b.enc tb pad = .ok bs) :
    Block.dec tb (pre ++ bs ++ post) pre.length = .ok (b, pre.length + b.bodyLen tb) ∧
      b.bodyLen tb + padAmount (b.bodyLen tb) pad = bs.length := by
  obtain ⟨hf, rfl⟩ := Block.enc_ok henc
  exact ⟨Block.dec_at hwf hf (At.intro pre _ post), (Block.length_encT tb pad b).symm⟩

theorem descriptor_block2_roundtrip (tb : Tables) (pad : Nat) (b : Block2) (hwf : b.WF tb) (bs pre post : B)
    (henc : b.enc tb pad = .ok bs) :
    Block2.dec tb (pre ++ bs ++ post) pre.length = .ok (b, pre.length + b.bodyLen tb) ∧
      b.bodyLen tb + padAmount (b.bodyLen tb) pad = bs.length := by
  obtain ⟨hf, rfl⟩ := Block2.enc_ok henc
  exact ⟨Block2.dec_at hwf hf (At.intro pre _ post), (Block2.length_encT tb pad b).symm⟩

theorem descriptor_block_rewrite_identical (tb : Tables) (pad : Nat) (b : Block) (hwf : b.WF tb) (bs : B)
    (henc : b.enc tb pad = .ok bs) (b' : Block) (n : Nat) (hread : Block.dec tb bs 0 = .ok (b', n)) :
    b'.enc tb pad = .ok bs := by
  obtain ⟨hf, rfl⟩ := Block.enc_ok henc
  rw [Block.dec_encT hwf hf] at hread
  cases hread
  exact henc

theorem descriptor_block2_rewrite_identical (tb : Tables) (pad : Nat) (b : Block2) (hwf : b.WF tb) (bs : B)
    (henc : b.enc tb pad = .ok bs) (b' : Block2) (n : Nat) (hread : Block2.dec tb bs 0 = .ok (b', n)) :
    b'.enc tb pad = .ok bs := by
  obtain ⟨hf, rfl⟩ := Block2.enc_ok henc
  rw [Block2.dec_encT hwf hf] at hread
  cases hread
  exact henc

theorem block_written_is_length (tb : Tables) (pad : Nat) (b : Block) (bs : B) (henc : b.enc tb pad = .ok bs) :
    b.encW tb pad = (bs, bs.length) := by
  obtain ⟨_, rfl⟩ := Block.enc_ok henc
  exact Block.encW_eq tb pad b

theorem block2_written_is_length (tb : Tables) (pad : Nat) (b : Block2) (bs : B) (henc : b.enc tb pad = .ok bs) :
    b.encW tb pad = (bs, bs.length) := by
  obtain ⟨_, rfl⟩ := Block2.enc_ok henc
  exact Block2.encW_eq tb pad b

/-! ### a descriptor block as the payload of a tagged block (composition with the file skeleton of Props/C01.lean)

`TaggedBlock.write` emits `data.write(f, padding = 1 if padding == 4 else 4)` inside a length block;
`TaggedBlock.read` takes the length block and calls `kls.frombytes(raw_data)`, i.e. runs the payload reader from
position 0 of its own `BytesIO`. In the skeleton model the payload is the byte string `t.data`. -/

theorem tagged_block_descriptor_payload_roundtrip (tb : Tables) (v pad : Nat) (hp : pad = 1 ∨ pad = 2 ∨ pad = 4)
    (t : Psd.TaggedBlock) (hwf : t.WF v) (b : Block) (hb : b.WF tb)
    (henc : b.enc tb (if pad = 4 then 1 else 4) = .ok t.data) (pre post : B) :
    Psd.TaggedBlock.dec v pad (pre ++ t.encT v pad ++ post) pre.length = .ok (some t, pre.length + (t.encT v pad).length) ∧
      Block.dec tb t.data 0 = .ok (b, b.bodyLen tb) := by
  obtain ⟨hf, e⟩ := Block.enc_ok henc
  exact ⟨Psd.TaggedBlock.dec_at hp hwf (At.intro pre _ post), e ▸ Block.dec_encT hb hf⟩

theorem tagged_block_descriptor2_payload_roundtrip (tb : Tables) (v pad : Nat) (hp : pad = 1 ∨ pad = 2 ∨ pad = 4)
    (t : Psd.TaggedBlock) (hwf : t.WF v) (b : Block2) (hb : b.WF tb)
    (henc : b.enc tb (if pad = 4 then 1 else 4) = .ok t.data) (pre post : B) :
    Psd.TaggedBlock.dec v pad (pre ++ t.encT v pad ++ post) pre.length = .ok (some t, pre.length + (t.encT v pad).length) ∧
      Block2.dec tb t.data 0 = .ok (b, b.bodyLen tb) := by
  obtain ⟨hf, e⟩ := Block2.enc_ok henc
  exact ⟨Psd.TaggedBlock.dec_at hp hwf (At.intro pre _ post), e ▸ Block2.dec_encT hb hf⟩

/-! ### ties to the regenerated tables -/

/-- the model's OSType → class table is `descriptor.TYPES` of the working tree -/
theorem types_tied :
    (∀ x ∈ modelTypes, x ∈ Generated.Descriptor.types) ∧ (∀ x ∈ Generated.Descriptor.types, x ∈ modelTypes) ∧
      Generated.Descriptor.types.length = 25 := by decide +kernel

/-- every member of `OSType` has a class (`TYPES.get(ostype)` is never `None`): an unknown OSType is a
`ValueError` from `OSType(…)`, there is no `AttributeError` path -/
theorem ostypes_all_registered : Generated.Descriptor.osTypes = Generated.Descriptor.types.map (·.1) := rfl

theorem tags_complete : (∀ t : Tag, t ∈ Tag.all) ∧ (Tag.all.map Tag.bytes).Nodup :=
  ⟨Tag.mem_all, by decide +kernel⟩

/-- `Unit` and `Enum` values are 4 bytes long and the two enums share no value: for the regenerated tables the
width clause and the (F) clause of `UnitWF` follow from membership -/
theorem unit_enum_tables :
    (∀ b ∈ Generated.Descriptor.unitValues, b.length = 4) ∧ (∀ b ∈ Generated.Descriptor.enumValues, b.length = 4) ∧
      (∀ b ∈ Generated.Descriptor.enumValues, b ∉ Generated.Descriptor.unitValues) :=
  ⟨by decide +kernel, by decide +kernel, fun b he hu => unit_enum_heads.2 b he (unit_enum_heads.1 b hu)⟩

/-- with the regenerated tables `UnitWF` says: the unit is a member of the enum it claims -/
theorem unitWF_real_iff (u : UnitRef) :
    UnitWF realTables u ↔
      (if u.isUnit then u.code ∈ Generated.Descriptor.unitValues else u.code ∈ Generated.Descriptor.enumValues) := by
  obtain ⟨h1, h2, h3⟩ := unit_enum_tables
  obtain ⟨c, b⟩ := u
  cases c <;> simp only [UnitWF, realTables, List.contains_iff_mem, Bool.false_eq_true, if_false, if_true]
  · constructor
    · intro h; exact h.2.1
    · intro h; exact ⟨h2 b h, h, by simpa using h3 b h⟩
  · constructor
    · intro h; exact h.2
    · intro h; exact ⟨h1 b h, h⟩

/-- the `in_((16,))` validators; `DescriptorBlock2.version` has none -/
theorem block_versions_tied :
    Generated.Descriptor.blockVersions = [16] ∧ Generated.Descriptor.block2DataVersions = [16] ∧
      Generated.Descriptor.block2VersionValidated = false := ⟨rfl, rfl, rfl⟩

/-- every `struct` format literal of descriptor.py is the one the model implements -/
theorem formats_tied : Generated.Descriptor.formats = modelFormats := rfl

/-- `RawData` uses the defaults of read/write_length_block (fmt "I", padding 1); unicode strings are written
with padding 1 or the default (1) -/
theorem length_block_and_padding_tied :
    Generated.Descriptor.lengthBlockCalls =
      [("RawData", "read", "read_length_block", ""), ("RawData", "write", "write_length_block", "")] ∧
    Generated.Descriptor.unicodePaddings = ["1", "default"] := ⟨rfl, rfl⟩

/-- `KeyWF` is the key well-formedness of C20 -/
theorem keyWF_is_globals (tb : Tables) (k : Key) : KeyWF tb k ↔ Globals.Key.WF tb.terms k := Iff.rfl

/-! ### non-vacuity -/

/-- a descriptor whose containers nest three deep below the top level and that uses every class -/
theorem sample_wf : WF realTables Samples.sample := Samples.evaluated.wf

theorem sample_fits : Fits realTables Samples.sample := Samples.evaluated.fits

theorem sample_uses_every_class : ∀ t ∈ Tag.all, t ∈ Samples.tagsVal Samples.sample := by decide +kernel

theorem sample_depth : need Samples.sample = 5 := by decide +kernel

example : ∃ bs, enc realTables Samples.sample = .ok bs ∧ bs.length = 613 ∧
    dec realTables Samples.sample.tag bs 0 = .ok (Samples.sample, bs.length) :=
  ⟨_, if_pos sample_fits, Samples.evaluated.length, dec_encT sample_wf sample_fits⟩

theorem sample_block_wf : Samples.block.WF realTables ∧ Samples.block2.WF realTables :=
  ⟨Samples.evaluated.blockWF, Samples.evaluated.block2WF⟩

example : ∃ bs, Samples.block.enc realTables 4 = .ok bs ∧
    Block.dec realTables bs 0 = .ok (Samples.block, Samples.block.bodyLen realTables) :=
  ⟨_, if_pos Samples.evaluated.blockFits, Block.dec_encT sample_block_wf.1 Samples.evaluated.blockFits⟩

/-! ### points excluded by `WF`: the full-strength statement fails on them (evaluated; replayed on the real code) -/

/-- `Enumerated(typeID=b"", enum=b"")`: a key of length 0 that is not a term is written as length 0 and no bytes;
the reader then takes the next four bytes as an implicit key and runs out of data -/
theorem zero_length_key_not_roundtrip :
    enc realTables (.enumerated ⟨[], false⟩ ⟨[], false⟩) = .ok [0, 0, 0, 0, 0, 0, 0, 0] ∧
      errorOf (dec realTables .enumerated [0, 0, 0, 0, 0, 0, 0, 0] 0) = some .ioError := by decide +kernel

/-- `String(chr(0xD800) + chr(0xDC00))`: an adjacent surrogate pair is written as two units and read back as one character -/
theorem surrogate_pair_string_not_roundtrip :
    enc realTables (.string [0xD800, 0xDC00]) = .ok [0, 0, 0, 2, 0xD8, 0, 0xDC, 0] ∧
      stringOf (dec realTables .string [0, 0, 0, 2, 0xD8, 0, 0xDC, 0] 0) = some [0x10000] := by decide +kernel

end PsdVerif.C01Descriptor
