/-
C03, payload interiors — every length and count field *inside* the payloads the library writes is truthful, against an
independent reading of the published layouts.

`Model/WalkerPayload.lean` holds the specification walkers (written from the Adobe text; deviations D1..D8 recorded in its
header): they read a length or a count, visit exactly that much, and must land where the enclosing length says. The writers
are the `PCodec` models of C01 (tied to psd-tools by the C01 correspondence), imported, not modified.

* `payload_walker_accepts_*`: for every well-formed value of the class, the walker accepts exactly the bytes the class's
  writer emits (`PCodec.enc`), wherever they lie (`Walks`) / as a whole payload (`runOn`, up to the recorded filler), and
  the regions it reports are the expected spans, each delimiting the encoding of the sub-value listed beside it.
  Families: unicode strings, Pascal strings, descriptor keys, the descriptor structure with all 25 OSType classes (by
  induction on the nesting bound), `DescriptorBlock` / `DescriptorBlock2` payloads, the effects layer, the unicode-string block (`luni`).
* `payload_lengths_truthful_*`: each inner length / count field, read as a big-endian number, is the byte length / item count
  of the encoding of the sub-value it announces.
* `typed_block_payload_walks_*` and `lengths_truthful_typed`: the lift to typed documents (Model/TypedDoc.lean): the skeleton
  walker's regions on the bytes of a typed document delimit the encodings of the sub-values of its bytes view, and the payload
  the skeleton leaves opaque - `(t.flat …).data`, the bytes between a tagged block's length field and its filler - is
  accepted by the payload walker of the block's key, for blocks at every `Lr16` / `Lr32` nesting level (`n` is arbitrary).
* `*_rejected`: plausible slips of a writer, each rejected by the walker (`decide`): a unicode count in characters instead of
  UTF-16 code units (astral character), a Pascal length clamped while all the data is written, a 4-byte length where the
  layout has 8, a count that includes a trailer, a descriptor item count one too large.
* `*_tied`: the keys the walkers dispatch on against the regenerated registry `tagged_blocks.TYPES`.

Not proved here (correspondence and search only: `harness/c03_payload.py` drives the same walkers over every fixture and
over everything the library writes): patterns / virtual memory arrays, linked layers, filter effects, paths, slices, type
tool, placed layers, metadata, and the recursion of `walkDeep` through `Lr16` / `Lr32`.
-/
import PsdVerif.Lemmas.WalkerPayload
import PsdVerif.Props.C03Pixels
import PsdVerif.Props.C01Typed

namespace PsdVerif.C03
open PsdVerif PsdVerif.Codec PsdVerif.Walker PsdVerif.WalkerPayload PsdVerif.Payload PsdVerif.Payload.PCodec

/-! ## 1. the walkers accept what the writers emit -/

/-- **unicode string** (`write_unicode_string`, padding 1): the walker reads the count, steps over two bytes per UTF-16 code
unit and lands on the end of the string; one region, delimiting the string -/
theorem payload_walker_accepts_unicode_string (s : Descriptor.Str) (hf : Descriptor.StrFits s) :
    Walks pUStr (Descriptor.strT s) (strSpans s) := walks_ustr s hf

/-- **Pascal string** (`write_pascal_string`, any padding) -/
theorem payload_walker_accepts_pascal_string (pad : Nat) (s : B) (hf : s.length < 256) :
    Walks (pPascal pad) (pascalT pad s) (fun p => [⟨⟨p, (pascalT pad s).length, "pascal-string"⟩, pascalT pad s⟩]) :=
  walks_pascal pad s hf

/-- **descriptor key / class id** (`write_length_and_key`) -/
theorem payload_walker_accepts_descriptor_key (tb : Descriptor.Tables) (k : Descriptor.Key) (hwf : Descriptor.KeyWF tb k)
    (hf : Descriptor.KeyFits tb k) : Walks pKey (Descriptor.keyT tb k) (keySpans tb k) := walks_key tb k hwf hf

/-- **every descriptor class** (the 25 classes of `descriptor.TYPES`): what `v.write` emits is walked, by the layout the
specification gives the OSType of `v`, exactly to its end - nested lists, references, descriptors, global objects and object
arrays to any depth; the regions are `valSpans tb v` (the value, then every string, key, raw block and nested value) -/
theorem payload_walker_accepts_descriptor_value (tb : Descriptor.Tables) (v : Descriptor.DVal) (hwf : Descriptor.WF tb v)
    (bs : B) (henc : Descriptor.enc tb v = .ok bs) (fuel : Nat) (hfuel : bs.length + 1 ≤ fuel) :
    Walks (pVal fuel (shapeOfTag v.tag)) bs (valSpans tb v) ∧ shapeOf v.tag.bytes = some (shapeOfTag v.tag) := by
  obtain ⟨hf, rfl⟩ := Descriptor.enc_ok henc
  exact ⟨walks_val tb v fuel hwf hf (Nat.le_trans (Descriptor.need_le tb v) hfuel), shapeOf_bytes v.tag⟩

/-- **`DescriptorBlock` as a payload** (`SoCo`, `GdFl`, `vstk`, `artb`, image resources 1065…, any padding up to 4): the whole
payload is accepted, filler included, and the regions delimit the sub-encodings -/
theorem payload_walker_accepts_descriptor_block (tb : Descriptor.Tables) (pad : Nat) (hp : 0 < pad ∧ pad ≤ 4)
    (b : Descriptor.Block) (hwf : (Payload3.DescriptorPayload.codec tb pad).WF b) (bs : B)
    (henc : (Payload3.DescriptorPayload.codec tb pad).enc b = .ok bs) :
    runOn pDescBlock 3 bs = .ok (regionsOf (blockSpans tb b 0)) ∧ ∀ s ∈ blockSpans tb b 0, Delimits bs s.region s.bytes := by
  obtain ⟨hf, rfl⟩ := enc_ok henc
  have h := runOn_of_walks (walks_descBlock tb b hwf hf) (zeros (padAmount (b.bodyLen tb) pad)) (slack := 3)
    (filler_le _ pad hp.1 hp.2)
  rw [← Block.encT_split] at h
  exact ⟨h.1, fun s hs => delimits_of_holds (h.2 s hs)⟩

/-- **`DescriptorBlock2` as a payload** (`lfx2`, `lmfx`, `lfxs`, `vogk`) -/
theorem payload_walker_accepts_descriptor_block2 (tb : Descriptor.Tables) (pad : Nat) (hp : 0 < pad ∧ pad ≤ 4)
    (b : Descriptor.Block2) (hwf : (Payload3.Descriptor2Payload.codec tb pad).WF b) (bs : B)
    (henc : (Payload3.Descriptor2Payload.codec tb pad).enc b = .ok bs) :
    runOn pDescBlock2 3 bs = .ok (regionsOf (block2Spans tb b 0)) ∧ ∀ s ∈ block2Spans tb b 0, Delimits bs s.region s.bytes := by
  obtain ⟨hf, rfl⟩ := enc_ok henc
  have h := runOn_of_walks (walks_descBlock2 tb b hwf hf) (zeros (padAmount (b.bodyLen tb) pad)) (slack := 3)
    (filler_le _ pad hp.1 hp.2)
  rw [← Block2.encT_split] at h
  exact ⟨h.1, fun s hs => delimits_of_holds (h.2 s hs)⟩

/-- **effects layer** (`lrFX`): version, count, then exactly `count` effects, each `8BIM`, key, size, `size` bytes; the filler
to a multiple of 4 is inside the slack -/
theorem payload_walker_accepts_effects_layer (x : EffectsLayer) (bs : B) (henc : EffectsLayer.codec.enc x = .ok bs) :
    runOn pEffects 3 bs = .ok (regionsOf (effectsSpans x 0)) ∧ ∀ s ∈ effectsSpans x 0, Delimits bs s.region s.bytes := by
  obtain ⟨hf, rfl⟩ := enc_ok henc
  have h := runOn_of_walks (walks_effects x hf) (zeros (padAmount x.bodyT.length 4)) (slack := 3)
    (filler_le _ 4 (by decide) (by decide))
  exact ⟨h.1, fun s hs => delimits_of_holds (h.2 s hs)⟩

/-- **unicode-string block** (`luni`, image resources 1086 / 1087 / 1051), written with filler to a multiple of `pw ≤ 4` -/
theorem payload_walker_accepts_string_element (pw pr : Nat) (hp : 0 < pw ∧ pw ≤ 4) (s : Payload.Str)
    (hwf : (StringElement.codec pw pr).WF s) (bs : B) (henc : (StringElement.codec pw pr).enc s = .ok bs) :
    runOn pUStr 3 bs = .ok (regionsOf (strSpans s 0)) ∧ ∀ x ∈ strSpans s 0, Delimits bs x.region x.bytes := by
  obtain ⟨hf, rfl⟩ := enc_ok henc
  have h := runOn_of_walks (walks_ustr s ⟨hwf.1, hf⟩) (zeros (padAmount (Descriptor.strT s).length pw)) (slack := 3)
    (filler_le _ pw hp.1 hp.2)
  exact ⟨h.1, fun x hx => delimits_of_holds (h.2 x hx)⟩

/-! ## 2. each inner length / count is the size / number of what it announces -/

/-- unicode string: the count field is the number of UTF-16 code units, and two bytes follow per unit -/
theorem payload_lengths_truthful_unicode_string (s : Descriptor.Str) (hf : Descriptor.StrFits s) :
    Descriptor.strT s = beBytes 4 (Unicode.encUnits s).length ++ Unicode.bytesOfUnits (Unicode.encUnits s) ∧
      beVal (beBytes 4 (Unicode.encUnits s).length) = (Unicode.encUnits s).length ∧
      (Unicode.bytesOfUnits (Unicode.encUnits s)).length = 2 * (Unicode.encUnits s).length :=
  ⟨by rw [Descriptor.strT, be32_eq_beBytes hf.2], beVal_beBytes 4 _ (by simpa using hf.2), Unicode.bytesOfUnits_length _⟩

/-- descriptor key: the length field is the number of key bytes that follow, or 0 for a 4-byte id -/
theorem payload_lengths_truthful_descriptor_key (tb : Descriptor.Tables) (k : Descriptor.Key) (hwf : Descriptor.KeyWF tb k)
    (hf : Descriptor.KeyFits tb k) :
    Descriptor.keyT tb k = beBytes 4 (Descriptor.keyLen tb k) ++ k.bytes ∧
      beVal (beBytes 4 (Descriptor.keyLen tb k)) = Descriptor.keyLen tb k ∧
      (Descriptor.keyLen tb k = k.bytes.length ∨ (Descriptor.keyLen tb k = 0 ∧ k.bytes.length = 4)) := by
  refine ⟨by rw [Descriptor.keyT, beBytes4_eq_u32be], beVal_beBytes 4 _ (by unfold Descriptor.KeyFits at hf; simpa using hf), ?_⟩
  obtain ⟨h1, h2, _⟩ := hwf
  unfold Descriptor.keyLen
  cases ht : tb.terms k.bytes <;> cases hi : k.implicit <;> simp only [Bool.or_self, Bool.or_true, Bool.true_or,
    Bool.false_eq_true, if_false, if_true]
  · exact Or.inl trivial
  · exact Or.inr ⟨trivial, (h1 hi).1⟩
  · exact Or.inr ⟨trivial, h2 ht⟩
  · exact Or.inr ⟨trivial, h2 ht⟩

/-- descriptor structure: name, class id, then the item count - the number of (key, OSType, value) items that follow -/
theorem payload_lengths_truthful_descriptor_structure (tb : Descriptor.Tables) (nm : Descriptor.Str) (cid : Descriptor.Key)
    (items : Descriptor.Items) (hlen : items.length < 4294967296) :
    Descriptor.bodyT tb nm cid items =
        Descriptor.strT nm ++ (Descriptor.keyT tb cid ++ (beBytes 4 items.length ++ Descriptor.encItemsT tb items)) ∧
      beVal (beBytes 4 items.length) = items.length :=
  ⟨rfl, beVal_beBytes 4 _ (by simpa using hlen)⟩

/-- list / reference: the count is the number of (OSType, value) items; raw data / alias / path: the length is the size of
the data; unit floats: the count is the number of doubles -/
theorem payload_lengths_truthful_descriptor_containers (tb : Descriptor.Tables) :
    (∀ t items, Descriptor.Fits tb (.list t items) →
      Descriptor.encT tb (.list t items) = beBytes 4 items.length ++ Descriptor.encListT tb items ∧
        beVal (beBytes 4 items.length) = items.length) ∧
    (∀ t data, Descriptor.Fits tb (.raw t data) →
      Descriptor.encT tb (.raw t data) = beBytes 4 data.length ++ data ∧ beVal (beBytes 4 data.length) = data.length) ∧
    (∀ u vs, Descriptor.Fits tb (.unitFloats u vs) →
      Descriptor.encT tb (.unitFloats u vs) = Descriptor.unitT u ++ (beBytes 4 vs.length ++ listT Descriptor.f64T vs) ∧
        beVal (beBytes 4 vs.length) = vs.length ∧ (listT Descriptor.f64T vs).length = 8 * vs.length) := by
  refine ⟨fun t items hf => ?_, fun t data hf => ?_, fun u vs hf => ?_⟩
  · simp only [Descriptor.Fits] at hf
    exact ⟨by simp only [Descriptor.encT], beVal_beBytes 4 _ (by simpa using hf.1)⟩
  · simp only [Descriptor.Fits] at hf
    exact ⟨by simp only [Descriptor.encT, lenBlockT_simple], beVal_beBytes 4 _ (by simpa using hf)⟩
  · simp only [Descriptor.Fits] at hf
    exact ⟨by simp only [Descriptor.encT], beVal_beBytes 4 _ (by simpa using hf.1), length_listT_f64T vs⟩

/-- effects layer: the count is the number of effects; each effect's size field is the size of its encoding; the count the
writer returns is the number of bytes emitted (C01's `Count` law) -/
theorem payload_lengths_truthful_effects_layer (x : EffectsLayer) (hf : x.Fits) :
    x.bodyT = beBytes 2 x.version ++ (beBytes 2 x.items.length ++ listT EffectsLayer.itemT x.items) ∧
      beVal (beBytes 2 x.items.length) = x.items.length ∧
      (∀ kv ∈ x.items, EffectsLayer.itemT kv = sig8BIM ++ (pack4s kv.1 ++ (beBytes 4 kv.2.encT.length ++ kv.2.encT)) ∧
        beVal (beBytes 4 kv.2.encT.length) = kv.2.encT.length) ∧
      (EffectsLayer.codec.encP x).2 = (EffectsLayer.codec.encT x).length := by
  obtain ⟨_, fc, fi⟩ := hf
  refine ⟨by simp only [EffectsLayer.bodyT, List.append_assoc], beVal_beBytes 2 _ fc, fun kv hkv => ?_, ?_⟩
  · exact ⟨by simp only [EffectsLayer.itemT, lenBlockT_simple, List.append_assoc], beVal_beBytes 4 _ (fi kv hkv).2⟩
  · rw [EffectsLayer.count x]

/-! ## 3. typed documents -/

section Typed
open PsdVerif.Typed PsdVerif.Psd

/-- the payload walker of a key whose payload is a `DescriptorBlock` accepts the payload bytes of the typed block - the bytes
the skeleton walker leaves opaque - at every nesting level `n`, in a layer record (`pad = 1`) or at document level (`pad = 4`) -/
theorem typed_block_payload_walks_descriptor (tb : Descriptor.Tables) (n ver pad : Nat) (hp : pad = 1 ∨ pad = 4)
    (t : Blk (PayN n)) (b : Descriptor.Block) (hd : t.data = .cls .descriptorBlock b) (hk : t.key ∈ Keys.descriptorKeys)
    (hwf : t.WF (kitN tb n) ver pad) :
    (t.flat (kitN tb n) ver pad).data = b.encT tb (innerPad pad) ∧
      walkBlockPayload ver t.key (t.flat (kitN tb n) ver pad).data = .ok (regionsOf (blockSpans tb b 0)) ∧
      ∀ s ∈ blockSpans tb b 0, Delimits (t.flat (kitN tb n) ver pad).data s.region s.bytes := by
  obtain ⟨_, hfit, hpay⟩ := hwf
  have hdata : (t.flat (kitN tb n) ver pad).data = b.encT tb (innerPad pad) := by
    simp only [Blk.flat, kitN, payKit, hd, Pay.encT, TClass.codec, Payload3.DescriptorPayload.codec]
  rw [hd] at hfit hpay
  have hpad : 0 < innerPad pad ∧ innerPad pad ≤ 4 := by rcases hp with rfl | rfl <;> decide
  have hw : blockWalker ver t.key = some pDescBlock := by simp only [blockWalker, if_pos hk]
  have hs : blockSlack t.key = 3 := (by decide +kernel : ∀ k ∈ Keys.descriptorKeys, blockSlack k = 3) _ hk
  have h := payload_walker_accepts_descriptor_block tb (innerPad pad) hpad b hpay.2 (b.encT tb (innerPad pad))
    (by have hfit' : Descriptor.Block.Fits tb b := hfit
        simp only [PCodec.enc, Payload3.DescriptorPayload.codec]; exact if_pos hfit')
  refine ⟨hdata, ?_, ?_⟩
  · rw [hdata]; simp only [walkBlockPayload, hw, hs, h.1]
  · rw [hdata]; exact h.2

/-- the same for the effects layer (`lrFX`) -/
theorem typed_block_payload_walks_effects (tb : Descriptor.Tables) (n ver pad : Nat)
    (t : Blk (PayN n)) (x : EffectsLayer) (hd : t.data = .cls .effectsLayer x) (hk : t.key = Keys.lrFX)
    (hwf : t.WF (kitN tb n) ver pad) :
    (t.flat (kitN tb n) ver pad).data = x.encT ∧
      walkBlockPayload ver t.key (t.flat (kitN tb n) ver pad).data = .ok (regionsOf (effectsSpans x 0)) ∧
      ∀ s ∈ effectsSpans x 0, Delimits (t.flat (kitN tb n) ver pad).data s.region s.bytes := by
  obtain ⟨_, hfit, _⟩ := hwf
  have hdata : (t.flat (kitN tb n) ver pad).data = x.encT := by
    simp only [Blk.flat, kitN, payKit, hd, Pay.encT, TClass.codec, EffectsLayer.codec]
  rw [hd] at hfit
  have hw : blockWalker ver t.key = some pEffects := by
    rw [hk]; unfold blockWalker
    rw [if_neg (by decide +kernel), if_neg (by decide +kernel), if_neg (by decide +kernel), if_pos rfl]
  have hs : blockSlack t.key = 3 := by rw [hk]; decide +kernel
  have h := payload_walker_accepts_effects_layer x x.encT
    (by have hfit' : x.Fits := hfit
        simp only [PCodec.enc, EffectsLayer.codec]; exact if_pos hfit')
  refine ⟨hdata, ?_, ?_⟩
  · rw [hdata]; simp only [walkBlockPayload, hw, hs, h.1]
  · rw [hdata]; exact h.2

/-- **lengths_truthful_typed.** A typed document (image resources, document-level blocks and per-layer blocks as objects of
their registered classes, through any `Lr16` / `Lr32` nesting): the skeleton walker visits the bytes `PSD.write` emits to
their end, reports exactly the regions of `fileSpans` of the bytes view, and each delimits the encoding of its sub-value -
where the encoding of a tagged block is signature, key, length, *the encoding of the typed payload*, filler
(`Blk.flat`; `C03Pixels.prefix_tagged_block` locates the payload inside the region). The payload itself is then walked by
`typed_block_payload_walks_*` (level-generic: `n` there is arbitrary, so blocks nested in `Lr16` / `Lr32` payloads are
covered; the nested layer info is the skeleton's `walkRecords` / `walkChannels` again, `pLayerInfoBody`). -/
theorem lengths_truthful_typed (tb : Descriptor.Tables) (n pad : Nat) (hp : pad = 1 ∨ pad = 2 ∨ pad = 4) (x : TPSDN n)
    (hwf : x.WF tb (kitBelow tb n) pad) (hskel : (x.flat tb (kitBelow tb n)).WF pad)
    (hshape : SpecShaped (x.flat tb (kitBelow tb n))) (bs : B) (henc : TPSD.enc tb (kitBelow tb n) pad x = .ok bs) :
    ∃ L, walk bs = .ok L ∧ L.stop = bs.length ∧
      L.regions = (fileSpans pad (x.flat tb (kitBelow tb n))).map Span.region ∧
      (∀ s ∈ fileSpans pad (x.flat tb (kitBelow tb n)), Delimits bs s.region s.bytes) ∧
      PSD.read bs 0 = .ok ((x.flat tb (kitBelow tb n)).refresh, bs.length) := by
  obtain ⟨h1, h2⟩ := C01Typed.typed_refines_skeleton tb n pad x hwf bs henc
  obtain ⟨L, a, b, c, d⟩ := C03Pixels.lengths_truthful pad hp _ hskel hshape bs h1
  exact ⟨L, a, b, c, d, h2⟩

end Typed

/-! ## 4. plausible slips, rejected -/

/-- a unicode count in *characters* where the format counts UTF-16 code units: U+1F600 written as one character with its two
code units - the walker stops two bytes short of the declared end; with the count 2 it is accepted -/
theorem astral_count_in_characters_rejected :
    (runOn pUStr 0 [0, 0, 0, 1, 0xD8, 0x3D, 0xDE, 0x00]).toOption = none ∧
      (runOn pUStr 0 [0, 0, 0, 2, 0xD8, 0x3D, 0xDE, 0x00]).toOption = some [⟨0, 8, "unicode-string"⟩] := by decide +kernel

/-- a Pascal length clamped to 255 while all 300 bytes of the data are written (resource 1006, alpha names) -/
theorem pascal_clamped_length_rejected :
    (walkResourcePayload 1006 (255 :: List.replicate 300 65)).toOption = none ∧
      (walkResourcePayload 1006 (255 :: List.replicate 255 65)).toOption = some [⟨0, 256, "pascal-string"⟩] := by
  decide +kernel

/-- a 4-byte length where the layout has an 8-byte one (a linked layer entry in `lnk2`) -/
theorem four_byte_length_for_eight_rejected :
    (walkBlockPayload 2 [108, 110, 107, 50] ([0, 0, 0, 8] ++ [108, 105, 70, 65, 0, 0, 0, 1])).toOption = none := by
  decide +kernel

/-- a count that includes a trailer: an effects layer announcing 2 effects and holding one (plus filler) -/
theorem count_including_trailer_rejected :
    (walkBlockPayload 1 Keys.lrFX ([0, 0, 0, 2] ++ FX.sig ++ FX.cmnS ++ [0, 0, 0, 7, 0, 0, 0, 0, 1, 0, 0] ++ [0])).toOption = none ∧
      (walkBlockPayload 1 Keys.lrFX ([0, 0, 0, 1] ++ FX.sig ++ FX.cmnS ++ [0, 0, 0, 7, 0, 0, 0, 0, 1, 0, 0] ++ [0])).toOption =
        some [⟨4, 19, "effect"⟩] := by decide +kernel

/-- a descriptor whose item count is one more than the items written -/
theorem descriptor_count_off_by_one_rejected :
    (runOn pDescBlock 3 ([0, 0, 0, 16] ++ [0, 0, 0, 0] ++ [0, 0, 0, 0, 110, 117, 108, 108] ++ [0, 0, 0, 2] ++
      [0, 0, 0, 0, 79, 112, 99, 116, 98, 111, 111, 108, 1])).toOption = none ∧
    ((runOn pDescBlock 3 ([0, 0, 0, 16] ++ [0, 0, 0, 0] ++ [0, 0, 0, 0, 110, 117, 108, 108] ++ [0, 0, 0, 1] ++
      [0, 0, 0, 0, 79, 112, 99, 116, 98, 111, 111, 108, 1])).toOption.map List.length) = some 5 := by decide +kernel

/-! ## 5. non-vacuity: the hypotheses are satisfiable, the walkers are run inside Lean -/

example : Descriptor.StrFits [0x1F600, 65] ∧ Descriptor.strT [0x1F600, 65] = [0, 0, 0, 3, 0xD8, 0x3D, 0xDE, 0x00, 0, 65] := by decide +kernel

/-- the C01 sample descriptor (three levels of nesting, every reference form): well-formed, writable, and walked -/
example : Descriptor.WF Typed.Samples.rtb Descriptor.Samples.reference ∧ Descriptor.Fits Typed.Samples.rtb Descriptor.Samples.reference ∧
    ((pVal 200 .list (Descriptor.encT Typed.Samples.rtb Descriptor.Samples.reference) 0).toOption.map (fun r => r.2)) =
      some (Descriptor.encT Typed.Samples.rtb Descriptor.Samples.reference).length := by decide +kernel

/-! ## 6. ties: the keys the walkers dispatch on against the regenerated registry -/

/-- the keys `tagged_blocks.TYPES` gives a `DescriptorBlock` / `DescriptorBlock2` / `EffectsLayer` / `LayerInfoBlock` /
`Patterns` / `LinkedLayers` payload are keys the walkers dispatch to the walker of that layout -/
theorem walker_keys_tied :
    (∀ r ∈ Generated.TypedDoc.taggedRegistry, r.2 = "DescriptorBlock" → r.1 ∈ Keys.descriptorKeys) ∧
    (∀ r ∈ Generated.TypedDoc.taggedRegistry, r.2 = "DescriptorBlock2" → r.1 ∈ Keys.descriptor2Keys) ∧
    (∀ r ∈ Generated.TypedDoc.taggedRegistry, r.2 = "EffectsLayer" → r.1 = Keys.lrFX) ∧
    (∀ r ∈ Generated.TypedDoc.taggedRegistry, r.2 = "LayerInfoBlock" → r.1 ∈ Keys.layerInfoKeys) ∧
    (∀ r ∈ Generated.TypedDoc.taggedRegistry, r.2 = "Patterns" → r.1 ∈ Keys.patternKeys) ∧
    (∀ r ∈ Generated.TypedDoc.taggedRegistry, r.2 = "LinkedLayers" → r.1 ∈ Keys.linkedKeys) ∧
    (∀ r ∈ Generated.TypedDoc.taggedRegistry, r.2 = "VectorMaskSetting" → r.1 ∈ Keys.vectorMaskKeys) ∧
    (∀ r ∈ Generated.TypedDoc.taggedRegistry, r.2 = "StringElement" → r.1 = Keys.luni) := by decide +kernel

/-- every class of the registry whose payload has interior lengths or counts has a walker under each of its keys -/
theorem walker_coverage_tied :
    ∀ r ∈ Generated.TypedDoc.taggedRegistry,
      r.2 ∈ ["DescriptorBlock", "DescriptorBlock2", "EffectsLayer", "LayerInfoBlock", "Patterns", "LinkedLayers",
             "VectorMaskSetting", "StringElement", "TypeToolObjectSetting", "SmartObjectLayerData", "PlacedLayerData",
             "MetadataSettings", "VectorStrokeContentSetting", "ColorLookup"] →
      (blockWalker 2 r.1).isSome = true := by decide +kernel

end PsdVerif.C03
