/-
C17 — the stored merged image is valid after a structural edit, untouched otherwise.
Property theorems only; helper lemmas live in `Lemmas/Merged.lean`.

This file keeps the numeric composite and the sample arithmetic as parameters (decision logic of
`save()`, geometry). "The merged image equals the composite of the saved layers" is proved in
`Props/C17Pixels.lean` (same namespace), where they are instantiated with the compositor model of C11
and the arithmetic of `_merged_planes` over `Rat` (`Model/MergedPixels.lean`): `merged_equals_composite`,
`merged_equals_published_model`, the quantisation laws, `flatten_uses_alpha`, `merged_is_crop`, the ties
to the source. (A separate file because it needs single Mathlib modules and the C11 / C13 property
files, which this file — imported by `Props/C03Pixels.lean` — must not pull in.)
-/
import PsdVerif.Model.Merged
import PsdVerif.Lemmas.Merged

namespace PsdVerif.C17
open PsdVerif PsdVerif.Pixels PsdVerif.Merged

/-- supported by the regeneration: 8/16/32 bits, grayscale / RGB / CMYK -/
def Supported (h : Header) : Prop :=
  (h.depth = 8 ∨ h.depth = 16 ∨ h.depth = 32) ∧ h.cmode ≠ .bitmap

section
variable {α : Type}

/-- When nothing structural was edited, `save()` leaves the document — in particular the
image-data section, byte for byte — as it is. -/
theorem unedited_preserved (Q : Quant α) (s : DocState) (c : Composite α) (h : s.dirty = false) :
    save Q s c = .ok s := by
  simp [save, h]

/-- … in terms of histories: a history of attribute edits and read-only operations (anything
that is not a list-like mutation of a group or of the document) on a freshly opened
document leaves the image-data section as it is. -/
theorem unedited_history_preserved (Q : Quant α) (s : DocState) (c : Composite α) (ops : List Op)
    (hops : ∀ o ∈ ops, o.structural = false) (h : s.dirty = dirtyAfter false ops) :
    save Q s c = .ok s := by
  apply unedited_preserved Q s c
  rw [h]
  simp only [dirtyAfter, Bool.false_or, List.any_eq_false]
  intro o ho
  simp [hops o ho]

/-- Modes / depths the regeneration does not cover: the merged image is left as it is
(stale, but as valid as before), never replaced by something of another shape. -/
theorem unsupported_untouched (Q : Quant α) (s : DocState) (c : Composite α)
    (h : ¬ Supported s.info.header) : save Q s c = .ok s := by
  have hnone : ∀ b, mergedRoutes s.info b = .ok none := by
    intro b
    unfold mergedRoutes
    have : ¬(s.info.header.depth = 8 ∨ s.info.header.depth = 16 ∨ s.info.header.depth = 32) ∨
        s.info.header.cmode = .bitmap := by
      by_cases h1 : (s.info.header.depth = 8 ∨ s.info.header.depth = 16 ∨ s.info.header.depth = 32)
      · right
        by_cases h2 : s.info.header.cmode = .bitmap
        · exact h2
        · exact absurd ⟨h1, h2⟩ h
      · left; exact h1
    simp only [this, if_true]
  by_cases hd : s.dirty = true
  · cases hg : getData s.imageData s.info.header <;> simp [save, hd, hg, hnone]
  · simp [save, hd]

/-- **merged_plane_count.** After a structural edit, for every
supported document whose header has at least the colour channels of its mode, whatever the
old merged image was (readable or not), whatever the compression: `save()` succeeds and
stores exactly `header.channels` planes of `width * height * depth / 8` bytes each, which
`ImageData.get_data` returns again; the preview flag says the merged image is there. -/
theorem merged_plane_count (Q : Quant α) (hQ : Q.Lawful) (s : DocState) (c : Composite α)
    (hd : s.dirty = true) (hs : Supported s.info.header)
    (hch : s.info.header.cmode.expected ≤ s.info.header.channels) (hc : c.WF s.info.header) :
    ∃ planes s', save Q s c = .ok s' ∧
      s'.imageData = setData s.imageData.comp planes s.info.header ∧
      s'.info.header = s.info.header ∧
      planes.length = s.info.header.channels ∧
      (∀ p ∈ planes, p.length = s.info.header.width * s.info.header.height * (s.info.header.depth / 8)) ∧
      getData s'.imageData s'.info.header = .ok planes ∧
      s'.info.hasPreview = true := by
  obtain ⟨hdep, hb⟩ := hs
  have hpb : planeBytes s.info.header
      = s.info.header.width * s.info.header.height * (s.info.header.depth / 8) := by
    unfold planeBytes
    rcases hdep with h | h | h <;> simp [h]
  obtain ⟨_, planes, _, _, hreg, _, _, hpl, hpall⟩ := regenerate_ok Q hQ s c hdep hb hch hc
  have hsave := save_eq_regenerate Q s c
  simp only [hd, hreg, Bool.not_true, Bool.false_eq_true, if_false] at hsave
  refine ⟨planes, _, hsave, rfl, rfl, hpl, fun p hp => hpb ▸ hpall p hp,
    getData_setData _ _ _ hpl hpall (channels_pos hch), ?_⟩
  cases s.info.versionInfo <;> simp [Meta.hasPreview]

/-- the hypotheses are satisfiable: a 1×1 RGB document, unit samples -/
example : ∃ (Q : Quant Unit) (s : DocState) (c : Composite Unit),
    Q.Lawful ∧ s.dirty = true ∧ Supported s.info.header ∧
    s.info.header.cmode.expected ≤ s.info.header.channels ∧ c.WF s.info.header :=
  ⟨{ enc := fun d _ => List.replicate (d / 8) 0, flat := fun _ _ => (), one := () },
   { info := { header := { cmode := .rgb, channels := 3, depth := 8, width := 1, height := 1 } },
     imageData := { comp := .zip, payload := [] }, dirty := true },
   { color := [[()], [()], [()]], alpha := [()] },
   by intro d x; simp, rfl, by unfold Supported; decide, by decide, by unfold Composite.WF; decide⟩

/-- **The flag survives a save.** `save()` never resets `_updated_layers`, and it leaves the header
and the compression method alone. -/
theorem save_keeps_dirty (Q : Quant α) (s s' : DocState) (c : Composite α) (h : save Q s c = .ok s') :
    s'.dirty = s.dirty ∧ s'.info.header = s.info.header ∧ s'.imageData.comp = s.imageData.comp :=
  save_keeps Q s s' c h

/-- **second_save_still_regenerates.** A supported document whose structure was edited is saved
(the composite of its layers being `c1`), then any operations are applied — attribute edits,
read-only calls, further structural edits — and it is saved again, the composite of its layers now
being `c2`: both saves succeed, and the second file's merged image is the regeneration from `c2`
(not the image of the first save): `header.channels` planes that `get_data` returns again. The
document stays "edited" for every save after that. -/
theorem second_save_still_regenerates (Q : Quant α) (hQ : Q.Lawful) (s : DocState) (c1 c2 : Composite α)
    (ops : List Op) (hd : s.dirty = true) (hs : Supported s.info.header)
    (hch : s.info.header.cmode.expected ≤ s.info.header.channels)
    (hc1 : c1.WF s.info.header) (hc2 : c2.WF s.info.header) :
    ∃ s1 s1' planes s2, save Q s c1 = .ok s1 ∧ runEvents Q s1 (ops.map Event.op) = .ok s1' ∧
      regenerate Q s1' c2 = .ok (some planes) ∧
      runEvents Q s (Event.save c1 :: (ops.map Event.op ++ [Event.save c2])) = .ok s2 ∧
      s2.imageData = setData s.imageData.comp planes s.info.header ∧
      planes.length = s.info.header.channels ∧
      getData s2.imageData s2.info.header = .ok planes ∧
      s2.info.hasPreview = true ∧ s2.dirty = true := by
  obtain ⟨_, s1, h1, _⟩ := merged_plane_count Q hQ s c1 hd hs hch hc1
  obtain ⟨k1, k2, k3⟩ := save_keeps Q s s1 c1 h1
  obtain ⟨hdep, hb⟩ := hs
  have hd' : dirtyAfter s1.dirty ops = true := by simp [dirtyAfter, k1, hd]
  have hrun := runEvents_ops Q s1 ops
  rw [hd'] at hrun
  -- the document as the second save sees it: `{ s1 with dirty := true }`
  obtain ⟨_, planes, _, _, hreg, _, _, hpl, hpall⟩ := regenerate_ok Q hQ { s1 with dirty := true } c2
    (by show s1.info.header.depth = 8 ∨ _; rw [k2]; exact hdep)
    (by show s1.info.header.cmode ≠ _; rw [k2]; exact hb)
    (by show s1.info.header.cmode.expected ≤ s1.info.header.channels; rw [k2]; exact hch)
    (by show c2.WF s1.info.header; rw [k2]; exact hc2)
  have hpl' : planes.length = s.info.header.channels := by rw [← k2]; exact hpl
  have hpall' : ∀ p ∈ planes, p.length = planeBytes s.info.header := by rw [← k2]; exact hpall
  have hsave2 := save_eq_regenerate Q { s1 with dirty := true } c2
  simp only [hreg, Bool.not_true, Bool.false_eq_true, if_false] at hsave2
  refine ⟨s1, _, planes,
    { info := { s1.info with versionInfo := s1.info.versionInfo.map fun _ => true },
      imageData := setData s1.imageData.comp planes s1.info.header, dirty := true },
    h1, hrun, hreg, ?_, ?_, hpl', ?_, ?_, rfl⟩
  · simp only [runEvents, step, h1]
    rw [runEvents_append Q s1 _ _ _ hrun]
    simp only [runEvents, step, hsave2]
  · simp only [k2, k3]
  · simp only [k2]
    exact getData_setData _ _ _ hpl' hpall' (channels_pos hch)
  · cases s1.info.versionInfo <;> simp [Meta.hasPreview]

/-- the hypotheses are satisfiable (the document of the example above, two composites) -/
example : ∃ (Q : Quant Unit) (s : DocState) (c1 c2 : Composite Unit),
    Q.Lawful ∧ s.dirty = true ∧ Supported s.info.header ∧
    s.info.header.cmode.expected ≤ s.info.header.channels ∧ c1.WF s.info.header ∧ c2.WF s.info.header :=
  ⟨{ enc := fun d _ => List.replicate (d / 8) 0, flat := fun _ _ => (), one := () },
   { info := { header := { cmode := .rgb, channels := 3, depth := 8, width := 1, height := 1 } },
     imageData := { comp := .zip, payload := [] }, dirty := true },
   { color := [[()], [()], [()]], alpha := [()] }, { color := [[()], [()], [()]], alpha := [()] },
   by intro d x; simp, rfl, by unfold Supported; decide, by decide, by unfold Composite.WF; decide,
   by unfold Composite.WF; decide⟩

/-- The second file really depends on the second composite: a 1×1 grayscale document, one byte
per sample; the layers render 10 at the first save and 20 at the second (say, after an opacity
edit) — the second file holds 20. (With a `save()` that reset the flag it would hold 10.) -/
theorem second_save_uses_second_composite :
    let Q : Quant Nat := { enc := fun _ x => [UInt8.ofNat x], flat := fun c _ => c, one := 255 }
    let s : DocState := { info := { header := { cmode := .gray, channels := 1, depth := 8, width := 1, height := 1 },
                                    layerCount := 1 },
                          imageData := { comp := .raw, payload := [0] }, dirty := true }
    (runEvents Q s [.save ⟨[[10]], [255]⟩, .op .setOpacity, .save ⟨[[20]], [255]⟩]).map (·.imageData.payload)
      = .ok [20] ∧
    (runEvents Q s [.save ⟨[[10]], [255]⟩]).map (·.imageData.payload) = .ok [10] := by decide

end

/-- `ImageData.get_data` succeeds on whatever `set_data` stored under the same header — for
every compression method (geometry level; the codecs are C04). -/
theorem merged_readable (c : Comp) (planes : List (List UInt8)) (h : Header)
    (hl : planes.length = h.channels) (hs : ∀ p ∈ planes, p.length = planeBytes h)
    (hc : 0 < h.channels) : getData (setData c planes h) h = .ok planes :=
  getData_setData c planes h hl hs hc

/-- … and what it returns always has the header geometry. -/
theorem get_data_geometry (d : ImageData) (h : Header) (ps : List (List UInt8))
    (hg : getData d h = .ok ps) : ps.length = h.channels ∧ ∀ p ∈ ps, p.length = planeBytes h :=
  getData_geometry d h ps hg

/-- Why the plane count matters (the behaviour that was repaired): four 16-byte planes
stored in a 3-channel 4×4 document — 64 bytes — cannot be read back with ZIP (`ValueError`: the bounded
inflate of repo 72f34ff stops at the 48 bytes the header announces; it was an `AssertionError` after a full
inflate before), and are silently cut with RAW. -/
theorem four_planes_in_three_channels :
    let h : Header := { cmode := .rgb, channels := 3, depth := 8, width := 4, height := 4 }
    let planes := List.replicate 4 (List.replicate 16 (0 : UInt8))
    getData (setData .zip planes h) h = .error .valueError ∧
    getData (setData .raw planes h) h = .ok (List.replicate 3 (List.replicate 16 0)) := by decide

/-! ### which plane receives what (decision table of `_merged_planes`) -/

/-- Without a transparency plane every colour channel is flattened on white and nothing
else is touched; with one (a channel beyond the colour channels that the readers take for
the transparency) it receives the composite's alpha, and the colour is flattened only for
RGB, whose export paths remove the matte again. -/
theorem merged_sources_table :
    let doc (c : CMode) (ch : Nat) (layers : Nat) (mt : Bool) : Meta :=
      { header := { cmode := c, channels := ch, depth := 8, width := 1, height := 1 },
        layerCount := layers, mergedTransparency := mt }
    mergedRoutes (doc .gray 1 1 false) true = .ok (some [.colorFlat 0]) ∧
    mergedRoutes (doc .rgb 3 1 false) true = .ok (some [.colorFlat 0, .colorFlat 1, .colorFlat 2]) ∧
    mergedRoutes (doc .cmyk 4 1 false) true
      = .ok (some [.colorFlat 0, .colorFlat 1, .colorFlat 2, .colorFlat 3]) ∧
    -- an extra channel that is not the transparency (layers present, no merged-transparency block) is kept
    mergedRoutes (doc .rgb 4 1 false) true
      = .ok (some [.colorFlat 0, .colorFlat 1, .colorFlat 2, .old 3]) ∧
    mergedRoutes (doc .gray 2 1 false) true = .ok (some [.colorFlat 0, .old 1]) ∧
    -- the transparency plane
    mergedRoutes (doc .rgb 4 1 true) true
      = .ok (some [.colorFlat 0, .colorFlat 1, .colorFlat 2, .alpha]) ∧
    mergedRoutes (doc .gray 2 1 true) true = .ok (some [.color 0, .alpha]) ∧
    mergedRoutes (doc .cmyk 5 1 true) true = .ok (some [.color 0, .color 1, .color 2, .color 3, .alpha]) ∧
    mergedRoutes (doc .rgb 4 0 false) true
      = .ok (some [.colorFlat 0, .colorFlat 1, .colorFlat 2, .alpha]) ∧
    -- unreadable old image: the planes that are not derived are filled
    mergedRoutes (doc .cmyk 6 1 false) false
      = .ok (some [.colorFlat 0, .colorFlat 1, .colorFlat 2, .colorFlat 3, .fill, .fill]) := by decide

end PsdVerif.C17
