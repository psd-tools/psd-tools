/-
C18 — text engine data round-trips.

The model is `Model/EngineData.lean`; the lemmas are in `Lemmas/EngineData*.lean`.
-/
import PsdVerif.Lemmas.EngineDataParse
import PsdVerif.Lemmas.EngineDataFloat

namespace PsdVerif.C18
open PsdVerif PsdVerif.EngineData

/-- Well-formed trees, the domain of the property: property names non-empty over
`[A-Za-z0-9_]` and occurring once per dictionary, strings = sequences of Unicode scalar
values, decimals in the 1-to-8-place normal form, integers and booleans; any nesting of
dictionaries and lists, dictionary-first lists and strings ending in any byte included. -/
def WF (t : Tree) : Prop := wfPairs t = true

instance (t : Tree) : Decidable (WF t) := inferInstanceAs (Decidable (wfPairs t = true))

/-! ### Strings -/

/-- The three sequential `replace` calls of `String.frombytes` undo the three of
`String.write`, for every byte string. -/
theorem unescape_escape (b : BL) : unescape (escape b) = b := unescape_escape' b

/-- Where the string token ends: for every payload `u` and whatever follows, the tokenizer's
string branch returns exactly the written string and leaves `rest`, whatever the last byte of
`u` is. -/
theorem string_token_end (u rest : BL) :
    next (strBytes u ++ rest) = .ok (some (strBytes u, rest)) := next_strBytes u rest

/-- Before the fix the search `[^\\]\)` ran past the closing parenthesis of a string whose
UTF-16 bytes end in 0x5C (here U+015C followed by ` /z 3`): no token, `ValueError`. -/
theorem old_string_end_defect :
    strTokenOld (strBytes (utf16be [0x15C]) ++ [0x20, 0x2F, 0x7A, 0x20, 0x33]) = none := by decide +kernel

/-- CPython's UTF-16 codecs as transcribed: decoding (BOM first) undoes encoding on
Unicode scalar values. -/
theorem utf16_roundtrip (s : List Nat) (h : s.all isScalar = true) :
    decodeUtf16 (0xFE :: 0xFF :: utf16be s) = .ok s := decodeUtf16_utf16be s h

/-! ### Scalar tokens -/

/-- Every well-formed scalar is written as one token of its own class which converts back
to the scalar (String, Bool, Integer, Float on normal-form decimals). -/
theorem scalar_token (s : Scalar) (h : wfScalar s = true) :
    classify (wScalar s) = some (tyOf s) ∧ valueOfToken (tyOf s) (wScalar s) = some (.ok s) :=
  ⟨(scalarOK floatOK s h).cls, (scalarOK floatOK s h).val⟩

/-- `int(b"%d" % i) = i` on the model's digits, for every integer. -/
theorem integer_roundtrip (i : Int) : intOfToken (writeInt i) = i := intOfToken_writeInt i

/-- `Float.frombytes(Float.write(d)) = d` for decimals with 1..8 places in normal form
(`rstrip`, the re-added `0`, and the `0.` → `.` replacement included). -/
theorem float_roundtrip (d : Dec) (h : d.wf = true) : decOfToken (writeFloat d) = d := by
  have := (floatOK d h).val
  simpa [valueOfToken, tyOf, wScalar] using this

/-! ### Containers -/

/-- The token stream of what either writer produces, followed by anything that starts
cleanly (nothing, or a divider), is the tree's token list followed by the rest's. -/
theorem tokens_of_write (l : Layout) (t : Tree) (h : WF t) (rest : BL) (ts : List (BL × Tok))
    (hs : Sep rest) (hr : Toks rest ts) :
    Toks (writeT l t ++ rest) (tokensOf l t ++ ts) :=
  toks_writeT_append floatOK l t h rest ts hs hr

/-- A well-formed tree is always written (no exception). -/
theorem write_ok (l : Layout) (t : Tree) (h : WF t) : write l t = .ok (writeT l t) := by
  simp [write, enc_pairs t h]

/-- **Round trip, both layouts.** Every well-formed tree is written without error and the
written bytes parse back to the same tree. -/
theorem parse_write (l : Layout) (t : Tree) (h : WF t) :
    ∃ bs, write l t = .ok bs ∧ parse bs = .ok t :=
  ⟨writeT l t, write_ok l t h, parse_of_toks floatOK l t h _ (toks_writeT floatOK l t h)⟩

/-- The same, as one equation on the total writer. -/
theorem parse_writeT (l : Layout) (t : Tree) (h : WF t) : parse (writeT l t) = .ok t :=
  parse_of_toks floatOK l t h _ (toks_writeT floatOK l t h)

/-! ### Non-vacuity: the hypotheses are satisfiable, by trees with the awkward shapes -/

/-- A string ending in a backslash, one ending in U+015C, U+5C5C with parentheses, a
dictionary-first list with an integer, a decimal, a string and a nested list, a negative
integer, decimals `-.5`, `0.0`, `12.00000001`. -/
def sample : Tree :=
  [([0x61], .sc (.str [0x61, 0x5C])),
   ([0x62, 0x5F, 0x31], .list [.dict [([0x63], .sc (.int (-12)))], .sc (.int 3), .sc (.flt ⟨true, 5, 1⟩),
      .sc (.str [0x15C]), .list [.dict [], .sc (.bool true)]]),
   ([0x5A], .dict [([0x73], .sc (.str [0x28, 0x5C5C, 0x29, 0x1F600])), ([0x7A], .sc (.flt ⟨false, 0, 1⟩)),
      ([0x66], .sc (.flt ⟨false, 1200000001, 8⟩))])]

example : WF sample := by decide +kernel
example : (∃ bs, write .indented sample = .ok bs ∧ parse bs = .ok sample) := parse_write _ _ (by decide +kernel)
example : (∃ bs, write .compact sample = .ok bs ∧ parse bs = .ok sample) := parse_write _ _ (by decide +kernel)
example : wfScalar (.flt ⟨true, 4755428, 5⟩) = true := by decide +kernel
example : Sep [0x20, 0x5D] ∧ Toks [0x20, 0x5D] [([0x5D], .arrayEnd)] :=
  ⟨Sep_cons _ _ (by decide), Toks_div (by decide) (by
    have := Toks_plain (tok := [0x5D]) (ty := .arrayEnd) (m := []) plain_RB (by decide) Sep_nil Toks_nil
    simpa using this)⟩

end PsdVerif.C18
