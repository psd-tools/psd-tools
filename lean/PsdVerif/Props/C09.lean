/-
C09 — structure edits behave like list edits.

`Spec` (Model/TreeSpec.lean) is the same operations on plain nested lists: a state is just the
lists (every container a plain list of element ids), no back pointers, no caches, no checks.
`abs s` forgets everything but the lists. An operation the code ACCEPTS is exactly the list
operation (`step_refines`); an operation it REFUSES leaves the lists alone (`refused_refines`);
over a history the tree equals the list replay of the accepted operations (`history_refines`).
The save / reopen half of the property is proved in Props/C09Reopen.lean (it composes this file's
`history_refines` with the parse / flatten model of C08 and the record codec of C01).
-/
import PsdVerif.Lemmas.TreeRefine
import PsdVerif.Lemmas.TreeTable
import PsdVerif.Generated.TreeTable

namespace PsdVerif.C09
open PsdVerif PsdVerif.TreeSt

/-- **Refinement, one operation.** From a well-formed tree, an operation that does not raise
changes the lists exactly like the plain-list operation, and returns the value the list operation
returns (`Agrees`: where the specification names a value). No guard is needed: listing a layer a
second time is also what a plain list does. -/
theorem step_refines (s : State) (op : Op) (i : Inv s) (h : (step .current s op).2.isError = false) :
    ∃ v, Spec.apply (abs s) op = .ok (abs (step .current s op).1, v) ∧ Agrees (step .current s op).2 v :=
  step_acc s op i h

/-- an operation that raises (anything but RecursionError) leaves every list as it was -/
theorem refused_refines (s : State) (op : Op) (e : Err) (i : Inv s) (h : (step .current s op).2 = .error e)
    (hne : e ≠ .recursionError) : abs (step .current s op).1 = abs s :=
  (step_ref s op e i h hne).abs

/-- **Refinement, histories.** After any guarded history (inserted layers are detached; recursion
limit not hit) the lists are the result of replaying the accepted operations on plain lists. -/
theorem history_refines (s : State) (ops : List Op) (i : Inv s) (hg : Guarded .current s ops) :
    Spec.runLists (abs s) (acceptedOps .current s ops) = .ok (abs (runState .current s ops)) :=
  run_refines s ops i hg

/-- the pure list operations raise exactly the exception the list raises -/
theorem list_errors_agree (s : State) (g : Id) (hg : s.isGroup g = true) :
    (∀ x, x ∉ s.children g → (step .current s (.remove g x)).2 = .error .valueError) ∧
    (∀ k, normIdx (s.children g).length k = none → (step .current s (.pop g k)).2 = .error .indexError) ∧
    (∀ k, normIdx (s.children g).length k = none → (step .current s (.delitem g k)).2 = .error .indexError) := by
  refine ⟨?_, ?_, ?_⟩
  · intro x hx
    simp [step, Op.target, hg, opRemove, hx]
  · intro k hk
    simp [step, Op.target, hg, opPop, hk]
  · intro k hk
    simp [step, Op.target, hg, opDelitem, hk]

/-! ### non-vacuity -/

/-- document 0 lists [1, 2] (2 a group); 3 detached -/
def demo : State :=
  runState .current (State.empty 50)
    [.newDoc ⟨0, 0, 8, 8⟩, .newLayer (some 0) ⟨0, 0, 2, 2⟩, .newGroup (some 0), .newLayer (some 0) ⟨1, 1, 3, 3⟩,
     .append 0 1]

/-- an accepted history and its list replay: move, regroup, reorder -/
example : ((Spec.runLists (abs demo) [.moveToGroup 1 2, .append 2 3, .moveUp 1 5, .groupLayers [3] none]).toOption.map
      (fun t => (t.lists 0, t.lists 2, t.lists 4))) = some ([2], [1, 4], [3]) ∧
    (let s' := runState .current demo [.moveToGroup 1 2, .append 2 3, .moveUp 1 5, .groupLayers [3] none]
     (s'.children 0, s'.children 2, s'.children 4)) = ([2], [1, 4], [3]) := by decide +kernel

/-- a refused operation in the middle of a history is skipped by the replay -/
example : acceptedOps .current demo [.append 2 3, .extend 2 [2], .pop 2 7, .moveToGroup 2 2, .remove 2 3] =
    [.append 2 3, .remove 2 3] := by decide +kernel


/-! ### The mutators as the source writes them (regenerated table, `Model/TreeTable.lean`) -/

open PsdVerif.TreeTable in
/-- **the table machine refines plain lists, one call**: for any table with the standard helper descriptions and the
rows of the `GroupMixin` list mutators (`StdRows`; the regenerated table has them: `C10.current_table_std`), an
accepted call is exactly the list operation -/
theorem table_step_refines (t : Table) (h : StdRows t = true) (s : State) (op : Op) (hop : Op.listMutator op = true)
    (i : Inv s) (hacc : (tableStep t s op).2.isError = false) :
    ∃ v, Spec.apply (abs s) op = .ok (abs (tableStep t s op).1, v) ∧ Agrees (tableStep t s op).2 v := by
  rw [tableStep_eq_step h s op hop] at hacc ⊢
  exact step_acc s op i hacc

open PsdVerif.TreeTable in
/-- a refused call of the table machine leaves every list as it was -/
theorem table_refused_refines (t : Table) (h : StdRows t = true) (s : State) (op : Op) (hop : Op.listMutator op = true)
    (e : Err) (i : Inv s) (he : (tableStep t s op).2 = .error e) (hne : e ≠ .recursionError) :
    abs (tableStep t s op).1 = abs s := by
  rw [tableStep_eq_step h s op hop] at he ⊢
  exact (step_ref s op e i he hne).abs

open PsdVerif.TreeTable in
/-- **the table machine refines plain lists, histories** of list mutators (guarded: inserted layers detached) -/
theorem table_history_refines (t : Table) (h : StdRows t = true) (s : State) (ops : List Op)
    (hops : ∀ op, op ∈ ops → Op.listMutator op = true) (i : Inv s) (hg : Guarded .current s ops) :
    Spec.runLists (abs s) (acceptedOps .current s ops) = .ok (abs (tableRun t s ops).1) := by
  rw [tableRun_eq_run h s ops hops]
  exact run_refines s ops i hg

/-- the regenerated table on a history: insert, replace a slice, delete, pop -/
def tableDemoOps : List Op := [.setslice 0 (some 0) (some 1) [], .insert 0 0 2, .append 2 3, .pop 0 (-1), .delitem 2 0]

example : ((PsdVerif.TreeTable.tableRun Generated.TreeTable.table demo tableDemoOps).1.children 0,
    (PsdVerif.TreeTable.tableRun Generated.TreeTable.table demo tableDemoOps).1.children 2,
    (PsdVerif.TreeTable.tableRun Generated.TreeTable.table demo tableDemoOps).2) =
    ([2], [], [Out.none, Out.none, Out.none, Out.id 1, Out.none]) := by decide +kernel

end PsdVerif.C09
