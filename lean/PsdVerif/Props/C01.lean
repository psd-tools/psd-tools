/-
C01 — every constructible document survives write → read, and re-writes identically.

Model: `Model/Codec.lean` (primitives of utils.py), `Model/Psd.lean` (the file skeleton with typed
structures; payload classes are opaque bytes). The lemmas are in `Lemmas/Codec*.lean`.

* `…_rt` : the law of a primitive/combinator, in the `pre ++ bs ++ post` form of DESIGN §3.
* `…_roundtrip` : one per skeleton part. Parts whose reader looks at what follows have the
  explicit extra hypothesis on `post` (or on the end position).
* `psd_roundtrip` : the whole file. The value read back is `d.refresh`: the document *as the
  writer left it* (`LayerInfo._update_channel_length` overwrites `channel_info.length` in place
  before the records are written); `psd_roundtrip_fresh` is the corollary `= d`.
* `WF` (Model/Psd.lean) has clauses of kind (i) validators, (ii) on-disk widths, (iii) format
  consistency, and (F) clauses *forced by the proof*. For each (F) clause `…_not_roundtrip` below
  is a document excluded by it, built from the library's own defaults, on which the full-strength
  statement fails (its bytes are those of a different, well-formed document, which is what is read back;
  the side conditions are evaluated); harness/props/C01.py replays each on the real code.
-/
import PsdVerif.Lemmas.CodecLaws
import PsdVerif.Lemmas.CodecPsd3
import PsdVerif.Lemmas.CodecSamples

namespace PsdVerif.C01
open PsdVerif PsdVerif.Codec PsdVerif.Psd

/-! ### primitives and combinators (each proved once) -/

theorem u8_rt : Lawful (encU 1) (readU 1) (fun _ => True) := u8_lawful
theorem u16_rt : Lawful (encU 2) (readU 2) (fun _ => True) := u16_lawful
theorem u32_rt : Lawful (encU 4) (readU 4) (fun _ => True) := u32_lawful
theorem u64_rt : Lawful (encU 8) (readU 8) (fun _ => True) := u64_lawful
theorem i16_rt : Lawful encI16 readI16 (fun _ => True) := i16_lawful
theorem i32_rt : Lawful encI32 readI32 (fun _ => True) := i32_lawful
theorem bytesN_rt (n : Nat) : Lawful (fun (b : B) => guard (b.length = n) b) (readN n) (fun _ => True) :=
  bytesN_lawful n
theorem padTo_rt (size divisor : Nat) :
    Lawful (fun (_ : Unit) => .ok (zeros (padAmount size divisor))) (readPadding size divisor) (fun _ => True) :=
  padTo_lawful size divisor
theorem pascal_rt (pad : Nat) :
    Lawful (fun (s : B) => guard (s.length < 256) (pascalT pad s)) (readPascal pad) (fun _ => True) :=
  pascal_lawful pad
/-- a length block of raw bytes; the alignment must divide the size of the length prefix
(`read_padding` aligns the body, `write_padding` aligns prefix + body) -/
theorem lenBlock_rt (skip w pad : Nat) (hp : (skip + w) % pad = 0) :
    Lawful (fun (b : B) => guard (FitsU w b.length) (lenBlockT skip w pad b)) (readLenBlock skip w pad) (fun _ => True) :=
  lenBlock_lawful skip w pad hp
theorem countList_rt {α : Type} {enc : α → Except Err B} {dec : R α} {WF : α → Prop} (h : Lawful enc dec WF)
    (vs : List α) (bs pre post : B) (hwf : ∀ v ∈ vs, WF v) (he : encList enc vs = .ok bs) :
    readCount dec vs.length (pre ++ bs ++ post) pre.length = .ok (vs, pre.length + bs.length) :=
  countList_lawful h vs bs pre post hwf he
/-- `while is_readable(fp, k)`: lawful only when nothing (that could be read) follows -/
theorem untilEnd_rt_at_end {α : Type} {enc : α → Except Err B} {dec : R α} {WF : α → Prop} (k : Nat) (hk : 1 ≤ k)
    (h : Lawful enc dec WF) (hsize : ∀ v bs, enc v = .ok bs → k ≤ bs.length)
    (vs : List α) (bs pre : B) (hwf : ∀ v ∈ vs, WF v) (he : encList enc vs = .ok bs) :
    readWhile (isReadable k) (optItem dec) (pre ++ bs) pre.length = .ok (vs, pre.length + bs.length) :=
  untilEnd_lawfulAtEnd k hk h hsize vs bs pre hwf he
/-- a length block (with a nested `BytesIO`) makes an at-end-lawful body lawful anywhere -/
theorem lenBlock_of_atEnd {α : Type} {enc : α → Except Err B} {dec : R α} {WF : α → Prop} (skip w pad : Nat)
    (hp : (skip + w) % pad = 0) (h : LawfulAtEnd enc dec WF) :
    Lawful (blockEnc skip w pad enc) (blockDec skip w pad dec) WF :=
  block_lawful skip w pad hp h

/-! ### the parts of the file skeleton -/

theorem header_roundtrip (h : Header) (hwf : h.WF) (pre post : B) :
    Header.dec (pre ++ h.encT ++ post) pre.length = .ok (h, pre.length + h.encT.length) :=
  Header.dec_at hwf (At.intro pre _ post)

theorem color_mode_data_roundtrip (v : B) (hf : FitsU 4 v.length) (pre post : B) :
    colorModeDec (pre ++ colorModeT v ++ post) pre.length = .ok (v, pre.length + (colorModeT v).length) :=
  colorModeDec_at hf (At.intro pre _ post)

theorem image_resource_roundtrip (r : Resource) (hwf : r.WF) (pre post : B) :
    Resource.dec (pre ++ r.encT ++ post) pre.length = .ok (r, pre.length + r.encT.length) :=
  Resource.dec_at hwf (At.intro pre _ post)

theorem image_resources_roundtrip (rs : List Resource) (hwf : resourcesWF rs) (pre post : B) :
    resourcesDec (pre ++ resourcesT rs ++ post) pre.length = .ok (rs, pre.length + (resourcesT rs).length) :=
  resourcesDec_at hwf (At.intro pre _ post)

theorem tagged_block_roundtrip (v pad : Nat) (hp : pad = 1 ∨ pad = 2 ∨ pad = 4) (t : TaggedBlock) (hwf : t.WF v)
    (pre post : B) :
    TaggedBlock.dec v pad (pre ++ t.encT v pad ++ post) pre.length = .ok (some t, pre.length + (t.encT v pad).length) :=
  TaggedBlock.dec_at hp hwf (At.intro pre _ post)

/-- tagged blocks inside a nested stream: the loop stops when fewer than 8 bytes follow -/
theorem tagged_blocks_roundtrip_nested (v pad : Nat) (hp : pad = 1 ∨ pad = 2 ∨ pad = 4) (ts : List TaggedBlock)
    (hwf : taggedBlocksWF v ts) (pre post : B) (hpost : post.length < 8) :
    taggedBlocksDec v pad none (pre ++ taggedBlocksT v pad ts ++ post) pre.length =
      .ok (ts, pre.length + (taggedBlocksT v pad ts).length) := by
  apply taggedBlocksDec_at hp hwf none (At.intro pre _ post) (by intro e he; cases he)
  unfold taggedCond
  rw [isReadable_false (by simp only [List.length_append]; omega)]
  rfl

/-- tagged blocks on the main stream: the loop stops at `end_pos`, whatever follows -/
theorem tagged_blocks_roundtrip_end_pos (v pad : Nat) (hp : pad = 1 ∨ pad = 2 ∨ pad = 4) (ts : List TaggedBlock)
    (hwf : taggedBlocksWF v ts) (pre post : B) :
    taggedBlocksDec v pad (some (pre.length + (taggedBlocksT v pad ts).length))
        (pre ++ taggedBlocksT v pad ts ++ post) pre.length =
      .ok (ts, pre.length + (taggedBlocksT v pad ts).length) := by
  apply taggedBlocksDec_at hp hwf (some _) (At.intro pre _ post)
  · intro e he; cases he; exact Nat.le_refl _
  · simp [taggedCond]

theorem mask_data_roundtrip (m : Option MaskData) (hwf : maskWF m) (hf : maskFits m) (pre post : B) :
    maskDec (pre ++ maskT m ++ post) pre.length = .ok (m, pre.length + (maskT m).length) :=
  (maskDec_step hwf hf (At.intro_rest pre _ post)).1

theorem blending_ranges_roundtrip (r : BlendingRanges) (hwf : r.WF) (pre post : B) :
    BlendingRanges.dec (pre ++ r.encT ++ post) pre.length = .ok (r, pre.length + r.encT.length) :=
  (BlendingRanges.dec_step hwf (At.intro_rest pre _ post)).1

theorem channel_info_roundtrip (v : Nat) (c : ChannelInfo) (hwf : c.WF v) (pre post : B) :
    ChannelInfo.dec v (pre ++ c.encT v ++ post) pre.length = .ok (c, pre.length + (c.encT v).length) :=
  ChannelInfo.dec_at hwf (At.intro pre _ post)

theorem layer_record_roundtrip (v : Nat) (r : LayerRecord) (hwf : r.WF v) (pre post : B) :
    LayerRecord.dec v (pre ++ r.encT v ++ post) pre.length = .ok (r, pre.length + (r.encT v).length) :=
  (LayerRecord.dec_step hwf (At.intro_rest pre _ post)).1

/-- channel data is read with the length stored in the (refreshed) channel info -/
theorem channel_data_roundtrip (c : ChannelData) (hwf : c.WF) (pre post : B) :
    ChannelData.dec (2 + c.data.length) (pre ++ c.encT ++ post) pre.length = .ok (c, pre.length + c.encT.length) :=
  ChannelData.dec_at hwf (At.intro pre _ post)

/-- the reader returns the object as the writer left it: `channel_info.length` refreshed -/
theorem layer_info_roundtrip (v pad : Nat) (li : LayerInfo) (hwf : li.WF v pad) (pre post : B) :
    LayerInfo.dec v (pre ++ li.encT v pad ++ post) pre.length =
      .ok (li.refresh, pre.length + (li.encT v pad).length) :=
  (LayerInfo.dec_step hwf (At.intro_rest pre _ post)).1

theorem global_layer_mask_info_roundtrip (g : GlobalLayerMaskInfo) (hwf : g.WF) (pre post : B) :
    GlobalLayerMaskInfo.dec (pre ++ g.encT ++ post) pre.length = .ok (g, pre.length + g.encT.length) :=
  (GlobalLayerMaskInfo.dec_step hwf (At.intro_rest pre _ post)).1

/-- the section reader looks at the section only (`fp.tell() + 4 <= end_pos`, `fp.tell() < end_pos`): the law holds
wherever the section sits -/
theorem layer_and_mask_roundtrip (v pad : Nat) (x : LayerAndMask) (pre post : B) (hwf : x.WF v pad) :
    LayerAndMask.dec v (pre ++ x.encT v pad ++ post) pre.length =
      .ok (x.refresh, pre.length + (x.encT v pad).length) :=
  LayerAndMask.dec_at hwf (At.intro pre _ post)

/-- image data is read to the end of the file: lawful at end only -/
theorem image_data_roundtrip_at_end (i : ImageData) (hwf : i.WF) (pre : B) :
    ImageData.dec (pre ++ i.encT) pre.length = .ok (i, pre.length + i.encT.length) := by
  have h := At.intro pre i.encT []
  simp only [List.append_nil] at h
  exact ImageData.dec_at_end hwf h (by simp only [List.length_append])

/-! ### the whole file -/

theorem psd_roundtrip (pad : Nat) (d : PSD) (hwf : d.WF pad) (bs : B) (henc : PSD.enc pad d = .ok bs) :
    PSD.read bs 0 = .ok (d.refresh, bs.length) := by
  rw [PSD.enc_ok henc]
  exact PSD.read_encT hwf

/-- when the stored channel lengths already agree with the channel data (always the case for a
document that was read, and after any earlier `write`), the document read back is the original -/
theorem psd_roundtrip_fresh (pad : Nat) (d : PSD) (hwf : d.WF pad) (hfresh : d.refresh = d) (bs : B)
    (henc : PSD.enc pad d = .ok bs) :
    PSD.read bs 0 = .ok (d, bs.length) := by
  rw [psd_roundtrip pad d hwf bs henc, hfresh]

theorem psd_rewrite_identical (pad : Nat) (d : PSD) (hwf : d.WF pad) (bs : B) (henc : PSD.enc pad d = .ok bs)
    (d' : PSD) (n : Nat) (hread : PSD.read bs 0 = .ok (d', n)) :
    PSD.enc pad d' = .ok bs := by
  rw [psd_roundtrip pad d hwf bs henc] at hread
  cases hread
  rw [PSD.enc_refresh, henc]

/-- the writer never produces bytes for a document whose fields do not fit their on-disk width
(`struct.error`) or whose version selects no length format (`IndexError`): it rejects, it does not corrupt -/
theorem psd_enc_rejects (pad : Nat) (d : PSD) (e : Err) (h : PSD.enc pad d = .error e) :
    e = .structError ∨ e = .indexError := by
  unfold PSD.enc at h
  split at h
  · rename_i e' he
    cases h
    unfold PSD.writeError at he
    split at he
    · cases he; exact Or.inl rfl
    · split at he
      · cases he; exact Or.inr rfl
      · split at he
        · cases he; exact Or.inl rfl
        · cases he
  · cases h

/-! ### non-vacuity -/

/-- a PSB document with the records of two nested groups, a masked layer with mask parameters and
real-mask fields, an image resource with an odd-length name, 8-byte-length tagged blocks -/
theorem sample_wf : PSD.WF 4 Samples.sampleDoc := by decide +kernel

example : ∃ bs, PSD.enc 4 Samples.sampleDoc = .ok bs ∧ PSD.read bs 0 = .ok (Samples.sampleDoc, bs.length) :=
  have henc := PSD.enc_of_wf sample_wf
  ⟨_, henc, psd_roundtrip_fresh 4 Samples.sampleDoc sample_wf (by decide +kernel) _ henc⟩

/-! ### documents excluded by the (F) clauses: the full-strength statement fails on them -/

/-- `d` is writable, but what is read back is not `d` as the writer left it. The witnesses below are written as the
bytes of a well-formed document, which is therefore what the reader returns (`PSD.read_twin`). -/
def NotRoundTrip (d : PSD) : Prop :=
  ∃ bs d' n, PSD.enc 4 d = .ok bs ∧ PSD.read bs 0 = .ok (d', n) ∧ d' ≠ d.refresh

open Samples in
theorem count0_empty_lists_not_roundtrip : NotRoundTrip count0EmptyLists :=
  PSD.read_twin (d' := mk ⟨some ⟨0, none, none⟩, some glmDefault, some []⟩ img20)
    (by decide +kernel) (by decide +kernel) rfl (by decide +kernel)

open Samples in
theorem ranges_composite_only_not_roundtrip : NotRoundTrip rangesCompositeOnly :=
  PSD.read_twin (d' := mk ⟨some (oneRecord ⟨some ⟨0, 1, 2, 3⟩, some []⟩), some glmDefault, some []⟩ img20)
    (by decide +kernel) (by decide +kernel) rfl (by decide +kernel)

open Samples in
theorem ranges_empty_list_not_roundtrip : NotRoundTrip rangesEmptyList :=
  PSD.read_twin (d' := mk ⟨some (oneRecord ⟨none, none⟩), some glmDefault, some []⟩ img20)
    (by decide +kernel) (by decide +kernel) rfl (by decide +kernel)

open Samples in
theorem glm_defaults_not_stored_not_roundtrip : NotRoundTrip glmNotStored :=
  PSD.read_twin (d' := mk ⟨some (oneRecord rangesDefault), some glmDefault, some []⟩ img20)
    (by decide +kernel) (by decide +kernel) rfl (by decide +kernel)

/-- the document shape `PSDImage` builds (`LayerInfo`, `GlobalLayerMaskInfo()`, `TaggedBlocks()`) with a
3-byte image: the section gate does not look at the bytes behind the section, so the global mask is read however short
the image data is (with a gate `is_readable(fp, 17)` it would come back as `None`). -/
theorem glm_short_tail_roundtrip : PSD.WF 4 Samples.glmShortTail ∧
    ∃ bs, PSD.enc 4 Samples.glmShortTail = .ok bs ∧ PSD.read bs 0 = .ok (Samples.glmShortTail, bs.length) :=
  have hwf : PSD.WF 4 Samples.glmShortTail := by decide +kernel
  have henc := PSD.enc_of_wf hwf
  ⟨hwf, _, henc, psd_roundtrip_fresh 4 Samples.glmShortTail hwf (by decide +kernel) _ henc⟩

open Samples in
theorem lam_tagged_none_not_roundtrip : NotRoundTrip lamTaggedNone :=
  PSD.read_twin (d' := mk ⟨some (oneRecord rangesDefault), some glmDefault, some []⟩ img20)
    (by decide +kernel) (by decide +kernel) rfl (by decide +kernel)

open Samples in
theorem lam_empty_dict_only_not_roundtrip : NotRoundTrip lamEmptyDictOnly :=
  ⟨_, mk ⟨none, none, none⟩ img20, 60,
    PSD.enc_of_writeError (by decide +kernel), by decide +kernel, by decide +kernel⟩

end PsdVerif.C01
