/-
C05 — the PackBits (RLE) codec honours its contract in both implementations.
Property theorems only; helper lemmas live in `Lemmas/Rle*.lean`.
-/
import PsdVerif.Generated.Rle
import PsdVerif.Lemmas.RleDec

namespace PsdVerif.C05
open PsdVerif.Rle

/-- The constants in the two source files are the model's (regenerated every run). -/
theorem maxLen_tied : Generated.Rle.maxLenPy = maxLen ∧ Generated.Rle.maxLenPyx = maxLen := ⟨rfl, rfl⟩

/-! ### Decoder: the only exception raised is ValueError (pure Python) -/

theorem decLoopPy_valueError (d : Bytes) (size i j : Nat) (out : List UInt8) (e : Err) :
    decLoopPy d size i j out = .error e → e = .valueError := by
  fun_induction decLoopPy d size i j out
  · intro h; cases h; rfl
  · rename_i ih; exact ih
  · intro h; cases h; rfl
  · rename_i ih; exact ih
  · rename_i ih; exact ih
  · intro h; cases h; rfl
  · intro h; cases h

theorem dec_rejects_valueError (d : Bytes) (size : Nat) (e : Err) :
    decPy d size = .error e → e = .valueError := by
  unfold decPy
  split
  · split
    · intro h; cases h; rfl
    · intro h; cases h
  · exact decLoopPy_valueError d size 0 0 [] e
/-! ### Encoder output is valid PackBits for the input -/

/-- Apple's decoder expands the encoder output to exactly the input (every input). -/
theorem spec_decodes_enc (d : Bytes) : specDec (encPy d) = some d.toList := by
  obtain ⟨cs, h1, h2, hv⟩ := encPy_chunks d
  rw [h1, (chunks_stream cs hv).1, h2]

/-- The encoder output is a sequence of valid chunks (runs of 2…128 equal bytes, literals of
1…127 bytes) whose contents concatenate to the input. -/
theorem enc_chunks (d : Bytes) :
    ∃ cs : List Chunk, encPy d = cs.flatMap Chunk.emit ∧ cs.flatMap Chunk.content = d.toList ∧
      ∀ c ∈ cs, c.Valid :=
  encPy_chunks d

/-- The reserved header 0x80 is never emitted. -/
theorem enc_no_noop (d : Bytes) : ∀ h ∈ headers (encPy d), h ≠ 128 := by
  obtain ⟨cs, h1, _, hv⟩ := encPy_chunks d
  rw [h1]
  exact (chunks_stream cs hv).2

/-- Apple's worst case: `n + ⌈n/127⌉` bytes. -/
theorem enc_size_bound (d : Bytes) : (encPy d).length ≤ d.size + (d.size + 126) / 127 :=
  encPy_length d

/-! ### Decoder accepts every conforming stream; round trip -/

/-- `rle.decode` accepts every stream the specification decoder expands (no-op headers
included) when asked for the expanded size, and returns the expansion. -/
theorem dec_complete (e : Bytes) (row : List UInt8) (h : specDec e.toList = some row) :
    decPy e row.length = .ok row :=
  decPy_complete e row h

/-- decode ∘ encode = id, for every input (including the empty and the one-byte input). -/
theorem dec_enc (d : Bytes) : decPy (⟨encPy d⟩ : Bytes) d.size = .ok d.toList := by
  have h := dec_complete ⟨encPy d⟩ d.toList (spec_decodes_enc d)
  simpa using h

/-! ### Decoder: an accepted stream has exactly the requested size -/

/-- An accepted stream has exactly `n` bytes — with the one exception `rle.decode` makes for one-byte input
(`len(data) == 1`): the lone no-op header 0x80 is accepted with an empty result, whatever `n` is. -/
theorem dec_exact_or_reject (e : Bytes) (n : Nat) (r : List UInt8) :
    decPy e n = .ok r → r.length = n ∨ (e = #[128] ∧ r = []) := by
  unfold decPy
  split
  · rename_i h1
    split
    · simp
    · rename_i hx
      intro hr
      right
      obtain ⟨x, rfl⟩ := eq_singleton_of_size h1
      simp at hx hr
      exact ⟨by rw [hx], hr⟩
  · intro hr
    left
    exact decLoopPy_exact e n 0 0 [] r (by simp) (Nat.zero_le _) hr

/-! ### The Cython decoder: memory safe, same outcome as the Python decoder -/

/-- `_rle.decode` and `rle.decode` agree on every input: same bytes, or the same exception. -/
theorem impl_agree_dec (e : Bytes) (n : Nat) : decC e n = toC (decPy e n) := by
  unfold decC decPy
  split
  · split <;> rfl
  · exact decLoopC_agree e n 0 0 (List.replicate n 0) [] (by simp) (by simp) (Nat.zero_le _)

/-- Holds by definition: the model has ONE encoder, `encC := encPy` (`Model/Rle.lean`: the two source texts are
read as the same state machine, which the correspondence check exercises); only the decoders have two models. -/
theorem impl_agree_enc (d : Bytes) : encC d = encPy d := rfl

/-- No `std::string` primitive of `_rle.decode` is reached out of bounds. -/
theorem decC_in_bounds (e : Bytes) (n : Nat) : decC e n ≠ .oob := by
  rw [impl_agree_dec]
  cases decPy e n <;> simp [toC]

/-- `_rle.decode` never raises `IndexError` (only `ValueError`). -/
theorem decC_never_indexError (e : Bytes) (n : Nat) : decC e n ≠ .err .indexError := by
  rw [impl_agree_dec]
  cases h : decPy e n with
  | ok r => simp [toC]
  | error x =>
    have := dec_rejects_valueError e n x h
    subst this; simp [toC]

/-! ### Non-vacuity -/

example : encPy #[1, 1, 2, 3, 3, 3] = [255, 1, 0, 2, 254, 3] := by decide +kernel
example : decPy #[255, 1, 0, 2, 254, 3] 6 = .ok [1, 1, 2, 3, 3, 3] := by decide +kernel
example : encPy (Array.replicate 130 7) = [129, 7, 255, 7] := by decide +kernel
example : encPy #[] = [] ∧ encPy #[9] = [0, 9] := by decide +kernel
example : specDec [128, 0, 5, 128] = some [5] ∧ decPy #[128, 0, 5, 128] 1 = .ok [5] := by decide +kernel
example : decPy #[128] 7 = .ok [] := by decide +kernel
example : decC #[0, 1, 254] 4 = .err .valueError ∧ decPy #[0, 1, 254] 4 = .error .valueError := by
  decide +kernel
/-- the size bound is attained: 128 bytes without equal neighbours need 130 bytes. -/
example : (encPy ((Array.range 128).map UInt8.ofNat)).length = 128 + (128 + 126) / 127 := by
  -- the kernel evaluates `List.range`/`List.map` far faster than their `Array` counterparts
  rw [← List.toArray_range, List.map_toArray]
  decide +kernel

/-! ### The implementation the package selects, in both configurations -/

/-- The selecting statement of `compression/__init__.py` (regenerated from its AST) is the one modelled by
`select`: a single statement binds `rle_impl`; its `try` body is exactly the import of `_rle`, it catches
exactly `ImportError`, the handler is exactly the import of `rle`, and the handler reads no name that is not
bound before it runs (otherwise the fallback configuration dies with NameError while the other one works). -/
theorem selection_tied :
    Generated.Rle.selStatements = 1 ∧ Generated.Rle.selTryImports = ["_rle"] ∧
    Generated.Rle.selCatches = ["ImportError"] ∧ Generated.Rle.selHandlerImports = ["rle"] ∧
    Generated.Rle.selOtherStatements = 0 ∧ Generated.Rle.selUnboundInHandler = [] :=
  ⟨rfl, rfl, rfl, rfl, rfl, rfl⟩

/-- `rle.py` keeps nothing between calls (regenerated from its AST: no `global`, no module-level mutable object
read by a function, no memoising decorator, no mutable default): the model's `encPy`/`decPy` are functions of
their arguments, so a result cannot be changed by a later call. -/
theorem rle_stateless_tied : Generated.Rle.rleModuleState = [] := rfl

/-- Whatever the configuration (extension importable or not), the selected implementation honours the whole
contract, and the two configurations are indistinguishable (for the encoder by definition, see `impl_agree_enc`;
for the decoder by `impl_agree_dec`). -/
theorem selected_honours_contract (cfg : Bool) (d e : Bytes) (n : Nat) :
    specDec ((select cfg).enc d) = some d.toList ∧
    (∀ h ∈ headers ((select cfg).enc d), h ≠ 128) ∧
    ((select cfg).enc d).length ≤ d.size + (d.size + 126) / 127 ∧
    (select cfg).dec ⟨(select cfg).enc d⟩ d.size = .ok d.toList ∧
    (select cfg).dec e n ≠ .oob ∧
    (∀ r, (select cfg).dec e n = .ok r → r.length = n ∨ (e = #[128] ∧ r = [])) ∧
    (∀ x, (select cfg).dec e n = .err x → x = .valueError) ∧
    (select cfg).enc d = (select (!cfg)).enc d ∧ (select cfg).dec e n = (select (!cfg)).dec e n := by
  have hdec : ∀ (c : Bool) (e : Bytes) (n : Nat), (select c).dec e n = toC (decPy e n) := by
    intro c e n
    cases c
    · exact Impl.dec_python e n
    · exact impl_agree_dec e n
  have henc : ∀ (c : Bool) (d : Bytes), (select c).enc d = encPy d := by
    intro c d; cases c <;> rfl
  simp only [henc, hdec]
  refine ⟨spec_decodes_enc d, enc_no_noop d, enc_size_bound d, ?_, ?_, ?_, ?_, trivial, trivial⟩
  · rw [dec_enc]; rfl
  · cases decPy e n <;> simp [toC]
  · intro r hr
    cases h : decPy e n with
    | ok r' => rw [h] at hr; simp [toC] at hr; subst hr; exact dec_exact_or_reject e n r' h
    | error x => rw [h] at hr; simp [toC] at hr
  · intro x hx
    cases h : decPy e n with
    | ok r' => rw [h] at hx; simp [toC] at hx
    | error y => rw [h] at hx; simp [toC] at hx; subst hx; exact dec_rejects_valueError e n y h

end PsdVerif.C05
