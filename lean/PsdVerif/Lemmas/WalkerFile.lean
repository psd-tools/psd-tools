/-
C03 — the specification walker on what the model writer emits: the layer and mask section,
image data, the whole file.
-/
import PsdVerif.Lemmas.WalkerLayers

namespace PsdVerif.Walker
open PsdVerif PsdVerif.Codec PsdVerif.Psd

/-- the spans of the layer and mask section: the section; the layer info with all it contains; the global
layer mask info; the document-level tagged blocks (each with its filler to a multiple of 4) -/
def layerAndMaskSpans (v pad p : Nat) (x : LayerAndMask) : List Span :=
  ⟨⟨p, (x.encT v pad).length, "layer-and-mask"⟩, x.encT v pad⟩ ::
    (match x.layerInfo with
     | none => []
     | some li =>
       layerInfoSpans v pad (p + secW v) li ++
         (match x.globalMask with
          | none => []
          | some g =>
            ⟨⟨p + secW v + (li.encT v pad).length, g.encT.length, "global-layer-mask"⟩, g.encT⟩ ::
              (match x.taggedBlocks with
               | some ts => seqSpans "tagged-block" (TaggedBlock.encT v 4)
                   (p + secW v + (li.encT v pad).length + g.encT.length) ts
               | none => [])))

theorem globalMask_shape (g : GlobalLayerMaskInfo) (hf : g.Fits) :
    g.encT = beBytes 4 g.bodyT.length ++ g.bodyT ∧ g.bodyT.length < 256 ^ 4 := by
  have hgenc : g.encT = beBytes 4 g.bodyT.length ++ g.bodyT := by
    simp [GlobalLayerMaskInfo.encT, lenBlockT_simple]
  have hgl := g.length_encT hf
  rw [hgenc, List.length_append, length_beBytes] at hgl
  refine ⟨hgenc, ?_⟩
  have : (16 : Nat) < 256 ^ 4 := by decide
  split at hgl <;> omega

theorem layerAndMaskSpans_hold (v pad : Nat) (x : LayerAndMask) {d : B} {p : Nat} {rest : B}
    (hat : At d p (x.encT v pad ++ rest)) : ∀ s ∈ layerAndMaskSpans v pad p x, s.Holds d := by
  intro s hs
  simp only [layerAndMaskSpans, List.mem_cons] at hs
  rcases hs with rfl | hs
  · exact Span.holds_mk _ hat.left
  · obtain ⟨li, g, ts⟩ := x
    cases li with
    | none => simp at hs
    | some li =>
      simp only [List.mem_append] at hs
      unfold LayerAndMask.encT at hat
      rw [lenBlockT_simple] at hat
      simp only [LayerAndMask.bodyT, optT', List.append_assoc] at hat
      have hat := hat.right
      rw [length_beBytes] at hat
      rcases hs with hs | hs
      · exact layerInfoSpans_hold v pad li hat s hs
      · have hat := hat.right
        cases g with
        | none => simp at hs
        | some g =>
          simp only [List.mem_cons] at hs
          rcases hs with rfl | hs
          · exact Span.holds_mk _ hat.left
          · cases ts with
            | none => simp at hs
            | some ts =>
              simp only at hs
              exact seqSpans_hold _ _ ts (by have := hat.right; unfold taggedBlocksT at this; exact this) s hs

theorem walkLayerAndMask_full {v pad : Nat} (hv : v = 1 ∨ v = 2) (hp : pad = 1 ∨ pad = 2 ∨ pad = 4)
    {x : LayerAndMask} (hwf : x.WF v pad) (hsh1 : optInfoShaped v x.layerInfo)
    (hsh2 : optBlocksAgree v x.taggedBlocks) {d : B} {p : Nat} {rest : B}
    (hat : At d p (x.encT v pad ++ rest)) :
    walkLayerAndMask v d p = .ok (regionsOf (layerAndMaskSpans v pad p x), p + (x.encT v pad).length) ∧
      At d (p + (x.encT v pad).length) rest := by
  refine ⟨?_, hat.right⟩
  -- each `At` fact is dropped once its successor is derived, to keep `omega`'s context small
  have hat1 := hat.left
  clear hat
  have hw := secW_pos v
  have hlw := lenW_eq_secW hv
  obtain ⟨⟨_, _, _, hfb⟩, hrest⟩ := hwf
  unfold layerAndMaskSpans
  rw [LayerAndMask.length_encT]
  unfold LayerAndMask.encT at hat1
  rw [lenBlockT_simple] at hat1
  have hb0 := hat1.bound
  simp only [List.length_append, length_beBytes] at hb0
  have hat2 := hat1.nil_right
  clear hat1
  rw [List.append_assoc] at hat2
  rw [← hlw] at hat2 hfb
  obtain ⟨e1, hat⟩ := wU_step (sect := "layer-and-mask") hat2 hfb
  clear hat2
  obtain ⟨li, g, ts⟩ := x
  simp only at hrest hsh1 hsh2 ⊢
  -- the body as a variable: only its length and, per case below, its decomposition are used
  generalize hB : LayerAndMask.bodyT v pad ⟨li, g, ts⟩ = body at *
  have e2 : skip "layer-and-mask" body.length d (p + lenW v) = .ok ((), p + lenW v + body.length) := by
    unfold skip; rw [if_pos (by omega)]
  cases li with
  | none =>
    obtain ⟨rfl, rfl⟩ := hrest
    have : body = [] := by rw [← hB]; simp [LayerAndMask.bodyT, optT']
    subst this
    simp only [List.length_nil] at e1 e2
    simp only [walkLayerAndMask, bind, Except.bind, e1, e2, if_true, List.length_nil, regionsOf, List.map_cons,
      List.map_nil]
    rw [hlw]
    rfl
  | some li =>
    simp only at hrest
    obtain ⟨hli, hg, hts, hgt⟩ := hrest
    simp only [optInfoShaped] at hsh1
    cases ts with
    | none => simp at hts
    | some ts =>
      simp only at hts
      simp only [optBlocksAgree] at hsh2
      have hbody : body = li.encT v pad ++ (optT' GlobalLayerMaskInfo.encT g ++ (taggedBlocksT v 4 ts ++ [])) := by
        rw [← hB]; simp only [LayerAndMask.bodyT, optT', List.append_assoc, List.append_nil]
      have hlige := li.length_encT_ge v pad
      have hne : ¬ body.length = 0 := by rw [hbody]; simp only [List.length_append]; omega
      have hblen : body.length = (li.encT v pad).length + (optT' GlobalLayerMaskInfo.encT g).length +
          (taggedBlocksT v 4 ts).length := by
        rw [hbody]; simp only [List.length_append, List.length_nil]; omega
      rw [List.append_nil, hbody] at hat
      obtain ⟨e3, hat⟩ := walkLayerInfo_full hv hp hli hsh1 hat
      have c1 : p + lenW v + (li.encT v pad).length ≤ p + lenW v + body.length := by omega
      cases g with
      | none =>
        have : ts = [] := by simpa using hgt rfl
        subst this
        simp only [optT', taggedBlocksT, listT, List.length_nil, Nat.add_zero] at hblen
        have c2 : ¬ p + lenW v + (li.encT v pad).length + 4 ≤ p + lenW v + body.length := by omega
        simp only [walkLayerAndMask, bind, Except.bind, e1, e2, if_neg hne, e3, check_eq, decide_eq_true_eq, if_pos c1,
          if_neg c2, regionsOf_cons, regionsOf_append]
        rw [hlw]
        simp only [regionsOf, List.map_nil, List.append_nil, Nat.add_assoc]
      | some g =>
        simp only [optProp] at hg
        simp only [optT'] at hat hblen
        obtain ⟨hgenc, hgf⟩ := globalMask_shape g hg.2.1
        have hgb : g.encT.length = 4 + g.bodyT.length := by rw [hgenc]; simp [length_beBytes]
        rw [hgenc, List.append_assoc] at hat
        obtain ⟨e4, hat⟩ := wU_step (sect := "global-layer-mask") hat hgf
        obtain ⟨e5, hat⟩ := skip_step (sect := "global-layer-mask") hat rfl
        have hcount : ts.length < body.length + 1 := by
          have := length_listT_le (TaggedBlock.encT v 4) ts 1 (fun t _ => by have := t.length_ge v 4; omega)
          unfold taggedBlocksT at hblen; omega
        have e6 := walkBlocksLoop_full (sect := "global-tagged-blocks") (v := v) (align := 4) (even := false)
          (Or.inr (Or.inr rfl)) ts hts.1 hsh2 (fun h => by cases h) hat (p + lenW v + body.length)
          (by omega) (by omega) (body.length + 1) hcount
        have c2 : p + lenW v + (li.encT v pad).length + 4 ≤ p + lenW v + body.length := by omega
        have c3 : p + lenW v + (li.encT v pad).length + 4 + g.bodyT.length ≤ p + lenW v + body.length := by omega
        simp only [walkLayerAndMask, bind, Except.bind, e1, e2, if_neg hne, e3, check_eq, decide_eq_true_eq, if_pos c1,
          if_pos c2, e4, e5, if_pos c3, e6, regionsOf_cons, regionsOf_append]
        rw [hlw, hgb]
        simp only [List.cons_append, Nat.add_assoc]

theorem walkImageData_full {i : ImageData} (hwf : i.WF) {d : B} {p : Nat} (hat : At d p i.encT)
    (hend : p + i.encT.length = d.length) :
    walkImageData d p = .ok ([⟨p, i.encT.length, "image-data"⟩], d.length) := by
  have hc : ∀ x ∈ G.imageCompressions, x < 256 ^ 2 ∧ x ≤ 3 := by decide
  have hwf' : i.compression ∈ G.imageCompressions := hwf
  have hl : d.length - p = i.encT.length := by omega
  simp only [ImageData.encT] at hat
  obtain ⟨e1, _⟩ := wU_step (sect := "image-data") hat (hc _ hwf').1
  simp only [walkImageData, bind, Except.bind, e1, check_eq, decide_eq_true_eq, if_pos (hc _ hwf').2, hl]

/-- everything the walker is expected to report for a document, in its order, each region with the
encoding of the sub-value it stands for: header, colour mode data, image resources (section, blocks),
layer and mask (section, layer info, records with their tagged blocks, channel data, global layer mask
info, document-level tagged blocks), image data -/
def fileSpans (pad : Nat) (x : PSD) : List Span :=
  [⟨⟨0, 26, "header"⟩, x.header.encT⟩,
   ⟨⟨26, (colorModeT x.colorModeData).length, "color-mode-data"⟩, colorModeT x.colorModeData⟩] ++
  resourcesSpans (26 + (colorModeT x.colorModeData).length) x.resources ++
  layerAndMaskSpans x.header.version pad (26 + (colorModeT x.colorModeData).length + (resourcesT x.resources).length)
    x.layerAndMask ++
  [⟨⟨26 + (colorModeT x.colorModeData).length + (resourcesT x.resources).length +
      (x.layerAndMask.encT x.header.version pad).length, x.imageData.encT.length, "image-data"⟩, x.imageData.encT⟩]

theorem encT_assoc (pad : Nat) (x : PSD) :
    x.encT pad = x.header.encT ++ (colorModeT x.colorModeData ++ (resourcesT x.resources ++
      (x.layerAndMask.encT x.header.version pad ++ x.imageData.encT))) := by
  simp only [PSD.encT, List.append_assoc]

/-- every expected span delimits its bytes in the file — a fact about the writer alone -/
theorem fileSpans_hold (pad : Nat) (x : PSD) : ∀ s ∈ fileSpans pad x, s.Holds (x.encT pad) := by
  have hat : At (x.encT pad) 0 (x.header.encT ++ (colorModeT x.colorModeData ++ (resourcesT x.resources ++
      (x.layerAndMask.encT x.header.version pad ++ (x.imageData.encT ++ []))))) := by
    rw [List.append_nil, ← encT_assoc]; exact At.self _
  have h0 := hat.left
  have hat := hat.right
  rw [Header.length_encT, Nat.zero_add] at hat
  have h1 := hat.left
  have hat := hat.right
  have h2 := hat
  have hat := hat.right
  have h3 := hat
  have hat := hat.right
  have h4 := hat.left
  intro s hs
  simp only [fileSpans, List.mem_append, List.mem_cons, List.not_mem_nil, or_false] at hs
  rcases hs with (((rfl | rfl) | hs) | hs) | rfl
  · exact ⟨Header.length_encT _ ▸ rfl, h0⟩
  · exact Span.holds_mk _ h1
  · exact resourcesSpans_hold _ h2 s hs
  · exact layerAndMaskSpans_hold _ _ _ h3 s hs
  · exact Span.holds_mk _ h4

/-- the walker, run on what the model writer emits for a well-formed, specification-shaped document,
reports exactly the expected regions and stops at the end of the file -/
theorem walk_encT_full {pad : Nat} (hp : pad = 1 ∨ pad = 2 ∨ pad = 4) {x : PSD} (hwf : x.WF pad) (hsh : SpecShaped x) :
    ∃ L, walk (x.encT pad) = .ok L ∧ L.stop = (x.encT pad).length ∧ L.regions = regionsOf (fileSpans pad x) := by
  obtain ⟨hh, hc, hr, hl, hi⟩ := hwf
  obtain ⟨hs1, hs2⟩ := hsh
  have hv : x.header.version = 1 ∨ x.header.version = 2 := by
    have : ∀ n ∈ G.headerVersions, n = 1 ∨ n = 2 := by decide
    exact this _ hh.2.1
  have hDlen : (x.encT pad).length = 26 + (colorModeT x.colorModeData).length + (resourcesT x.resources).length +
      (x.layerAndMask.encT x.header.version pad).length + x.imageData.encT.length := by
    rw [encT_assoc]; simp only [List.length_append, Header.length_encT]; omega
  unfold fileSpans
  generalize hD : x.encT pad = D at *
  have hD' : D = x.header.encT ++ (colorModeT x.colorModeData ++ (resourcesT x.resources ++
      (x.layerAndMask.encT x.header.version pad ++ x.imageData.encT))) := by
    rw [← hD]; exact encT_assoc pad x
  have hat : At D 0 (x.header.encT ++ (colorModeT x.colorModeData ++ (resourcesT x.resources ++
      (x.layerAndMask.encT x.header.version pad ++ x.imageData.encT)))) := by
    rw [← hD']; exact At.self D
  obtain ⟨e1, hat⟩ := walkHeader_full hh hat
  obtain ⟨e2, hat⟩ := walkColorMode_full hc hat
  obtain ⟨e3, hat⟩ := walkResources_full hr hat
  obtain ⟨e4, hat⟩ := walkLayerAndMask_full hv hp hl hs1 hs2 hat
  have e5 := walkImageData_full hi hat (by omega)
  simp only [Nat.zero_add] at e1 e2 e3 e4 e5
  have e : walk D = .ok ⟨⟨x.header.version, x.header.channels, x.header.height, x.header.width, x.header.depth,
      x.header.colorMode⟩,
      [⟨0, 26, "header"⟩] ++ [⟨26, (colorModeT x.colorModeData).length, "color-mode-data"⟩] ++
      regionsOf (resourcesSpans (26 + (colorModeT x.colorModeData).length) x.resources) ++
      regionsOf (layerAndMaskSpans x.header.version pad
        (26 + (colorModeT x.colorModeData).length + (resourcesT x.resources).length) x.layerAndMask) ++
      [⟨26 + (colorModeT x.colorModeData).length + (resourcesT x.resources).length +
        (x.layerAndMask.encT x.header.version pad).length, x.imageData.encT.length, "image-data"⟩], D.length⟩ := by
    simp only [walk, bind, Except.bind, e1, e2, e3, e4, e5]
  refine ⟨_, e, rfl, ?_⟩
  simp only [regionsOf, List.map_append, List.map_cons, List.map_nil]
  rfl

end PsdVerif.Walker
