/-
Lemmas for C15, part 1: the single pass of `rec_helper` (`computeClip`) equals the per-layer specification
(`computeClip_eq_clip`, by the loop invariant `Inv`), and the specification read declaratively. Core Lean only.
-/
import PsdVerif.Model.Clip

namespace PsdVerif.Clip
open Spec

theorem runLen_eq_takeWhile (l : List ChildFlags) : runLen l = (l.takeWhile (·.clipping)).length := by
  induction l with
  | nil => rfl
  | cons c rest ih => by_cases h : c.clipping <;> simp [runLen, List.takeWhile, h, ih]

theorem runLen_le (l : List ChildFlags) : runLen l ≤ l.length := by
  induction l with
  | nil => exact Nat.le_refl 0
  | cons c rest ih => simp only [runLen, List.length_cons]; split <;> omega

theorem runLen_clipping (l : List ChildFlags) (i : Nat) (h : i < runLen l) :
    ∃ c, l[i]? = some c ∧ c.clipping = true := by
  induction l generalizing i with
  | nil => cases h
  | cons c rest ih =>
    simp only [runLen] at h
    split at h
    · cases i with
      | zero => exact ⟨c, rfl, ‹_›⟩
      | succ i => exact ih i (by omega)
    · cases h

theorem runLen_stop (l : List ChildFlags) (c : ChildFlags) (h : l[runLen l]? = some c) : c.clipping = false := by
  induction l with
  | nil => cases h
  | cons d rest ih =>
    simp only [runLen] at h
    split at h
    · exact ih h
    · cases h; exact Bool.eq_false_iff.mpr ‹_›

/-- `R cs k`: length of the clipping run that starts at position `k`. -/
def R (cs : List ChildFlags) (k : Nat) : Nat := runLen (cs.drop k)

theorem R_cons (cs : List ChildFlags) (k : Nat) (c : ChildFlags) (h : cs[k]? = some c) :
    R cs k = if c.clipping then R cs (k + 1) + 1 else 0 := by
  obtain ⟨hk, rfl⟩ := List.getElem?_eq_some_iff.mp h
  rw [R, List.drop_eq_getElem_cons hk]
  rfl

/-- the run above position `i`, as the specification lists it, in terms of `R` -/
theorem runAbove_eq (cs : List ChildFlags) (i : Nat) : runAbove cs i = List.range' (i + 1) (R cs (i + 1)) := rfl

theorem R_end (cs : List ChildFlags) : R cs cs.length = 0 := by rw [R, List.drop_length]; rfl

theorem R_bound (cs : List ChildFlags) (k : Nat) (hk : k ≤ cs.length) : k + R cs k ≤ cs.length := by
  have := runLen_le (cs.drop k)
  rw [List.length_drop] at this
  unfold R
  omega

theorem R_mem_clipping (cs : List ChildFlags) (k j : Nat) (h1 : k ≤ j) (h2 : j < k + R cs k) :
    ∃ c, cs[j]? = some c ∧ c.clipping = true := by
  have := runLen_clipping (cs.drop k) (j - k) (by unfold R at h2; omega)
  rwa [List.getElem?_drop, show k + (j - k) = j by omega] at this

theorem R_stop (cs : List ChildFlags) (k : Nat) (d : ChildFlags) (h : cs[k + R cs k]? = some d) :
    d.clipping = false :=
  runLen_stop (cs.drop k) d (by rw [List.getElem?_drop]; exact h)

theorem take_succ_reverse (cs : List ChildFlags) (j : Nat) (c : ChildFlags) (h : cs[j]? = some c) :
    (cs.take (j + 1)).reverse = c :: (cs.take j).reverse := by
  rw [List.take_add_one, h]; simp

theorem targetIn_skip (m : CompatMode) (cs : List ChildFlags) (b j : Nat) (hb : b ≤ j)
    (h : ∀ i, b ≤ i → i < j → ∃ c, cs[i]? = some c ∧ c.clipping = true) :
    targetIn m (cs.take j).reverse = targetIn m (cs.take b).reverse := by
  induction j with
  | zero => rw [Nat.le_zero.mp hb]
  | succ j ih =>
    rcases Nat.lt_or_ge b (j + 1) with hlt | hge
    · obtain ⟨c, hc, hcl⟩ := h j (by omega) (by omega)
      rw [take_succ_reverse cs j c hc, targetIn, if_pos hcl]
      exact ih (by omega) (fun i h1 h2 => h i h1 (by omega))
    · rw [Nat.le_antisymm hb hge]

theorem infoAt_in_run (m : CompatMode) (cs : List ChildFlags) (b j : Nat) (d : ChildFlags) (hb : b ≤ j)
    (hj : j < b + R cs b) (hd : cs[j]? = some d) : infoAt m cs d j = ⟨[], targetIn m (cs.take b).reverse⟩ := by
  obtain ⟨d', hd', hdc⟩ := R_mem_clipping cs b j hb hj
  cases hd.symm.trans hd'
  simp only [infoAt, eligible, hdc, Bool.not_true, Bool.false_and, Bool.false_eq_true, if_false, if_true,
    targetIn_skip m cs b j hb fun i h1 h2 => R_mem_clipping cs b i h1 (by omega)]

/-- State of the pass when the positions `≥ k` have been processed. -/
structure Inv (m : CompatMode) (cs : List ChildFlags) (k : Nat) (s : ClipSt) : Prop where
  stack : s.stack = (List.range' k (R cs k)).reverse
  done : ∀ j c, k + R cs k ≤ j → cs[j]? = some c →
    s.clip j = (infoAt m cs c j).clipLayers ∧ s.tgt j = (infoAt m cs c j).hasTarget
  fresh : ∀ j, j < k + R cs k → s.clip j = [] ∧ s.tgt j = true

theorem inv_init (m : CompatMode) (cs : List ChildFlags) : Inv m cs cs.length ClipSt.init where
  stack := by rw [R_end]; rfl
  done := fun j c h1 h2 => absurd (List.getElem?_eq_some_iff.mp h2).1 (by omega)
  fresh := fun j _ => ⟨rfl, rfl⟩

theorem mem_stack (cs : List ChildFlags) (k j : Nat) :
    j ∈ (List.range' k (R cs k)).reverse ↔ k ≤ j ∧ j < k + R cs k := by
  simp [List.mem_range'_1]

/-- the step at a non-clipping layer, position by position -/
theorem stepClip_base (m : CompatMode) (s : ClipSt) (k : Nat) (c : ChildFlags) (hcl : c.clipping = false) :
    (stepClip m s k c).stack = [] ∧
    (∀ j, (stepClip m s k c).clip j = if eligible m c = true ∧ j = k then s.stack.reverse else s.clip j) ∧
    (∀ j, (stepClip m s k c).tgt j = if eligible m c = false ∧ j ∈ s.stack then false else s.tgt j) := by
  unfold stepClip eligible ClipSt.noTarget
  cases hp : c.passThrough <;> cases hr : m.restrictive <;> simp [hcl]

theorem inv_step (m : CompatMode) (cs : List ChildFlags) (k : Nat) (c : ChildFlags) (s : ClipSt)
    (hc : cs[k]? = some c) (inv : Inv m cs (k + 1) s) : Inv m cs k (stepClip m s k c) := by
  obtain ⟨hstack, hdone, hfresh⟩ := inv
  have hR := R_cons cs k c hc
  by_cases hcl : c.clipping = true
  · -- a clipping layer joins the pending run
    rw [if_pos hcl] at hR
    simp only [stepClip, hcl, if_true]
    exact ⟨by rw [hstack, hR, List.range'_succ, List.reverse_cons], fun j d h1 h2 => hdone j d (by omega) h2,
      fun j h1 => hfresh j (by omega)⟩
  · -- a non-clipping layer ends the run above it: an eligible base takes it, else its layers lose their target
    have hcl := Bool.eq_false_iff.mpr hcl
    rw [hcl, if_neg Bool.false_ne_true] at hR
    obtain ⟨e1, e2, e3⟩ := stepClip_base m s k c hcl
    have hmem : ∀ j, j ∈ s.stack ↔ k + 1 ≤ j ∧ j < k + 1 + R cs (k + 1) := fun j => hstack ▸ mem_stack cs (k + 1) j
    refine ⟨by rw [e1, hR]; rfl, fun j d h1 h2 => ?_, fun j h1 => ?_⟩
    · simp only [e2, e3, hmem]
      rcases Nat.lt_or_ge j (k + 1 + R cs (k + 1)) with hlt | hge
      · obtain ⟨f1, f2⟩ := hfresh j hlt
        rcases Nat.eq_or_lt_of_le (show k ≤ j by omega) with rfl | hgt
        · cases hc.symm.trans h2
          simp only [infoAt, hcl, hstack, List.reverse_reverse, runAbove_eq, f1, f2, and_true, Bool.false_eq_true, if_false,
            show ¬ (k + 1 ≤ k) by omega, false_and, and_false]
        · rw [infoAt_in_run m cs (k + 1) j d hgt hlt h2, take_succ_reverse cs k c hc, targetIn, hcl, f1, f2]
          simp only [show j ≠ k by omega, and_false, if_false, show k + 1 ≤ j from hgt, hlt, and_true, Bool.false_eq_true,
            true_and]
          cases eligible m c <;> rfl
      · rw [if_neg (by omega), if_neg (by omega)]
        exact hdone j d hge h2
    · simp only [e2, e3, hmem]
      rw [if_neg (by omega), if_neg (by omega)]
      exact hfresh j (by omega)

theorem inv_loop (m : CompatMode) (cs : List ChildFlags) (k : Nat) (hk : k ≤ cs.length) (s : ClipSt)
    (inv : Inv m cs k s) : Inv m cs 0 (loop m (cs.take k).reverse s) := by
  induction k generalizing s with
  | zero => exact inv
  | succ k ih =>
    have hc : cs[k]? = some cs[k] := List.getElem?_eq_getElem hk
    rw [take_succ_reverse cs k cs[k] hc, loop, List.length_reverse, List.length_take, Nat.min_eq_left (Nat.le_of_lt hk)]
    exact ih (Nat.le_of_lt hk) _ (inv_step m cs k cs[k] s hc inv)

/-- The trailing `for clip_layer in stack` settles the run at the bottom of the group. -/
theorem final_spec (m : CompatMode) (cs : List ChildFlags) (s : ClipSt) (inv : Inv m cs 0 s)
    (j : Nat) (c : ChildFlags) (hc : cs[j]? = some c) :
    s.noTarget.clip j = (infoAt m cs c j).clipLayers ∧ s.noTarget.tgt j = (infoAt m cs c j).hasTarget := by
  obtain ⟨hstack, hdone, hfresh⟩ := inv
  have hmem : j ∈ s.stack ↔ 0 ≤ j ∧ j < 0 + R cs 0 := hstack ▸ mem_stack cs 0 j
  simp only [ClipSt.noTarget, hmem, Nat.zero_le, true_and]
  rcases Nat.lt_or_ge j (0 + R cs 0) with hlt | hge
  · rw [if_pos hlt, infoAt_in_run m cs 0 j c (Nat.zero_le j) hlt hc]
    exact ⟨(hfresh j hlt).1, rfl⟩
  · rw [if_neg (by omega)]
    exact hdone j c hge hc

theorem getElem?_clip (m : CompatMode) (cs : List ChildFlags) (i : Nat) :
    (clip m cs)[i]? = (cs[i]?).map fun c => infoAt m cs c i := by
  simp only [clip, List.getElem?_map, List.getElem?_zipIdx, Nat.zero_add, Option.map_map]
  rfl

theorem computeClip_eq_clip (m : CompatMode) (cs : List ChildFlags) : computeClip m cs = Spec.clip m cs := by
  have inv := inv_loop m cs cs.length (Nat.le_refl _) _ (inv_init m cs)
  rw [List.take_length] at inv
  apply List.ext_getElem?
  intro i
  rcases Nat.lt_or_ge i cs.length with hi | hi
  · have hc : cs[i]? = some cs[i] := List.getElem?_eq_getElem hi
    obtain ⟨e1, e2⟩ := final_spec m cs _ inv i cs[i] hc
    rw [getElem?_clip, hc]
    simp only [computeClip, List.getElem?_map, List.getElem?_range hi, Option.map_some, e1, e2]
  · rw [List.getElem?_eq_none (by simpa [computeClip] using hi), List.getElem?_eq_none (by simpa [clip] using hi)]

theorem computeClip_getElem? (m : CompatMode) (cs : List ChildFlags) (i : Nat) :
    (computeClip m cs)[i]? = (cs[i]?).map fun c => infoAt m cs c i := by
  rw [computeClip_eq_clip, getElem?_clip]

def ClipAt (cs : List ChildFlags) (l : Nat) : Prop := ∃ d, cs[l]? = some d ∧ d.clipping = true

/-- `i` is an eligible base beneath position `j` with nothing but clipping layers strictly between. -/
def BaseFor (m : CompatMode) (cs : List ChildFlags) (i j : Nat) : Prop :=
  i < j ∧ (∃ c, cs[i]? = some c ∧ eligible m c = true) ∧ ∀ l, i < l → l < j → ClipAt cs l

theorem eligible_not_clipping {m : CompatMode} {c : ChildFlags} (he : eligible m c = true) (hcl : c.clipping = true) :
    False := by
  simp [eligible, hcl] at he

theorem targetIn_iff (m : CompatMode) (cs : List ChildFlags) (j : Nat) (hj : j ≤ cs.length) :
    targetIn m (cs.take j).reverse = true ↔ ∃ i, BaseFor m cs i j := by
  induction j with
  | zero => simp [targetIn, BaseFor]
  | succ j ih =>
    have hc : cs[j]? = some cs[j] := List.getElem?_eq_getElem hj
    rw [take_succ_reverse cs j cs[j] hc, targetIn]
    by_cases hcl : cs[j].clipping = true
    · -- a clipping layer at `j`: the bases for `j + 1` are those for `j`
      rw [if_pos hcl, ih (Nat.le_of_lt hj)]
      constructor
      · rintro ⟨i, h1, h2, h3⟩
        refine ⟨i, by omega, h2, fun l hl1 hl2 => ?_⟩
        rcases Nat.lt_or_ge l j with h | h
        · exact h3 l hl1 h
        · cases (by omega : l = j); exact ⟨cs[j], hc, hcl⟩
      · rintro ⟨i, h1, ⟨c, hci, he⟩, h3⟩
        rcases Nat.lt_or_ge i j with h | h
        · exact ⟨i, h, ⟨c, hci, he⟩, fun l hl1 hl2 => h3 l hl1 (by omega)⟩
        · cases (by omega : i = j)
          cases hc.symm.trans hci
          exact (eligible_not_clipping he hcl).elim
    · -- a non-clipping layer at `j`: it is the only candidate
      rw [if_neg hcl]
      constructor
      · exact fun he => ⟨j, by omega, ⟨cs[j], hc, he⟩, fun l hl1 hl2 => by omega⟩
      · rintro ⟨i, h1, ⟨c, hci, he⟩, h3⟩
        rcases Nat.lt_or_ge i j with h | h
        · obtain ⟨d, hd, hdc⟩ := h3 j h (by omega)
          cases hc.symm.trans hd
          exact absurd hdc hcl
        · cases (by omega : i = j)
          cases hc.symm.trans hci
          exact he

theorem mem_runAbove (cs : List ChildFlags) (i j : Nat) :
    j ∈ runAbove cs i ↔ i < j ∧ ∀ l, i < l → l ≤ j → ClipAt cs l := by
  rw [runAbove_eq, List.mem_range'_1]
  constructor
  · rintro ⟨h1, h2⟩
    exact ⟨h1, fun l hl1 hl2 => R_mem_clipping cs (i + 1) l hl1 (by omega)⟩
  · rintro ⟨h1, h2⟩
    refine ⟨h1, Nat.lt_of_not_le fun h => ?_⟩
    -- otherwise the layer that stops the run would be one of the clipping layers up to `j`
    obtain ⟨d, hd, hdc⟩ := h2 (i + 1 + R cs (i + 1)) (by omega) h
    exact absurd hdc (by rw [R_stop cs (i + 1) d hd]; exact Bool.false_ne_true)

end PsdVerif.Clip
