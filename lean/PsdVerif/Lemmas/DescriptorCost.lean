/-
C06 — the counting descriptor reader: erasure, and a LINEAR bound that does not depend on the nesting depth.

Nesting does not copy (a container reads its items from the same stream), and every level pays for itself out of
its own header: with the coefficient 4 (ticks + bytes per byte consumed)

  value after its OSType    `Cost 4 10 0`                      (`ValInv`)
  OSType + value / key + OSType + value
                            cost + 1 ≤ 4 · (bytes consumed)     (`Slack 1 4 16 4`: the `+ 1` is the enclosing loop's tick)
  `for _ in range(count)`   cost ≤ 4 · (bytes consumed)         (`Slack 0 4 16 0`: whatever `count` is)

so `decWithC` maps `ValInv` for the values inside containers to `ValInv`, and the induction on the fuel closes with
the same constants at every depth. `Slack` and its sequencing rules are those of Lemmas/PayloadCost2.lean.
-/
import PsdVerif.Model.DescriptorCost
import PsdVerif.Lemmas.PayloadCost2
import PsdVerif.Lemmas.Descriptor4

namespace PsdVerif.DescriptorCost
open PsdVerif PsdVerif.Codec PsdVerif.PsdCost PsdVerif.Descriptor PsdVerif.PayloadCost PsdVerif.Safe PsdVerif.SafeCost

/-! ### erasure -/

def Er {α : Type} (rc : RC α) (r : R α) : Prop := ∀ d p, (rc d p).1 = r d p

theorem Er.bind {α β : Type} {rc : RC α} {r : R α} {fc : α → RC β} {f : α → R β}
    (h : Er rc r) (hf : ∀ a, Er (fc a) (f a)) : Er (rc >>~ fc) (r >>- f) := by
  intro d p
  unfold rbindC rbind
  rw [bind_fst, h]
  cases r d p with
  | error e => rfl
  | ok x => obtain ⟨a, p1⟩ := x; exact hf a d p1

theorem Er.pure {α : Type} (a : α) : Er (rpureC a) (rpure a) := fun _ _ => rfl
theorem Er.fail {α : Type} (e : Err) : Er (rfailC e : RC α) (rfail e) := fun _ _ => rfl

theorem er_readUC (w : Nat) : Er (readUC w) (readU w) := readUC_fst w
theorem er_readNC (n : Nat) : Er (readNC n) (readN n) := readNC_fst n
theorem er_readUpToC (n : Nat) : Er (readUpToC n) (readUpTo n) := readUpToC_fst n
theorem er_readI32C : Er readI32C readI32 := readI32C_fst
theorem er_readLenBlockC (s w p : Nat) : Er (readLenBlockC s w p) (readLenBlock s w p) := readLenBlockC_fst s w p
theorem er_readStrC : Er readStrC readStr := readUStrC_fst 1
theorem er_readKeyRC (tb : Tables) : Er (readKeyRC tb) (readKeyR tb) := readKeyC_fst tb.terms
theorem er_readF64sC (n : Nat) : Er (readF64sC n) (readF64s n) := fun _ _ => rfl

theorem er_readTagC : Er readTagC readTag := by
  unfold readTagC readTag
  refine Er.bind (er_readUpToC 4) fun b => ?_
  cases Tag.ofBytes b with
  | none => exact Er.fail _
  | some t => exact Er.pure _

theorem er_readI64C : Er readI64C readI64 := Er.bind (er_readUC 8) fun _ => Er.pure _
theorem er_readBoolC : Er DescriptorCost.readBoolC Descriptor.readBool := Er.bind (er_readUC 1) fun _ => Er.pure _

theorem er_unitOfC (tb : Tables) (b : B) : Er (unitOfC tb b) (unitOf tb b) := by
  unfold unitOfC unitOf
  split
  · exact Er.pure _
  · split
    · exact Er.pure _
    · exact Er.fail _

theorem er_readCountC {α : Type} {ic : RC α} {i : R α} (h : Er ic i) (n : Nat) : Er (readCountC ic n) (readCount i n) :=
  fun d p => readCountC_fst h n d p

theorem er_taggedC {rc : Tag → RC DVal} {r : Tag → R DVal} (h : ∀ t, Er (rc t) (r t)) : Er (taggedC rc) (tagged r) :=
  Er.bind er_readTagC h

theorem er_keyedC (tb : Tables) {rc : Tag → RC DVal} {r : Tag → R DVal} (h : ∀ t, Er (rc t) (r t)) :
    Er (keyedC tb rc) (keyed tb r) :=
  Er.bind (er_readKeyRC tb) fun _ => Er.bind (er_taggedC h) fun _ => Er.pure _

theorem er_readBodyC (tb : Tables) {rc : Tag → RC DVal} {r : Tag → R DVal} (h : ∀ t, Er (rc t) (r t)) :
    Er (readBodyC tb rc) (readBody tb r) :=
  Er.bind er_readStrC fun _ => Er.bind (er_readKeyRC tb) fun _ => Er.bind (er_readUC 4) fun n =>
    Er.bind (er_readCountC (er_keyedC tb h) n) fun _ => Er.pure _

theorem er_decIntC (t : IntTag) : Er (decIntC t) (decInt t) := Er.bind er_readI32C fun _ => Er.pure _
theorem er_decClassC (tb : Tables) (t : ClassTag) : Er (decClassC tb t) (decClass tb t) :=
  Er.bind er_readStrC fun _ => Er.bind (er_readKeyRC tb) fun _ => Er.pure _
theorem er_decRawC (t : RawTag) : Er (decRawC t) (decRaw t) := Er.bind (er_readLenBlockC 0 4 1) fun _ => Er.pure _
theorem er_decListC {rc : Tag → RC DVal} {r : Tag → R DVal} (h : ∀ t, Er (rc t) (r t)) (t : ListTag) :
    Er (decListC rc t) (decList r t) :=
  Er.bind (er_readUC 4) fun n => Er.bind (er_readCountC (er_taggedC h) n) fun _ => Er.pure _
theorem er_decDescC (tb : Tables) {rc : Tag → RC DVal} {r : Tag → R DVal} (h : ∀ t, Er (rc t) (r t)) (t : DescTag) :
    Er (decDescC tb rc t) (decDesc tb r t) :=
  Er.bind (er_readBodyC tb h) fun _ => Er.pure _

theorem er_decWithC (tb : Tables) {rc : Tag → RC DVal} {r : Tag → R DVal} (h : ∀ t, Er (rc t) (r t)) (t : Tag) :
    Er (decWithC tb rc t) (decWith tb r t) := by
  cases t <;> unfold decWithC decWith
  case integer => exact er_decIntC _
  case identifier => exact er_decIntC _
  case index => exact er_decIntC _
  case largeInteger => exact Er.bind er_readI64C fun _ => Er.pure _
  case boolean => exact Er.bind er_readBoolC fun _ => Er.pure _
  case double => exact Er.bind (er_readUC 8) fun _ => Er.pure _
  case unitFloat =>
    exact Er.bind (er_readNC 4) fun _ => Er.bind (er_readUC 8) fun _ => Er.bind (er_unitOfC tb _) fun _ => Er.pure _
  case unitFloats =>
    exact Er.bind (er_readNC 4) fun _ => Er.bind (er_readUC 4) fun _ => Er.bind (er_unitOfC tb _) fun _ =>
      Er.bind (er_readF64sC _) fun _ => Er.pure _
  case string => exact Er.bind er_readStrC fun _ => Er.pure _
  case enumerated => exact Er.bind (er_readKeyRC tb) fun _ => Er.bind (er_readKeyRC tb) fun _ => Er.pure _
  case enumeratedReference =>
    exact Er.bind er_readStrC fun _ => Er.bind (er_readKeyRC tb) fun _ => Er.bind (er_readKeyRC tb) fun _ =>
      Er.bind (er_readKeyRC tb) fun _ => Er.pure _
  case class1 => exact er_decClassC tb _
  case class2 => exact er_decClassC tb _
  case class3 => exact er_decClassC tb _
  case property =>
    exact Er.bind er_readStrC fun _ => Er.bind (er_readKeyRC tb) fun _ => Er.bind (er_readKeyRC tb) fun _ => Er.pure _
  case name => exact Er.bind er_readStrC fun _ => Er.bind (er_readKeyRC tb) fun _ => Er.bind er_readStrC fun _ => Er.pure _
  case offset => exact Er.bind er_readStrC fun _ => Er.bind (er_readKeyRC tb) fun _ => Er.bind (er_readUC 4) fun _ => Er.pure _
  case rawData => exact er_decRawC _
  case alias => exact er_decRawC _
  case path => exact er_decRawC _
  case list => exact er_decListC h _
  case reference => exact er_decListC h _
  case descriptor => exact er_decDescC tb h _
  case globalObject => exact er_decDescC tb h _
  case objectArray => exact Er.bind (er_readUC 4) fun _ => Er.bind (er_readBodyC tb h) fun _ => Er.pure _

theorem er_decBodyC (tb : Tables) (fuel : Nat) (t : Tag) : Er (decBodyC tb fuel t) (decBody tb fuel t) := by
  induction fuel generalizing t with
  | zero => exact Er.fail _
  | succ fuel ih => exact er_decWithC tb ih t

theorem decC_fst (tb : Tables) (t : Tag) (d : B) (p : Nat) : (decC tb t d p).1 = dec tb t d p :=
  er_decBodyC tb _ t d p

theorem decTaggedC_fst (tb : Tables) (d : B) (p : Nat) : (decTaggedC tb d p).1 = decTagged tb d p :=
  er_taggedC (er_decBodyC tb _) d p

theorem Block.decC_fst (tb : Tables) (d : B) (p : Nat) : (Block.decC tb d p).1 = Block.dec tb d p := by
  unfold Block.decC Block.dec
  refine Er.bind (er_readUC 4) (fun ver => Er.bind (er_readBodyC tb (er_decBodyC tb _)) fun x => ?_) d p
  split
  · exact Er.pure _
  · exact Er.fail _

theorem Block2.decC_fst (tb : Tables) (d : B) (p : Nat) : (Block2.decC tb d p).1 = Block2.dec tb d p := by
  unfold Block2.decC Block2.dec
  refine Er.bind (er_readUC 4) (fun ver => Er.bind (er_readUC 4) fun dv =>
    Er.bind (er_readBodyC tb (er_decBodyC tb _)) fun x => ?_) d p
  split
  · exact Er.pure _
  · exact Er.fail _

/-! ### cost -/

/-- the cost judgement along `>>~` -/
theorem Cost.rbind {α β : Type} {a₁ a₂ b₁ b₂ k₁ k₂ : Nat} {d : B} {p : Nat} {r : RC α} {f : α → RC β}
    (hr : Cost a₁ b₁ k₁ d p (r d p))
    (hf : ∀ v p₁, (r d p).1 = .ok (v, p₁) → p₁ ≤ d.length → Cost a₂ b₂ k₂ d p₁ (f v d p₁)) :
    Cost (max a₁ a₂) (b₁ + b₂) (k₁ + k₂) d p ((r >>~ f) d p) := by
  unfold rbindC
  exact Cost.bind hr hf

theorem Cost.rpure {α : Type} {d : B} {p : Nat} (a : α) (hp : p ≤ d.length) : Cost 0 0 0 d p (rpureC a d p) :=
  Cost.ok a hp

theorem Cost.rfail {α : Type} {d : B} {p : Nat} (k : Nat) {e : Err} (he : e ≠ .other) :
    Cost 0 0 k d p ((rfailC e : RC α) d p) := Cost.error k he

/-- the end of a `>>~` chain -/
macro "rdone" : tactic => `(tactic| first | exact Cost.rpure _ (by assumption) | exact Cost.rfail _ (by decide))

/-- the value of an item, after its OSType was read -/
abbrev ValInv (d : B) (p : Nat) (x : CE (DVal × Nat)) : Prop := Cost 4 10 0 d p x

/-- a whole `for _ in range(count)` loop over items that leave one unit of slack: `Slack 0 4 16 0` written out -/
def LoopInv {β : Type} (d : B) (p : Nat) (x : CE (β × Nat)) : Prop :=
  match x.1 with
  | .ok (_, p') => p ≤ p' ∧ p' ≤ d.length ∧ x.2.w ≤ 4 * (p' - p)
  | .error e => e ≠ .other ∧ x.2.w ≤ 4 * (d.length - p) + 16

theorem readTagC_cost {d : B} {p : Nat} (hp : p ≤ d.length) : Cost 1 1 4 d p (readTagC d p) := by
  refine Cost.intro (fun t p' hx => ?_) (fun e hx => ?_)
  all_goals
    unfold readTagC rbindC at hx ⊢
    rw [bind_fst] at hx
    rw [bind_snd]
    have hc := readUpToC_cost 4 (d := d) (p := p) hp
  · cases h1 : (readUpToC 4 d p).1 with
    | error e1 => rw [h1] at hx; cases hx
    | ok y =>
      obtain ⟨b, p1⟩ := y
      rw [h1] at hx
      have c1 := hc.of_ok h1
      have l1 := readUpToC_ok h1
      dsimp only at hx ⊢
      cases ht : Tag.ofBytes b with
      | none => rw [ht] at hx; cases hx
      | some t' =>
        rw [ht] at hx
        cases hx
        have h4 := Tag.ofBytes_some ht
        refine ⟨by omega, c1.2.1, ?_⟩
        show ((readUpToC 4 d p).2 + (rpureC t d p').2).w ≤ _
        rw [w_add]
        have : (rpureC t d p').2.w = 0 := rfl
        omega
  · cases h1 : (readUpToC 4 d p).1 with
    | error e1 => exact absurd (h1 : readUpTo 4 d p = .error e1) (readUpTo_ne_error 4 d p e1)
    | ok y =>
      obtain ⟨b, p1⟩ := y
      rw [h1] at hx
      have c1 := hc.w_le
      dsimp only at hx ⊢
      cases ht : Tag.ofBytes b with
      | some t' => rw [ht] at hx; cases hx
      | none =>
        rw [ht] at hx
        cases hx
        refine ⟨by decide, ?_⟩
        show ((readUpToC 4 d p).2 + ((rfailC Err.valueError : RC Tag) d p1).2).w ≤ _
        rw [w_add]
        have : ((rfailC Err.valueError : RC Tag) d p1).2.w = 0 := rfl
        omega

/-- OSType, then the value: the four bytes of the tag pay for its read, the constant of the value and the tick -/
theorem taggedC_inv {rec : Tag → RC DVal} {d : B} (hr : ∀ t p, p ≤ d.length → ValInv d p (rec t d p))
    (p : Nat) (hp : p ≤ d.length) : Slack 1 4 16 4 d p (taggedC rec d p) := by
  unfold taggedC rbindC
  exact (Slack.seq_cost (s := 1)
    (Slack.of_cost (readTagC_cost hp) (fun n hn => by omega) (by decide) (by decide))
    (fun t p₁ _ hp₁ => hr t p₁ hp₁) (Nat.le_refl _) (Nat.le_refl _))

/-- key, OSType, value -/
theorem keyedC_inv (tb : Tables) {rec : Tag → RC DVal} {d : B} (hr : ∀ t p, p ≤ d.length → ValInv d p (rec t d p))
    (p : Nat) (hp : p ≤ d.length) : Slack 1 4 16 4 d p (keyedC tb rec d p) := by
  unfold keyedC rbindC
  exact (Slack.bind (k₂ := 4) (readKeyC_cost tb.terms hp)
    (fun k p₁ _ hp₁ => Slack.map (g := fun v => (k, v)) ((taggedC_inv hr p₁ hp₁).mono (Nat.zero_le _)))
    (fun n hn => by omega) (by decide) (by decide) (by decide))

/-- a `LoopInv` step followed by a pure step, inside a `Cost` chain -/
theorem Cost.of_loop {β : Type} {d : B} {p : Nat} {x : CE (β × Nat)} (h : LoopInv d p x) : Cost 4 16 0 d p x := by
  unfold LoopInv at h
  refine Cost.intro (fun v p' hx => ?_) (fun e hx => ?_)
  · rw [hx] at h
    exact ⟨h.1, h.2.1, Nat.le_trans h.2.2 (Nat.le_add_right ..)⟩
  · rw [hx] at h
    exact h

/-- name, class id, count, items: paid by its own header whatever the count (each step of the header consumes ≥ 4
bytes at one unit per byte, which leaves room for the constants of the steps behind it) -/
theorem readBodyC_cost (tb : Tables) {rec : Tag → RC DVal} {d : B} (hr : ∀ t p, p ≤ d.length → ValInv d p (rec t d p))
    (p : Nat) (hp : p ≤ d.length) : Cost 4 6 12 d p (readBodyC tb rec d p) := by
  unfold readBodyC rbindC
  refine (Cost.bind_le (A := 4) (b := 3) (b₂ := fun _ _ => 2) (k₂ := 8) (readUStrC_cost 1 (by decide) hp)
    (fun nm p₁ _ hp₁ => ?_) (fun _ p₁ _ h _ => by omega) (by decide) (by decide) (Nat.le_refl _) (Nat.le_refl _)).mono
    (Nat.le_refl _) (by decide) (Nat.le_refl _)
  refine Cost.bind_le (A := 4) (b₂ := fun _ _ => 5) (k₂ := 4) (readKeyC_cost tb.terms hp₁)
    (fun cid p₂ _ hp₂ => ?_) (fun _ p₂ _ h _ => by omega) (by decide) (Nat.le_refl _) (Nat.le_refl _) (Nat.le_refl _)
  refine Cost.bind_le (A := 4) (b₂ := fun _ _ => 16) (k₂ := 0) (readUC_cost 4)
    (fun n p₃ _ hp₃ => ?_) (fun _ p₃ _ h _ => by omega) (by decide) (by decide) (Nat.le_refl _) (Nat.le_refl _)
  exact Cost.map (g := fun items => (nm, cid, dictOf items))
    (readCountC_slack n p₃ hp₃ fun q _ hq => keyedC_inv tb hr q hq).cost

/-- count, then the items: the header pays for the constants -/
theorem decListC_inv {rec : Tag → RC DVal} {d : B} (hr : ∀ t p, p ≤ d.length → ValInv d p (rec t d p))
    (lt : ListTag) (p : Nat) (hp : p ≤ d.length) : ValInv d p (decListC rec lt d p) := by
  unfold decListC rbindC
  refine (Cost.bind_le (A := 4) (b := 5) (b₂ := fun _ _ => 16) (k₂ := 0) (readUC_cost 4)
    (fun n p₃ _ hp₃ => ?_) (fun _ p₃ _ h _ => by omega) (by decide) (by decide) (Nat.le_refl _) (Nat.le_refl _)).mono
    (Nat.le_refl _) (by decide) (Nat.zero_le _)
  exact Cost.map (g := fun items => DVal.list lt items)
    (readCountC_slack n p₃ hp₃ fun q _ hq => taggedC_inv hr q hq).cost

theorem unitOfC_cost (tb : Tables) (b : B) {d : B} {p : Nat} (hp : p ≤ d.length) : Cost 0 0 0 d p (unitOfC tb b d p) := by
  unfold unitOfC
  split
  · exact Cost.rpure _ hp
  · split
    · exact Cost.rpure _ hp
    · exact Cost.rfail 0 (by decide)

theorem readF64s_ok {n : Nat} {d : B} {p : Nat} {v : List Nat} {p' : Nat} (h : readF64s n d p = .ok (v, p')) :
    p' = p + 8 * n ∧ p' ≤ d.length := by
  unfold readF64s at h
  split at h
  · rename_i hle
    have : ∀ (n : Nat) (p : Nat) (v : List Nat) (p' : Nat), readCount (readU 8) n d p = .ok (v, p') → p' = p + 8 * n := by
      intro n
      induction n with
      | zero => intro p v p' h; unfold readCount at h; cases h; omega
      | succ n ih =>
        intro p v p' h
        unfold readCount at h
        split at h
        · cases h
        · rename_i a p1 h1
          have := Safe.readU_ok h1
          split at h
          · cases h
          · rename_i as p2 h2
            cases h
            have := ih _ _ _ h2
            omega
    have := this n p v p' h
    omega
  · cases h

theorem readF64s_err {n : Nat} {d : B} {p : Nat} {e : Err} (h : readF64s n d p = .error e) : e = .ioError := by
  unfold readF64s at h
  split at h
  · have : ∀ (n : Nat) (p : Nat) (e : Err), readCount (readU 8) n d p = .error e → e = .ioError := by
      intro n
      induction n with
      | zero => intro p e h; unfold readCount at h; cases h
      | succ n ih =>
        intro p e h
        unfold readCount at h
        split at h
        · rename_i e1 h1; cases h; exact readU_err h1
        · split at h
          · rename_i e2 h2; cases h; exact ih _ _ h2
          · cases h
    exact this n p e h
  · cases h; rfl

theorem readF64sC_cost (n : Nat) {d : B} {p : Nat} (hp : p ≤ d.length) : Cost 1 1 0 d p (readF64sC n d p) := by
  unfold readF64sC
  refine prim_cost (fun v p' h => ?_) (fun e h => ?_)
  · have := readF64s_ok h
    exact ⟨by omega, this.2, Nat.zero_le _⟩
  · have := readF64s_err h
    subst this
    exact ⟨by decide, by omega⟩

theorem readI64C_cost {d : B} {p : Nat} (hp : p ≤ d.length) : Cost 1 1 8 d p (readI64C d p) := by
  apply Cost.mono
  case h => unfold readI64C; cstep Cost.rbind (readUC_cost 8); rdone
  all_goals decide

theorem readBoolC_cost' {d : B} {p : Nat} (hp : p ≤ d.length) : Cost 1 1 1 d p (DescriptorCost.readBoolC d p) := by
  apply Cost.mono
  case h => unfold DescriptorCost.readBoolC; cstep Cost.rbind (readUC_cost 1); rdone
  all_goals decide

/-- a value with values inside: the values inside obey `ValInv`, then so does the value -/
theorem decWithC_inv (tb : Tables) {rec : Tag → RC DVal} {d : B} (hr : ∀ t p, p ≤ d.length → ValInv d p (rec t d p))
    (t : Tag) (p : Nat) (hp : p ≤ d.length) : ValInv d p (decWithC tb rec t d p) := by
  have hint : ∀ it, ValInv d p (decIntC it d p) := fun it => by
    apply Cost.mono
    case h => unfold decIntC; cstep Cost.rbind readI32C_cost; rdone
    all_goals decide
  have hclass : ∀ ct, ValInv d p (decClassC tb ct d p) := fun ct => by
    apply Cost.mono
    case h => unfold decClassC; cstep Cost.rbind (readUStrC_cost 1); cstep Cost.rbind (readKeyC_cost tb.terms); rdone
    all_goals decide
  have hraw : ∀ rt, ValInv d p (decRawC rt d p) := fun rt => by
    apply Cost.mono
    case h => unfold decRawC; cstep Cost.rbind (readLenBlockC_cost 0 4 1); rdone
    all_goals decide
  have hlist : ∀ lt, ValInv d p (decListC rec lt d p) := fun lt => decListC_inv hr lt p hp
  have hdesc : ∀ dt, ValInv d p (decDescC tb rec dt d p) := fun dt => by
    apply Cost.mono
    case h => unfold decDescC; cstep Cost.rbind (readBodyC_cost tb hr p hp); rdone
    all_goals decide
  cases t <;> simp only [decWithC]
  case integer => exact hint _
  case identifier => exact hint _
  case index => exact hint _
  case largeInteger =>
    apply Cost.mono
    case h => cstep Cost.rbind (readI64C_cost hp); rdone
    all_goals decide
  case boolean =>
    apply Cost.mono
    case h => cstep Cost.rbind (readBoolC_cost' hp); rdone
    all_goals decide
  case double =>
    apply Cost.mono
    case h => cstep Cost.rbind (readUC_cost 8); rdone
    all_goals decide
  case unitFloat =>
    apply Cost.mono
    case h => cstep Cost.rbind (readNC_cost 4); cstep Cost.rbind (readUC_cost 8); cstep Cost.rbind (unitOfC_cost tb _ (by assumption)); rdone
    all_goals decide
  case unitFloats =>
    apply Cost.mono
    case h =>
      cstep Cost.rbind (readNC_cost 4); cstep Cost.rbind (readUC_cost 4); cstep Cost.rbind (unitOfC_cost tb _ (by assumption)); cstep Cost.rbind (readF64sC_cost _ (by assumption)); rdone
    all_goals decide
  case string =>
    apply Cost.mono
    case h => cstep Cost.rbind (readUStrC_cost 1); rdone
    all_goals decide
  case enumerated =>
    apply Cost.mono
    case h => cstep Cost.rbind (readKeyC_cost tb.terms); cstep Cost.rbind (readKeyC_cost tb.terms); rdone
    all_goals decide
  case enumeratedReference =>
    apply Cost.mono
    case h =>
      cstep Cost.rbind (readUStrC_cost 1); cstep Cost.rbind (readKeyC_cost tb.terms); cstep Cost.rbind (readKeyC_cost tb.terms); cstep Cost.rbind (readKeyC_cost tb.terms); rdone
    all_goals decide
  case class1 => exact hclass _
  case class2 => exact hclass _
  case class3 => exact hclass _
  case property =>
    apply Cost.mono
    case h => cstep Cost.rbind (readUStrC_cost 1); cstep Cost.rbind (readKeyC_cost tb.terms); cstep Cost.rbind (readKeyC_cost tb.terms); rdone
    all_goals decide
  case name =>
    apply Cost.mono
    case h => cstep Cost.rbind (readUStrC_cost 1); cstep Cost.rbind (readKeyC_cost tb.terms); cstep Cost.rbind (readUStrC_cost 1); rdone
    all_goals decide
  case offset =>
    apply Cost.mono
    case h => cstep Cost.rbind (readUStrC_cost 1); cstep Cost.rbind (readKeyC_cost tb.terms); cstep Cost.rbind (readUC_cost 4); rdone
    all_goals decide
  case rawData => exact hraw _
  case alias => exact hraw _
  case path => exact hraw _
  case list => exact hlist _
  case reference => exact hlist _
  case descriptor => exact hdesc _
  case globalObject => exact hdesc _
  case objectArray =>
    apply Cost.mono
    case h => cstep Cost.rbind (readUC_cost 4); cstep Cost.rbind (readBodyC_cost tb hr _ (by assumption)); rdone
    all_goals decide

/-- at every fuel (an exhausted fuel is `RecursionError`, which costs nothing more) -/
theorem decBodyC_inv (tb : Tables) (fuel : Nat) {d : B} (t : Tag) (p : Nat) (hp : p ≤ d.length) :
    ValInv d p (decBodyC tb fuel t d p) := by
  induction fuel generalizing t p with
  | zero => exact (Cost.rfail 0 (by decide)).mono (by decide) (by decide) (Nat.le_refl _)
  | succ fuel ih => exact decWithC_inv tb (fun t q hq => ih t q hq) t p hp

/-- `TYPES[t].read(fp)`: linear, whatever the nesting -/
theorem decC_cost (tb : Tables) (t : Tag) : CostR 4 10 0 (decC tb t) := fun _ p hp => decBodyC_inv tb _ t p hp

theorem Block.decC_cost (tb : Tables) : CostR 4 7 16 (Block.decC tb) := by
  intro d p hp
  apply Cost.mono
  case h =>
    unfold Block.decC
    cstep Cost.rbind (readUC_cost 4)
    cstep Cost.rbind (readBodyC_cost tb (fun t q hq => decBodyC_inv tb _ t q hq) _ (by assumption))
    split
    · exact Cost.rpure _ (by assumption)
    · exact Cost.rfail 0 (by decide)
  all_goals decide

theorem Block2.decC_cost (tb : Tables) : CostR 4 8 20 (Block2.decC tb) := by
  intro d p hp
  apply Cost.mono
  case h =>
    unfold Block2.decC
    cstep Cost.rbind (readUC_cost 4)
    cstep Cost.rbind (readUC_cost 4)
    cstep Cost.rbind (readBodyC_cost tb (fun t q hq => decBodyC_inv tb _ t q hq) _ (by assumption))
    split
    · exact Cost.rpure _ (by assumption)
    · exact Cost.rfail 0 (by decide)
  all_goals decide

end PsdVerif.DescriptorCost
