/-
C06 — the counting twins of Model/PayloadCostAdjust.lean erase to the readers of Model/Payload3Adjust.lean and obey the
cost judgement with the constants recorded in their `CC.hand`; the combinator terms are sound by composition.

The readers of the extra marker of `Curves` report the cursor at which they failed; `CostE` is the judgement for their
twins: a failure at cursor `q` is paid by the bytes consumed up to `q` (so that `Curves.read`, which goes on from `q`
after `except IOError`, is paid by what it consumed).
-/
import PsdVerif.Model.PayloadCostAdjust
import PsdVerif.Lemmas.PayloadCostSimple

namespace PsdVerif.PayloadCost
open PsdVerif PsdVerif.Codec PsdVerif.PsdCost PsdVerif.Payload PsdVerif.Payload3 PsdVerif.Safe PsdVerif.SafeCost

/-! ## the flat classes -/

theorem BrightnessContrast.cc_c : BrightnessContrast.cc.c = BrightnessContrast.codec := rfl
theorem BrightnessContrast.cc_sound : BrightnessContrast.cc.Sound := CC.fmt_sound _

theorem ColorBalance.cc_c : ColorBalance.cc.c = ColorBalance.codec := by
  unfold ColorBalance.cc ColorBalance.codec
  simp only [CC.padded_c, CC.seq_c, CC.fmt_c]
theorem ColorBalance.cc_sound : ColorBalance.cc.Sound :=
  CC.padded_sound 4 (CC.seq_sound (CC.fmt_sound _) (CC.seq_sound (CC.fmt_sound _) (CC.seq_sound (CC.fmt_sound _) (CC.fmt_sound _))))

theorem ChannelMixer.cc_c : ChannelMixer.cc.c = ChannelMixer.codec := rfl
theorem ChannelMixer.cc_sound : ChannelMixer.cc.Sound :=
  CC.checked_sound (CC.seq_sound (CC.fmt_sound _) (CC.seq_sound (CC.fmt_sound _) CC.tailBytes_sound)) _ _ (by decide)

theorem Exposure.cc_c (pad : Nat) : (Exposure.cc pad).c = Exposure.codec pad := rfl
theorem Exposure.cc_sound (pad : Nat) : (Exposure.cc pad).Sound := CC.padded_sound pad (CC.fmt_sound _)

theorem HueSaturation.itemCC_c : HueSaturation.itemCC.c = HueSaturation.itemCodec := rfl
theorem HueSaturation.itemCC_sound : HueSaturation.itemCC.Sound := CC.seq_sound (CC.fmt_sound _) (CC.fmt_sound _)

theorem HueSaturation.cc_c : HueSaturation.cc.c = HueSaturation.codec := by
  unfold HueSaturation.cc HueSaturation.codec
  simp only [CC.padded_c, CC.checked_c, CC.seq_c, CC.exactly_c, CC.fmt_c, HueSaturation.itemCC_c]
theorem HueSaturation.cc_sound : HueSaturation.cc.Sound :=
  CC.padded_sound 4 (CC.seq_sound (CC.checked_sound (CC.fmt_sound _) _ _ (by decide))
    (CC.seq_sound (CC.fmt_sound _) (CC.seq_sound (CC.fmt_sound _) (CC.exactly_sound 6 HueSaturation.itemCC_sound))))

theorem LevelRecord.cc_c : LevelRecord.cc.c = LevelRecord.codec := rfl
theorem LevelRecord.cc_sound : LevelRecord.cc.Sound := CC.fmt_sound _

theorem SelectiveColor.cc_c : SelectiveColor.cc.c = SelectiveColor.codec := rfl
theorem SelectiveColor.cc_sound : SelectiveColor.cc.Sound :=
  CC.checked_sound (CC.seq_sound (CC.fmt_sound _) (CC.exactly_sound 10 (CC.fmt_sound _))) _ _ (by decide)

theorem ColorStop.cc_c : ColorStop.cc.c = ColorStop.codec := rfl
theorem ColorStop.cc_sound : ColorStop.cc.Sound := CC.fmt_sound _

theorem TransparencyStop.cc_c : TransparencyStop.cc.c = TransparencyStop.codec := rfl
theorem TransparencyStop.cc_sound : TransparencyStop.cc.Sound := CC.fmt_sound _

/-! ## Levels -/

theorem Levels.decC_fst (d : B) (p : Nat) : (Levels.decC d p).1 = Levels.dec d p := by
  unfold Levels.decC Levels.dec
  refine erase_seq (readUC_fst ..) fun version p => ?_
  refine erase_ite (fun _ => ?_) fun _ => rfl
  refine erase_seq (readCountC_fst (fmtDecC_fst _) ..) fun items p => ?_
  refine erase_ok (isReadableC_fst 6 d p) ?_
  refine erase_seq (erase_ite (fun _ => ?_) fun _ => rfl) fun x p => erase_ite (fun _ => rfl) fun _ => rfl
  refine erase_seq (readNC_fst ..) fun sig p => ?_
  refine erase_seq (readUC_fst ..) fun ev p => ?_
  refine erase_ite (fun _ => erase_ite (fun _ => ?_) fun _ => rfl) fun _ => rfl
  refine erase_seq (readUC_fst ..) fun count p => ?_
  refine erase_seq (readCountC_fst (fmtDecC_fst _) ..) fun more p => ?_
  rfl

/-- 29 records (a constant of the format), then `count - 29` records of 10 bytes each: the declared count does not
enter the bound -/
theorem Levels.decC_cost : CostR 3 71 292 Levels.decC := by
  intro d p hp
  apply Cost.mono
  case h =>
    unfold Levels.decC
    cbind (readUC_cost 2)
    celse
    cbind (readCountC_cost_fixed (fun q hq => fmtDecC_cost LevelRecord.fmt hq) 29 _ (by assumption))
    apply Cost.step (n := 7) (by rw [isReadableC_w']; omega) (by intro h; cases h)
    intro r _
    apply Cost.bind
    case hm =>
      cite
      · cbind (readNC_cost 4)
        cbind (readUC_cost 2)
        celse
        celse
        cbind (readUC_cost 2)
        cbind (readCountC_cost (fun q hq => fmtDecC_cost LevelRecord.fmt hq) (by decide) _ _ (by assumption))
        cdone
      · cdone
    case hf =>
      intro _ _ _ _
      dsimp only
      celse
      cdone
  cside

theorem Levels.cc_c : Levels.cc.c = Levels.codec := rfl
theorem Levels.cc_sound : Levels.cc.Sound := CC.hand_sound Levels.decC_fst Levels.decC_cost

/-! ## PhotoFilter -/

theorem PhotoFilter.decC_fst (d : B) (p : Nat) : (PhotoFilter.decC d p).1 = PhotoFilter.dec d p := by
  unfold PhotoFilter.decC PhotoFilter.dec
  refine erase_seq (readUC_fst ..) fun version p => ?_
  refine erase_ite (fun _ => ?_) fun _ => rfl
  refine erase_seq (erase_ite (fun _ => ?_) fun _ => ?_) fun xc p => ?_
  · rw [bind_fst, fmtDecC_fst]
    cases fmtDec PhotoFilter.xyzFmt d p <;> rfl
  · rw [bind_fst, fmtDecC_fst]
    cases fmtDec PhotoFilter.colorFmt d p <;> rfl
  · refine erase_seq (fmtDecC_fst ..) fun tail p => ?_
    rfl

theorem PhotoFilter.decC_cost : CostR 1 3 17 PhotoFilter.decC := by
  intro d p hp
  apply Cost.mono
  case h =>
    unfold PhotoFilter.decC
    cbind (readUC_cost 2)
    celse
    apply Cost.bind
    case hm =>
      cite
      · exact Cost.map (g := fun (r : Row) => (r, ([] : Row))) (fmtDecC_cost PhotoFilter.xyzFmt)
      · exact Cost.map (g := fun (r : Row) => (([] : Row), r)) (fmtDecC_cost PhotoFilter.colorFmt)
    case hf =>
      intro _ _ _ _
      dsimp only
      cbind (fmtDecC_cost PhotoFilter.tailFmt)
      cdone
  cside

theorem PhotoFilter.cc_c : PhotoFilter.cc.c = PhotoFilter.codec := rfl
theorem PhotoFilter.cc_sound : PhotoFilter.cc.Sound := CC.hand_sound PhotoFilter.decC_fst PhotoFilter.decC_cost

/-! ## GradientMap -/

theorem GradientMap.headDecC_fst (d : B) (p : Nat) : (GradientMap.headDecC d p).1 = GradientMap.head.dec d p := by
  simp only [GradientMap.headDecC, GradientMap.head, fst_bind, ok_fst, error_fst, ite_fst, fmtDecC_fst, readNC_fst]

theorem GradientMap.headDecC_cost : CostR 1 2 4 GradientMap.headDecC := by
  intro d p hp
  apply Cost.mono
  case h =>
    unfold GradientMap.headDecC
    cbind (fmtDecC_cost GradientMap.headFmt)
    celse
    cite
    · cbind (readNC_cost 4)
      cdone
    · cdone
  cside

theorem GradientMap.headCC_c : GradientMap.headCC.c = GradientMap.head := rfl
theorem GradientMap.headCC_sound : GradientMap.headCC.Sound :=
  CC.hand_sound GradientMap.headDecC_fst GradientMap.headDecC_cost

theorem GradientMap.expansionCC_c : GradientMap.expansionCC.c = GradientMap.expansion := rfl
theorem GradientMap.expansionCC_sound : GradientMap.expansionCC.Sound :=
  CC.checked_sound (CC.fmt_sound _) _ _ (by decide)

theorem GradientMap.cc_c : GradientMap.cc.c = GradientMap.codec := by
  unfold GradientMap.cc GradientMap.codec
  simp only [CC.padded_c, CC.checked_c, CC.seq_c, CC.counted_c, CC.fmt_c, CC.ustr_c, GradientMap.headCC_c,
    GradientMap.expansionCC_c, ColorStop.cc_c, TransparencyStop.cc_c]
theorem GradientMap.cc_sound : GradientMap.cc.Sound :=
  CC.padded_sound 4 (CC.checked_sound
    (CC.seq_sound GradientMap.headCC_sound (CC.seq_sound CC.ustr_sound (CC.seq_sound (CC.counted_sound 2 ColorStop.cc_sound)
      (CC.seq_sound (CC.counted_sound 2 TransparencyStop.cc_sound) (CC.seq_sound GradientMap.expansionCC_sound
        (CC.seq_sound (CC.fmt_sound _) (CC.seq_sound (CC.fmt_sound _) (CC.seq_sound (CC.fmt_sound _)
          (CC.seq_sound (CC.fmt_sound _) (CC.fmt_sound _))))))))))
    _ _ (by decide))

/-! ## the counting monad of the readers that report where they failed -/

theorem bindE_ok {α β : Type} {m : CEE β} {f : β → CEE α} {a : β} (h : m.1 = .ok a) :
    (m >>= f) = ((f a).1, m.2 + (f a).2) := by
  show CEE.bind m f = _
  unfold CEE.bind; rw [h]

theorem bindE_err {α β : Type} {m : CEE β} {f : β → CEE α} {e : Err × Nat} (h : m.1 = .error e) :
    (m >>= f) = (.error e, m.2) := by
  show CEE.bind m f = _
  unfold CEE.bind; rw [h]

theorem bindE_fst {α β : Type} (m : CEE β) (f : β → CEE α) :
    (m >>= f).1 = (match m.1 with | .ok a => (f a).1 | .error e => .error e) := by
  show (CEE.bind m f).1 = _
  unfold CEE.bind
  cases m.1 <;> rfl

theorem tickE_fst : tickE.1 = .ok () := rfl
theorem tickE_w : tickE.2.w = 1 := rfl
theorem fmtDecEC_fst (fs : List FI) (d : B) (p : Nat) : (fmtDecEC fs d p).1 = fmtDecE fs d p := rfl

/-- success at `p'`: as `Cost`; failure `e` at `q`: `p ≤ q ≤ len` and ticks + bytes ≤ `a · (q − p) + b` -/
def CostE {β : Type} (a b k : Nat) (d : B) (p : Nat) (x : CEE (β × Nat)) : Prop :=
  match x.1 with
  | .ok (_, p') => p + k ≤ p' ∧ p' ≤ d.length ∧ x.2.w ≤ a * (p' - p) + b
  | .error (e, q) => e ≠ .other ∧ p ≤ q ∧ q ≤ d.length ∧ x.2.w ≤ a * (q - p) + b

theorem CostE.of_ok {β : Type} {a b k : Nat} {d : B} {p : Nat} {x : CEE (β × Nat)} {v : β} {p' : Nat}
    (h : CostE a b k d p x) (hx : x.1 = .ok (v, p')) : p + k ≤ p' ∧ p' ≤ d.length ∧ x.2.w ≤ a * (p' - p) + b := by
  unfold CostE at h; rw [hx] at h; exact h

theorem CostE.of_error {β : Type} {a b k : Nat} {d : B} {p : Nat} {x : CEE (β × Nat)} {e : Err} {q : Nat}
    (h : CostE a b k d p x) (hx : x.1 = .error (e, q)) :
    e ≠ .other ∧ p ≤ q ∧ q ≤ d.length ∧ x.2.w ≤ a * (q - p) + b := by
  unfold CostE at h; rw [hx] at h; exact h

theorem CostE.intro {β : Type} {a b k : Nat} {d : B} {p : Nat} {x : CEE (β × Nat)}
    (hok : ∀ v p', x.1 = .ok (v, p') → p + k ≤ p' ∧ p' ≤ d.length ∧ x.2.w ≤ a * (p' - p) + b)
    (herr : ∀ e q, x.1 = .error (e, q) → e ≠ .other ∧ p ≤ q ∧ q ≤ d.length ∧ x.2.w ≤ a * (q - p) + b) :
    CostE a b k d p x := by
  unfold CostE
  cases hx : x.1 with
  | error y => obtain ⟨e, q⟩ := y; exact herr e q hx
  | ok y => obtain ⟨v, p'⟩ := y; exact hok v p' hx

theorem CostE.mono {β : Type} {a a' b b' k k' : Nat} {d : B} {p : Nat} {x : CEE (β × Nat)}
    (h : CostE a' b' k' d p x) (ha : a' ≤ a) (hb : b' ≤ b) (hk : k ≤ k') : CostE a b k d p x := by
  refine CostE.intro (fun v p' hx => ?_) (fun e q hx => ?_)
  · have h1 := h.of_ok hx
    have : a' * (p' - p) ≤ a * (p' - p) := Nat.mul_le_mul_right _ ha
    exact ⟨by omega, h1.2.1, by omega⟩
  · have h1 := h.of_error hx
    have : a' * (q - p) ≤ a * (q - p) := Nat.mul_le_mul_right _ ha
    exact ⟨h1.1, h1.2.1, h1.2.2.1, by omega⟩

theorem CostE.ok {β : Type} {d : B} {q : Nat} (v : β) (hq : q ≤ d.length) :
    CostE 0 0 0 d q (CEE.ok (v, q) : CEE (β × Nat)) := by
  refine CostE.intro (fun v' p' hx => ?_) (fun e q' hx => by cases hx)
  cases hx
  have : (CEE.ok (v, q) : CEE (β × Nat)).2.w = 0 := rfl
  exact ⟨by omega, hq, by omega⟩

/-- a `raise` at the current cursor -/
theorem CostE.error {β : Type} {d : B} {p : Nat} (k : Nat) {e : Err} (he : e ≠ .other) (hp : p ≤ d.length) :
    CostE 0 0 k d p (CEE.error (e, p) : CEE (β × Nat)) := by
  refine CostE.intro (fun v' p' hx => by cases hx) (fun e' q hx => ?_)
  cases hx
  have : (CEE.error (e, p) : CEE (β × Nat)).2.w = 0 := rfl
  exact ⟨he, Nat.le_refl _, hp, by omega⟩

/-- `if c then … else raise e` (an assert, a validator) -/
theorem CostE.ite_else_error {β : Type} {a b k : Nat} {d : B} {p : Nat} {c : Prop} [Decidable c]
    {x : CEE (β × Nat)} {e : Err} (hx : c → CostE a b k d p x) (he : e ≠ .other) (hp : p ≤ d.length) :
    CostE a b k d p (if c then x else CEE.error (e, p)) := by
  split
  · exact hx ‹_›
  · exact (CostE.error k he hp).mono (Nat.zero_le _) (Nat.zero_le _) (Nat.le_refl _)

/-- sequencing in `CEE`, as `Cost.bind_le`: a failure of the continuation at `q'` is paid by the bytes up to `q'` -/
theorem CostE.bind_le {α β : Type} {a₁ b₁ k₁ a₂ k₂ A b k : Nat} {b₂ : β → Nat → Nat} {d : B} {p : Nat}
    {m : CEE (β × Nat)} {f : β × Nat → CEE (α × Nat)} (hm : CostE a₁ b₁ k₁ d p m)
    (hf : ∀ v p₁, m.1 = .ok (v, p₁) → p₁ ≤ d.length → CostE a₂ (b₂ v p₁) k₂ d p₁ (f (v, p₁)))
    (hpay : ∀ v p₁, m.1 = .ok (v, p₁) → p + k₁ ≤ p₁ → p₁ ≤ d.length →
      a₁ * (p₁ - p) + (b₁ + b₂ v p₁) ≤ A * (p₁ - p) + b)
    (ha₁ : a₁ ≤ A) (hb₁ : b₁ ≤ b) (ha₂ : a₂ ≤ A) (hk : k ≤ k₁ + k₂) : CostE A b k d p (m >>= f) := by
  cases hm1 : m.1 with
  | error y =>
    obtain ⟨e, q⟩ := y
    rw [bindE_err hm1]
    refine CostE.intro (fun _ _ hx => by cases hx) (fun e' q' hx => ?_)
    cases hx
    exact (hm.mono ha₁ hb₁ (Nat.le_refl _)).of_error hm1
  | ok y =>
    obtain ⟨v, p₁⟩ := y
    have h1 := hm.of_ok hm1
    have h2' := hf v p₁ hm1 h1.2.1
    have hp := hpay v p₁ hm1 h1.1 h1.2.1
    have hpp := Nat.le_of_add_right_le h1.1
    rw [bindE_ok hm1]
    refine CostE.intro (fun v' p' hx => ?_) (fun e' q' hx => ?_)
    · have h2 := h2'.of_ok hx
      refine ⟨adv_add h1.1 h2.1 hk, h2.2.1, ?_⟩
      show (m.2 + (f (v, p₁)).2).w ≤ _
      rw [w_add]
      exact pay_seq h1.2.2 hp h2.2.2 ha₂ (Nat.sub_add_sub_cancel (Nat.le_of_add_right_le h2.1) hpp)
    · have h2 := h2'.of_error hx
      refine ⟨h2.1, Nat.le_trans hpp h2.2.1, h2.2.2.1, ?_⟩
      show (m.2 + (f (v, p₁)).2).w ≤ _
      rw [w_add]
      exact pay_seq h1.2.2 hp h2.2.2.2 ha₂ (Nat.sub_add_sub_cancel h2.2.1 hpp)

theorem CostE.bind {α β : Type} {a₁ a₂ b₁ b₂ k₁ k₂ : Nat} {d : B} {p : Nat} {m : CEE (β × Nat)}
    {f : β × Nat → CEE (α × Nat)} (hm : CostE a₁ b₁ k₁ d p m)
    (hf : ∀ v p₁, m.1 = .ok (v, p₁) → p₁ ≤ d.length → CostE a₂ b₂ k₂ d p₁ (f (v, p₁))) :
    CostE (max a₁ a₂) (b₁ + b₂) (k₁ + k₂) d p (m >>= f) :=
  CostE.bind_le (b₂ := fun _ _ => b₂) hm hf
    (fun _ _ _ _ _ => Nat.add_le_add_right (Nat.mul_le_mul_right _ (Nat.le_max_left ..)) _)
    (Nat.le_max_left ..) (Nat.le_add_right ..) (Nat.le_max_right ..) (Nat.le_refl _)

theorem CostE.tick {α : Type} {a b k : Nat} {d : B} {p : Nat} {x : CEE (α × Nat)}
    (hf : CostE a b k d p x) : CostE a (b + 1) k d p (tickE >>= fun _ => x) := by
  rw [bindE_ok tickE_fst]
  refine CostE.intro (fun v p' hx => ?_) (fun e q hx => ?_)
  · have h := hf.of_ok hx
    refine ⟨h.1, h.2.1, ?_⟩
    show (tickE.2 + x.2).w ≤ _
    rw [w_add, tickE_w]
    omega
  · have h := hf.of_error hx
    refine ⟨h.1, h.2.1, h.2.2.1, ?_⟩
    show (tickE.2 + x.2).w ≤ _
    rw [w_add, tickE_w]
    omega

theorem CostE.map {α β : Type} {a b k : Nat} {d : B} {p : Nat} {m : CEE (β × Nat)} {g : β → α}
    (hm : CostE a b k d p m) : CostE a b k d p (m >>= fun x => CEE.ok (g x.1, x.2)) :=
  (CostE.bind hm (f := fun x => CEE.ok (g x.1, x.2)) fun v _ _ hp => CostE.ok (g v) hp).mono
    (Nat.le_of_eq (Nat.max_eq_left (Nat.zero_le _))) (Nat.le_refl _) (Nat.le_refl _)


/-- `read_fmt` that restores the cursor when it fails: the failed read returned fewer than `calcsize(fmt)` bytes -/
theorem fmtDecEC_cost (fs : List FI) {d : B} {p : Nat} (hp : p ≤ d.length := by assumption) :
    CostE 1 (1 + fmtSize fs) (fmtSize fs) d p (fmtDecEC fs d p) := by
  have hw : (fmtDecEC fs d p).2.w = 1 + min (fmtSize fs) (d.length - p) := rfl
  refine CostE.intro (fun v p' hx => ?_) (fun e q hx => ?_)
  · rw [fmtDecEC_fst] at hx
    unfold fmtDecE at hx
    split at hx
    · rename_i r h
      cases hx
      have := fmtDec_ok h hp
      exact ⟨by omega, by omega, by omega⟩
    · cases hx
  · rw [fmtDecEC_fst] at hx
    unfold fmtDecE at hx
    split at hx
    · cases hx
    · rename_i e' h
      cases hx
      have := fmtDec_err h hp
      subst this
      exact ⟨by decide, Nat.le_refl _, hp, by omega⟩

/-- `for _ in range(n)` with a body that consumes ≥ 1 byte when it succeeds: the bound does not mention `n`
(as `readCountC_cost`) -/
theorem readCountEC_cost {α : Type} {item : REC α} {a b k : Nat} {d : B}
    (hi : ∀ p, p ≤ d.length → CostE a b k d p (item d p)) (hk : 1 ≤ k) (n : Nat) (p : Nat) (hp : p ≤ d.length) :
    CostE (a + b + 1) (b + 1) 0 d p (readCountEC item n d p) := by
  induction n generalizing p with
  | zero => exact (CostE.ok _ hp).mono (Nat.zero_le _) (Nat.zero_le _) (Nat.le_refl _)
  | succ n ih =>
    unfold readCountEC
    apply CostE.tick
    refine CostE.bind_le (b₂ := fun _ _ => b + 1) (hi p hp) (fun a1 p₁ _ hp₁ => CostE.map (ih p₁ hp₁))
      (fun _ p₁ _ h _ => ?_) (by omega) (Nat.le_refl _) (Nat.le_refl _) (Nat.zero_le _)
    have hx : 1 ≤ p₁ - p := by omega
    have := Nat.le_mul_of_pos_right b hx
    rw [Nat.add_mul, Nat.add_mul, Nat.one_mul]
    omega

theorem readCountEC_fst {α : Type} {itemC : REC α} {item : RE α} (hi : ∀ d p, (itemC d p).1 = item d p)
    (n : Nat) (d : B) (p : Nat) : (readCountEC itemC n d p).1 = readCountE item n d p := by
  induction n generalizing p with
  | zero => rfl
  | succ n ih =>
    unfold readCountEC readCountE
    rw [bindE_ok tickE_fst]
    show (itemC d p >>= _).1 = _
    rw [bindE_fst, hi]
    cases item d p with
    | error e => rfl
    | ok x =>
      obtain ⟨a, p1⟩ := x
      simp only
      rw [bindE_fst, ih]
      cases readCountE item n d p1 with
      | error e => rfl
      | ok y => rfl

/-! ## CurvesExtraItem, CurvesExtraMarker -/

theorem CurvesExtraItem.decEC_fst (isMap : Bool) (d : B) (p : Nat) :
    (CurvesExtraItem.decEC isMap d p).1 = CurvesExtraItem.decE isMap d p := by
  unfold CurvesExtraItem.decEC CurvesExtraItem.decE
  split
  · rw [bindE_fst, fmtDecEC_fst]
    cases fmtDecE [U 2] d p with
    | error e => rfl
    | ok y =>
      obtain ⟨c, p1⟩ := y
      simp only
      rw [bindE_fst, fmtDecEC_fst]
      cases fmtDecE mapFmt d p1 with
      | error e => rfl
      | ok z => rfl
  · rw [bindE_fst, fmtDecEC_fst]
    cases fmtDecE [U 2, U 2] d p with
    | error e => rfl
    | ok y =>
      obtain ⟨h, p1⟩ := y
      simp only
      rw [bindE_fst, readCountEC_fst (fmtDecEC_fst pairFmt)]
      cases readCountE (fmtDecE pairFmt) (h.int 1).toNat d p1 with
      | error e => rfl
      | ok z => rfl

theorem fmtSize_replicate_U1 (n : Nat) : fmtSize (List.replicate n (U 1)) = n := by
  induction n with
  | zero => rfl
  | succ n ih =>
    rw [List.replicate_succ]
    show 1 + fmtSize (List.replicate n (U 1)) = n + 1
    omega

theorem mapFmt_size : fmtSize mapFmt = 256 := fmtSize_replicate_U1 256

/-- `for c in range(point_count)`: every point consumes 4 bytes -/
theorem CurvesExtraItem.decEC_cost (isMap : Bool) (d : B) (p : Nat) (hp : p ≤ d.length) :
    CostE 7 260 4 d p (CurvesExtraItem.decEC isMap d p) := by
  unfold CurvesExtraItem.decEC
  split
  · apply CostE.mono
    case h =>
      cstep CostE.bind (fmtDecEC_cost [U 2])
      cstep CostE.bind (fmtDecEC_cost mapFmt)
      exact CostE.ok _ (by assumption)
    all_goals first | (rw [mapFmt_size]; decide) | decide
  · apply CostE.mono
    case h =>
      cstep CostE.bind (fmtDecEC_cost [U 2, U 2])
      cstep CostE.bind (readCountEC_cost (fun q hq => fmtDecEC_cost pairFmt hq) (by decide) _ _ (by assumption))
      exact CostE.ok _ (by assumption)
    all_goals decide

theorem CurvesExtraMarker.decEC_fst (isMap : Bool) (d : B) (p : Nat) :
    (CurvesExtraMarker.decEC isMap d p).1 = CurvesExtraMarker.decE isMap d p := by
  unfold CurvesExtraMarker.decEC CurvesExtraMarker.decE
  rw [bindE_fst, fmtDecEC_fst]
  cases fmtDecE CurvesExtraMarker.hdrFmt d p with
  | error e => rfl
  | ok y =>
    obtain ⟨h, p1⟩ := y
    simp only
    split
    · rw [bindE_fst, readCountEC_fst (CurvesExtraItem.decEC_fst isMap)]
      cases readCountE (CurvesExtraItem.decE isMap) (h.int 2).toNat d p1 with
      | error e => rfl
      | ok z =>
        obtain ⟨items, p2⟩ := z
        simp only
        split <;> rfl
    · rfl

/-- `for _ in range(count)`: every item consumes at least its 4-byte head -/
theorem CurvesExtraMarker.decEC_cost (isMap : Bool) (d : B) (p : Nat) (hp : p ≤ d.length) :
    CostE 268 272 10 d p (CurvesExtraMarker.decEC isMap d p) := by
  apply CostE.mono
  case h =>
    unfold CurvesExtraMarker.decEC
    cstep CostE.bind (fmtDecEC_cost CurvesExtraMarker.hdrFmt)
    apply CostE.ite_else_error (he := by decide) (hp := by assumption)
    intro _
    cstep CostE.bind (readCountEC_cost (fun q hq => CurvesExtraItem.decEC_cost isMap d q hq) (by decide) _ _ (by assumption))
    apply CostE.ite_else_error (he := by decide) (hp := by assumption)
    intro _
    exact CostE.ok _ (by assumption)
  all_goals decide

/-- the constants of the two shapes are the proved ones -/
theorem CurvesExtraItem.sh_cost (isMap : Bool) (d : B) (p : Nat) (hp : p ≤ d.length) :
    CostE CurvesExtraItem.sh.a CurvesExtraItem.sh.b CurvesExtraItem.sh.k d p (CurvesExtraItem.decEC isMap d p) :=
  CurvesExtraItem.decEC_cost isMap d p hp

theorem CurvesExtraMarker.sh_cost (isMap : Bool) (d : B) (p : Nat) (hp : p ≤ d.length) :
    CostE CurvesExtraMarker.sh.a CurvesExtraMarker.sh.b CurvesExtraMarker.sh.k d p (CurvesExtraMarker.decEC isMap d p) :=
  CurvesExtraMarker.decEC_cost isMap d p hp

/-! ## Curves -/

theorem Curves.curveDecC_fst (d : B) (p : Nat) : (Curves.curveDecC d p).1 = Curves.curveDec d p := by
  simp only [Curves.curveDecC, Curves.curveDec, fst_bind, error_fst, ite_fst, readUC_fst, readCountC_fst (fmtDecC_fst
    pairFmt)]

/-- `assert 2 <= point_count <= 19`, then `point_count` points of 4 bytes -/
theorem Curves.curveDecC_cost : CostR 3 3 2 Curves.curveDecC := by
  intro d p hp
  apply Cost.mono
  case h =>
    unfold Curves.curveDecC
    cbind (readUC_cost 2)
    celse
    exact readCountC_cost (fun q hq => fmtDecC_cost pairFmt hq) (by decide) _ _ (by assumption)
  cside

theorem Curves.dataDecC_fst (isMap : Bool) (count : Nat) (d : B) (p : Nat) :
    (Curves.dataDecC isMap count d p).1 = Curves.dataDec isMap count d p := by
  unfold Curves.dataDecC Curves.dataDec
  split
  · rw [bind_fst, readCountC_fst (fmtDecC_fst mapFmt)]
    cases readCount (fmtDec mapFmt) count d p <;> rfl
  · rw [bind_fst, readCountC_fst Curves.curveDecC_fst]
    cases readCount Curves.curveDec count d p <;> rfl

/-- `for _ in range(count)` (`count` = `count_map` or its number of 1 bits): a map consumes 256 bytes, a curve at
least its 2-byte point count, so the count does not enter the bound -/
theorem Curves.dataDecC_cost (isMap : Bool) (count : Nat) : CostR 7 4 0 (Curves.dataDecC isMap count) := by
  intro d p hp
  unfold Curves.dataDecC
  split
  · exact (Cost.map (g := CurveData.maps)
      (readCountC_cost (fun q hq => fmtDecC_cost mapFmt hq) (by rw [mapFmt_size]; decide) count p hp)).mono
      (by decide) (by decide) (by decide)
  · exact (Cost.map (g := CurveData.curves)
      (readCountC_cost (fun q hq => Curves.curveDecC_cost d q hq) (by decide) count p hp)).mono
      (by decide) (by decide) (by decide)

theorem Curves.extraDecC_fst (isMap : Bool) (version : Nat) (d : B) (p : Nat) :
    (Curves.extraDecC isMap version d p).1 = Curves.extraDec isMap version d p := by
  unfold Curves.extraDecC Curves.extraDec
  split
  · rw [← CurvesExtraMarker.decEC_fst isMap d p]
    cases h : (CurvesExtraMarker.decEC isMap d p).1 with
    | ok y => simp only
    | error y =>
      obtain ⟨e, q⟩ := y
      cases e <;> simp only
  · rfl

/-- the attempt is paid by the bytes it consumed: the marker when it was read, the part before the read that ran out
of data when it was not -/
theorem Curves.extraDecC_cost (isMap : Bool) (version : Nat) : CostR 268 272 0 (Curves.extraDecC isMap version) := by
  intro d p hp
  unfold Curves.extraDecC
  split
  · have hm := CurvesExtraMarker.decEC_cost isMap d p hp
    cases h : (CurvesExtraMarker.decEC isMap d p).1 with
    | ok y =>
      obtain ⟨m, p'⟩ := y
      have h1 := hm.of_ok h
      simp only
      refine Cost.intro (fun v q hx => ?_) (fun e hx => by cases hx)
      cases hx
      exact ⟨by omega, h1.2.1, h1.2.2⟩
    | error y =>
      obtain ⟨e, q⟩ := y
      have h1 := hm.of_error h
      have hle : 268 * (q - p) ≤ 268 * (d.length - p) := Nat.mul_le_mul_left _ (by omega)
      cases e <;> simp only
      case ioError =>
        refine Cost.intro (fun v q' hx => ?_) (fun e hx => by cases hx)
        cases hx
        exact ⟨by omega, h1.2.2.1, h1.2.2.2⟩
      case other => exact absurd rfl h1.1
      all_goals
        refine Cost.intro (fun v q' hx => by cases hx) (fun e hx => ?_)
        cases hx
        exact ⟨by decide, Nat.le_trans h1.2.2.2 (by omega)⟩
  · exact (Cost.ok _ hp).mono (by decide) (by decide) (by decide)

theorem Curves.decC_fst (d : B) (p : Nat) : (Curves.decC d p).1 = Curves.dec d p := by
  simp only [Curves.decC, Curves.dec, fst_bind, ok_fst, error_fst, ite_fst, readUC_fst, Curves.dataDecC_fst,
    Curves.extraDecC_fst]

theorem Curves.decC_cost : CostR 268 279 7 Curves.decC := by
  intro d p hp
  apply Cost.mono
  case h =>
    unfold Curves.decC
    cbind (readUC_cost 1)
    cbind (readUC_cost 2)
    cbind (readUC_cost 4)
    celse
    try dsimp only
    cbind (Curves.dataDecC_cost _ _ d _ (by assumption))
    cbind (Curves.extraDecC_cost _ _ d _ (by assumption))
    cdone
  cside

theorem Curves.cc_c : Curves.cc.c = Curves.codec := rfl
theorem Curves.cc_sound : Curves.cc.Sound := CC.hand_sound Curves.decC_fst Curves.decC_cost

/-! ## the unit -/

def adjustTable : List (String × Sh) :=
  [("BrightnessContrast", BrightnessContrast.cc.sh), ("ColorBalance", ColorBalance.cc.sh),
   ("ChannelMixer", ChannelMixer.cc.sh), ("Curves", Curves.cc.sh), ("CurvesExtraMarker", CurvesExtraMarker.sh),
   ("CurvesExtraItem", CurvesExtraItem.sh), ("GradientMap", GradientMap.cc.sh), ("ColorStop", ColorStop.cc.sh),
   ("TransparencyStop", TransparencyStop.cc.sh), ("Exposure", (Exposure.cc 4).sh), ("HueSaturation", HueSaturation.cc.sh),
   ("Levels", Levels.cc.sh), ("LevelRecord", LevelRecord.cc.sh), ("PhotoFilter", PhotoFilter.cc.sh),
   ("SelectiveColor", SelectiveColor.cc.sh)]

theorem adjust_body_progress : adjustTable.all (fun e => e.2.bodyProgress) = true := by decide

end PsdVerif.PayloadCost
