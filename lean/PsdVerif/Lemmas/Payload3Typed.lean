/-
C01, psd/image_resources.py — the typed image resource, the resource section made of typed resources, the document
with typed resources (Model/Payload3Typed.lean). The reader of the whole file is the instance of
`docRead_sections` (Lemmas/CodecPsd3.lean) with the typed resource reader.
-/
import PsdVerif.Lemmas.Payload3Resources
import PsdVerif.Lemmas.PayloadLayerInfo2
import PsdVerif.Model.Payload3Typed

namespace PsdVerif.Payload3
open PsdVerif.Codec PsdVerif.Psd PsdVerif.Payload

theorem RClass.rt (tb : Descriptor.Tables) : ∀ c : RClass, (c.codec tb).RtAtEnd
  | .resolutionInfo => ResolutionInfo.rt.atEnd | .alphaNamesPascal => AlphaNamesPascal.rt | .pascalString => PascalString.rt
  | .color => Payload.Color.rt.atEnd | .printFlags => PrintFlags.rt | .halftoneScreens => HalftoneScreens.rt
  | .transferFunctions => TransferFunctions.rt | .shortInteger => ShortInteger.rt.atEnd | .layerGroupInfo => LayerGroupInfo.rt
  | .gridGuidesInfo => GridGuidesInfo.rt.atEnd | .thumbnailV4 => Thumbnail.rt.atEnd | .byte => Byte.rt.atEnd
  | .thumbnail => Thumbnail.rt.atEnd | .integer => Integer.rt.atEnd | .alphaNamesUnicode => AlphaNamesUnicode.rt
  | .slices => Slices.rt tb | .stringElement => (StringElement.rt 1 1).atEnd | .alphaIdentifiers => AlphaIdentifiers.rt
  | .urlList => URLList.rt.atEnd | .versionInfo => VersionInfo.rt.atEnd | .printScale => PrintScale.rt.atEnd
  | .pixelAspectRatio => PixelAspectRatio.rt.atEnd | .descriptorBlock => (DescriptorResource.rt tb).atEnd
  | .layerSelectionIDs => LayerSelectionIDs.rt.atEnd | .layerGroupEnabledIDs => LayerGroupEnabledIDs.rt
  | .displayInfo => DisplayInfo.rt | .printFlagsInfo => PrintFlagsInfo.rt.atEnd

theorem RClass.count (tb : Descriptor.Tables) : ∀ c : RClass, (c.codec tb).Count
  | .resolutionInfo => ResolutionInfo.count | .alphaNamesPascal => AlphaNamesPascal.count | .pascalString => PascalString.count
  | .color => Payload.Color.count | .printFlags => PrintFlags.count | .halftoneScreens => HalftoneScreens.count
  | .transferFunctions => TransferFunctions.count | .shortInteger => ShortInteger.count | .layerGroupInfo => LayerGroupInfo.count
  | .gridGuidesInfo => GridGuidesInfo.count | .thumbnailV4 => Thumbnail.count | .byte => Byte.count
  | .thumbnail => Thumbnail.count | .integer => Integer.count | .alphaNamesUnicode => AlphaNamesUnicode.count
  | .slices => Slices.count tb | .stringElement => StringElement.count 1 1 | .alphaIdentifiers => AlphaIdentifiers.count
  | .urlList => URLList.count | .versionInfo => VersionInfo.count | .printScale => PrintScale.count
  | .pixelAspectRatio => PixelAspectRatio.count | .descriptorBlock => DescriptorResource.count tb
  | .layerSelectionIDs => LayerSelectionIDs.count | .layerGroupEnabledIDs => LayerGroupEnabledIDs.count
  | .displayInfo => DisplayInfo.count | .printFlagsInfo => PrintFlagsInfo.count

namespace TRes
variable (tb : Descriptor.Tables)

theorem dataP_eq (x : ResData) : x.encP tb = (x.encT tb, (x.encT tb).length) := by
  cases x with
  | raw b => rfl
  | typed c v => exact RClass.count tb c v

theorem encP_eq (r : TRes) : r.encP tb = (r.encT tb, (r.encT tb).length) := by
  simp only [encP, encT, flat, Resource.encT, dataP_eq, wBytes_eq, wPascal_eq, wLenBlock_eq, wSeq_eq]

theorem typedData_encT {r : TRes} (hwf : r.WF tb) : typedData tb r.key (r.data.encT tb) = .ok r.data := by
  obtain ⟨_, hfit, hshape⟩ := hwf
  obtain ⟨sig, key, name, data⟩ := r
  cases data with
  | raw b =>
    simp only at hshape
    simp only [typedData, hshape, ResData.encT]
  | typed c v =>
    simp only at hshape hfit
    have e := RClass.rt tb c v hshape.2 hfit ((c.codec tb).encT v) 0 (At.self _) (by omega)
    simp only [typedData, hshape.1, ResData.encT, e]

theorem dec_at {r : TRes} (hwf : r.WF tb) {d : B} {p : Nat} (hat : At d p (r.encT tb)) :
    dec tb d p = .ok (r, p + (r.encT tb).length) := by
  have hty := typedData_encT tb hwf
  obtain ⟨⟨hsig, f1, f2, f3⟩, _, _⟩ := hwf
  have hl : ∀ s ∈ G.resourceSignatures, s.length = 4 := by decide
  simp only [flat] at hsig f1 f2 f3
  have hs : pack4s r.signature = r.signature := pack4s_of_length (hl _ hsig)
  have hlen : (r.encT tb).length = 4 + 2 + (pascalT 2 r.name).length + (lenBlockT 0 4 2 (r.data.encT tb)).length := by
    simp only [encT, flat, Resource.encT, List.length_append, length_pack4s, length_beBytes]
  rw [hlen]
  simp only [encT, flat, Resource.encT, List.append_assoc] at hat
  obtain ⟨e1, hat⟩ := readN_step hat (length_pack4s _)
  obtain ⟨e2, hat⟩ := readU_step hat f1
  obtain ⟨e3, hat⟩ := readPascal_step hat f2
  have e4 := readLenBlock_at hat f3 (by decide)
  simp only [dec, bind, Except.bind, e1, e2, e3, e4, hs, hty]
  rw [if_pos hsig]
  simp only [Nat.add_assoc]

theorem length_ge (r : TRes) : 11 ≤ (r.encT tb).length := (r.flat tb).length_ge

end TRes

theorem tresourcesDec_at (tb : Descriptor.Tables) {rs : List TRes} (hflat : resourcesWF (rs.map (TRes.flat tb)))
    (hwf : ∀ r ∈ rs, r.WF tb) {d : B} {p : Nat} (hat : At d p (tresourcesT tb rs)) :
    tresourcesDec tb d p = .ok (rs, p + (tresourcesT tb rs).length) := by
  obtain ⟨_, hnd, hf⟩ := hflat
  have hbody : resourcesBodyT (rs.map (TRes.flat tb)) = listT (TRes.encT tb) rs := listT_map _ _ rs
  have hnd' : (rs.map TRes.key).Nodup := by
    have : (rs.map (TRes.flat tb)).map Resource.key = rs.map TRes.key := by
      simp only [List.map_map]; rfl
    rwa [this] at hnd
  unfold tresourcesT resourcesT at hat ⊢
  rw [hbody] at hat hf ⊢
  have e1 := readLenBlock_at hat hf (by decide)
  have e2 : readWhile (isReadable 4) (optItem (TRes.dec tb)) (listT (TRes.encT tb) rs) 0 =
      .ok (rs, 0 + (listT (TRes.encT tb) rs).length) :=
    readWhile_isReadable_opt (by decide) (fun r hr _ _ hq => TRes.dec_at tb (hwf r hr) hq)
      (fun r _ => by have := TRes.length_ge tb r; omega) (At.self _) (by omega)
  simp only [tresourcesDec, bind, Except.bind, e1, e2, odict_of_nodup TRes.key rs hnd']

namespace ResPSD
variable (tb : Descriptor.Tables)

theorem read_eq_docRead : read tb = docRead (tresourcesDec tb) DeepLam.dec ResPSD.mk := rfl

theorem read_encT {pad : Nat} {x : ResPSD} (hwf : x.WF tb pad) :
    read tb (x.encT tb pad) 0 = .ok (x.refresh, (x.encT tb pad).length) := by
  obtain ⟨⟨⟨hh, hc, hr, hl, hi⟩, htb⟩, hres⟩ := hwf
  rw [read_eq_docRead]
  refine docRead_sections hh hc hi (tresourcesDec_at tb hr hres) (DeepLam.dec_at hl htb) ?_
  simp only [encT, DeepPSD.encT, PSD.encT, DeepPSD.flat, flat, tresourcesT, List.append_assoc]

/-- what the writer with typed resources emits, the deep writer emits for the view with the payloads as bytes -/
theorem enc_below {pad : Nat} {x : ResPSD} {bs : B} (h : enc tb pad x = .ok bs) : DeepPSD.enc pad (x.flat tb) = .ok bs := by
  unfold enc at h
  split at h
  · exact h
  · cases h

theorem enc_ok {pad : Nat} {x : ResPSD} {bs : B} (h : enc tb pad x = .ok bs) : bs = x.encT tb pad :=
  DeepPSD.enc_ok (enc_below tb h)

/-- the writer succeeds when no section raises -/
theorem enc_eq {pad : Nat} {x : ResPSD} (hf : payloadFits tb x) (hw : (x.flat tb).flat.writeError pad = none)
    (hd : (x.flat tb).payloadFits) : enc tb pad x = .ok (x.encT tb pad) := by
  unfold enc DeepPSD.enc
  rw [if_pos hf, hw]
  exact if_pos hd

theorem flat_refresh (x : ResPSD) : (x.refresh).flat tb = (x.flat tb).refresh := rfl

theorem enc_refresh (pad : Nat) (x : ResPSD) : enc tb pad x.refresh = enc tb pad x := by
  unfold enc
  have : payloadFits tb x.refresh ↔ payloadFits tb x := Iff.rfl
  simp only [this, flat_refresh, DeepPSD.enc_refresh]

end ResPSD

end PsdVerif.Payload3
