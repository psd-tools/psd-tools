/-
Helper lemmas for the non-separable blend functions (C12): min / median / max of a triple,
`lum`, `_set_sat` against the published `SetSat`, `_clip_color` against `ClipColor`.

`ClipColor` is read as a radial scaling: on a colour whose luminosity `L` is in `[0,1]` and whose
spread is at most 1 it moves every component to `L + ρ (v - L)` for one factor `ρ ≤ 1` (`clipStep_eq`);
the code's `_clip_color` is the same procedure with `ε` added to the denominators, then a clamp.
-/
import PsdVerif.Lemmas.Blend

namespace PsdVerif.Blend

theorem min3_eq (c : RGB) : c.min3 = min (min c.r c.g) c.b := by
  unfold RGB.min3; rw [rmin_eq_min, rmin_eq_min]
theorem max3_eq (c : RGB) : c.max3 = max (max c.r c.g) c.b := by
  unfold RGB.max3; rw [rmax_eq_max, rmax_eq_max]
theorem med3_eq (c : RGB) : c.med3 = max (min c.r c.g) (min (max c.r c.g) c.b) := by
  unfold RGB.med3; rw [rmax_eq_max, rmax_eq_max, rmin_eq_min, rmin_eq_min]

theorem min3_le (c : RGB) : c.min3 ≤ c.r ∧ c.min3 ≤ c.g ∧ c.min3 ≤ c.b := by
  rw [min3_eq]
  exact ⟨(min_le_left _ _).trans (min_le_left _ _), (min_le_left _ _).trans (min_le_right _ _),
    min_le_right _ _⟩
theorem le_max3 (c : RGB) : c.r ≤ c.max3 ∧ c.g ≤ c.max3 ∧ c.b ≤ c.max3 := by
  rw [max3_eq]
  exact ⟨(le_max_left _ _).trans (le_max_left _ _), (le_max_right _ _).trans (le_max_left _ _),
    le_max_right _ _⟩
theorem le_min3 {c : RGB} {m : Rat} (h : c.All (m ≤ ·)) : m ≤ c.min3 :=
  min3_eq c ▸ le_min (le_min h.1 h.2.1) h.2.2
theorem max3_le {c : RGB} {m : Rat} (h : c.All (· ≤ m)) : c.max3 ≤ m :=
  max3_eq c ▸ max_le (max_le h.1 h.2.1) h.2.2
theorem min3_mem (c : RGB) : c.min3 = c.r ∨ c.min3 = c.g ∨ c.min3 = c.b := by
  unfold RGB.min3 rmin; split_ifs <;> simp
theorem max3_mem (c : RGB) : c.max3 = c.r ∨ c.max3 = c.g ∨ c.max3 = c.b := by
  unfold RGB.max3 rmax; split_ifs <;> simp
theorem min3_le_max3 (c : RGB) : c.min3 ≤ c.max3 := le_trans (min3_le c).1 (le_max3 c).1
theorem med3_bounds (c : RGB) : c.min3 ≤ c.med3 ∧ c.med3 ≤ c.max3 := by
  rw [min3_eq, med3_eq, max3_eq]
  exact ⟨(min_le_left _ _).trans (le_max_left _ _),
    max_le ((min_le_left _ _).trans ((le_max_left _ _).trans (le_max_left _ _)))
      ((min_le_left _ _).trans (le_max_left _ _))⟩
theorem comp_cases (c : RGB) :
    (c.r = c.min3 ∨ c.r = c.med3 ∨ c.r = c.max3) ∧ (c.g = c.min3 ∨ c.g = c.med3 ∨ c.g = c.max3) ∧
    (c.b = c.min3 ∨ c.b = c.med3 ∨ c.b = c.max3) := by
  unfold RGB.med3 RGB.min3 RGB.max3 rmin rmax
  -- in every branch each component is syntactically one of the three, except where two components tie:
  -- there the one that is not picked equals the minimum by antisymmetry (the `linarith`)
  split_ifs <;> refine ⟨?_, ?_, ?_⟩ <;>
    first | (left; rfl) | (right; left; rfl) | (right; right; rfl) | (left; linarith)

theorem map_all {p : Rat → Prop} {f : Rat → Rat} (c : RGB) (h : ∀ v, p (f v)) : (c.map f).All p :=
  ⟨h _, h _, h _⟩

theorem map_map (f g : Rat → Rat) (c : RGB) : (c.map f).map g = c.map (fun v => g (f v)) := rfl

theorem RGB.All.imp {p q : Rat → Prop} {c : RGB} (h : c.All p) (hpq : ∀ v, p v → q v) : c.All q :=
  ⟨hpq _ h.1, hpq _ h.2.1, hpq _ h.2.2⟩

theorem all_of_between {p : Rat → Prop} (c : RGB) (h : ∀ v, c.min3 ≤ v → v ≤ c.max3 → p v) : c.All p :=
  ⟨h _ (min3_le c).1 (le_max3 c).1, h _ (min3_le c).2.1 (le_max3 c).2.1,
    h _ (min3_le c).2.2 (le_max3 c).2.2⟩

theorem map_all_of_between {p : Rat → Prop} {f : Rat → Rat} (c : RGB)
    (h : ∀ v, c.min3 ≤ v → v ≤ c.max3 → p (f v)) : (c.map f).All p :=
  all_of_between c h

theorem min3_le_lum (c : RGB) : c.min3 ≤ lum c := by
  obtain ⟨h1, h2, h3⟩ := min3_le c; unfold lum; linarith
theorem lum_le_max3 (c : RGB) : lum c ≤ c.max3 := by
  obtain ⟨h1, h2, h3⟩ := le_max3 c; unfold lum; linarith

/-- `lum - min ≥ 0.11 (max - min)`: the weight of every channel is at least 0.11 -/
theorem lum_sub_min3_ge (c : RGB) : 11 / 100 * (c.max3 - c.min3) ≤ lum c - c.min3 := by
  obtain ⟨h1, h2, h3⟩ := min3_le c
  rcases max3_mem c with h | h | h <;> rw [h] <;> unfold lum <;> linarith
theorem max3_sub_lum_ge (c : RGB) : 11 / 100 * (c.max3 - c.min3) ≤ c.max3 - lum c := by
  obtain ⟨h1, h2, h3⟩ := le_max3 c
  rcases min3_mem c with h | h | h <;> rw [h] <;> unfold lum <;> linarith

theorem comp_lum_bounds (c : RGB) {v : Rat} (h1 : c.min3 ≤ v) (h2 : v ≤ c.max3) :
    |v - lum c| ≤ 100 / 11 * (lum c - c.min3) ∧ |v - lum c| ≤ 100 / 11 * (c.max3 - lum c) := by
  have hv : |v - lum c| ≤ c.max3 - c.min3 :=
    abs_le.mpr ⟨by linarith [lum_le_max3 c], by linarith [min3_le_lum c]⟩
  exact ⟨by linarith [lum_sub_min3_ge c], by linarith [max3_sub_lum_ge c]⟩

theorem lum_eq_spec (c : RGB) : lum c = Spec.lum c := by unfold lum Spec.lum; ring
theorem min3_eq_spec (c : RGB) : c.min3 = Spec.cmin c := by
  unfold Spec.cmin; rw [min3_eq, smin_eq_min, smin_eq_min, min_assoc]
theorem max3_eq_spec (c : RGB) : c.max3 = Spec.cmax c := by
  unfold Spec.cmax; rw [max3_eq, smax_eq_max, smax_eq_max, max_assoc]
theorem sat_eq_spec (c : RGB) : sat c = Spec.sat c := by
  unfold sat Spec.sat; rw [min3_eq_spec, max3_eq_spec]

theorem lum_unit {c : RGB} (h : c.All unit) : unit (lum c) := by
  obtain ⟨⟨a0, a1⟩, ⟨b0, b1⟩, ⟨c0, c1⟩⟩ := h
  unfold lum; constructor <;> linarith
theorem sat_unit {c : RGB} (h : c.All unit) : unit (sat c) :=
  ⟨sub_nonneg.mpr (min3_le_max3 c),
    (sub_le_sub (max3_le ⟨h.1.2, h.2.1.2, h.2.2.2⟩) (le_min3 ⟨h.1.1, h.2.1.1, h.2.2.1⟩)).trans
      (by norm_num)⟩
theorem width_le_one {c : RGB} (h : c.All unit) : c.max3 - c.min3 ≤ 1 := (sat_unit h).2

theorem lum_shift (c : RGB) (d : Rat) : lum (c.map (fun v => v + d)) = lum c + d := by
  unfold lum RGB.map; ring
theorem max3_shift (c : RGB) (d : Rat) : (c.map (fun v => v + d)).max3 = c.max3 + d := by
  rw [max3_eq, max3_eq, ← max_add_add_right, ← max_add_add_right]; rfl
theorem min3_shift (c : RGB) (d : Rat) : (c.map (fun v => v + d)).min3 = c.min3 + d := by
  rw [min3_eq, min3_eq, ← min_add_add_right, ← min_add_add_right]; rfl

/-- componentwise distance at most `t` -/
def RGB.near (t : Rat) (a b : RGB) : Prop := |a.r - b.r| ≤ t ∧ |a.g - b.g| ≤ t ∧ |a.b - b.b| ≤ t

theorem RGB.near_trans {s t : Rat} {a b c : RGB} (h1 : RGB.near s a b) (h2 : RGB.near t b c) :
    RGB.near (s + t) a c :=
  ⟨(abs_sub_le _ _ _).trans (add_le_add h1.1 h2.1), (abs_sub_le _ _ _).trans (add_le_add h1.2.1 h2.2.1),
    (abs_sub_le _ _ _).trans (add_le_add h1.2.2 h2.2.2)⟩

theorem near_map_of_between {t : Rat} {f g : Rat → Rat} (c : RGB)
    (h : ∀ v, c.min3 ≤ v → v ≤ c.max3 → |f v - g v| ≤ t) : RGB.near t (c.map f) (c.map g) :=
  all_of_between c h

theorem setSat_defined (c : RGB) : ∀ d ∈ setSatDens c, 0 < d :=
  ite_dens_pos fun h => by linarith [eps_pos]

/-- the masked assignments of `_set_sat`, later ones winning, as one case distinction -/
theorem setSatComp_eq (mx md mn s v : Rat) :
    setSatComp mx md mn s v =
      if v = mn ∨ ¬ mx > mn then 0
      else if v = md then (md - mn) * s / (mx - mn + eps) else if v = mx then s else 0 := by
  unfold setSatComp
  by_cases h1 : v = mn
  · simp only [if_pos h1, if_pos (Or.inl h1)]
  · by_cases h2 : mx > mn
    · rcases eq_or_ne v md with rfl | h3
      · simp [h1, h2]
      · rcases eq_or_ne v mx with rfl | h4 <;> simp [*]
    · rcases eq_or_ne v md with rfl | h3
      · simp [h1, h2]
      · rcases eq_or_ne v mx with rfl | h4 <;> simp [*]

theorem setSatComp_bounds {mx md mn s : Rat} (hs : 0 ≤ s) (h1 : mn ≤ md) (h2 : md ≤ mx) (v : Rat) :
    0 ≤ setSatComp mx md mn s v ∧ setSatComp mx md mn s v ≤ s := by
  have he := eps_pos
  rw [setSatComp_eq]
  split_ifs
  · exact ⟨le_rfl, hs⟩
  · rw [mul_div_right_comm]
    obtain ⟨r0, r1⟩ := unit_div (sub_nonneg.mpr h1) (by linarith : md - mn ≤ mx - mn + eps) (by linarith)
    exact ⟨mul_nonneg r0 hs, mul_le_of_le_one_left hs r1⟩
  · exact ⟨hs, le_rfl⟩
  · exact ⟨le_rfl, hs⟩

theorem setSat_bounds (c : RGB) {s : Rat} (hs : 0 ≤ s) : (setSat c s).All (fun v => 0 ≤ v ∧ v ≤ s) :=
  map_all c (setSatComp_bounds hs (med3_bounds c).1 (med3_bounds c).2)

theorem setSat_unit (c : RGB) {s : Rat} (hs : unit s) : (setSat c s).All unit :=
  (setSat_bounds c hs.1).imp fun _ h => ⟨h.1, h.2.trans hs.2⟩

/-- the minimum goes to 0 and the maximum to `s` on both sides; only the median's value divides by
`mx - mn + ε` -/
theorem setSatComp_near {mx md mn s v δ : Rat} (hδ : 0 < δ) (hs : unit s) (h1 : mn ≤ md) (h2 : md ≤ mx)
    (hoff : mx = mn ∨ δ ≤ mx - mn) (hv : v = mn ∨ v = md ∨ v = mx) :
    |setSatComp mx md mn s v - (if mn < mx then ((v - mn) * s) / (mx - mn) else 0)| ≤ eps / δ := by
  have ht : 0 ≤ eps / δ := div_nonneg eps_pos.le hδ.le
  obtain ⟨s0, s1⟩ := hs
  rw [setSatComp_eq]
  rcases hoff with hoff | hoff
  · have hlt : ¬ mn < mx := by rw [hoff]; exact lt_irrefl _
    rwa [if_pos (Or.inr hlt), if_neg hlt, sub_self, abs_zero]
  · have hlt : mn < mx := by linarith
    rw [if_pos hlt]
    by_cases hvn : v = mn
    · rwa [if_pos (Or.inl hvn), hvn, sub_self, zero_mul, zero_div, sub_self, abs_zero]
    · rw [if_neg (not_or.mpr ⟨hvn, not_not.mpr hlt⟩)]
      by_cases hvd : v = md
      · rw [if_pos hvd, hvd]
        refine div_add_near eps_pos.le (mul_nonneg (sub_nonneg.mpr h1) s0) ?_ hδ hoff
        calc (md - mn) * s ≤ (mx - mn) * 1 :=
              mul_le_mul (by linarith) s1 s0 (by linarith)
          _ = mx - mn := mul_one _
      · have hvx : v = mx := (hv.resolve_left hvn).resolve_left hvd
        rwa [if_neg hvd, if_pos hvx, hvx, mul_comm, mul_div_assoc, div_self (by linarith), mul_one,
          sub_self, abs_zero]

theorem setSat_near_spec (δ : Rat) (hδ : 0 < δ) (c : RGB) {s : Rat} (hs : unit s)
    (hoff : offDiscSat δ c) : RGB.near (tol δ) (setSat c s) (Spec.setSat c s) := by
  obtain ⟨m1, m2⟩ := med3_bounds c
  obtain ⟨c1, c2, c3⟩ := comp_cases c
  unfold setSat Spec.setSat RGB.near RGB.map tol
  simp only [← min3_eq_spec, ← max3_eq_spec]
  exact ⟨setSatComp_near hδ hs m1 m2 hoff c1, setSatComp_near hδ hs m1 m2 hoff c2,
         setSatComp_near hδ hs m1 m2 hoff c3⟩

theorem specSetSat_unit (c : RGB) {s : Rat} (hs : unit s) : (Spec.setSat c s).All unit := by
  unfold Spec.setSat; simp only [← min3_eq_spec, ← max3_eq_spec]
  refine map_all_of_between c fun v v1 v2 => ?_
  split_ifs with h
  · rw [mul_div_right_comm]
    exact (unit_div (sub_nonneg.mpr v1) (sub_le_sub_right v2 _) (sub_pos.mpr h)).mul hs
  · exact unit_zero

/-- `C[C < 0] = 0; C[C > 1] = 1`, the end of `_clip_color`, on one component -/
def clamp01 (v : Rat) : Rat := if (if v < 0 then 0 else v) > 1 then 1 else (if v < 0 then 0 else v)

theorem clamp01_eq (v : Rat) : clamp01 v = min 1 (max v 0) := by
  unfold clamp01; rw [ite_gt_one_eq_min, max_def_lt]

theorem clamp01_unit (v : Rat) : unit (clamp01 v) :=
  clamp01_eq v ▸ ⟨le_min zero_le_one (le_max_right _ _), min_le_left _ _⟩

theorem clamp01_near {a b t : Rat} (hb : unit b) (h : |a - b| ≤ t) : |clamp01 a - b| ≤ t := by
  obtain ⟨h1, h2⟩ := abs_le.mp h
  have l : b - t ≤ min 1 (max a 0) := le_min (by linarith [hb.2]) (le_max_of_le_left (by linarith))
  have u : min 1 (max a 0) ≤ b + t :=
    (min_le_right _ _).trans (max_le (by linarith) (by linarith [hb.1]))
  rw [clamp01_eq]
  exact abs_le.mpr ⟨by linarith, by linarith⟩

/-- the two rescaling steps of `ClipColor` with `e` added to both denominators: the published procedure
for `e = 0`, the code's (before its final clamp) for `e = ε` -/
def clipStep (e : Rat) (c : RGB) : RGB :=
  let c1 := if c.min3 < 0 then c.map (fun v => lum c + (v - lum c) * lum c / (lum c - c.min3 + e)) else c
  if c.max3 > 1 then c1.map (fun v => lum c + (v - lum c) * (1 - lum c) / (c.max3 - lum c + e)) else c1

/-- the factor by which `clipStep e` scales a colour towards its luminosity -/
def rho (e : Rat) (c : RGB) : Rat :=
  if c.min3 < 0 then lum c / (lum c - c.min3 + e)
  else if c.max3 > 1 then (1 - lum c) / (c.max3 - lum c + e) else 1

theorem clipColor_eq (c : RGB) : clipColor c = (clipStep eps c).map clamp01 := by
  unfold clipColor clipStep clamp01 RGB.map; rfl

theorem specClipColor_eq (c : RGB) : Spec.clipColor c = clipStep 0 c := by
  unfold Spec.clipColor clipStep
  simp only [← lum_eq_spec, ← min3_eq_spec, ← max3_eq_spec, add_zero]

/-- only one of the two steps applies, and it is a scaling towards `lum c` -/
theorem rho_zero (c : RGB) :
    rho 0 c = if c.min3 < 0 then lum c / (lum c - c.min3)
      else if c.max3 > 1 then (1 - lum c) / (c.max3 - lum c) else 1 := by
  unfold rho; simp only [add_zero]

theorem clipStep_eq (e : Rat) (c : RGB) (hl : unit (lum c)) (hw : c.max3 - c.min3 ≤ 1) :
    clipStep e c = c.map (fun v => lum c + rho e c * (v - lum c)) := by
  obtain ⟨l0, l1⟩ := hl
  unfold clipStep rho
  by_cases hn : c.min3 < 0
  · have hx : ¬ c.max3 > 1 := by intro h; linarith
    simp only [if_pos hn, if_neg hx, RGB.map]
    congr 1 <;> ring
  · by_cases hx : c.max3 > 1
    · simp only [if_neg hn, if_pos hx, RGB.map]
      congr 1 <;> ring
    · simp only [if_neg hn, if_neg hx, RGB.map, one_mul, add_sub_cancel]

theorem clipColor_unit (c : RGB) : (clipColor c).All unit :=
  clipColor_eq c ▸ map_all _ clamp01_unit

theorem clipColor_defined (c : RGB) : ∀ d ∈ clipColorDens c, 0 < d :=
  List.forall_mem_append.mpr
    ⟨ite_dens_pos fun _ => by linarith [eps_pos, min3_le_lum c],
     ite_dens_pos fun _ => by linarith [eps_pos, lum_le_max3 c]⟩

/-- the published factor keeps the scaled colour in `[0,1]` and is the largest that does: it is 1, or it
takes the least component to 0, or the greatest to 1 -/
theorem rho_zero_maximal (c : RGB) (hl : unit (lum c)) (hw : c.max3 - c.min3 ≤ 1) :
    unit (rho 0 c) ∧ rho 0 c * (lum c - c.min3) ≤ lum c ∧
    rho 0 c * (c.max3 - lum c) ≤ 1 - lum c ∧
    (rho 0 c = 1 ∨ rho 0 c * (lum c - c.min3) = lum c ∨ rho 0 c * (c.max3 - lum c) = 1 - lum c) := by
  obtain ⟨l0, l1⟩ := hl
  have h1 := sub_nonneg.mpr (min3_le_lum c)
  have h2 := sub_nonneg.mpr (lum_le_max3 c)
  rw [rho_zero]
  split_ifs with hn hx
  · have hd := sub_pos.mpr (hn.trans_le l0)
    have r := unit_div l0 ((le_sub_self_iff _).mpr hn.le) hd
    have e := div_mul_cancel₀ (lum c) hd.ne'
    exact ⟨r, e.le, (mul_le_of_le_one_left h2 r.2).trans (by linarith), Or.inr (Or.inl e)⟩
  · have hd := sub_pos.mpr (l1.trans_lt hx)
    have r := unit_div (sub_nonneg.mpr l1) (sub_le_sub_right hx.le _) hd
    have e := div_mul_cancel₀ (1 - lum c) hd.ne'
    exact ⟨r, (mul_le_of_le_one_left h1 r.2).trans (by linarith), e.le, Or.inr (Or.inr e)⟩
  · rw [one_mul, one_mul]
    exact ⟨unit_one, by linarith, by linarith, Or.inl rfl⟩

theorem specClip_comp_unit (c : RGB) (hl : unit (lum c)) (hw : c.max3 - c.min3 ≤ 1) {v : Rat}
    (h1 : c.min3 ≤ v) (h2 : v ≤ c.max3) : unit (lum c + rho 0 c * (v - lum c)) := by
  obtain ⟨⟨r0, _⟩, F2, F3, _⟩ := rho_zero_maximal c hl hw
  have a1 : rho 0 c * (c.min3 - lum c) ≤ rho 0 c * (v - lum c) :=
    mul_le_mul_of_nonneg_left (by linarith) r0
  have a2 : rho 0 c * (v - lum c) ≤ rho 0 c * (c.max3 - lum c) :=
    mul_le_mul_of_nonneg_left (by linarith) r0
  constructor <;> linarith

/-- `e` added to the denominator of a factor `m/d ≤ 1` moves a component that is within `(100/11) d` of the
luminosity by at most `(100/11) e`, rounded up to `10 e`: the `10 ε` of `clipColor_near_spec` -/
theorem scale_add_near {m d w e : Rat} (he : 0 ≤ e) (hm : 0 ≤ m) (hmd : m ≤ d) (hd : 0 < d)
    (hw : |w| ≤ 100 / 11 * d) : |m / (d + e) * w - m / d * w| ≤ 10 * e := by
  have hde : 0 < d + e := by linarith
  have h0 : 0 ≤ m / (d + e) := div_nonneg hm hde.le
  have h1 : m / (d + e) ≤ 1 := (div_le_one hde).mpr (by linarith)
  have hed : 0 ≤ e / d := div_nonneg he hd.le
  rw [← sub_mul, abs_mul, abs_sub_comm, div_sub_div_add hd hde,
    abs_of_nonneg (mul_nonneg h0 hed)]
  calc m / (d + e) * (e / d) * |w| ≤ 1 * (e / d) * (100 / 11 * d) :=
        mul_le_mul (mul_le_mul_of_nonneg_right h1 hed) hw (abs_nonneg _) (by linarith)
    _ = 100 / 11 * e := by rw [one_mul, mul_left_comm, div_mul_cancel₀ _ hd.ne']
    _ ≤ 10 * e := by linarith

theorem rho_near {e : Rat} (he : 0 ≤ e) (c : RGB) (hl : unit (lum c)) {v : Rat}
    (h1 : c.min3 ≤ v) (h2 : v ≤ c.max3) :
    |rho e c * (v - lum c) - rho 0 c * (v - lum c)| ≤ 10 * e := by
  obtain ⟨b1, b2⟩ := comp_lum_bounds c h1 h2
  rw [rho_zero]; unfold rho
  split_ifs with hn hx
  · exact scale_add_near he hl.1 ((le_sub_self_iff _).mpr hn.le) (sub_pos.mpr (hn.trans_le hl.1)) b1
  · exact scale_add_near he (sub_nonneg.mpr hl.2) (sub_le_sub_right hx.le _)
      (sub_pos.mpr (hl.2.trans_lt hx)) b2
  · rw [sub_self, abs_zero]; exact mul_nonneg (by norm_num) he

/-- `_clip_color` against the published `ClipColor`, for an argument whose luminosity is in `[0,1]`
and whose spread is at most 1 (every argument `_set_lum` builds from colours in `[0,1]`): within `10 ε`,
no `δ` needed. -/
theorem clipColor_near_spec (c : RGB) (hl : unit (lum c)) (hw : c.max3 - c.min3 ≤ 1) :
    RGB.near (10 * eps) (clipColor c) (Spec.clipColor c) := by
  rw [clipColor_eq, specClipColor_eq, clipStep_eq _ c hl hw, clipStep_eq _ c hl hw, map_map]
  refine near_map_of_between c fun v h1 h2 => ?_
  refine clamp01_near (specClip_comp_unit c hl hw h1 h2) ?_
  rw [add_sub_add_left_eq_sub]
  exact rho_near eps_pos.le c hl h1 h2

theorem setLum_near_spec (c : RGB) (L : Rat) (hL : unit L) (hw : c.max3 - c.min3 ≤ 1) :
    RGB.near (10 * eps) (setLum c L) (Spec.setLum c L) := by
  unfold setLum Spec.setLum; simp only [← lum_eq_spec]
  apply clipColor_near_spec
  · rwa [lum_shift, add_sub_cancel]
  · rwa [max3_shift, min3_shift, add_sub_add_right_eq_sub]

end PsdVerif.Blend
