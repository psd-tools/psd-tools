/-
C06 — the regular expressions of `psd_tools/psd/engine_data.py` cannot backtrack catastrophically.

* `engine_patterns_tied` / `engine_flags_tied`: the table regenerated from the working tree on this run IS the committed
  snapshot (every `compile_re(r"…")` of the module, in source order; the flags of `compile_re`);
* `engine_patterns_safe`: every pattern of the snapshot parses (it stays inside the syntax `EngineRegex.parse` reads) and
  satisfies `EngineRegex.safe` - the decidable sufficient condition (1)-(4) of Model/EngineRegex.lean. That the condition
  bounds the work of CPython's backtracking engine by O(1) per byte and per pattern is TRUSTED (stated there, not proved);
* `seeded_pattern_unsafe`: the variant of `UTF16_END` of seeded/C06-2 (`(?:\\.|[^\)])*`, the class no longer excludes the
  backslash) does NOT satisfy it; `unsafe_*`: the classical exponential shapes are refused too;
* `sample_*`: for every pattern, on a handful of subjects (edge cases: `\)`, `\\)`, empty, a trailing line feed for `$`,
  a second line feed), THREE things agree: what CPython's `re` answered (`(match.start(), match.end())` of
  `pattern.search(subject)`, recorded here as literals), what the reference matcher
  `EngineRegex.search` answers on the parsed pattern, and the byte predicate of `Model/EngineData.lean` the C18 model and the
  cost model use in place of the pattern (`reString`, `reNumber`, …; for `UTF16_END` the span `strToken` cuts off, for
  `DIVIDER` the spans `next` computes with `takeWhile` / `dropWhile`).

Evaluation by `decide +kernel` (the functions are structurally recursive).
-/
import PsdVerif.Model.EngineData
import PsdVerif.Model.EngineRegex
import PsdVerif.Model.EngineRegexTables
import PsdVerif.Generated.EnginePatterns

namespace PsdVerif.EngineRegexTied
open PsdVerif PsdVerif.EngineData PsdVerif.EngineRegex PsdVerif.EngineRegexTables

theorem engine_patterns_tied : Generated.EnginePatterns.patterns = EngineRegexTables.patterns := rfl

theorem engine_flags_tied : Generated.EnginePatterns.flags = EngineRegexTables.flags := rfl

/-- every pattern the module compiles parses and passes the no-catastrophic-backtracking check -/
theorem engine_patterns_safe :
    EngineRegexTables.patterns.all (fun p => match parse p.2 with | some r => safe r | none => false) = true := by
  decide +kernel

/-- fourteen patterns: the twelve token types, the divider, the end of a string -/
theorem engine_patterns_count : EngineRegexTables.patterns.length = 14 := by decide

/-- the seeded defect: `^\(\xfe\xff(?:\\.|[^\)])*\)` -/
theorem seeded_pattern_unsafe : (parse "^\\(\\xfe\\xff(?:\\\\.|[^\\)])*\\)").map safe = some false := by
  decide +kernel

/-- … which differs from the current `UTF16_END` by the two characters `\\` inside the class -/
theorem current_utf16_end : patternOf "Tokenizer.UTF16_END" = some "^\\(\\xfe\\xff(?:\\\\.|[^\\\\\\)])*\\)" := by
  decide +kernel

/-! the check refuses the textbook shapes, and what it cannot read -/

theorem unsafe_nested_star : (parse "^(a*)*b").map safe = some false := by decide +kernel
theorem unsafe_star_then_same : (parse "^a*a").map safe = some false := by decide +kernel
theorem unsafe_overlapping_alts : (parse "^(a|a)*b").map safe = some false := by decide +kernel
theorem unsafe_dot_star : (parse "^.*$").map safe = some false := by decide +kernel
theorem unsafe_unanchored : (parse "a+b").map safe = some false := by decide +kernel
/-- the tiling exception needs a continuation without quantifier (or one the second byte cannot enter) -/
theorem unsafe_tiling_long_excursion :
    (parse "^(?:[^\\)]|\\\\\\))*\\)[^z]*z").map safe = some false := by decide +kernel
theorem unread_counted : parse "^a{2}" = none := by decide +kernel
theorem unread_lazy : parse "^a*?" = none := by decide +kernel
theorem unread_lookahead : parse "^(?=a)a" = none := by decide +kernel
theorem unread_word_class : parse "^\\w+$" = none := by decide +kernel

/-! ## Samples: CPython = reference matcher = byte predicate -/

/-- for a token pattern: `bool(pattern.search(token))` -/
def samplesOK (name : String) (model : BL → Bool) (xs : List (BL × Option (Nat × Nat))) : Bool :=
  match (patternOf name).bind parse with
  | none => false
  | some r => xs.all (fun x => search r x.1 == x.2 && model x.1 == x.2.isSome)

/-- for the two patterns of the tokenizer: the span -/
def spansOK (name : String) (model : BL → Option (Nat × Nat)) (xs : List (BL × Option (Nat × Nat))) : Bool :=
  match (patternOf name).bind parse with
  | none => false
  | some r => xs.all (fun x => search r x.1 == x.2 && model x.1 == x.2)

/-- `DIVIDER.search(rest)` as `EngineData.next` has it: `match.start()` = the length of the token it takes
(`takeWhile (!isDiv ·)`), `match.end()` = what it consumes (up to the rest it returns); no match = no divider byte -/
def divModel (d : BL) : Option (Nat × Nat) :=
  if (d.dropWhile (fun x => !isDiv x)).isEmpty then none
  else some ((d.takeWhile (fun x => !isDiv x)).length,
             d.length - ((d.dropWhile (fun x => !isDiv x)).dropWhile isDiv).length)

/-- `UTF16_END.search(rest)` as `EngineData.next` has it: only evaluated after `startswith(b"(\xfe\xff")`; the match is
the token `strToken` cuts off -/
def strModel (d : BL) : Option (Nat × Nat) :=
  if strStart d then (strToken d).map (fun x => (0, x.1.length)) else none

/-- `EngineToken.ARRAY_END` = `^\]$` -/
theorem sample_array_end : samplesOK "EngineToken.ARRAY_END" reArrayEnd [
    ([93], some (0, 1)),
    ([93, 10], some (0, 1)),
    ([], none),
    ([93, 93], none),
    ([93, 10, 10], none),
    ([91], none),
    ([120, 93], none),
    ([10, 93], none)] = true := by decide +kernel

/-- `EngineToken.ARRAY_START` = `^\[$` -/
theorem sample_array_start : samplesOK "EngineToken.ARRAY_START" reArrayStart [
    ([91], some (0, 1)),
    ([91, 10], some (0, 1)),
    ([], none),
    ([91, 91], none),
    ([91, 10, 10], none),
    ([93], none),
    ([120, 91], none),
    ([91, 32], none)] = true := by decide +kernel

/-- `EngineToken.BOOLEAN` = `^(true|false)$` -/
theorem sample_boolean : samplesOK "EngineToken.BOOLEAN" reBoolean [
    ([116, 114, 117, 101], some (0, 4)),
    ([102, 97, 108, 115, 101], some (0, 5)),
    ([116, 114, 117, 101, 10], some (0, 4)),
    ([116, 114, 117, 101, 102, 97, 108, 115, 101], none),
    ([116, 114, 117], none),
    ([], none),
    ([102, 97, 108, 115, 101, 120], none),
    ([120, 116, 114, 117, 101], none),
    ([102, 97, 108, 115, 101, 10, 10], none),
    ([84, 114, 117, 101], none)] = true := by decide +kernel

/-- `EngineToken.DICT_END` = `^>>(\x00)*$` -/
theorem sample_dict_end : samplesOK "EngineToken.DICT_END" reDictEnd [
    ([62, 62], some (0, 2)),
    ([62, 62, 0, 0], some (0, 4)),
    ([62, 62, 0, 10], some (0, 3)),
    ([62], none),
    ([62, 62, 120], none),
    ([62, 62, 0, 120], none),
    ([], none),
    ([62, 62, 10], some (0, 2)),
    ([62, 62, 10, 0], none),
    ([62, 62, 62], none)] = true := by decide +kernel

/-- `EngineToken.DICT_START` = `^<<$` -/
theorem sample_dict_start : samplesOK "EngineToken.DICT_START" reDictStart [
    ([60, 60], some (0, 2)),
    ([60, 60, 10], some (0, 2)),
    ([60], none),
    ([60, 60, 60], none),
    ([], none),
    ([60, 60, 10, 10], none),
    ([60, 60, 0], none)] = true := by decide +kernel

/-- `EngineToken.NOOP` = `^$` -/
theorem sample_noop : samplesOK "EngineToken.NOOP" reNoop [
    ([], some (0, 0)),
    ([10], some (0, 0)),
    ([10, 10], none),
    ([97], none),
    ([32], none),
    ([0], none)] = true := by decide +kernel

/-- `EngineToken.NUMBER` = `^-?\d+$` -/
theorem sample_number : samplesOK "EngineToken.NUMBER" reNumber [
    ([48], some (0, 1)),
    ([45, 49, 50], some (0, 3)),
    ([49, 50, 10], some (0, 2)),
    ([45], none),
    ([], none),
    ([49, 46, 53], none),
    ([49, 50, 97], none),
    ([45, 45, 49], none),
    ([45, 48, 10], some (0, 2)),
    ([49, 50, 10, 10], none),
    ([43, 49], none),
    ([48, 48, 49, 50, 51, 52, 53, 54, 55, 56, 57, 48, 49, 50, 51, 52, 53, 54, 55, 56, 57, 48], some (0, 22))] = true := by decide +kernel

/-- `EngineToken.NUMBER_WITH_DECIMAL` = `^-?\d*\.\d+$` -/
theorem sample_number_with_decimal : samplesOK "EngineToken.NUMBER_WITH_DECIMAL" reNumberDec [
    ([46, 53], some (0, 2)),
    ([45, 46, 53], some (0, 3)),
    ([49, 46, 53], some (0, 3)),
    ([49, 46], none),
    ([46], none),
    ([45, 49, 46, 50, 53, 10], some (0, 5)),
    ([49, 46, 50, 46, 51], none),
    ([], none),
    ([49], none),
    ([45, 46], none),
    ([49, 46, 53, 120], none),
    ([45, 48, 48, 46, 53, 48, 48], some (0, 7))] = true := by decide +kernel

/-- `EngineToken.PROPERTY` = `^\/[a-zA-Z0-9_]+$` -/
theorem sample_property : samplesOK "EngineToken.PROPERTY" reProperty [
    ([47, 97], some (0, 2)),
    ([47, 65, 98, 95, 57], some (0, 5)),
    ([47], none),
    ([47, 97, 32, 98], none),
    ([47, 97, 10], some (0, 2)),
    ([97], none),
    ([], none),
    ([47, 47, 97], none),
    ([47, 97, 47], none),
    ([47, 254], none)] = true := by decide +kernel

/-- `EngineToken.STRING` = `^\((\xfe\xff([^\)]|\\\))*)\)$` -/
theorem sample_string : samplesOK "EngineToken.STRING" reString [
    ([40, 254, 255, 41], some (0, 4)),
    ([40, 254, 255, 0, 97, 41], some (0, 6)),
    ([40, 254, 255, 92, 41, 41], some (0, 6)),
    ([40, 254, 255, 92, 92, 41], some (0, 6)),
    ([40, 254, 255, 92, 92, 41, 41], some (0, 7)),
    ([40, 254, 255, 92, 41], some (0, 5)),
    ([40, 254, 255], none),
    ([40, 254, 255, 41, 120], none),
    ([40, 254, 255, 41, 10], some (0, 4)),
    ([40, 254, 255, 97, 41, 98, 41], none),
    ([40, 254, 255, 97, 92, 41, 98, 41], some (0, 8)),
    ([], none),
    ([40, 254, 41], none),
    ([40, 254, 255, 10, 41], some (0, 5)),
    ([40, 254, 255, 92, 41, 92, 41, 92, 41, 120], none)] = true := by decide +kernel

/-- `EngineToken.UNKNOWN_TAG` = `^\([a-zA-Z0-9]*\)$` -/
theorem sample_unknown_tag : samplesOK "EngineToken.UNKNOWN_TAG" reTag [
    ([40, 104, 119, 105, 100, 41], some (0, 6)),
    ([40, 41], some (0, 2)),
    ([40, 97, 49, 41], some (0, 4)),
    ([40, 97, 32, 98, 41], none),
    ([40, 97, 41, 10], some (0, 3)),
    ([40, 97], none),
    ([97, 41], none),
    ([], none),
    ([40, 40, 97, 41, 41], none),
    ([40, 97, 41, 41], none),
    ([40, 95, 41], none)] = true := by decide +kernel

/-- `EngineToken.UNKNOWN_TAG2` = `^--\(\.-0$` -/
theorem sample_unknown_tag2 : samplesOK "EngineToken.UNKNOWN_TAG2" reTag2 [
    ([45, 45, 40, 46, 45, 48], some (0, 6)),
    ([45, 45, 40, 46, 45, 48, 10], some (0, 6)),
    ([45, 45, 40, 46, 45], none),
    ([45, 45, 40, 120, 45, 48], none),
    ([], none),
    ([45, 45, 40, 46, 45, 48, 48], none),
    ([120, 45, 45, 40, 46, 45, 48], none)] = true := by decide +kernel

/-- `Tokenizer.DIVIDER` = `[ \n\t]+` -/
theorem sample_divider : spansOK "Tokenizer.DIVIDER" divModel [
    ([65, 66, 32, 10, 9, 67], some (2, 5)),
    ([97, 98, 99], none),
    ([], none),
    ([32], some (0, 1)),
    ([97, 32], some (1, 2)),
    ([32, 97], some (0, 1)),
    ([97, 13, 98], none),
    ([97, 11, 98, 9, 99], some (3, 4)),
    ([10, 10], some (0, 2)),
    ([40, 254, 255, 41, 32, 120], some (4, 5))] = true := by decide +kernel

/-- `Tokenizer.UTF16_END` = `^\(\xfe\xff(?:\\.|[^\\\)])*\)` -/
theorem sample_utf16_end : spansOK "Tokenizer.UTF16_END" strModel [
    ([40, 254, 255, 41, 114, 101, 115, 116], some (0, 4)),
    ([40, 254, 255, 92, 41, 41, 120, 41], some (0, 6)),
    ([40, 254, 255, 92, 92, 41, 120, 41], some (0, 6)),
    ([40, 254, 255, 97, 98, 99], none),
    ([40, 254, 255, 92, 41], none),
    ([40, 254, 255, 92], none),
    ([40, 254], none),
    ([], none),
    ([120, 40, 254, 255, 41], none),
    ([40, 254, 255, 97, 98, 41, 10, 41], some (0, 6)),
    ([40, 254, 255, 10, 41], some (0, 5)),
    ([40, 254, 255, 92, 10, 41], some (0, 6)),
    ([40, 254, 255, 92, 92, 92, 92, 92, 92], none),
    ([40, 254, 255, 92, 41, 92, 41, 92, 41, 41], some (0, 10))] = true := by decide +kernel

end PsdVerif.EngineRegexTied
