/-
Effect-carrying trees (`Model/CompositeFx.lean`): well-formedness; `apply` as a skip test, an object and a run of
`_apply_source` calls; the range invariants (`Inv`, `XInv`) through the whole recursion.
-/
import PsdVerif.Model.CompositeFx
import PsdVerif.Lemmas.Composite

namespace PsdVerif.Composite

structure OverlayOk (e : Overlay) : Prop where
  color : ColorOk e.color
  shape : Unit01 e.shape
  opacity : Unit01 e.opacity

structure StrokeFxOk (s : StrokeFx) : Prop where
  color : ColorOk s.color
  shape : ∀ V, Unit01 (s.shape V)
  opacity : Unit01 s.opacity

structure VStrokeOk (s : VStroke) : Prop where
  color : ColorOk s.color
  shape : Unit01 s.shape
  opacity : Unit01 s.opacity

structure FxOk (fx : Fx) : Prop where
  vmValue : Unit01 fx.vmValue
  overlays : ∀ e ∈ fx.overlays, OverlayOk e
  strokeFx : ∀ s ∈ fx.strokeFx, StrokeFxOk s

structure ObjSrcOk (src : ObjSrc) : Prop where
  pixColor : ColorOk src.pixColor
  pixShape : Unit01 src.pixShape
  fillColor : ColorOk src.fillColor
  fillShape : Unit01 src.fillShape

def optStrokeOk : Option VStroke → Prop
  | none => True
  | some s => VStrokeOk s

mutual
/-- well-formed effect-carrying layer data at the pixel: every stored value is in the unit interval -/
def fxNodeOk : FxNode → Prop
  | .leaf pr fx src stroke clips => PropsOk pr ∧ FxOk fx ∧ ObjSrcOk src ∧ optStrokeOk stroke ∧ fxListOk clips
  | .group pr fx _ children clips => PropsOk pr ∧ FxOk fx ∧ fxListOk children ∧ fxListOk clips
  | .adjustment _ => True
def fxListOk : List FxNode → Prop
  | [] => True
  | n :: ns => fxNodeOk n ∧ fxListOk ns
end

theorem black_ok : ColorOk black := fun _ => ⟨le_refl _, by norm_num [black]⟩

theorem fxPlain_ok (hp : Bool) : FxOk (Fx.plain hp) :=
  ⟨unit01_one, fun e he => by simp [Fx.plain] at he, fun s hs => by simp [Fx.plain] at hs⟩

/-- one call of `_apply_source`, with the blend mode still a tag: what the tail of `apply` issues (`applySrcs`) -/
structure PSrc where
  mode : Mode
  color : Color
  shape : Rat
  alpha : Rat
  ko : Bool

def PSrc.Ok (s : PSrc) : Prop := SrcOk s.color s.shape s.alpha

def applySrcs (B : Mode → Color → Color → Color) (st : PState) : List PSrc → PState
  | [] => st
  | s :: ss => applySrcs B (applySource (B s.mode) st s.color s.shape s.alpha s.ko) ss

theorem applySrcs_append (B : Mode → Color → Color → Color) (st : PState) (a b : List PSrc) :
    applySrcs B st (a ++ b) = applySrcs B (applySrcs B st a) b := by
  induction a generalizing st with
  | nil => rfl
  | cons s a ih => simp only [List.cons_append, applySrcs]; exact ih _

def overlaySrc (V bbox : Rect) (x y : Int) (shape alpha : Rat) (e : Overlay) : PSrc :=
  { mode := e.mode, color := pasteAt V bbox x y e.color white, shape := shape * overlayShape V bbox x y e,
    alpha := alpha * overlayShape V bbox x y e * e.opacity, ko := false }

def strokeFxSrc (V bbox : Rect) (x y : Int) (lop : Rat) (s : StrokeFx) : PSrc :=
  { mode := s.mode, color := pasteAt V bbox x y s.color black, shape := pasteAt V bbox x y (s.shape V) 0,
    alpha := pasteAt V bbox x y (s.shape V) 0 * (s.opacity * lop), ko := false }

theorem applyOverlays_eq (B : Mode → Color → Color → Color) (V bbox : Rect) (x y : Int) (shape alpha : Rat) (st : PState)
    (es : List Overlay) :
    applyOverlays B V bbox x y shape alpha st es = applySrcs B st (es.map (overlaySrc V bbox x y shape alpha)) := by
  induction es generalizing st with
  | nil => rfl
  | cons e es ih => simp only [applyOverlays, List.map_cons, applySrcs, overlaySrc]; exact ih _

theorem applyStrokeFx_eq (B : Mode → Color → Color → Color) (V bbox : Rect) (x y : Int) (lop : Rat) (st : PState)
    (ss : List StrokeFx) :
    applyStrokeFx B V bbox x y lop st ss = applySrcs B st (ss.map (strokeFxSrc V bbox x y lop)) := by
  induction ss generalizing st with
  | nil => rfl
  | cons s ss ih => simp only [applyStrokeFx, List.map_cons, applySrcs, strokeFxSrc]; exact ih _

/-- the layer's shape and alpha after masks and layer opacity, before fill opacity: what the overlays are painted with -/
def maskedShape (force : Bool) (V : Rect) (x y : Int) (pr : Props) (fx : Fx) (shape : Rat) : Rat :=
  shape * (maskFactorsFx force pr fx V x y).1

def maskedAlpha (force : Bool) (V : Rect) (x y : Int) (pr : Props) (fx : Fx) (alpha : Rat) : Rat :=
  alpha * ((maskFactorsFx force pr fx V x y).1 * (maskFactorsFx force pr fx V x y).2 * pr.opacity)

def ownSrc (force : Bool) (V : Rect) (x y : Int) (pr : Props) (fx : Fx) (color : Color) (shape alpha : Rat) : PSrc :=
  { mode := pr.mode, color := color, shape := maskedShape force V x y pr fx shape * pr.fill,
    alpha := maskedAlpha force V x y pr fx alpha * pr.fill, ko := pr.knockout }

/-- the sources after the layer's own: one per overlay effect, one per stroke effect -/
def fxSrcs (force : Bool) (V : Rect) (x y : Int) (pr : Props) (fx : Fx) (shape alpha : Rat) : List PSrc :=
  fx.overlays.map (overlaySrc V pr.bbox x y (maskedShape force V x y pr fx shape) (maskedAlpha force V x y pr fx alpha))
    ++ fx.strokeFx.map (strokeFxSrc V pr.bbox x y pr.opacity)

/-- **`finishFx` is the layer's own source followed by one ordinary source per effect.** -/
theorem finishFx_eq (B : Mode → Color → Color → Color) (force : Bool) (V : Rect) (x y : Int) (st : PState) (pr : Props)
    (fx : Fx) (color : Color) (shape alpha : Rat) :
    finishFx B force V x y st pr fx color shape alpha
      = applySrcs B st (ownSrc force V x y pr fx color shape alpha :: fxSrcs force V x y pr fx shape alpha) := by
  unfold finishFx fxSrcs
  simp only [applyStrokeFx_eq, applyOverlays_eq, applySrcs, applySrcs_append, ownSrc, maskedShape, maskedAlpha]

theorem vmaskFactor_unit (force : Bool) {fx : Fx} (h : FxOk fx) (V : Rect) (x y : Int) : Unit01 (vmaskFactor force fx V x y) := by
  unfold vmaskFactor
  exact ite_ok (pasteAt_ok h.vmValue unit01_zero) unit01_one

theorem maskFactorsFx_unit (force : Bool) {pr : Props} {fx : Fx} (hp : PropsOk pr) (hf : FxOk fx) (V : Rect) (x y : Int) :
    Unit01 (maskFactorsFx force pr fx V x y).1 ∧ Unit01 (maskFactorsFx force pr fx V x y).2 := by
  obtain ⟨m1, m2⟩ := maskFactors_unit hp V x y
  exact ⟨unit01_mul m1 (vmaskFactor_unit force hf V x y), m2⟩

/-- masks and layer opacity keep an object admissible -/
theorem masked_ok (force : Bool) {pr : Props} {fx : Fx} (hp : PropsOk pr) (hf : FxOk fx) (V : Rect) (x y : Int)
    {color : Color} {shape alpha : Rat} (ho : SrcOk color shape alpha) :
    SrcOk color (maskedShape force V x y pr fx shape) (maskedAlpha force V x y pr fx alpha) := by
  obtain ⟨m1, m2⟩ := maskFactorsFx_unit force hp hf V x y
  unfold maskedShape maskedAlpha
  rw [← mul_assoc, ← mul_assoc]
  exact ((ho.scale m1).fade m2).fade hp.opacity

theorem overlayShape_unit {e : Overlay} (h : OverlayOk e) (V bbox : Rect) (x y : Int) : Unit01 (overlayShape V bbox x y e) := by
  unfold overlayShape
  exact ite_ok (pasteAt_ok h.shape unit01_zero) unit01_one

theorem overlaySrc_ok {e : Overlay} (h : OverlayOk e) (V bbox : Rect) (x y : Int) {color : Color} {shape alpha : Rat}
    (ho : SrcOk color shape alpha) : (overlaySrc V bbox x y shape alpha e).Ok :=
  { (ho.scale (overlayShape_unit h V bbox x y)).fade h.opacity with c := pasteAt_ok h.color white_ok }

theorem strokeFxSrc_ok {s : StrokeFx} (h : StrokeFxOk s) (V bbox : Rect) (x y : Int) {lop : Rat} (hl : Unit01 lop) :
    (strokeFxSrc V bbox x y lop s).Ok :=
  (SrcOk.opaque (pasteAt_ok h.color black_ok) (pasteAt_ok (h.shape V) unit01_zero)).fade (unit01_mul h.opacity hl)

/-- a property of every source `finishFx` applies: of the layer's own, of each overlay's, of each stroke effect's -/
theorem forall_finishFx_srcs {P : PSrc → Prop} {force : Bool} {V : Rect} {x y : Int} {pr : Props} {fx : Fx} {color : Color}
    {shape alpha : Rat} (hown : P (ownSrc force V x y pr fx color shape alpha))
    (hov : ∀ e ∈ fx.overlays,
      P (overlaySrc V pr.bbox x y (maskedShape force V x y pr fx shape) (maskedAlpha force V x y pr fx alpha) e))
    (hst : ∀ t ∈ fx.strokeFx, P (strokeFxSrc V pr.bbox x y pr.opacity t)) :
    ∀ s ∈ ownSrc force V x y pr fx color shape alpha :: fxSrcs force V x y pr fx shape alpha, P s := by
  intro s hs
  rcases List.mem_cons.1 hs with rfl | hs
  · exact hown
  rcases List.mem_append.1 hs with h | h
  · obtain ⟨e, he, rfl⟩ := List.mem_map.1 h
    exact hov e he
  · obtain ⟨t, ht, rfl⟩ := List.mem_map.1 h
    exact hst t ht

theorem finishFx_srcs_ok (force : Bool) {pr : Props} {fx : Fx} (hp : PropsOk pr) (hf : FxOk fx) (V : Rect) (x y : Int)
    {color : Color} {shape alpha : Rat} (ho : SrcOk color shape alpha) :
    ∀ s ∈ ownSrc force V x y pr fx color shape alpha :: fxSrcs force V x y pr fx shape alpha, s.Ok :=
  have hm := masked_ok force hp hf V x y ho
  forall_finishFx_srcs (hm.scale hp.fill) (fun e he => overlaySrc_ok (hf.overlays e he) V pr.bbox x y hm)
    (fun t ht => strokeFxSrc_ok (hf.strokeFx t ht) V pr.bbox x y hp.opacity)

theorem applySrcs_inv {B : Mode → Color → Color → Color} {st : PState} (h : Inv st) (ss : List PSrc) (hs : ∀ s ∈ ss, s.Ok) :
    Inv (applySrcs B st ss) := by
  induction ss generalizing st with
  | nil => exact h
  | cons s ss ih =>
    exact ih (applySource_inv h (hs s (List.mem_cons_self ..)) s.ko) (fun t ht => hs t (List.mem_cons_of_mem _ ht))

theorem applySrcs_xinv {B : Mode → Color → Color → Color} (hB : BOk B) {st : PState} (h : Inv st) (hx : XInv st)
    (ss : List PSrc) (hs : ∀ s ∈ ss, s.Ok) : XInv (applySrcs B st ss) := by
  induction ss generalizing st with
  | nil => exact hx
  | cons s ss ih =>
    have h1 := hs s (List.mem_cons_self ..)
    exact ih (applySource_inv h h1 s.ko) (applySource_xinv h hx h1 (hB s.mode) s.ko) (fun t ht => hs t (List.mem_cons_of_mem _ ht))

theorem applySrcs_a0_c0 (B : Mode → Color → Color → Color) (st : PState) (ss : List PSrc) :
    (applySrcs B st ss).a0 = st.a0 ∧ (applySrcs B st ss).c0 = st.c0 := by
  induction ss generalizing st with
  | nil => exact ⟨rfl, rfl⟩
  | cons s ss ih => simp only [applySrcs]; rw [(ih _).1, (ih _).2]; exact ⟨rfl, rfl⟩

/-- `apply` returns early: hidden, outside the viewport, or a clipping layer handled by its base -/
def propsSkipped (V : Rect) (cc : Bool) (pr : Props) : Bool :=
  !pr.visible || decide (intersect V pr.bbox = Rect.zero) || (!cc && pr.clipping && pr.hasClipTarget)

def fxSkipped (V : Rect) (cc : Bool) : FxNode → Bool
  | .leaf pr .. => propsSkipped V cc pr
  | .group pr .. => propsSkipped V cc pr
  | .adjustment _ => true

def FxNode.fx : FxNode → Fx
  | .leaf _ fx .. => fx
  | .group _ fx .. => fx
  | .adjustment _ => Fx.plain false -- never read: `fxSkipped`

/-- `_apply_clip_layers`: the colour the base takes from its clip run -/
def clippedColor (B : Mode → Color → Color → Color) (force : Bool) (V : Rect) (x y : Int) (color : Color) (alpha : Rat)
    (clips : List FxNode) : Color :=
  if clips.isEmpty then color else (applyFxClips B force V x y (PState.init color alpha false) clips).c

/-- `_get_group` at the pixel, from the sub-compositor's final state: (colour, shape, alpha) pasted back on 1 / 0 / 0 -/
def groupResult (inside : Bool) (sub : PState) : Color × Rat × Rat :=
  (if inside then finishColor sub else white, if inside then sub.sg else 0, if inside then sub.ag else 0)

/-- what `_get_object` / `_get_group` and the clip run hand to the tail of `apply`: colour, shape, alpha.
Only a group reads the backdrop `bd`. -/
def fxObj (B : Mode → Color → Color → Color) (force : Bool) (V : Rect) (x y : Int) (bd : Color × Rat) :
    FxNode → Color × Rat × Rat
  | .leaf pr fx src stroke clips =>
    let shape := leafShape force V x y pr fx src
    (strokeObject B V x y (clippedColor B force V x y (leafColor force V x y pr fx src) shape clips) shape stroke,
      shape, shape)
  | .group pr _ pt children clips =>
    let g := groupResult ((intersect V pr.bbox).contains x y)
      (applyFxList B force (intersect V pr.bbox) x y (PState.init bd.1 bd.2 (!pt)) children)
    (clippedColor B force V x y g.1 g.2.2 clips, g.2.1, g.2.2)
  | .adjustment _ => (white, 0, 0) -- never read: `fxSkipped`

/-- **`apply` on a layer**: nothing, or the tail `finishFx` on the layer's object. -/
theorem applyFxNode_eq (B : Mode → Color → Color → Color) (force : Bool) (V : Rect) (x y : Int) (cc : Bool) (st : PState)
    (n : FxNode) :
    applyFxNode B force V x y cc st n
      = if fxSkipped V cc n then st
        else finishFx B force V x y st n.props n.fx (fxObj B force V x y (backdrop st n.props.knockout) n).1
          (fxObj B force V x y (backdrop st n.props.knockout) n).2.1 (fxObj B force V x y (backdrop st n.props.knockout) n).2.2 := by
  cases n with
  | adjustment pr => rw [applyFxNode]; rfl
  | leaf pr fx src stroke clips =>
    rw [applyFxNode]
    simp only [fxSkipped, propsSkipped, FxNode.props, FxNode.fx, fxObj, clippedColor, Bool.or_eq_true, decide_eq_true_eq, ite_or]
  | group pr fx pt children clips =>
    rw [applyFxNode]
    simp only [fxSkipped, propsSkipped, FxNode.props, FxNode.fx, fxObj, clippedColor, groupResult, backdrop,
      Bool.or_eq_true, decide_eq_true_eq, ite_or]
    rfl

theorem leafColor_ok (force : Bool) (V : Rect) (x y : Int) (pr : Props) (fx : Fx) {src : ObjSrc} (h : ObjSrcOk src) :
    ColorOk (leafColor force V x y pr fx src) := by
  unfold leafColor
  exact ite_ok (pasteAt_ok h.fillColor white_ok) (ite_ok (pasteAt_ok h.pixColor white_ok) white_ok)

theorem leafShape_unit (force : Bool) (V : Rect) (x y : Int) (pr : Props) (fx : Fx) {src : ObjSrc} (h : ObjSrcOk src) :
    Unit01 (leafShape force V x y pr fx src) := by
  unfold leafShape
  exact ite_ok (pasteAt_ok h.fillShape unit01_zero) (ite_ok (pasteAt_ok h.pixShape unit01_zero) unit01_zero)

theorem strokeObject_ok (B : Mode → Color → Color → Color) (V : Rect) (x y : Int) {color : Color} (alpha : Rat)
    (hc : ColorOk color) (stroke : Option VStroke) : ColorOk (strokeObject B V x y color alpha stroke) := by
  cases stroke with
  | none => exact hc
  | some s => exact fun ch => clip_unit _

theorem clippedColor_ok {B : Mode → Color → Color → Color} {force : Bool} {V : Rect} {x y : Int} {color : Color} {alpha : Rat}
    {clips : List FxNode} (hc : ColorOk color) (h : Inv (applyFxClips B force V x y (PState.init color alpha false) clips)) :
    ColorOk (clippedColor B force V x y color alpha clips) := by
  unfold clippedColor
  exact ite_ok hc h.c

theorem groupResult_ok (inside : Bool) {sub : PState} (h : Inv sub) :
    SrcOk (groupResult inside sub).1 (groupResult inside sub).2.1 (groupResult inside sub).2.2 := by
  cases inside
  · exact SrcOk.opaque white_ok unit01_zero
  · exact ⟨h.ag.1, h.ag_le, h.sg.2, fun _ => clip_unit _⟩

theorem finishFx_inv {B : Mode → Color → Color → Color} (force : Bool) {pr : Props} {fx : Fx} (hp : PropsOk pr) (hf : FxOk fx)
    (V : Rect) (x y : Int) {st : PState} (hst : Inv st) {color : Color} {shape alpha : Rat} (ho : SrcOk color shape alpha) :
    Inv (finishFx B force V x y st pr fx color shape alpha) := by
  rw [finishFx_eq]
  exact applySrcs_inv hst _ (finishFx_srcs_ok force hp hf V x y ho)

theorem finishFx_xinv {B : Mode → Color → Color → Color} (hB : BOk B) (force : Bool) {pr : Props} {fx : Fx} (hp : PropsOk pr)
    (hf : FxOk fx) (V : Rect) (x y : Int) {st : PState} (hst : Inv st) (hx : XInv st) {color : Color} {shape alpha : Rat}
    (ho : SrcOk color shape alpha) : XInv (finishFx B force V x y st pr fx color shape alpha) := by
  rw [finishFx_eq]
  exact applySrcs_xinv hB hst hx _ (finishFx_srcs_ok force hp hf V x y ho)

theorem finishFx_a0_c0 (B : Mode → Color → Color → Color) (force : Bool) (V : Rect) (x y : Int) (st : PState) (pr : Props)
    (fx : Fx) (color : Color) (shape alpha : Rat) :
    (finishFx B force V x y st pr fx color shape alpha).a0 = st.a0 ∧
      (finishFx B force V x y st pr fx color shape alpha).c0 = st.c0 := by
  rw [finishFx_eq]; exact applySrcs_a0_c0 B st _

theorem fxNodeOk_props {n : FxNode} (hn : fxNodeOk n) {V : Rect} {cc : Bool} (h : ¬fxSkipped V cc n = true) :
    PropsOk n.props ∧ FxOk n.fx := by
  cases n with
  | leaf => exact ⟨hn.1, hn.2.1⟩
  | group => exact ⟨hn.1, hn.2.1⟩
  | adjustment => exact absurd rfl h

/-- a layer keeps the range invariant as soon as its object is admissible -/
theorem applyFxNode_inv_of {B : Mode → Color → Color → Color} {force : Bool} {V : Rect} {x y : Int} {cc : Bool} {st : PState}
    (hst : Inv st) {n : FxNode} (hn : fxNodeOk n)
    (ho : SrcOk (fxObj B force V x y (backdrop st n.props.knockout) n).1 (fxObj B force V x y (backdrop st n.props.knockout) n).2.1
      (fxObj B force V x y (backdrop st n.props.knockout) n).2.2) :
    Inv (applyFxNode B force V x y cc st n) := by
  rw [applyFxNode_eq]; split
  · exact hst
  · rename_i h
    obtain ⟨hp, hf⟩ := fxNodeOk_props hn h
    exact finishFx_inv force hp hf V x y hst ho

mutual
/-- **Every object is admissible**: colour in range and `0 ≤ alpha ≤ shape ≤ 1`, whatever the layer carries and whatever
is below it. The induction over the tree is on the object, together with the list and the clip run; `applyFxNode` itself
stays out of it (`applyFxNode_inv_of`). -/
theorem fxObj_ok (B : Mode → Color → Color → Color) (force : Bool) (V : Rect) (x y : Int) (bd : Color × Rat)
    (hbd : ColorOk bd.1 ∧ Unit01 bd.2) : (n : FxNode) → fxNodeOk n →
      SrcOk (fxObj B force V x y bd n).1 (fxObj B force V x y bd n).2.1 (fxObj B force V x y bd n).2.2
  | .adjustment _, _ => SrcOk.opaque white_ok unit01_zero
  | .leaf pr fx src stroke clips, hn => by
    obtain ⟨_, _, hsrc, _, hcl⟩ := hn
    have hc := leafColor_ok force V x y pr fx hsrc
    have hs := leafShape_unit force V x y pr fx hsrc
    exact SrcOk.opaque (strokeObject_ok B V x y _
      (clippedColor_ok hc (applyFxClips_inv B force V x y _ (inv_init hc hs false) clips hcl)) stroke) hs
  | .group pr fx pt children clips, hn => by
    obtain ⟨_, _, hch, hcl⟩ := hn
    have hg := groupResult_ok ((intersect V pr.bbox).contains x y)
      (applyFxList_inv B force (intersect V pr.bbox) x y _ (inv_init hbd.1 hbd.2 (!pt)) children hch)
    exact { hg with c := clippedColor_ok hg.c (applyFxClips_inv B force V x y _ (inv_init hg.c hg.alpha_unit false) clips hcl) }

theorem applyFxList_inv (B : Mode → Color → Color → Color) (force : Bool) (V : Rect) (x y : Int) (st : PState) (hst : Inv st) :
    (ns : List FxNode) → fxListOk ns → Inv (applyFxList B force V x y st ns)
  | [], _ => by rw [applyFxList]; exact hst
  | n :: rest, h => by
    rw [applyFxList]
    exact applyFxList_inv B force V x y _ (applyFxNode_inv_of hst h.1 (fxObj_ok B force V x y _ (hst.backdrop _) n h.1)) rest h.2

theorem applyFxClips_inv (B : Mode → Color → Color → Color) (force : Bool) (V : Rect) (x y : Int) (st : PState) (hst : Inv st) :
    (ns : List FxNode) → fxListOk ns → Inv (applyFxClips B force V x y st ns)
  | [], _ => by rw [applyFxClips]; exact hst
  | n :: rest, h => by
    rw [applyFxClips]
    exact applyFxClips_inv B force V x y _ (applyFxNode_inv_of hst h.1 (fxObj_ok B force V x y _ (hst.backdrop _) n h.1)) rest h.2
end

theorem applyFxList_append (B : Mode → Color → Color → Color) (force : Bool) (V : Rect) (x y : Int) (st : PState)
    (a b : List FxNode) :
    applyFxList B force V x y st (a ++ b) = applyFxList B force V x y (applyFxList B force V x y st a) b := by
  induction a generalizing st with
  | nil => simp [applyFxList]
  | cons n a ih => simp only [List.cons_append, applyFxList]; exact ih _

theorem applyFxNode_inv (B : Mode → Color → Color → Color) (force : Bool) (V : Rect) (x y : Int) (cc : Bool) (st : PState)
    (hst : Inv st) (n : FxNode) (hn : fxNodeOk n) : Inv (applyFxNode B force V x y cc st n) :=
  applyFxNode_inv_of hst hn (fxObj_ok B force V x y _ (hst.backdrop _) n hn)

theorem applyFxNode_xinv {B : Mode → Color → Color → Color} (hB : BOk B) (force : Bool) (V : Rect) (x y : Int) (cc : Bool)
    (st : PState) (hst : Inv st) (hx : XInv st) (n : FxNode) (hn : fxNodeOk n) : XInv (applyFxNode B force V x y cc st n) := by
  rw [applyFxNode_eq]; split
  · exact hx
  · rename_i h
    obtain ⟨hp, hf⟩ := fxNodeOk_props hn h
    exact finishFx_xinv hB force hp hf V x y hst hx (fxObj_ok B force V x y _ (hst.backdrop _) n hn)

theorem applyFxList_xinv {B : Mode → Color → Color → Color} (hB : BOk B) (force : Bool) (V : Rect) (x y : Int) (st : PState)
    (hst : Inv st) (hx : XInv st) (ns : List FxNode) (h : fxListOk ns) : XInv (applyFxList B force V x y st ns) := by
  induction ns generalizing st with
  | nil => rw [applyFxList]; exact hx
  | cons n rest ih =>
    rw [applyFxList]
    exact ih _ (applyFxNode_inv B force V x y false st hst n h.1) (applyFxNode_xinv hB force V x y false st hst hx n h.1) h.2

theorem applyFxClips_xinv {B : Mode → Color → Color → Color} (hB : BOk B) (force : Bool) (V : Rect) (x y : Int) (st : PState)
    (hst : Inv st) (hx : XInv st) (ns : List FxNode) (h : fxListOk ns) : XInv (applyFxClips B force V x y st ns) := by
  induction ns generalizing st with
  | nil => rw [applyFxClips]; exact hx
  | cons n rest ih =>
    rw [applyFxClips]
    exact ih _ (applyFxNode_inv B force V x y true st hst n h.1) (applyFxNode_xinv hB force V x y true st hst hx n h.1) h.2

theorem applyFxNode_a0_c0 (B : Mode → Color → Color → Color) (force : Bool) (V : Rect) (x y : Int) (cc : Bool) (st : PState)
    (n : FxNode) : (applyFxNode B force V x y cc st n).a0 = st.a0 ∧ (applyFxNode B force V x y cc st n).c0 = st.c0 := by
  rw [applyFxNode_eq]; split
  · exact ⟨rfl, rfl⟩
  · exact finishFx_a0_c0 ..

theorem applyFxClips_a0 (B : Mode → Color → Color → Color) (force : Bool) (V : Rect) (x y : Int) (st : PState) (ns : List FxNode) :
    (applyFxClips B force V x y st ns).a0 = st.a0 := by
  induction ns generalizing st with
  | nil => rw [applyFxClips]
  | cons n rest ih => rw [applyFxClips, ih, (applyFxNode_a0_c0 B force V x y true st n).1]

end PsdVerif.Composite
