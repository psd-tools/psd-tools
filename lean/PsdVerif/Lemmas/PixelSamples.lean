/-
Helper lemmas for C07's sample arithmetic (`Model/PixelSamples.lean`): the import encodings in closed
form, the binary32 facts about the 256 sample values (one kernel evaluation), PIL export ∘ import, NumPy
export ∘ import, matte removal on solid alpha, the laws of the concrete `px` and `pil`.
-/
import PsdVerif.Model.PixelSamples
import PsdVerif.Lemmas.Pixels
import Mathlib.Tactic.Ring

namespace PsdVerif.PixelSamples
open PsdVerif PsdVerif.Pixels PsdVerif.MergedPixels

theorem store_8 (v : Nat) : store 8 v = v := by simp [store]

theorem store_16 {v : Nat} (h : v ≤ 255) : store 16 v = v * 257 := by
  simp only [store, importMul16]; simp; omega

theorem store_32 (v : Nat) : store 32 v = f32Bits ((v : Rat) / 255) := by
  simp [store, importDiv32]

theorem mem_depths {d : Nat} (h : d ∈ depths) : d = 8 ∨ d = 16 ∨ d = 32 := by
  simpa [depths] using h

/-- a 16-bit code is two equal bytes: `v * 257 = v · 256 + v` -/
theorem store_16_bytes {v : Nat} (h : v ≤ 255) : store 16 v / 256 = v ∧ store 16 v % 256 = v := by
  rw [store_16 h]; omega

theorem f32Mag_le (q : Rat) : f32Mag q ≤ 0x7F800000 := by
  unfold f32Mag
  split
  · decide
  · exact Nat.min_le_right ..

/-- rounding never produces a NaN: the magnitude is capped at the code of infinity, whose fraction is 0 -/
theorem isNaN32_f32Bits (q : Rat) : isNaN32 (f32Bits q) = false := by
  have h1 := f32Mag_le q
  have h2 := f32Mag_le (-q)
  unfold f32Bits
  split <;> simp [isNaN32] <;> omega

/-- the float the NumPy export returns for an imported `v` -/
def npValue (v : Nat) : Rat := rnd ((v : Rat) / 255)

/-- What is used of `x = float32(v / 255)`, for the 256 sample values, in one kernel evaluation, so that the
float is worked out once per `v` for all conjuncts:
* `_create_image` at depth 32 (`x · 256`, truncated) gives back `v`;
* `x` is within 2⁻²⁵ of `v / 255` (half a unit in the last place of numbers below 1); it is the nearest
  binary32, checked without the rounding algorithm (`v / 255` lies between the midpoints to the neighbours,
  bits ∓ 1); it is exact only at the end points (`v / 255` is dyadic only for `v ∈ {0, 255}`);
* `round(x · 255)` is `v`;
* the float inversion `1 − x` is within 2⁻²⁴ of the float of the inverted sample, and an involution on the
  upper half of the range. -/
theorem sample_floats : ∀ v : Fin 256,
    let q := (v.val : Rat) / 255
    let b := f32Bits q
    let x := f32Value b
    f2l (x * 256) = v.val ∧
    ((q - 1 / 2 ^ 25 ≤ x ∧ x ≤ q + 1 / 2 ^ 25) ∧
      (2 * q ≤ x + f32Value (b + 1) ∧ (0 < v.val → f32Value (b - 1) + x ≤ 2 * q)) ∧
      ((x = q) = (v.val = 0 ∨ v.val = 255))) ∧
    roundHalfEven (x * 255) = (v.val : Int) ∧
    (((255 - v.val : Nat) : Rat) / 255 - 1 / 2 ^ 24 ≤ rnd (1 - x) ∧
      rnd (1 - x) ≤ ((255 - v.val : Nat) : Rat) / 255 + 1 / 2 ^ 24) ∧
    (128 ≤ v.val → rnd (1 - rnd (1 - x)) = x) := by
  decide +kernel

theorem load_store_8 (v : Nat) : pilLoad 8 (store 8 v) = some v := by simp [pilLoad, store_8]

theorem load_store_16 {v : Nat} (h : v ≤ 255) : pilLoad 16 (store 16 v) = some v := by
  rw [store_16 h]
  simp only [pilLoad, i2l, pilDiv16]
  simp; omega

theorem load_store_32 {v : Nat} (h : v ≤ 255) : pilLoad 32 (store 32 v) = some v := by
  have hf : f2l (f32Value (f32Bits ((v : Rat) / 255)) * 256) = v := (sample_floats ⟨v, by omega⟩).1
  simp [pilLoad, store_32, isNaN32_f32Bits, pilMul32, hf]

theorem load_store {d v : Nat} (hd : d ∈ depths) (h : v ≤ 255) : pilLoad d (store d v) = some v := by
  rcases mem_depths hd with rfl | rfl | rfl
  · exact load_store_8 v
  · exact load_store_16 h
  · exact load_store_32 h

theorem f2l_le (q : Rat) : f2l q ≤ 255 := by
  unfold f2l
  split
  · omega
  · split
    · omega
    · rename_i h
      have : q.floor < 255 := Rat.floor_lt_iff.2 (by exact_mod_cast not_le.1 h)
      omega

/-- the codes a depth can hold decode into 0 … 255 -/
theorem pilLoad_le {d c r : Nat} (hc : d = 8 → c ≤ 255) (h : pilLoad d c = some r) : r ≤ 255 := by
  have hf := f2l_le (f32Value c * (pilMul32 : Rat))
  unfold pilLoad i2l at h
  split at h
  · cases h; exact hc ‹_›
  · split at h
    · cases h; omega
    · split at h
      · cases h; split <;> omega
      · cases h

theorem clip8_val {n : Nat} (h : n ≤ 255) : (clip8 n).val = n := by
  simp only [clip8]; omega

theorem clip8_fin (x : S8) : clip8 x.val = x := by
  apply Fin.ext; exact clip8_val (by omega)

theorem px_inv_inv (x : S8) : px.inv (px.inv x) = x := by
  apply Fin.ext
  show (clip8 (inv8 (clip8 (inv8 x.val)).val)).val = x.val
  simp only [clip8, inv8]
  omega

theorem px_load_store {d : Nat} (hd : d ∈ depths) (x : S8) : px.load d (px.store d x) = x := by
  show (match pilLoad d (store d x.val) with | some v => clip8 v | none => clip8 0) = x
  rw [load_store hd (by omega)]
  exact clip8_fin x

theorem px_lawfulAt {d : Nat} (hd : d ∈ depths) : px.LawfulAt d :=
  ⟨px_inv_inv, px_load_store hd⟩

theorem quotient_16 {v : Nat} (h : v ≤ 255) : ((store 16 v : Nat) : Rat) / (npDiv16 : Rat) = (v : Rat) / 255 := by
  rw [store_16 h]
  simp only [npDiv16]
  push_cast
  rw [div_eq_div_iff (by norm_num) (by norm_num)]
  ring

theorem np_store {d v : Nat} (hd : d ∈ depths) (h : v ≤ 255) :
    npLoad d (store d v) = some (f32Bits ((v : Rat) / 255)) := by
  rcases mem_depths hd with rfl | rfl | rfl
  · simp [npLoad, store_8, npDiv8]
  · have := quotient_16 h
    simp only [npLoad]
    simp [this]
  · simp [npLoad, store_32]

theorem npView_store {d : Nat} (hd : d ∈ depths) :
    (fun x : S8 => (npView d).load (px.store d x)) = asFloat := by
  funext x
  show (match npLoad d (store d x.val) with | some b => b | none => 0) = asFloat x
  rw [np_store hd (by omega)]
  rfl

theorem opaque_codes : store 8 255 = 255 ∧ store 16 255 = 65535 ∧ store 32 255 = 0x3F800000 ∧
    f32Value 0x3F800000 = 1 := by decide +kernel

theorem zero_codes : store 8 0 = 0 ∧ store 16 0 = 0 ∧ store 32 0 = 0 := by decide +kernel

theorem unmatte8_solid {x a : Nat} (hx : x ≤ 255) (ha : a = 0 ∨ a = 255) : unmatte8 x a = x := by
  rcases ha with rfl | rfl
  · simp [unmatte8]
  · simp only [unmatte8]; simp; omega

theorem zipWith_unmatte_solid (c a : List S8) (hl : c.length = a.length)
    (ha : ∀ x ∈ a, x.val = 0 ∨ x.val = 255) : List.zipWith px.unmatte c a = c := by
  induction c generalizing a with
  | nil => simp
  | cons x xs ih =>
    cases a with
    | nil => simp at hl
    | cons y ys =>
      simp only [List.zipWith_cons_cons, List.cons.injEq]
      constructor
      · show clip8 (unmatte8 x.val y.val) = x
        rw [unmatte8_solid (by omega) (ha y (by simp))]
        exact clip8_fin x
      · exact ih ys (by simpa using hl) (fun z hz => ha z (by simp [hz]))

theorem map_range_getD {β : Type} (l : List β) (d : β) (n : Nat) (h : l.length = n) :
    (List.range n).map (fun p => l.getD p d) = l := by
  subst h
  apply List.ext_getElem
  · simp
  · intro i h1 h2
    simp at h1
    simp [List.getD, h1]

theorem convImage_mode (m : Mode) (i : Image S8) : (convImage m i).mode = m := by
  unfold convImage; split
  · rename_i h; exact h.symm
  · rfl

theorem convImage_wf (m : Mode) (i : Image S8) (h : i.WF) : (convImage m i).WF := by
  unfold convImage; split
  · exact h
  · constructor
    · simp
    · intro b hb
      simp only [List.mem_map, List.mem_range] at hb
      obtain ⟨k, _, rfl⟩ := hb
      simp

theorem convImage_rgba_alpha (i : Image S8) (hwf : i.WF) (ha : i.mode.hasAlpha = true) :
    (convImage .RGBA i).bands[3]? = i.bands.getLast? := by
  obtain ⟨mode, w, h, bands⟩ := i
  obtain ⟨hl, hb⟩ := hwf
  cases mode <;> simp [Mode.hasAlpha] at ha
  · -- LA
    simp only [Mode.nbands] at hl
    obtain ⟨g, a, rfl⟩ := len2 hl
    have hal : a.length = w * h := hb a (by simp)
    have : (List.range (w * h)).map (fun p => clip8 (a.getD p 0).val) = a := by
      simp only [clip8_fin]; exact map_range_getD a 0 _ hal
    have h3 : (3 : Nat) < Mode.RGBA.nbands := by decide
    simp [convImage, convPixel, toRGBA, h3, List.getD] at this ⊢
    exact this
  · -- RGBA
    simp only [Mode.nbands] at hl
    obtain ⟨r, g, b, a, rfl⟩ := len4 hl
    simp [convImage]

theorem pil_lawful : pil.Lawful where
  conv_mode := convImage_mode
  conv_width m i := by show (convImage m i).width = i.width; unfold convImage; split <;> rfl
  conv_height m i := by show (convImage m i).height = i.height; unfold convImage; split <;> rfl
  conv_wf := convImage_wf
  conv_self i _ := by show convImage i.mode i = i; simp [convImage]
  conv_rgba_alpha := convImage_rgba_alpha

end PsdVerif.PixelSamples
