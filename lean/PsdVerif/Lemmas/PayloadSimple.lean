/-
C01 payload classes — the two laws (`RtAnywhere` | `RtAtEnd`, `Count`) of every codec of Model/PayloadSimple.lean.
-/
import PsdVerif.Lemmas.PayloadBase
import PsdVerif.Lemmas.CodecPsd2
import PsdVerif.Lemmas.Descriptor3
import PsdVerif.Model.PayloadSimple

namespace PsdVerif.Payload
open PsdVerif.Codec

theorem orElseIO_ok {α : Type} {a b : R α} {d : B} {p : Nat} {r : α × Nat} (h : a d p = .ok r) :
    orElseIO a b d p = .ok r := by
  simp only [orElseIO, h]

/-! ## base.py -/

theorem EmptyElement.rt : EmptyElement.codec.RtAnywhere := fun _ _ _ _ _ _ => rfl
theorem EmptyElement.count : EmptyElement.codec.Count := fun _ => rfl

theorem NumericElement.rt : NumericElement.codec.RtAnywhere := fun _ _ _ _ _ h => (readF64_step h.nil_right).1
theorem NumericElement.count : NumericElement.codec.Count := fun _ => rfl

theorem IntegerElement.rt : IntegerElement.codec.RtAnywhere := fun _ _ hf _ _ h => readU_at h hf
theorem IntegerElement.count : IntegerElement.codec.Count := fun _ => rfl

theorem ShortIntegerElement.rt : ShortIntegerElement.codec.RtAnywhere := by
  intro v _ hf d p h
  obtain ⟨e1, h⟩ := readU_step (w := 2) h hf
  obtain ⟨e2, _⟩ := readSkip_step h.nil_right
  apply orElseIO_ok
  simp only [readH2x, bind, Except.bind, e1, e2, Nat.add_assoc]
  rfl
theorem ShortIntegerElement.count : ShortIntegerElement.codec.Count := fun _ => rfl

theorem ByteElement.rt : ByteElement.codec.RtAnywhere := by
  intro v _ hf d p h
  obtain ⟨e1, h⟩ := readU_step (w := 1) h hf
  obtain ⟨e2, _⟩ := readSkip_step h.nil_right
  apply orElseIO_ok
  simp only [readB3x, bind, Except.bind, e1, e2, Nat.add_assoc]
  rfl
theorem ByteElement.count : ByteElement.codec.Count := fun _ => rfl

theorem BooleanElement.rt : BooleanElement.codec.RtAnywhere := by
  intro v _ _ d p h
  obtain ⟨e1, h⟩ := readBool_step (b := v) h
  obtain ⟨e2, _⟩ := readSkip_step h.nil_right
  apply orElseIO_ok
  simp only [readBool3x, bind, Except.bind, e1, e2, Nat.add_assoc]
  rfl
theorem BooleanElement.count : BooleanElement.codec.Count := fun _ => rfl

theorem StringElement.rt (pw pr : Nat) : (StringElement.codec pw pr).RtAnywhere := by
  intro s hwf hf d p h
  obtain ⟨hpy, hnp, hpads, hpw⟩ := hwf
  have hfit : UStrFits s := ⟨hpy, hf⟩
  simp only [StringElement.codec] at h ⊢
  by_cases h1 : pr = 1
  · subst h1
    simp only [if_true]
    exact readUStr1_step hfit hnp h.nil_right
  · have hpr : pr = pw := by rcases hpads with h | h; exact absurd h h1; exact h
    subst hpr
    simp only [if_neg h1]
    exact (readUStr_step hfit hnp hpw h.nil_right).1

theorem StringElement.count (pw pr : Nat) : (StringElement.codec pw pr).Count := by
  intro s
  exact wUStr_eq pw s

/-! ## color.py -/

theorem Color.length_values (lab : Bool) (vs : List Int) : (listT (Color.valueT lab) vs).length = 2 * vs.length :=
  length_listT_const _ 2 vs fun v _ => by
    unfold Color.valueT; split
    · exact length_i16T _
    · exact length_beBytes _ _

theorem Color.length_encT (c : Color) (hf : c.Fits) : c.encT.length = 10 := by
  simp only [Color.encT, List.length_append, length_beBytes, Color.length_values, hf.2.1]

theorem Color.readValue_at (lab : Bool) (z : Int) (hz : Color.valueFits lab z) {d : B} {p : Nat}
    (h : At d p (Color.valueT lab z)) : Color.readValue lab d p = .ok (z, p + (Color.valueT lab z).length) := by
  unfold Color.valueT Color.valueFits Color.readValue at *
  cases lab with
  | true =>
    simp only [if_true] at h hz ⊢
    rw [readI16_at h hz, length_i16T]
  | false =>
    simp only [Bool.false_eq_true, if_false] at h hz ⊢
    have hn : z.toNat < 256 ^ 2 := by omega
    rw [readU_at h hn, length_beBytes]
    have : ((z.toNat : Nat) : Int) = z := by omega
    simp only [this]

theorem Color.dec_step {c : Color} (hf : c.Fits) {d : B} {p : Nat} {rest : B} (h : At d p (c.encT ++ rest)) :
    Color.dec d p = .ok (c, p + 10) ∧ At d (p + 10) rest := by
  have hlen := c.length_encT hf
  refine ⟨?_, hlen ▸ h.right⟩
  obtain ⟨hid, h4, hvs⟩ := hf
  unfold Color.encT at h
  simp only [List.append_assoc] at h
  obtain ⟨e1, h⟩ := readU_step h hid
  obtain ⟨e2, _⟩ := readCount_step (Color.readValue c.isLab) (Color.valueT c.isLab) c.values
    (fun z hz d p h => Color.readValue_at c.isLab z (hvs z hz) h) h
  rw [h4] at e2
  simp only [Color.isLab] at e2
  simp only [Color.dec, bind, Except.bind, e1, e2, Color.length_values, h4]

theorem Color.rt : Color.codec.RtAnywhere := .of_fields fun _ _ hf _ _ h => (Color.dec_step hf h.nil_right).1

theorem Color.encP_eq (c : Color) : c.encP = (c.encT, c.encT.length) := by
  simp only [Color.encP, Color.encT, wBytes_eq, wSeq_eq]

theorem Color.count : Color.codec.Count := Color.encP_eq

/-! ## tagged_blocks.py -/

theorem BytesElement.rt : BytesElement.codec.RtAtEnd := by
  intro v hwf _ d p h hend
  simp only [BytesElement.codec] at *
  have hd := h.drop_of_end hend
  simp only [readUpTo, hd, List.take_of_length_le hwf]

theorem BytesElement.count : BytesElement.codec.Count := fun _ => rfl

/-- with exactly four bytes the value is read back anywhere in a stream -/
theorem BytesElement.rt_anywhere (v : B) (h4 : v.length = 4) {d : B} {p : Nat} (h : At d p v) :
    BytesElement.codec.dec d p = .ok (v, p + 4) := by
  simp only [BytesElement.codec]
  rw [readUpTo_at' h h4]

theorem SheetColorSetting.rt : SheetColorSetting.codec.RtAnywhere := by
  intro v hwf hf d p h
  obtain ⟨e1, h⟩ := readU_step (w := 2) h hf
  obtain ⟨e2, _⟩ := readSkip_step h.nil_right
  have hwf' : v ∈ GP.sheetColors := hwf
  simp only [SheetColorSetting.codec, bind, Except.bind, e1, e2, if_pos hwf', Nat.add_assoc]

theorem SheetColorSetting.count : SheetColorSetting.codec.Count := fun _ => rfl

theorem ReferencePoint.rt : ReferencePoint.codec.RtAnywhere := by
  intro vs _ hf d p h
  have hf : vs.length = 2 := hf
  match vs, hf with
  | [x, y], _ =>
    have h : At d p (f64T x ++ (f64T y ++ [])) := by simpa [ReferencePoint.codec, listT] using h
    obtain ⟨e1, h⟩ := readF64_step h
    obtain ⟨e2, _⟩ := readF64_step h
    simp only [ReferencePoint.codec, bind, Except.bind, e1, e2, Nat.add_assoc]

theorem ReferencePoint.count : ReferencePoint.codec.Count := fun _ => rfl

namespace SectionDividerSetting

theorem encP_eq (x : SectionDividerSetting) : x.encP = (x.encT, x.encT.length) := by
  unfold encP encT
  cases x.hasTail with
  | none => simp only [wBytes_eq, List.append_nil]
  | some sb =>
    obtain ⟨s, b⟩ := sb
    cases x.subType with
    | none => simp only [wBytes_eq, wSeq_eq, Psd.optT, List.append_nil]
    | some n => simp only [wBytes_eq, wSeq_eq, Psd.optT, List.append_assoc]

/-- The reader decides by `is_readable` what the writer decided by the fields present: no tail leaves fewer than 8 bytes,
a tail without sub-type fewer than 4 behind it; hence at the end of a stream only. One case per shape `WF` allows. -/
theorem rt : codec.RtAtEnd := by
  intro x hwf hf d p h hend
  obtain ⟨kind, sig, bm, sub⟩ := x
  obtain ⟨hk, hshape⟩ := hwf
  simp only [codec] at h hend hf ⊢
  have hkl : ∀ k ∈ GP.sectionDividerKinds, k < 256 ^ 4 := by decide
  have hbl : ∀ b ∈ Psd.G.blendModes, b.length = 4 ∧ b ≠ [] := by decide
  cases sig with
  | none =>
    cases bm with
    | some b => simp at hshape
    | none =>
      simp only at hshape
      subst hshape
      have henc : encT ⟨kind, none, none, none⟩ = beBytes 4 kind := by simp [encT, hasTail]
      rw [henc] at h hend ⊢
      rw [length_beBytes] at hend
      have e1 := readU_at h (hkl _ hk)
      have r8 : isReadable 8 d (p + 4) = false := isReadable_false (by omega)
      simp only [dec, bind, Except.bind, e1, if_pos hk, r8, Bool.false_eq_true, if_false, length_beBytes, Option.isSome_none,
        Bool.false_and]
  | some s =>
    cases bm with
    | none => simp at hshape
    | some b =>
      simp only at hshape
      obtain ⟨rfl, hb⟩ := hshape
      obtain ⟨hb4, hbne⟩ := hbl b hb
      have htail : hasTail ⟨kind, some sig8BIM, some b, sub⟩ = some (sig8BIM, b) := by
        simp only [hasTail]
        rw [if_pos ⟨by decide, hbne⟩]
      have hs : pack4s sig8BIM = sig8BIM := pack4s_of_length rfl
      have hb' : pack4s b = b := pack4s_of_length hb4
      have henc : encT ⟨kind, some sig8BIM, some b, sub⟩ = beBytes 4 kind ++ (sig8BIM ++ (b ++ (Psd.optT 4 sub ++ []))) := by
        simp only [encT, htail, hs, hb', List.append_assoc, List.append_nil]
      simp only [Fits, htail] at hf
      rw [henc] at h hend ⊢
      obtain ⟨e1, h⟩ := readU_step h (hkl _ hk)
      have r8 : isReadable 8 d (p + 4) = true := isReadable_of_at h (by simp [hb4, sig8BIM])
      obtain ⟨e2, h⟩ := readN_step (n := 4) h rfl
      obtain ⟨e3, h⟩ := readN_step h hb4
      simp only [List.length_append, length_beBytes, hb4, Psd.length_optT, List.length_nil] at hend ⊢
      have hsig : (sig8BIM : B).length = 4 := rfl
      rw [hsig] at hend ⊢
      cases sub with
      | none =>
        have r4 : isReadable 4 d (p + 4 + 4 + 4) = false := isReadable_false (by simp at hend; omega)
        simp only [dec, bind, Except.bind, e1, if_pos hk, r8, if_true, e2, e3, if_pos hb, r4, Bool.false_eq_true, if_false,
          Option.isSome_none, Option.isSome_some, Bool.and_false]
      | some n =>
        simp only [Psd.optT, Psd.optFits] at h hf
        have r4 : isReadable 4 d (p + 4 + 4 + 4) = true := isReadable_of_at h (by simp [length_beBytes])
        obtain ⟨e4, _⟩ := readU_step h hf.2
        simp only [dec, bind, Except.bind, e1, if_pos hk, r8, if_true, e2, e3, if_pos hb, r4, Codec.optItem, e4,
          Option.isSome_some, Bool.and_true]

theorem count : codec.Count := encP_eq

end SectionDividerSetting

theorem UserMask.rt : UserMask.codec.RtAnywhere := by
  intro x _ hf d p h
  obtain ⟨hc, ho, hfl⟩ := hf
  simp only [UserMask.codec, List.append_assoc] at h
  obtain ⟨e1, h⟩ := Color.dec_step hc h
  obtain ⟨e2, h⟩ := readU_step h ho
  obtain ⟨e3, h⟩ := readU_step h hfl
  obtain ⟨e4, _⟩ := readSkip_step h.nil_right
  simp only [UserMask.codec, bind, Except.bind, e1, e2, e3, e4, Nat.add_assoc]

theorem UserMask.count : UserMask.codec.Count := by
  intro x
  simp only [UserMask.codec, Color.encP_eq, wBytes_eq, wSeq_eq]

theorem FilterMask.rt : FilterMask.codec.RtAnywhere := by
  intro x _ hf d p h
  obtain ⟨hc, ho⟩ := hf
  obtain ⟨e1, h⟩ := Color.dec_step hc (show At d p (x.color.encT ++ beBytes 2 x.opacity) from h)
  have e2 := readU_at h ho
  simp only [FilterMask.codec, bind, Except.bind, e1, e2, Nat.add_assoc]

theorem FilterMask.count : FilterMask.codec.Count := by
  intro x
  simp only [FilterMask.codec, Color.encP_eq, wBytes_eq, wSeq_eq]

theorem ChannelBlendingRestrictionsSetting.rt : ChannelBlendingRestrictionsSetting.codec.RtAtEnd := by
  intro vs _ hf d p h hend
  simp only [ChannelBlendingRestrictionsSetting.codec] at *
  have hlen := length_listT_const (beBytes 4) 4 vs (fun v _ => length_beBytes 4 v)
  rw [← hlen]
  exact readWhile_isReadable_opt (enc := beBytes 4) (by decide) (fun v hv => readU_reads (hf v hv))
    (fun v _ => Nat.le_of_eq (length_beBytes 4 v).symm) h (by omega)

theorem ChannelBlendingRestrictionsSetting.count : ChannelBlendingRestrictionsSetting.codec.Count := fun _ => rfl

theorem PixelSourceData2.rt (pad : Nat) : (PixelSourceData2.codec pad).RtAtEnd := by
  intro vs hwf hf d p h hend
  simp only [PixelSourceData2.codec] at *
  have hpadlt : padAmount (listT (lenBlockT 0 8 1) vs).length pad < 8 := by
    have := padAmount_lt (listT (lenBlockT 0 8 1) vs).length pad (by rcases hwf with h | h | h <;> omega)
    rcases hwf with h | h | h <;> omega
  simp only [List.length_append, length_zeros] at hend
  exact readWhile_isReadable_opt (enc := lenBlockT 0 8 1) (by decide) (fun v hv => readLenBlock_reads (hf v hv) (by decide))
    (fun v _ => by have hl := length_lenBlockT 0 8 1 v; omega) h.left (by omega)

theorem PixelSourceData2.count (pad : Nat) : (PixelSourceData2.codec pad).Count := by
  intro vs
  simp only [PixelSourceData2.codec]
  rw [wList_eq _ (lenBlockT 0 8 1) vs (fun v _ => by rw [wBytes_eq, wLenBlock_eq])]
  simp only [wSeq_eq, wPad_eq]

/-! ### MetadataSetting(s) -/

namespace MetadataSetting
variable (tb : Descriptor.Tables)

theorem dataP_eq (x : MetaData) : dataP tb x = (dataT tb x, (dataT tb x).length) := by
  cases x with
  | raw b => rfl
  | int n => rfl
  | desc blk => exact Descriptor.Block.encW_eq tb 4 blk

theorem encP_eq (x : MetadataSetting) : encP tb x = (encT tb x, (encT tb x).length) := by
  simp only [encP, encT, dataP_eq, wBytes_eq, wLenBlock_eq, wSeq_eq]

theorem typedData_dataT {x : MetadataSetting} (hwf : WF tb x) (hf : Fits tb x) :
    typedData tb x.key (dataT tb x.data) = .ok x.data := by
  obtain ⟨_, _, hshape⟩ := hwf
  obtain ⟨hdf, _⟩ := hf
  obtain ⟨sig, key, cos, data⟩ := x
  cases data with
  | raw b =>
    simp only at hshape
    simp only [typedData, if_neg hshape.1, if_neg hshape.2, dataT]
  | int n =>
    simp only at hshape
    simp only [dataFits] at hdf
    have e := readU_at (At.self (beBytes 4 n)) hdf
    simp only [typedData, if_pos hshape, dataT, e]
  | desc blk =>
    simp only at hshape
    simp only [dataFits] at hdf
    have e := Descriptor.Block.dec_at (pad := 4) hshape.2.2 hdf (At.self _)
    simp only [typedData, if_neg hshape.1, if_pos hshape.2.1, dataT, e]

theorem length_headT (x : MetadataSetting) : (headT x).length = 12 := by
  simp only [headT, List.length_append, length_pack4s, length_boolT, length_zeros]

theorem dec_at {x : MetadataSetting} (hwf : WF tb x) (hf : Fits tb x) {d : B} {p : Nat} (h : At d p (encT tb x)) :
    dec tb d p = .ok (x, p + (encT tb x).length) := by
  have hpl := typedData_dataT tb hwf hf
  obtain ⟨hsig, hkey, _⟩ := hwf
  obtain ⟨_, hlen⟩ := hf
  have hl : ∀ s ∈ GP.metadataSignatures, s.length = 4 := by decide
  have hs : pack4s x.signature = x.signature := pack4s_of_length (hl _ hsig)
  have hk : pack4s x.key = x.key := pack4s_of_length hkey
  have hL : (encT tb x).length = 4 + (4 + (1 + (3 + (lenBlockT 0 4 1 (dataT tb x.data)).length))) := by
    simp only [encT, List.length_append, length_headT]; omega
  rw [hL]
  simp only [encT, headT, hs, hk, List.append_assoc] at h
  obtain ⟨e1, h⟩ := readN_step h (hl _ hsig)
  obtain ⟨e2, h⟩ := readN_step h hkey
  obtain ⟨e3, h⟩ := readBool_step h
  obtain ⟨e4, h⟩ := readSkip_step h
  have e5 := readLenBlock_at h hlen (by decide)
  simp only [dec, bind, Except.bind, e1, if_pos hsig, e2, e3, e4, e5, hpl]
  simp only [Nat.add_assoc]

theorem rt : (codec tb).RtAnywhere := .of_fields fun _ hwf hf _ _ h => dec_at tb hwf hf h
theorem count : (codec tb).Count := encP_eq tb

end MetadataSetting

theorem MetadataSettings.rt (tb : Descriptor.Tables) : (MetadataSettings.codec tb).RtAnywhere := by
  intro xs hwf hf d p h
  obtain ⟨hn, hitems⟩ := hf
  obtain ⟨e1, h⟩ := readU_step (w := 4) h hn
  have e2 := readCount_at (MetadataSetting.dec tb) (MetadataSetting.encT tb) xs
    (fun x hx d p h => MetadataSetting.dec_at tb (hwf x hx) (hitems x hx) h) h
  simp only [MetadataSettings.codec, bind, Except.bind, e1, e2, Nat.add_assoc]

theorem MetadataSettings.count (tb : Descriptor.Tables) : (MetadataSettings.codec tb).Count := by
  intro xs
  simp only [MetadataSettings.codec]
  rw [wList_eq _ (MetadataSetting.encT tb) xs (fun x _ => MetadataSetting.encP_eq tb x)]
  simp only [wBytes_eq, wSeq_eq]

theorem MetadataSettings.consumed_eq (tb : Descriptor.Tables) (xs : List MetadataSetting) :
    (MetadataSettings.codec tb).consumed xs = ((MetadataSettings.codec tb).encT xs).length := by
  simp only [MetadataSettings.codec, List.length_append, length_beBytes]

/-! ### Annotation(s) -/

theorem readI32List_step {vs : List Int} (h4 : vs.length = 4) (hf : listFits FitsI32 vs) {d : B} {p : Nat} {rest : B}
    (h : At d p (listT i32T vs ++ rest)) :
    readCount readI32 4 d p = .ok (vs, p + 16) ∧ At d (p + 16) rest :=
  readCount_fixed_step (k := 4) h4 (fun v hv _ _ h => readI32_at h (hf v hv)) (fun v _ => length_i32T v) h

namespace Annotation

theorem encP_eq (a : Annotation) : a.encP = (a.encT, a.encT.length) := by
  simp only [encP, encT, Color.encP_eq, wPascal_eq, wBytes_eq, wLenBlock_eq, wSeq_eq, List.append_assoc]

theorem dec_at {a : Annotation} (hwf : a.Valid) (hf : a.Fits) {d : B} {p : Nat} (h : At d p a.encT) :
    dec d p = .ok (a, p + a.encT.length) := by
  obtain ⟨f1, f2, f3, ⟨i4, fi⟩, ⟨p4, fp⟩, fc, fa, fn, fm, fl, fd⟩ := hf
  have hkl : ∀ k ∈ GP.annotationKinds, k.length = 4 := by decide
  have hml : ∀ k ∈ GP.annotationMarkers, k.length = 4 := by decide
  have hk : pack4s a.kind = a.kind := pack4s_of_length (hkl _ hwf.1)
  have hm : pack4s a.marker = a.marker := pack4s_of_length (hml _ hwf.2)
  have hL : a.encT.length = 4 + (1 + (1 + (2 + (16 + (16 + (10 + ((pascalT 2 a.author).length + ((pascalT 2 a.name).length +
      ((pascalT 2 a.modDate).length + (4 + (4 + (lenBlockT 0 4 1 a.data).length))))))))))) := by
    have h1 := length_listT_const i32T 4 a.iconLocation (fun v _ => length_i32T v)
    have h2 := length_listT_const i32T 4 a.popupLocation (fun v _ => length_i32T v)
    simp only [encT, List.length_append, length_pack4s, length_beBytes, h1, h2, i4, p4, a.color.length_encT fc]
    omega
  rw [hL]
  simp only [encT, hk, hm, List.append_assoc] at h
  obtain ⟨e1, h⟩ := readN_step h (hkl _ hwf.1)
  obtain ⟨e2, h⟩ := readU_step h f1
  obtain ⟨e3, h⟩ := readU_step h f2
  obtain ⟨e4, h⟩ := readU_step h f3
  obtain ⟨e5, h⟩ := readI32List_step i4 fi h
  obtain ⟨e6, h⟩ := readI32List_step p4 fp h
  obtain ⟨e7, h⟩ := Color.dec_step fc h
  obtain ⟨e8, h⟩ := readPascal_step h fa
  obtain ⟨e9, h⟩ := readPascal_step h fn
  obtain ⟨e10, h⟩ := readPascal_step h fm
  obtain ⟨e11, h⟩ := readU_step h fl
  obtain ⟨e12, h⟩ := readN_step h (hml _ hwf.2)
  have e13 := readLenBlock_at h fd (by decide)
  simp only [dec, bind, Except.bind, e1, e2, e3, e4, e5, e6, e7, e8, e9, e10, e11, e12, e13]
  rw [if_pos hwf]
  simp only [Nat.add_assoc]

theorem rt : codec.RtAnywhere := .of_fields fun _ hwf hf _ _ h => dec_at hwf hf h
theorem count : codec.Count := encP_eq

theorem length_pos (a : Annotation) : 0 < a.encT.length := by
  simp only [encT, List.length_append, length_pack4s]; omega

end Annotation

namespace Annotations

theorem readItems_at (items : List Annotation) (hwf : ∀ a ∈ items, a.Valid)
    (hf : listFits (fun (a : Annotation) => a.Fits ∧ FitsU 4 (a.encT.length + 4)) items) {d : B} {p : Nat} {rest : B}
    (h : At d p (listT itemT items ++ rest)) :
    readItems items.length d p = .ok (items, p + (listT itemT items).length) := by
  induction items generalizing p with
  | nil => simp [readItems, listT]
  | cons a as ih =>
    obtain ⟨fa, fl⟩ := hf a (by simp)
    simp only [listT, itemT, List.append_assoc] at h
    obtain ⟨e1, h⟩ := readU_step h fl
    have e2 := readUpTo_at h.left
    have hpos := a.length_pos
    have hgt : 4 < a.encT.length + 4 := by omega
    have e3 := Annotation.dec_at (hwf a (by simp)) fa (At.self a.encT)
    have e4 := ih (fun x hx => hwf x (by simp [hx])) (fun x hx => hf x (by simp [hx])) h.right
    simp only [List.length_cons, readItems, bind, Except.bind, e1, if_pos hgt, Nat.add_sub_cancel, e2, e3, e4]
    simp only [listT, itemT, List.length_append, length_beBytes, Nat.add_assoc]

theorem rt : codec.RtAnywhere := by
  intro x hwf hf d p h
  obtain ⟨f1, f2, f3, fi⟩ := hf
  simp only [codec, encT, bodyT, List.append_assoc] at h
  obtain ⟨e1, h⟩ := readU_step h f1
  obtain ⟨e2, h⟩ := readU_step h f2
  obtain ⟨e3, h⟩ := readU_step h f3
  have e4 := readItems_at x.items hwf fi h
  simp only [codec, dec, bind, Except.bind, e1, e2, e3, e4, bodyT, List.length_append, length_beBytes, Nat.add_assoc]

theorem count : codec.Count := by
  intro x
  simp only [codec, encP, encT, bodyT]
  rw [wList_eq _ itemT x.items (fun a _ => by simp only [itemT, wBytes_eq, wSeq_eq])]
  simp only [wBytes_eq, wSeq_eq, wPad_eq, List.append_assoc]

theorem length_encT_mod (x : Annotations) : (codec.encT x).length % 4 = 0 := length_padded_mod x.bodyT (by decide)

end Annotations

end PsdVerif.Payload
