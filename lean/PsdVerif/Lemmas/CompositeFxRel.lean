/-
C11 for effect-carrying trees: the code model (`applyFxNode`, `Model/CompositeFx.lean`) refines the published
model extended to fills, vector masks, the vector stroke and layer effects (`specFxNode`,
`Model/CompositeFxSpec.lean`), by mutual induction over the tree.
-/
import PsdVerif.Model.CompositeFxSpec
import PsdVerif.Lemmas.CompositeFx
import PsdVerif.Lemmas.CompositeSpec

namespace PsdVerif.Composite

theorem applyOverlays_rel {B : Mode → Color → Color → Color} (hB : BOk B) (V bbox : Rect) (x y : Int) {color : Color}
    {shape alpha : Rat} (ho : SrcOk color shape alpha) {st : PState} {σ : SState} (hst : Inv st) (hr : Rel st σ)
    (es : List Overlay) (hok : ∀ e ∈ es, OverlayOk e) :
    Rel (applyOverlays B V bbox x y shape alpha st es) (specOverlays .pdf17 B V bbox x y shape alpha σ es) ∧
      Inv (applyOverlays B V bbox x y shape alpha st es) := by
  induction es generalizing st σ with
  | nil => exact ⟨hr, hst⟩
  | cons e es ih =>
    have hsrc : SrcOk (pasteAt V bbox x y e.color white) (shape * overlayShape V bbox x y e)
        (alpha * overlayShape V bbox x y e * e.opacity) := overlaySrc_ok (hok e (List.mem_cons_self ..)) V bbox x y ho
    unfold applyOverlays specOverlays
    exact ih (applySource_inv hst hsrc false)
      (applySource_rel hst hr hsrc (hB e.mode) (fun ch => by ring) false)
      (fun e' he' => hok e' (List.mem_cons_of_mem _ he'))

theorem applyStrokeFx_rel {B : Mode → Color → Color → Color} (hB : BOk B) (V bbox : Rect) (x y : Int) {lop : Rat}
    (hl : Unit01 lop) {st : PState} {σ : SState} (hst : Inv st) (hr : Rel st σ) (ss : List StrokeFx)
    (hok : ∀ s ∈ ss, StrokeFxOk s) :
    Rel (applyStrokeFx B V bbox x y lop st ss) (specStrokeFx .pdf17 B V bbox x y lop σ ss) ∧
      Inv (applyStrokeFx B V bbox x y lop st ss) := by
  induction ss generalizing st σ with
  | nil => exact ⟨hr, hst⟩
  | cons s ss ih =>
    have hsrc : SrcOk (pasteAt V bbox x y s.color black) (pasteAt V bbox x y (s.shape V) 0)
        (pasteAt V bbox x y (s.shape V) 0 * (s.opacity * lop)) := strokeFxSrc_ok (hok s (List.mem_cons_self ..)) V bbox x y hl
    unfold applyStrokeFx specStrokeFx
    exact ih (applySource_inv hst hsrc false)
      (applySource_rel hst hr hsrc (hB s.mode) (fun ch => by ring) false)
      (fun s' hs' => hok s' (List.mem_cons_of_mem _ hs'))

/-- an object with effects enters the group the same way on both sides: its own element, then one element per effect -/
theorem finishFx_rel {B : Mode → Color → Color → Color} (hB : BOk B) (force : Bool) {pr : Props} {fx : Fx} (hp : PropsOk pr)
    (hf : FxOk fx) (V : Rect) (x y : Int) {st : PState} {σ : SState} (hst : Inv st) (hr : Rel st σ) {color Pj : Color}
    {shape alpha : Rat} (ho : SrcOk color shape alpha) (hP : ∀ ch, Pj ch = color ch * alpha) :
    Rel (finishFx B force V x y st pr fx color shape alpha) (specFinishFx .pdf17 B force V x y σ pr fx Pj shape alpha) := by
  have hm := masked_ok force hp hf V x y ho
  have hown := hm.scale hp.fill
  unfold maskedShape maskedAlpha at hm hown
  unfold finishFx specFinishFx
  have h1 := applySource_rel (Ps := fun ch => ((maskFactorsFx force pr fx V x y).1 * (maskFactorsFx force pr fx V x y).2
    * pr.opacity * pr.fill) * Pj ch) hst hr hown (hB pr.mode) (fun ch => by rw [hP ch]; ring) pr.knockout
  obtain ⟨h2, h2inv⟩ := applyOverlays_rel hB V pr.bbox x y hm (applySource_inv hst hown pr.knockout) h1 fx.overlays hf.overlays
  exact (applyStrokeFx_rel hB V pr.bbox x y hp.opacity h2inv h2 fx.strokeFx hf.strokeFx).1

/-- the vector stroke: the colour the code's sub-compositor hands back is the published group colour with the
backdrop removed, taken with the object's alpha -/
theorem strokeObject_rel {B : Mode → Color → Color → Color} (hB : BOk B) (V : Rect) (x y : Int) {color Pj : Color} {aj : Rat}
    (hc : ColorOk color) (ha : Unit01 aj) (hP : ∀ ch, Pj ch = color ch * aj) (stroke : Option VStroke)
    (hs : optStrokeOk stroke) (ch : Nat) :
    specStrokeObject .pdf17 B V x y Pj aj stroke ch = strokeObject B V x y color aj stroke ch * aj := by
  cases stroke with
  | none => exact hP ch
  | some s =>
    have hs' : VStrokeOk s := hs
    unfold specStrokeObject strokeObject
    simp only
    have hsrc : SrcOk (pasteAt V s.box x y s.color white) (pasteAt V s.canvas x y s.shape 0)
        (pasteAt V s.canvas x y s.shape 0 * s.opacity) :=
      (SrcOk.opaque (pasteAt_ok hs'.color white_ok) (pasteAt_ok hs'.shape unit01_zero)).fade hs'.opacity
    have i0 := inv_init hc ha false
    have r0 : Rel (PState.init color aj false) (SState.init Pj aj false) := rel_init false hP
    have r1 := applySource_rel i0 r0 hsrc (hB s.mode) (Ps := fun ch => pasteAt V s.canvas x y s.shape 0 * s.opacity *
      pasteAt V s.box x y s.color white ch) (fun ch => by ring) false
    have i1 := applySource_inv (bl := B s.mode) i0 hsrc false
    have x1 := applySource_xinv i0 (xinv_init color aj false) hsrc (hB s.mode) false
    generalize hst1 : applySource (B s.mode) (PState.init color aj false) (pasteAt V s.box x y s.color white)
      (pasteAt V s.canvas x y s.shape 0) (pasteAt V s.canvas x y s.shape 0 * s.opacity) false = st1 at r1 i1 x1
    generalize specSource .pdf17 (B s.mode) (SState.init Pj aj false)
      (fun ch => pasteAt V s.canvas x y s.shape 0 * s.opacity * pasteAt V s.box x y s.color white ch)
      (pasteAt V s.canvas x y s.shape 0) (pasteAt V s.canvas x y s.shape 0 * s.opacity) false = σ1 at r1
    have hfm := finishColor_mul i1 x1 ch
    have hgc : groupColor σ1 ch = groupNum st1 ch := by
      unfold groupColor groupNum
      rw [r1.P ch, r1.P0 ch, r1.ag]; ring
    rw [r1.ag]
    by_cases hag : st1.ag = 0
    · rw [if_pos hag]
      by_cases haj : aj = 0
      · rw [hP ch, haj]; ring
      · -- nothing of the stroke at this pixel: the sub-compositor hands the object's colour back
        rw [finishColor_of_ag_zero i1 x1 hag (by rw [← hst1]; simpa [PState.init] using haj), ← hst1]
        simpa [PState.init] using hP ch
    · rw [if_neg hag, hgc, ← hfm]
      field_simp

/-- the premultiplied colour the base takes from its clip run -/
def specClipped (k : KoRule) (B : Mode → Color → Color → Color) (force : Bool) (V : Rect) (x y : Int) (Pj : Color) (aj : Rat)
    (clips : List FxNode) : Color :=
  if clips.isEmpty then Pj else clipGroupColor (specFxClips k B force V x y (SState.init Pj aj false) clips) aj

def specGroupResult (inside : Bool) (sub : SState) : Color × Rat × Rat :=
  (if inside then groupColor sub else fun _ => 0, if inside then sub.sg else 0, if inside then sub.ag else 0)

/-- the object `(Pj, fj, aj)` a layer denotes, over the backdrop `bd` (which only a group reads) -/
def specObj (k : KoRule) (B : Mode → Color → Color → Color) (force : Bool) (V : Rect) (x y : Int) (bd : Color × Rat) :
    FxNode → Color × Rat × Rat
  | .leaf pr fx src stroke clips =>
    let aj := leafShape force V x y pr fx src
    (specStrokeObject k B V x y (specClipped k B force V x y (fun ch => aj * leafColor force V x y pr fx src ch) aj clips) aj stroke,
      aj, aj)
  | .group pr _ pt children clips =>
    let g := specGroupResult ((intersect V pr.bbox).contains x y)
      (specFxList k B force (intersect V pr.bbox) x y (SState.init bd.1 bd.2 (!pt)) children)
    (specClipped k B force V x y g.1 g.2.2 clips, g.2.1, g.2.2)
  | .adjustment _ => (fun _ => 0, 0, 0)

theorem specFxNode_eq (k : KoRule) (B : Mode → Color → Color → Color) (force : Bool) (V : Rect) (x y : Int) (cc : Bool)
    (σ : SState) (n : FxNode) :
    specFxNode k B force V x y cc σ n
      = if fxSkipped V cc n then σ
        else specFinishFx k B force V x y σ n.props n.fx (specObj k B force V x y (specBackdrop σ n.props.knockout) n).1
          (specObj k B force V x y (specBackdrop σ n.props.knockout) n).2.1
          (specObj k B force V x y (specBackdrop σ n.props.knockout) n).2.2 := by
  cases n with
  | adjustment pr => rw [specFxNode]; rfl
  | leaf pr fx src stroke clips =>
    rw [specFxNode]
    simp only [fxSkipped, propsSkipped, FxNode.props, FxNode.fx, specObj, specClipped, Bool.or_eq_true, decide_eq_true_eq, ite_or]
  | group pr fx pt children clips =>
    rw [specFxNode]
    simp only [fxSkipped, propsSkipped, FxNode.props, FxNode.fx, specObj, specClipped, specGroupResult, specBackdrop,
      Bool.or_eq_true, decide_eq_true_eq, ite_or]
    rfl

/-- the object of the published model is the object of the code: same shape and alpha, colour premultiplied by the alpha -/
structure ObjRel (o p : Color × Rat × Rat) : Prop where
  shape : p.2.1 = o.2.1
  alpha : p.2.2 = o.2.2
  P : ∀ ch, p.1 ch = o.1 ch * o.2.2

theorem groupResult_rel (inside : Bool) {sub : PState} {σsub : SState} (hinv : Inv sub) (hx : XInv sub) (hr : Rel sub σsub) :
    ObjRel (groupResult inside sub) (specGroupResult inside σsub) := by
  cases inside
  · exact ⟨rfl, rfl, fun ch => (mul_zero _).symm⟩
  · refine ⟨hr.sg, hr.ag, fun ch => ?_⟩
    show groupColor σsub ch = finishColor sub ch * sub.ag
    rw [finishColor_mul hinv hx ch]
    unfold groupColor groupNum
    rw [hr.P ch, hr.P0 ch, hr.ag]; ring

theorem clippedColor_rel {k : KoRule} {B : Mode → Color → Color → Color} {force : Bool} {V : Rect} {x y : Int}
    {color Pj : Color} {alpha : Rat} {clips : List FxNode} (hP : ∀ ch, Pj ch = color ch * alpha)
    (hr : Rel (applyFxClips B force V x y (PState.init color alpha false) clips)
      (specFxClips k B force V x y (SState.init Pj alpha false) clips))
    (hinv : Inv (applyFxClips B force V x y (PState.init color alpha false) clips)) (ch : Nat) :
    specClipped k B force V x y Pj alpha clips ch = clippedColor B force V x y color alpha clips ch * alpha := by
  unfold specClipped clippedColor; split
  · exact hP ch
  · exact clipGroupColor_rel hr hinv (by rw [applyFxClips_a0, init_a0_false]) ch

/-- a layer refines its denotation as soon as its object does -/
theorem applyFxNode_rel_of {B : Mode → Color → Color → Color} (hB : BOk B) {force : Bool} {V : Rect} {x y : Int} {cc : Bool}
    {st : PState} {σ : SState} (hst : Inv st) (hr : Rel st σ) {n : FxNode} (hn : fxNodeOk n)
    (ho : ObjRel (fxObj B force V x y (backdrop st n.props.knockout) n)
      (specObj .pdf17 B force V x y (specBackdrop σ n.props.knockout) n)) :
    Rel (applyFxNode B force V x y cc st n) (specFxNode .pdf17 B force V x y cc σ n) := by
  rw [applyFxNode_eq, specFxNode_eq]; split
  · exact hr
  · rename_i h
    obtain ⟨hp, hf⟩ := fxNodeOk_props hn h
    rw [ho.shape, ho.alpha]
    exact finishFx_rel hB force hp hf V x y hst hr (fxObj_ok B force V x y _ (hst.backdrop _) n hn) ho.P

mutual
/-- **Every object refines its denotation** (`KoRule.pdf17`): a pixel or fill layer with its clip run and vector
stroke, a group with everything below it. The induction over the tree is on the object, together with the list and the
clip run; `applyFxNode` itself stays out of it: a layer refines its denotation as soon as its object does
(`applyFxNode_rel_of`). -/
theorem fxObj_rel {B : Mode → Color → Color → Color} (hB : BOk B) (force : Bool) (V : Rect) (x y : Int) (bd bdσ : Color × Rat)
    (hbd : ColorOk bd.1 ∧ Unit01 bd.2) (hr : bdσ.2 = bd.2 ∧ ∀ ch, bdσ.1 ch = bd.1 ch * bd.2) :
    (n : FxNode) → fxNodeOk n → ObjRel (fxObj B force V x y bd n) (specObj .pdf17 B force V x y bdσ n)
  | .adjustment _, _ => ⟨rfl, rfl, fun ch => (mul_zero _).symm⟩
  | .leaf pr fx src stroke clips, hn => by
    obtain ⟨_, _, hsrc, hstk, hcl⟩ := hn
    have hc := leafColor_ok force V x y pr fx hsrc
    have hs := leafShape_unit force V x y pr fx hsrc
    have i0 := inv_init hc hs false
    have hinv := applyFxClips_inv B force V x y _ i0 clips hcl
    refine ⟨rfl, rfl, fun ch => ?_⟩
    exact strokeObject_rel hB V x y (clippedColor_ok hc hinv) hs
      (clippedColor_rel (fun ch => by ring)
        (applyFxClips_rel hB force V x y _ _ i0 (rel_init false (fun ch => by ring)) clips hcl) hinv) stroke hstk ch
  | .group pr fx pt children clips, hn => by
    obtain ⟨_, _, hch, hcl⟩ := hn
    have i1 := inv_init hbd.1 hbd.2 (!pt)
    have hsub := applyFxList_inv B force (intersect V pr.bbox) x y _ i1 children hch
    have hg := groupResult_rel ((intersect V pr.bbox).contains x y) hsub
      (applyFxList_xinv hB force (intersect V pr.bbox) x y _ i1 (xinv_init bd.1 bd.2 (!pt)) children hch)
      (applyFxList_rel hB force (intersect V pr.bbox) x y _ (SState.init bdσ.1 bd.2 (!pt)) i1 (rel_init (!pt) hr.2) children hch)
    have hok := groupResult_ok ((intersect V pr.bbox).contains x y) hsub
    have i0 := inv_init hok.c hok.alpha_unit false
    have hinv := applyFxClips_inv B force V x y _ i0 clips hcl
    simp only [fxObj, specObj, hr.1]
    refine ⟨hg.shape, hg.alpha, fun ch => ?_⟩
    show specClipped .pdf17 B force V x y _ _ clips ch = _
    rw [hg.alpha]
    exact clippedColor_rel hg.P (applyFxClips_rel hB force V x y _ _ i0 (rel_init false hg.P) clips hcl) hinv ch

theorem applyFxList_rel {B : Mode → Color → Color → Color} (hB : BOk B) (force : Bool) (V : Rect) (x y : Int)
    (st : PState) (σ : SState) (hst : Inv st) (hr : Rel st σ) :
    (ns : List FxNode) → fxListOk ns → Rel (applyFxList B force V x y st ns) (specFxList .pdf17 B force V x y σ ns)
  | [], _ => by rw [applyFxList, specFxList]; exact hr
  | n :: rest, h => by
    rw [applyFxList, specFxList]
    exact applyFxList_rel hB force V x y _ _ (applyFxNode_inv B force V x y false st hst n h.1)
      (applyFxNode_rel_of hB hst hr h.1 (fxObj_rel hB force V x y _ _ (hst.backdrop _) (hr.backdrop _) n h.1)) rest h.2

theorem applyFxClips_rel {B : Mode → Color → Color → Color} (hB : BOk B) (force : Bool) (V : Rect) (x y : Int)
    (st : PState) (σ : SState) (hst : Inv st) (hr : Rel st σ) :
    (ns : List FxNode) → fxListOk ns → Rel (applyFxClips B force V x y st ns) (specFxClips .pdf17 B force V x y σ ns)
  | [], _ => by rw [applyFxClips, specFxClips]; exact hr
  | n :: rest, h => by
    rw [applyFxClips, specFxClips]
    exact applyFxClips_rel hB force V x y _ _ (applyFxNode_inv B force V x y true st hst n h.1)
      (applyFxNode_rel_of hB hst hr h.1 (fxObj_rel hB force V x y _ _ (hst.backdrop _) (hr.backdrop _) n h.1)) rest h.2
end

/-- **The compositor with effects refines the published model with effects** (knockout group-alpha rule as coded):
one layer with everything below it and everything it carries. -/
theorem applyFxNode_rel {B : Mode → Color → Color → Color} (hB : BOk B) (force : Bool) (V : Rect) (x y : Int) (cc : Bool)
    (st : PState) (σ : SState) (hst : Inv st) (hr : Rel st σ) (n : FxNode) (hn : fxNodeOk n) :
    Rel (applyFxNode B force V x y cc st n) (specFxNode .pdf17 B force V x y cc σ n) :=
  applyFxNode_rel_of hB hst hr hn (fxObj_rel hB force V x y _ _ (hst.backdrop _) (hr.backdrop _) n hn)

theorem compositeFxDoc_rel {B : Mode → Color → Color → Color} (hB : BOk B) (force : Bool) (V : Rect) (x y : Int) {color : Color}
    {alpha : Rat} (hc : ColorOk color) (ha : Unit01 alpha) (layers : List FxNode) (hl : fxListOk layers) :
    (compositeFxDoc B force V x y color alpha layers).2.1
        = (specFxDoc .pdf17 B force V x y (fun ch => alpha * color ch) alpha layers).2.1 ∧
    (compositeFxDoc B force V x y color alpha layers).2.2
        = (specFxDoc .pdf17 B force V x y (fun ch => alpha * color ch) alpha layers).2.2 ∧
    ∀ ch, (compositeFxDoc B force V x y color alpha layers).1 ch * (compositeFxDoc B force V x y color alpha layers).2.2
      = (specFxDoc .pdf17 B force V x y (fun ch => alpha * color ch) alpha layers).1 ch := by
  have i0 := inv_init hc ha false
  have hrel := applyFxList_rel hB force V x y (PState.init color alpha false)
    (SState.init (fun ch => alpha * color ch) alpha false) i0 (rel_init false (fun ch => by ring)) layers hl
  have hinv := applyFxList_inv B force V x y _ i0 layers hl
  have hx := applyFxList_xinv hB force V x y _ i0 (xinv_init color alpha false) layers hl
  unfold compositeFxDoc specFxDoc
  refine ⟨hrel.sg.symm, hrel.ag.symm, ?_⟩
  intro ch
  simp only
  rw [finishColor_mul hinv hx ch]
  unfold groupColor groupNum
  rw [hrel.P ch, hrel.P0 ch, hrel.ag]; ring

end PsdVerif.Composite
