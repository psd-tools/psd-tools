/-
C03 — the specification walker on what the model writer emits: what the format prescribes
beyond `PSD.WF`; the walker's primitives on an `At` hypothesis; spans (a region together with the bytes it
has to delimit); then, each with the regions it reports and where it ends: header, colour mode data, image
resources, tagged blocks, the channel table of a layer record; the lengths a refreshed layer info declares.
-/
import PsdVerif.Lemmas.CodecPsd3
import PsdVerif.Model.Walker

namespace PsdVerif.Walker
open PsdVerif PsdVerif.Codec PsdVerif.Psd

/-! ### what the format prescribes beyond `PSD.WF` (hypotheses of `walker_accepts`) -/

/-- the library's 8-byte-length decision agrees with the specification's for this key -/
def KeyAgrees (version : Nat) (t : TaggedBlock) : Prop :=
  version = 2 → (t.key ∈ G.bigKeys ↔ t.key ∈ Spec.psbEightByteKeys)

instance (version : Nat) (t : TaggedBlock) : Decidable (KeyAgrees version t) := by
  unfold KeyAgrees; exact inferInstance

/-- tagged blocks inside a layer record: spec key list, even length -/
def RecordShaped (version : Nat) (r : LayerRecord) : Prop :=
  ∀ t ∈ r.taggedBlocks, KeyAgrees version t ∧ t.data.length % 2 = 0

instance (version : Nat) (r : LayerRecord) : Decidable (RecordShaped version r) := by
  unfold RecordShaped; exact inferInstance

def optRecordsShaped (version : Nat) : Option (List LayerRecord) → Prop
  | some rs => ∀ r ∈ rs, RecordShaped version r
  | none => True

instance (version : Nat) (o : Option (List LayerRecord)) : Decidable (optRecordsShaped version o) := by
  cases o <;> simp only [optRecordsShaped] <;> exact inferInstance

def optInfoShaped (version : Nat) : Option LayerInfo → Prop
  | some li => optRecordsShaped version li.records
  | none => True

instance (version : Nat) (o : Option LayerInfo) : Decidable (optInfoShaped version o) := by
  cases o <;> simp only [optInfoShaped] <;> exact inferInstance

def optBlocksAgree (version : Nat) : Option (List TaggedBlock) → Prop
  | some ts => ∀ t ∈ ts, KeyAgrees version t
  | none => True

instance (version : Nat) (o : Option (List TaggedBlock)) : Decidable (optBlocksAgree version o) := by
  cases o <;> simp only [optBlocksAgree] <;> exact inferInstance

/-- what the specification prescribes for tagged blocks and `PSD.WF` does not: record-level blocks of even
length, and (PSB) no key whose length width psd-tools and the specification disagree on -/
def SpecShaped (d : PSD) : Prop :=
  optInfoShaped d.header.version d.layerAndMask.layerInfo ∧ optBlocksAgree d.header.version d.layerAndMask.taggedBlocks

instance (d : PSD) : Decidable (SpecShaped d) := by unfold SpecShaped; exact inferInstance

theorem wU_step {sect : String} {d : B} {p w n : Nat} {rest : B} (h : At d p (beBytes w n ++ rest)) (hn : n < 256 ^ w) :
    wU sect w d p = .ok (n, p + w) ∧ At d (p + w) rest := by
  obtain ⟨e, h'⟩ := readU_step h hn
  exact ⟨by simp only [wU, e], h'⟩

theorem wBytes_step {sect : String} {d : B} {p n : Nat} {bs rest : B} (h : At d p (bs ++ rest)) (hl : bs.length = n) :
    wBytes sect n d p = .ok (bs, p + n) ∧ At d (p + n) rest := by
  obtain ⟨e, h'⟩ := readN_step h hl
  exact ⟨by simp only [wBytes, e], h'⟩

theorem skip_step {sect : String} {d : B} {p n : Nat} {bs rest : B} (h : At d p (bs ++ rest)) (hl : bs.length = n) :
    skip sect n d p = .ok ((), p + n) ∧ At d (p + n) rest := by
  have hb := h.left.bound
  refine ⟨?_, hl ▸ h.right⟩
  unfold skip
  rw [if_pos (by omega)]

theorem skip_at {sect : String} {d : B} {p n : Nat} {bs : B} (h : At d p bs) (hl : bs.length = n) :
    skip sect n d p = .ok ((), p + n) := (skip_step h.nil_right hl).1

theorem check_true (sect reason : String) (d : B) (p : Nat) : check sect reason true d p = .ok ((), p) := rfl

/-- a region the walker is expected to report, with the encoding of the sub-value it stands for -/
structure Span where
  region : Region
  bytes : B

/-- the region delimits exactly these bytes of the file -/
def Span.Holds (d : B) (s : Span) : Prop :=
  s.region.length = s.bytes.length ∧ At d s.region.offset s.bytes

/-- stated with the bytes as a variable: with a concrete encoding in their place, `rfl` for the length makes the
unifier unfold the encoding -/
theorem Span.holds_mk {d : B} {p : Nat} {bs : B} (kind : String) (h : At d p bs) :
    Span.Holds d ⟨⟨p, bs.length, kind⟩, bs⟩ := ⟨rfl, h⟩

def regionsOf (ss : List Span) : List Region := ss.map Span.region

theorem regionsOf_append (a b : List Span) : regionsOf (a ++ b) = regionsOf a ++ regionsOf b := by
  simp [regionsOf]

theorem regionsOf_cons (a : Span) (b : List Span) : regionsOf (a :: b) = a.region :: regionsOf b := rfl

/-- consecutive items of one kind: each starts where the previous one ended -/
def seqSpans {α : Type} (kind : String) (enc : α → B) : Nat → List α → List Span
  | _, [] => []
  | p, x :: xs => ⟨⟨p, (enc x).length, kind⟩, enc x⟩ :: seqSpans kind enc (p + (enc x).length) xs

theorem seqSpans_hold {α : Type} (kind : String) (enc : α → B) (xs : List α) {d : B} {p : Nat} {rest : B}
    (hat : At d p (listT enc xs ++ rest)) : ∀ s ∈ seqSpans kind enc p xs, s.Holds d := by
  induction xs generalizing p with
  | nil => intro s hs; simp [seqSpans] at hs
  | cons x xs ih =>
    intro s hs
    simp only [listT, List.append_assoc] at hat
    simp only [seqSpans, List.mem_cons] at hs
    rcases hs with rfl | hs
    · exact Span.holds_mk _ hat.left
    · exact ih hat.right s hs

theorem seqSpans_consecutive {α : Type} (kind : String) (enc : α → B) (xs : List α) (p : Nat) :
    (∀ a, (seqSpans kind enc p xs)[0]? = some a → a.region.offset = p) ∧
    ∀ (i : Nat) (a b : Span), (seqSpans kind enc p xs)[i]? = some a → (seqSpans kind enc p xs)[i + 1]? = some b →
      b.region.offset = a.region.offset + a.region.length := by
  induction xs generalizing p with
  | nil => exact ⟨by intro a h; simp [seqSpans] at h, by intro i a b h; simp [seqSpans] at h⟩
  | cons x xs ih =>
    obtain ⟨i1, i2⟩ := ih (p + (enc x).length)
    refine ⟨?_, ?_⟩
    · intro a h
      simp only [seqSpans, List.getElem?_cons_zero, Option.some.injEq] at h
      rw [← h]
    · intro i a b h1 h2
      cases i with
      | zero =>
        simp only [seqSpans, List.getElem?_cons_zero, Option.some.injEq, List.getElem?_cons_succ] at h1 h2
        rw [i1 b h2, ← h1]
      | succ i =>
        simp only [seqSpans, List.getElem?_cons_succ] at h1 h2
        exact i2 i a b h1 h2

/-- the region delimits exactly these bytes of the file (`Span.Holds` without the auxiliary `At`) -/
def Delimits (bs : B) (r : Region) (sub : B) : Prop :=
  r.offset + r.length ≤ bs.length ∧ r.length = sub.length ∧ (bs.drop r.offset).take r.length = sub

theorem delimits_of_holds {bs : B} {s : Span} (h : s.Holds bs) : Delimits bs s.region s.bytes := by
  obtain ⟨h1, h2⟩ := h
  refine ⟨by rw [h1]; exact h2.bound, h1, ?_⟩
  rw [h1]; exact h2.drop_take

theorem walkHeader_full {h : Header} (hv : h.Valid) {d : B} {p : Nat} {rest : B} (hat : At d p (h.encT ++ rest)) :
    walkHeader d p = .ok ((⟨h.version, h.channels, h.height, h.width, h.depth, h.colorMode⟩,
        [⟨p, 26, "header"⟩]), p + 26) ∧ At d (p + 26) rest := by
  obtain ⟨f1, f2, f3, f4, f5, f6⟩ := Header.fits_of_valid hv
  have hsig : h.signature = Spec.headerSignature := by rw [hv.1]; decide
  have hs : pack4s h.signature = Spec.headerSignature := by
    rw [hsig]; decide
  have hver : (h.version == 1 || h.version == 2) = true := by
    have : ∀ x ∈ G.headerVersions, (x == 1 || x == 2) = true := by decide +kernel
    exact this _ hv.2.1
  simp only [Header.encT, List.append_assoc, hs] at hat
  obtain ⟨e1, hat⟩ := wBytes_step (sect := "header") (n := 4) hat (by decide)
  obtain ⟨e2, hat⟩ := wU_step (sect := "header") hat f1
  obtain ⟨e3, hat⟩ := skip_step (sect := "header") hat (length_zeros 6)
  obtain ⟨e4, hat⟩ := wU_step (sect := "header") hat f2
  obtain ⟨e5, hat⟩ := wU_step (sect := "header") hat f3
  obtain ⟨e6, hat⟩ := wU_step (sect := "header") hat f4
  obtain ⟨e7, hat⟩ := wU_step (sect := "header") hat f5
  obtain ⟨e8, hat⟩ := wU_step (sect := "header") hat f6
  refine ⟨?_, hat⟩
  simp only [walkHeader, bind, Except.bind, e1, e2, e3, e4, e5, e6, e7, e8, beq_self_eq_true, check_true, hver]

theorem lenBlockT_simple (w : Nat) (body : B) : lenBlockT 0 w 1 body = beBytes w body.length ++ body := by
  simp [lenBlockT, zeros, padAmount_one]

theorem colorModeT_eq (v : B) : colorModeT v = beBytes 4 v.length ++ v := lenBlockT_simple 4 v

theorem walkColorMode_full {v : B} (hf : FitsU 4 v.length) {d : B} {p : Nat} {rest : B}
    (hat : At d p (colorModeT v ++ rest)) :
    walkColorMode d p = .ok ([⟨p, (colorModeT v).length, "color-mode-data"⟩], p + (colorModeT v).length) ∧
      At d (p + (colorModeT v).length) rest := by
  have hl : (colorModeT v).length = 4 + v.length := by rw [colorModeT_eq]; simp [length_beBytes]
  have hright := hat.right
  rw [colorModeT_eq, List.append_assoc] at hat
  obtain ⟨e1, hat⟩ := wU_step (sect := "color-mode-data") hat hf
  obtain ⟨e2, hat⟩ := skip_step (sect := "color-mode-data") hat rfl
  refine ⟨?_, hright⟩
  simp only [walkColorMode, bind, Except.bind, e1, e2, hl, Nat.add_assoc]

theorem walkResource_full {r : Resource} (hwf : r.WF) {d : B} {p : Nat} {rest : B} (hat : At d p (r.encT ++ rest)) :
    walkResource d p = .ok (⟨p, r.encT.length, "image-resource"⟩, p + r.encT.length) ∧
      At d (p + r.encT.length) rest := by
  obtain ⟨hsig, f1, f2, f3⟩ := hwf
  have hright := hat.right
  have hl : ∀ s ∈ G.resourceSignatures, s.length = 4 ∧ Spec.resourceSignatures.contains s = true := by decide +kernel
  have hs : pack4s r.signature = r.signature := pack4s_of_length (hl _ hsig).1
  have hpad : padAmount (r.data.length + (0 + 4)) 2 = padAmount r.data.length 2 := padAmount_add_mul _ _ _ (by decide)
  have hlen : r.encT.length = 4 + 2 + 1 + (r.name.length + padAmount (1 + r.name.length) 2) + 4 +
      (r.data.length + padAmount r.data.length 2) := by
    rw [Resource.length_encT, length_pascalT, length_lenBlockT, hpad]; omega
  simp only [Resource.encT, pascalT, lenBlockT, zeros, List.replicate_zero, List.nil_append, List.append_assoc, hs,
    hpad] at hat
  obtain ⟨e1, hat⟩ := wBytes_step (sect := "image-resource") hat (hl _ hsig).1
  obtain ⟨e2, hat⟩ := wU_step (sect := "image-resource") hat f1
  obtain ⟨e3, hat⟩ := wU_step (sect := "image-resource") hat (by simpa using f2)
  rw [← List.append_assoc] at hat
  obtain ⟨e4, hat⟩ := skip_step (sect := "image-resource") (n := r.name.length + padAmount (1 + r.name.length) 2) hat
    (by simp)
  obtain ⟨e5, hat⟩ := wU_step (sect := "image-resource") hat f3
  rw [← List.append_assoc] at hat
  obtain ⟨e6, hat⟩ := skip_step (sect := "image-resource") (n := r.data.length + padAmount r.data.length 2) hat
    (by simp)
  refine ⟨?_, hright⟩
  simp only [walkResource, bind, Except.bind, e1, (hl _ hsig).2, check_true, e2, e3, e4, e5, e6, hlen,
    Except.ok.injEq, Prod.mk.injEq, Region.mk.injEq, and_true, true_and]
  omega

theorem walkResourcesLoop_full (rs : List Resource) (hwf : ∀ r ∈ rs, r.WF) {d : B} {p : Nat} {rest : B}
    (hat : At d p (listT Resource.encT rs ++ rest)) (stop : Nat) (hstop : stop = p + (listT Resource.encT rs).length)
    (fuel : Nat) (hf : rs.length < fuel) :
    walkResourcesLoop stop fuel d p = .ok (regionsOf (seqSpans "image-resource" Resource.encT p rs), stop) := by
  induction rs generalizing p fuel with
  | nil =>
    cases fuel with
    | zero => omega
    | succ fuel =>
      simp only [listT, List.length_nil, Nat.add_zero] at hstop
      subst hstop
      simp [walkResourcesLoop, seqSpans, regionsOf]
  | cons r rs ih =>
    cases fuel with
    | zero => omega
    | succ fuel =>
      simp only [listT, List.append_assoc, List.length_append] at hat hstop
      have hge := r.length_ge
      obtain ⟨e1, hat'⟩ := walkResource_full (hwf r (by simp)) hat
      have e2 := ih (fun x hx => hwf x (by simp [hx])) hat' (by omega) fuel (by simpa using hf)
      have hlt : p < stop := by omega
      have hle : p + r.encT.length ≤ stop := by omega
      simp only [walkResourcesLoop, if_pos hlt, e1, if_pos hle, e2, seqSpans, regionsOf_cons]

/-- the spans of the image resources section: the section, then one per resource block -/
def resourcesSpans (p : Nat) (rs : List Resource) : List Span :=
  ⟨⟨p, (resourcesT rs).length, "image-resources"⟩, resourcesT rs⟩ :: seqSpans "image-resource" Resource.encT (p + 4) rs

theorem resourcesT_eq (rs : List Resource) : resourcesT rs = beBytes 4 (resourcesBodyT rs).length ++ resourcesBodyT rs :=
  lenBlockT_simple 4 _

theorem walkResources_full {rs : List Resource} (hwf : resourcesWF rs) {d : B} {p : Nat} {rest : B}
    (hat : At d p (resourcesT rs ++ rest)) :
    walkResources d p = .ok (regionsOf (resourcesSpans p rs), p + (resourcesT rs).length) ∧
      At d (p + (resourcesT rs).length) rest := by
  obtain ⟨hall, _, hf⟩ := hwf
  have hT := resourcesT_eq rs
  have hl : (resourcesT rs).length = 4 + (resourcesBodyT rs).length := by rw [hT]; simp [length_beBytes]
  refine ⟨?_, hat.right⟩
  rw [hT, List.append_assoc] at hat
  obtain ⟨e1, hat⟩ := wU_step (sect := "image-resources") hat hf
  have e2 := (skip_step (sect := "image-resources") hat rfl).1
  have hcount : rs.length < (resourcesBodyT rs).length + 1 := by
    have := length_listT_le Resource.encT rs 1 (fun r _ => by have := r.length_ge; omega)
    unfold resourcesBodyT; omega
  have e3 := walkResourcesLoop_full rs hall hat (p + 4 + (resourcesBodyT rs).length) rfl
    ((resourcesBodyT rs).length + 1) hcount
  simp only [walkResources, bind, Except.bind, e1, e2, e3, resourcesSpans, regionsOf_cons, hl]
  simp only [Nat.add_assoc]

theorem resourcesSpans_hold (rs : List Resource) {d : B} {p : Nat} {rest : B} (hat : At d p (resourcesT rs ++ rest)) :
    ∀ s ∈ resourcesSpans p rs, s.Holds d := by
  intro s hs
  simp only [resourcesSpans, List.mem_cons] at hs
  rcases hs with rfl | hs
  · exact Span.holds_mk _ hat.left
  · rw [resourcesT_eq, List.append_assoc] at hat
    have := hat.right
    rw [length_beBytes] at this
    exact seqSpans_hold _ _ rs this s hs

theorem walkBlock_full {sect : String} {v align : Nat} {even : Bool} (ha : align = 1 ∨ align = 2 ∨ align = 4)
    {t : TaggedBlock} (hwf : t.WF v) (hk : KeyAgrees v t) (he : even = true → t.data.length % 2 = 0)
    {d : B} {p : Nat} {rest : B} (hat : At d p (t.encT v align ++ rest)) :
    walkBlock sect v align even d p = .ok (⟨p, (t.encT v align).length, "tagged-block"⟩, p + (t.encT v align).length) ∧
      At d (p + (t.encT v align).length) rest := by
  obtain ⟨hsig, hkl, hf⟩ := hwf
  have hright := hat.right
  have hl : ∀ s ∈ G.blockSignatures, s.length = 4 ∧ Spec.blockSignatures.contains s = true := by decide +kernel
  have hs : pack4s t.signature = t.signature := pack4s_of_length (hl _ hsig).1
  have hk' : pack4s t.key = t.key := pack4s_of_length hkl
  have hw : (if v = 2 ∧ t.key ∈ Spec.psbEightByteKeys then 8 else 4) = tbLenW v t.key := by
    unfold tbLenW
    by_cases h2 : v = 2
    · have := hk h2
      by_cases hb : t.key ∈ G.bigKeys
      · simp [h2, hb, this.mp hb]
      · have hb' : t.key ∉ Spec.psbEightByteKeys := fun h => hb (this.mpr h)
        simp [h2, hb, hb']
    · simp [h2]
  have hpad : padAmount (t.data.length + (0 + tbLenW v t.key)) align = padAmount t.data.length align :=
    padAmount_add_mul _ _ _ (tbLenW_mod v t.key align ha)
  have hlen : (t.encT v align).length = 4 + 4 + tbLenW v t.key + (t.data.length + padAmount t.data.length align) := by
    rw [TaggedBlock.length_encT, length_lenBlockT, hpad]; omega
  have heven : (!even || t.data.length % 2 == 0) = true := by
    cases even with
    | false => rfl
    | true => simp [he rfl]
  simp only [TaggedBlock.encT, lenBlockT, zeros, List.replicate_zero, List.nil_append, List.append_assoc, hs, hk',
    hpad] at hat
  obtain ⟨e1, hat⟩ := wBytes_step (sect := sect) hat (hl _ hsig).1
  obtain ⟨e2, hat⟩ := wBytes_step (sect := sect) hat hkl
  obtain ⟨e3, hat⟩ := wU_step (sect := sect) hat hf
  rw [← List.append_assoc] at hat
  obtain ⟨e4, hat⟩ := skip_step (sect := sect) (n := t.data.length + padAmount t.data.length align) hat (by simp)
  refine ⟨?_, hright⟩
  simp only [walkBlock, bind, Except.bind, e1, (hl _ hsig).2, check_true, e2, hw, e3, heven, e4, hlen,
    Except.ok.injEq, Prod.mk.injEq, Region.mk.injEq, and_true, true_and]
  omega

theorem walkBlocksLoop_full {sect : String} {v align : Nat} {even : Bool} (ha : align = 1 ∨ align = 2 ∨ align = 4)
    (ts : List TaggedBlock) (hwf : ∀ t ∈ ts, t.WF v) (hk : ∀ t ∈ ts, KeyAgrees v t)
    (he : even = true → ∀ t ∈ ts, t.data.length % 2 = 0)
    {d : B} {p : Nat} {rest : B} (hat : At d p (taggedBlocksT v align ts ++ rest)) (stop : Nat)
    (h1 : p + (taggedBlocksT v align ts).length ≤ stop) (h2 : stop < p + (taggedBlocksT v align ts).length + 4)
    (fuel : Nat) (hf : ts.length < fuel) :
    walkBlocksLoop sect v align even stop fuel d p =
      .ok (regionsOf (seqSpans "tagged-block" (TaggedBlock.encT v align) p ts), stop) := by
  unfold taggedBlocksT at hat h1 h2
  induction ts generalizing p fuel with
  | nil =>
    cases fuel with
    | zero => omega
    | succ fuel =>
      simp only [listT, List.length_nil, Nat.add_zero] at h1 h2
      have c1 : ¬ p + 12 ≤ stop := by omega
      have c2 : ¬ p + 4 ≤ stop := by omega
      simp only [walkBlocksLoop, if_neg c1, if_neg c2, seqSpans, regionsOf, List.map_nil]
  | cons t ts ih =>
    cases fuel with
    | zero => omega
    | succ fuel =>
      simp only [listT, List.append_assoc, List.length_append] at hat h1 h2
      have hge := t.length_ge v align
      obtain ⟨e1, hat'⟩ := walkBlock_full (sect := sect) ha (hwf t (by simp)) (hk t (by simp))
        (fun h => he h t (by simp)) hat
      have e2 := ih (fun x hx => hwf x (by simp [hx])) (fun x hx => hk x (by simp [hx]))
        (fun h x hx => he h x (by simp [hx])) hat' (by omega) (by omega) fuel (by simpa using hf)
      have c1 : p + 12 ≤ stop := by omega
      have c2 : p + (t.encT v align).length ≤ stop := by omega
      simp only [walkBlocksLoop, if_pos c1, e1, if_pos c2, e2, seqSpans, regionsOf_cons]

theorem lenW_eq_secW {v : Nat} (hv : v = 1 ∨ v = 2) : lenW v = secW v := by
  rcases hv with h | h <;> subst h <;> rfl

theorem walkChannelInfos_full {v : Nat} (hv : v = 1 ∨ v = 2) (cis : List ChannelInfo) (hf : ∀ c ∈ cis, c.Fits v)
    {d : B} {p : Nat} {rest : B} (hat : At d p (listT (ChannelInfo.encT v) cis ++ rest)) :
    walkChannelInfos v cis.length d p =
        .ok (cis.map ChannelInfo.length, p + (listT (ChannelInfo.encT v) cis).length) ∧
      At d (p + (listT (ChannelInfo.encT v) cis).length) rest := by
  induction cis generalizing p with
  | nil => exact ⟨by simp [walkChannelInfos, listT], by simpa [listT] using hat⟩
  | cons c cis ih =>
    simp only [listT, ChannelInfo.encT, i16T, List.append_assoc] at hat
    obtain ⟨f1, f2⟩ := hf c (by simp)
    obtain ⟨e1, hat⟩ := wU_step (sect := "layer-record") hat (i16ToNat_lt c.id)
    rw [← lenW_eq_secW hv] at hat f2
    obtain ⟨e2, hat⟩ := wU_step (sect := "layer-record") hat f2
    obtain ⟨e3, hat⟩ := ih (fun x hx => hf x (by simp [hx])) hat
    have hl : (listT (ChannelInfo.encT v) (c :: cis)).length =
        2 + lenW v + (listT (ChannelInfo.encT v) cis).length := by
      simp only [listT, List.length_append, ChannelInfo.length_encT, lenW_eq_secW hv]
    rw [hl]
    refine ⟨?_, by simpa only [Nat.add_assoc] using hat⟩
    simp only [List.length_cons, walkChannelInfos, e1, e2, e3, List.map_cons]
    simp only [Nat.add_assoc]

theorem maskT_shape (m : Option MaskData) (hf : maskFits m) :
    ∃ body : B, maskT m = beBytes 4 body.length ++ body ∧ body.length < 256 ^ 4 := by
  cases m with
  | none => exact ⟨[], by simp [maskT], by decide⟩
  | some m => exact ⟨m.bodyT, by simp [maskT, MaskData.encT, lenBlockT_simple], hf.2⟩

theorem check_eq (sect reason : String) (c : Bool) (d : B) (p : Nat) :
    check sect reason c d p = if c = true then .ok ((), p) else .error ⟨sect, p, reason⟩ := rfl

/-- the lengths the (refreshed) records declare are those of the channel data that follows -/
theorem declared_lengths (rs : List LayerRecord) (css : List (List ChannelData)) (hs : shapesAgree rs css) :
    ((refreshRecords rs css).map (fun r => r.channelInfo.map ChannelInfo.length)).flatten =
      css.flatten.map (fun c => 2 + c.data.length) := by
  have hci : ∀ (cis : List ChannelInfo) (cs : List ChannelData), cis.length = cs.length →
      (refreshCI cis cs).map ChannelInfo.length = cs.map (fun c => 2 + c.data.length) := by
    intro cis
    induction cis with
    | nil => intro cs h; cases cs <;> simp_all [refreshCI]
    | cons ci cis ih =>
      intro cs h
      cases cs with
      | nil => simp at h
      | cons c cs => simp [refreshCI, ih cs (by simpa using h)]
  induction rs generalizing css with
  | nil => cases css <;> simp_all [shapesAgree, refreshRecords]
  | cons r rs ih =>
    cases css with
    | nil => simp [shapesAgree] at hs
    | cons cs css =>
      simp only [shapesAgree] at hs
      simp [refreshRecords, hci _ _ hs.1, ih css hs.2]

theorem flatten_channelImageT (css : List (List ChannelData)) :
    channelImageT css = listT ChannelData.encT css.flatten := by
  have happ : ∀ (a b : List ChannelData), listT ChannelData.encT (a ++ b) =
      listT ChannelData.encT a ++ listT ChannelData.encT b := by
    intro a b
    induction a with
    | nil => rfl
    | cons x a ih => simp [listT, ih]
  induction css with
  | nil => rfl
  | cons cs css ih =>
    simp only [channelImageT, listT, List.flatten_cons, happ, channelListT] at ih ⊢
    rw [ih]

theorem i16abs_i16ToNat (z : Int) (h : FitsI16 z) : i16abs (i16ToNat z) = z.natAbs := by
  unfold FitsI16 at h; unfold i16abs i16ToNat; split <;> omega

end PsdVerif.Walker
