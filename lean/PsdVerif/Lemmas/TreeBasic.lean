/-
Layer-tree model: vocabulary of the invariants (reachability, `Inv`, `SameTree`, `SameObs`), what the traversals read
(frame lemma for `Group.extract_bbox`), and what the bookkeeping functions can touch (`Cleared`).
-/
import PsdVerif.Model.TreeState

namespace PsdVerif.TreeSt

/-- `y` is listed below `a` (one or more list memberships). -/
inductive Reach (s : State) : Id → Id → Prop where
  | edge {c x : Id} : x ∈ s.children c → Reach s c x
  | step {c x y : Id} : x ∈ s.children c → Reach s x y → Reach s c y

theorem Reach.trans {s : State} {a b c : Id} (h1 : Reach s a b) (h2 : Reach s b c) : Reach s a c := by
  induction h1 with
  | edge h => exact .step h h2
  | step h _ ih => exact .step h (ih h2)

theorem Reach.last {s : State} {a y : Id} (h : Reach s a y) :
    ∃ c, y ∈ s.children c ∧ (c = a ∨ Reach s a c) := by
  induction h with
  | edge h => exact ⟨_, h, .inl rfl⟩
  | step h _ ih =>
    obtain ⟨c, hc, hac⟩ := ih
    refine ⟨c, hc, .inr ?_⟩
    cases hac with
    | inl e => subst e; exact .edge h
    | inr r => exact .step h r

theorem Reach.tail {s : State} {a c y : Id} (h : Reach s a c) (hy : y ∈ s.children c) : Reach s a y :=
  h.trans (.edge hy)

theorem Reach.congr {s s' : State} (h : s'.children = s.children) {a b : Id} (r : Reach s a b) : Reach s' a b := by
  induction r with
  | edge hx => exact .edge (by rw [h]; exact hx)
  | step hx _ ih => exact .step (by rw [h]; exact hx) ih

theorem Reach.mono {s s' : State} (h : ∀ c x, x ∈ s'.children c → x ∈ s.children c) {a b : Id}
    (r : Reach s' a b) : Reach s a b := by
  induction r with
  | edge hx => exact .edge (h _ _ hx)
  | step hx _ ih => exact .step (h _ _ hx) ih

theorem Reach.children_ne {s : State} {x y : Id} (r : Reach s x y) : s.children x ≠ [] := by
  cases r with
  | edge h => exact List.ne_nil_of_mem h
  | step h _ => exact List.ne_nil_of_mem h

theorem length_le_of_nodup_lt (n : Nat) (l : List Nat) (hnd : l.Nodup) (hlt : ∀ x, x ∈ l → x < n) : l.length ≤ n := by
  induction n generalizing l with
  | zero =>
    cases l with
    | nil => exact Nat.le_refl _
    | cons a as => exact absurd (hlt a (List.mem_cons_self ..)) (Nat.not_lt_zero _)
  | succ n ih =>
    have h1 : (l.erase n).Nodup := (List.erase_sublist).nodup hnd
    have h2 : ∀ x, x ∈ l.erase n → x < n := by
      intro x hx
      have hx' := (List.Nodup.mem_erase_iff hnd).mp hx
      have := hlt x hx'.2
      omega
    have h3 := ih (l.erase n) h1 h2
    have h4 : l.length ≤ (l.erase n).length + 1 := by
      by_cases hm : n ∈ l
      · rw [List.length_erase_of_mem hm]; omega
      · rw [List.erase_of_not_mem hm]; omega
    omega

/-- `x` is listed nowhere -/
def Detached (s : State) (x : Id) : Prop := ∀ c, x ∉ s.children c

/-- The well-formedness invariant (I0: store hygiene, I1: back pointers, I2: single occurrence,
I3: acyclicity in rank form). Caches and dirty flags are not mentioned. -/
structure Inv (s : State) : Prop where
  /-- listed ids and the containers listing them are live objects -/
  live : ∀ c x, x ∈ s.children c → c < s.next ∧ x < s.next
  /-- only groups / artboards / documents list anything -/
  contOnly : ∀ c, s.children c ≠ [] → s.cont c = true
  /-- a document is never listed -/
  layerOnly : ∀ c x, x ∈ s.children c → s.kind x ≠ .doc
  /-- (I1) a listed layer reports its container as parent … -/
  parentOk : ∀ c x, x ∈ s.children c → s.parent x = some c
  /-- (I1) … and the container's document as its document -/
  psdOk : ∀ c x d, x ∈ s.children c → s.docOf c = some d → s.psd x = some d
  /-- (I2) no list contains a layer twice (with `parentOk`: no layer is listed twice at all) -/
  nodup : ∀ c, (s.children c).Nodup
  /-- (I3) the listing relation is well-founded: a rank decreases along every membership -/
  acyclic : ∃ rk : Id → Nat, ∀ c x, x ∈ s.children c → rk x < rk c

/-- (I2) in its global form: a layer is listed by at most one container -/
theorem Inv.unique {s : State} (h : Inv s) {c c' x : Id} (h1 : x ∈ s.children c) (h2 : x ∈ s.children c') :
    c = c' := by
  have a := h.parentOk c x h1
  have b := h.parentOk c' x h2
  rw [a] at b
  exact Option.some.inj b

/-- (I3) no group is its own ancestor -/
theorem Inv.no_cycle {s : State} (h : Inv s) (x : Id) : ¬ Reach s x x := by
  obtain ⟨rk, hrk⟩ := h.acyclic
  have key : ∀ a b, Reach s a b → rk b < rk a := by
    intro a b r
    induction r with
    | edge hx => exact hrk _ _ hx
    | step hx _ ih => exact Nat.lt_trans ih (hrk _ _ hx)
  intro r
  exact Nat.lt_irrefl _ (key x x r)

theorem Inv.not_self {s : State} (h : Inv s) {c x : Id} (hx : x ∈ s.children c) : x ≠ c := by
  intro e; subst e; exact h.no_cycle x (.edge hx)

/-- everything except the caches, the dirty flags and the block key lists -/
structure SameTree (s s' : State) : Prop where
  next : s'.next = s.next
  limit : s'.limit = s.limit
  kind : s'.kind = s.kind
  children : s'.children = s.children
  parent : s'.parent = s.parent
  psd : s'.psd = s.psd
  visible : s'.visible = s.visible
  box : s'.box = s.box

theorem SameTree.refl (s : State) : SameTree s s := ⟨rfl, rfl, rfl, rfl, rfl, rfl, rfl, rfl⟩

theorem SameTree.trans {a b c : State} (h1 : SameTree a b) (h2 : SameTree b c) : SameTree a c :=
  ⟨h2.next.trans h1.next, h2.limit.trans h1.limit, h2.kind.trans h1.kind, h2.children.trans h1.children,
   h2.parent.trans h1.parent, h2.psd.trans h1.psd, h2.visible.trans h1.visible, h2.box.trans h1.box⟩

theorem SameTree.symm {a b : State} (h : SameTree a b) : SameTree b a :=
  ⟨h.next.symm, h.limit.symm, h.kind.symm, h.children.symm, h.parent.symm, h.psd.symm, h.visible.symm, h.box.symm⟩

theorem SameTree.docOf {s s' : State} (h : SameTree s s') (g : Id) : s'.docOf g = s.docOf g := by
  simp [State.docOf, h.kind, h.psd]

theorem SameTree.cont {s s' : State} (h : SameTree s s') (g : Id) : s'.cont g = s.cont g := by
  simp [State.cont, h.kind]

/-- the fields the invariant speaks about -/
structure SameStruct (s s' : State) : Prop where
  next : s'.next = s.next
  kind : s'.kind = s.kind
  children : s'.children = s.children
  parent : s'.parent = s.parent
  psd : s'.psd = s.psd

theorem SameTree.toStruct {s s' : State} (h : SameTree s s') : SameStruct s s' :=
  ⟨h.next, h.kind, h.children, h.parent, h.psd⟩

theorem SameStruct.trans {a b c : State} (h1 : SameStruct a b) (h2 : SameStruct b c) : SameStruct a c :=
  ⟨h2.next.trans h1.next, h2.kind.trans h1.kind, h2.children.trans h1.children,
   h2.parent.trans h1.parent, h2.psd.trans h1.psd⟩

theorem SameStruct.inv {s s' : State} (h : SameStruct s s') (i : Inv s) : Inv s' where
  live := by rw [h.children, h.next]; exact i.live
  contOnly := by
    intro c; rw [h.children]
    have : s'.cont c = s.cont c := by simp [State.cont, h.kind]
    rw [this]; exact i.contOnly c
  layerOnly := by rw [h.children, h.kind]; exact i.layerOnly
  parentOk := by rw [h.children, h.parent]; exact i.parentOk
  psdOk := by
    intro c x d; rw [h.children, h.psd]
    have : s'.docOf c = s.docOf c := by simp [State.docOf, h.kind, h.psd]
    rw [this]; exact i.psdOk c x d
  nodup := by rw [h.children]; exact i.nodup
  acyclic := by rw [h.children]; exact i.acyclic

theorem SameTree.inv {s s' : State} (h : SameTree s s') (i : Inv s) : Inv s' := h.toStruct.inv i

/-! ### What the traversals read (in particular neither caches nor dirty flags) -/

theorem descList_frame {s s' : State} (hk : s'.kind = s.kind) (r r' : Id → Except Err (List Id))
    (hr : ∀ c, r' c = r c) (l : List Id) : descList r' s' l = descList r s l := by
  induction l with
  | nil => rfl
  | cons c cs ih =>
    have hc : s'.cont c = s.cont c := by unfold State.cont; rw [hk]
    simp only [descList, hc, hr, ih]

theorem descF_frame {s s' : State} (hk : s'.kind = s.kind) (hch : s'.children = s.children) (f : Nat) (g : Id) :
    descF s' f g = descF s f g := by
  induction f generalizing g with
  | zero => rfl
  | succ f ih =>
    simp only [descF, hch]
    exact descList_frame hk _ _ (fun c => ih c) _

/-- `descendants()` reads the lists and the kinds only -/
theorem desc_frame {s s' : State} (hl : s'.limit = s.limit) (hk : s'.kind = s.kind) (hch : s'.children = s.children)
    (g : Id) : desc s' g = desc s g := by
  simp only [desc, hl, descF_frame hk hch]

theorem desc_congr {s s' : State} (h : SameTree s s') (g : Id) : desc s' g = desc s g :=
  desc_frame h.limit h.kind h.children g

/-! ### the parent chain `is_visible()` follows (it stops at a document) -/

inductive UpChain (s : State) : Id → Id → Prop where
  | base {x p : Id} : s.kind x ≠ .doc → s.parent x = some p → UpChain s x p
  | step {x p q : Id} : UpChain s x p → s.kind p ≠ .doc → s.parent p = some q → UpChain s x q

theorem UpChain.cons {s : State} {x p y : Id} (hk : s.kind x ≠ .doc) (hp : s.parent x = some p)
    (h : UpChain s p y) : UpChain s x y := by
  induction h with
  | base hk' hp' => exact .step (.base hk hp) hk' hp'
  | step _ hk' hp' ih => exact .step ih hk' hp'

/-- the fields `is_visible()` reads -/
def VisAgree (s s' : State) (y : Id) : Prop :=
  s'.kind y = s.kind y ∧ s'.visible y = s.visible y ∧ s'.parent y = s.parent y

/-- the fields `extract_bbox` reads in addition, below the group -/
def SubAgree (s s' : State) (y : Id) : Prop := s'.children y = s.children y ∧ s'.box y = s.box y

theorem isVisF_frame (s s' : State) (f : Nat) (x : Id)
    (h : ∀ y, (y = x ∨ UpChain s x y) → VisAgree s s' y) : isVisF s' f x = isVisF s f x := by
  induction f generalizing x with
  | zero => rfl
  | succ f ih =>
    obtain ⟨hk, hv, hp⟩ := h x (.inl rfl)
    simp only [isVisF, hk, hv, hp]
    split
    · rfl
    · rename_i hnd
      split
      · rfl
      · split
        · rfl
        · rename_i p hpp
          apply ih p
          intro y hy
          apply h y
          rcases hy with e | c
          · subst e; exact .inr (.base hnd hpp)
          · exact .inr (UpChain.cons hnd hpp c)

theorem extList_frame (s s' : State) (hl : s'.limit = s.limit) (r r' : Id → Except Err BBox) (l : List Id)
    (hr : ∀ c, c ∈ l → r' c = r c)
    (hvis : ∀ c y, c ∈ l → (y = c ∨ UpChain s c y) → VisAgree s s' y)
    (hbox : ∀ c, c ∈ l → s'.box c = s.box c) : extList r' s' l = extList r s l := by
  induction l with
  | nil => rfl
  | cons c cs ih =>
    have hc : c ∈ c :: cs := List.mem_cons_self ..
    have hv : isVis s' c = isVis s c := by
      unfold isVis; rw [hl]; exact isVisF_frame s s' _ c (fun y hy => hvis c y hc hy)
    have hk : s'.cont c = s.cont c := by
      unfold State.cont; rw [(hvis c c hc (.inl rfl)).1]
    have ih' := ih (fun c' h' => hr c' (List.mem_cons_of_mem _ h'))
      (fun c' y h' hy => hvis c' y (List.mem_cons_of_mem _ h') hy)
      (fun c' h' => hbox c' (List.mem_cons_of_mem _ h'))
    simp only [extList, hv, hk, hr c hc, hbox c hc, ih']

/-- **Frame lemma**: `extract_bbox(g)` only reads the lists and rectangles below `g` and the
kind / visible flag / parent pointer of the layers below `g` and of their parent chains. -/
theorem extF_frame (s s' : State) (hl : s'.limit = s.limit) (f : Nat) (g : Id)
    (hsub : ∀ y, (y = g ∨ Reach s g y) → SubAgree s s' y)
    (hvis : ∀ z y, (z = g ∨ Reach s g z) → (y = z ∨ UpChain s z y) → VisAgree s s' y) :
    extF s' f g = extF s f g := by
  induction f generalizing g with
  | zero => rfl
  | succ f ih =>
    have hch : s'.children g = s.children g := (hsub g (.inl rfl)).1
    simp only [extF, hch]
    have : extList (extF s' f) s' (s.children g) = extList (extF s f) s (s.children g) := by
      apply extList_frame s s' hl
      · intro c hc
        apply ih c
        · intro y hy
          apply hsub y
          rcases hy with e | r
          · subst e; exact .inr (.edge hc)
          · exact .inr (.step hc r)
        · intro z y hz hy
          apply hvis z y _ hy
          rcases hz with e | r
          · subst e; exact .inr (.edge hc)
          · exact .inr (.step hc r)
      · intro c y hc hy
        exact hvis c y (.inr (.edge hc)) hy
      · intro c hc
        exact (hsub c (.inr (.edge hc))).2
    rw [this]

theorem extractBbox_frame (s s' : State) (hl : s'.limit = s.limit) (g : Id)
    (hsub : ∀ y, (y = g ∨ Reach s g y) → SubAgree s s' y)
    (hvis : ∀ z y, (z = g ∨ Reach s g z) → (y = z ∨ UpChain s z y) → VisAgree s s' y) :
    extractBbox s' g = extractBbox s g := by
  unfold extractBbox; rw [hl]; exact extF_frame s s' hl _ g hsub hvis

theorem extractBbox_congr {s s' : State} (h : SameTree s s') (g : Id) : extractBbox s' g = extractBbox s g :=
  extractBbox_frame s s' h.limit g (fun y _ => ⟨congrFun h.children y, congrFun h.box y⟩)
    (fun _ y _ _ => ⟨congrFun h.kind y, congrFun h.visible y, congrFun h.parent y⟩)

theorem sameTree_cache (s : State) (c : Id → Option BBox) : SameTree s { s with cache := c } :=
  ⟨rfl, rfl, rfl, rfl, rfl, rfl, rfl, rfl⟩

theorem sameTree_blocks (s : State) (b : Id → List Nat) : SameTree s { s with blocks := b } :=
  ⟨rfl, rfl, rfl, rfl, rfl, rfl, rfl, rfl⟩

theorem sameTree_dirty (s : State) (d : Id → Bool) : SameTree s { s with dirty := d } :=
  ⟨rfl, rfl, rfl, rfl, rfl, rfl, rfl, rfl⟩

/-- the same tree, some cached boxes dropped (dirty flags may have been set): what the bookkeeping does to it -/
structure Cleared (s s' : State) : Prop where
  same : SameTree s s'
  cache : ∀ y, s'.cache y = none ∨ s'.cache y = s.cache y

theorem Cleared.refl (s : State) : Cleared s s := ⟨SameTree.refl s, fun _ => .inr rfl⟩

theorem Cleared.trans {a b c : State} (h1 : Cleared a b) (h2 : Cleared b c) : Cleared a c :=
  ⟨h1.same.trans h2.same, fun y => (h2.cache y).elim .inl fun e => (h1.cache y).imp e.trans e.trans⟩

theorem Cleared.survivor {s s' : State} (h : Cleared s s') {g : Id} {b : BBox} (hb : s'.cache g = some b) :
    s.cache g = some b := by
  rcases h.cache g with h0 | h1
  · rw [h0] at hb; cases hb
  · rw [← h1]; exact hb

theorem clearCache_cleared (s : State) (x : Id) : Cleared s (clearCache s x) := by
  refine ⟨sameTree_cache s _, fun y => ?_⟩
  by_cases e : y = x
  · exact .inl (by simp [clearCache, upd, e])
  · exact .inr (by simp [clearCache, upd, e])

theorem clearCache_same (s : State) (x : Id) : SameTree s (clearCache s x) := sameTree_cache s _

theorem clearConts_cleared (s : State) (ds : List Id) : Cleared s (clearConts s ds) := by
  refine ⟨sameTree_cache s _, fun y => ?_⟩
  by_cases h : y ∈ ds ∧ s.cont y = true
  · exact .inl (if_pos h)
  · exact .inr (if_neg h)

theorem markDirty_cleared (s : State) (g : Id) : Cleared s (markDirty s g) := by
  unfold markDirty
  split
  · exact ⟨sameTree_dirty s _, fun _ => .inr rfl⟩
  · exact Cleared.refl s

theorem markDirty_same (s : State) (g : Id) : SameTree s (markDirty s g) := (markDirty_cleared s g).same

theorem invUpF_cleared (cfg : Cfg) (f : Nat) (seen : List Id) (s : State) (x : Id) :
    Cleared s (invUpF cfg f seen s x) := by
  induction f generalizing seen s x with
  | zero => exact Cleared.refl s
  | succ f ih =>
    simp only [invUpF]
    by_cases h1 : x ∈ seen
    · rw [if_pos h1]; exact Cleared.refl s
    · rw [if_neg h1]
      by_cases h2 : s.kind x = .doc
      · rw [if_pos h2]; exact clearCache_cleared s x
      · rw [if_neg h2]
        have hs1 : Cleared s (if s.cont x = true then clearCache s x else s) := by
          by_cases hc : s.cont x = true
          · rw [if_pos hc]; exact clearCache_cleared s x
          · rw [if_neg hc]; exact Cleared.refl s
        cases s.parent x with
        | none => exact hs1
        | some p =>
          simp only
          by_cases h3 : (!s.cont p || (s.kind p == .doc && !cfg.climbToDoc)) = true
          · rw [if_pos h3]; exact hs1
          · rw [if_neg h3]; exact hs1.trans (ih _ _ _)

theorem invUp_cleared (cfg : Cfg) (s : State) (x : Id) : Cleared s (invUp cfg s x) := invUpF_cleared cfg _ _ s x

theorem invUp_same (cfg : Cfg) (s : State) (x : Id) : SameTree s (invUp cfg s x) := (invUp_cleared cfg s x).same

theorem updateRecord_cleared (cfg : Cfg) (s : State) (g : Id) : Cleared s (updateRecord cfg s g) := by
  unfold updateRecord
  split
  · exact (markDirty_cleared s g).trans (invUp_cleared cfg _ g)
  · exact markDirty_cleared s g

theorem updateRecord_same (cfg : Cfg) (s : State) (g : Id) : SameTree s (updateRecord cfg s g) :=
  (updateRecord_cleared cfg s g).same

/-- everything except the caches: the tree, the dirty flags and the tagged-block key lists of the records
(what a later answer or a save can show) -/
structure SameObs (s s' : State) : Prop where
  tree : SameTree s s'
  dirty : s'.dirty = s.dirty
  blocks : s'.blocks = s.blocks

theorem SameObs.refl (s : State) : SameObs s s := ⟨SameTree.refl s, rfl, rfl⟩
theorem SameObs.trans {a b c : State} (h1 : SameObs a b) (h2 : SameObs b c) : SameObs a c :=
  ⟨h1.tree.trans h2.tree, h2.dirty.trans h1.dirty, h2.blocks.trans h1.blocks⟩

theorem sameObs_cache (s : State) (c : Id → Option BBox) : SameObs s { s with cache := c } :=
  ⟨sameTree_cache s c, rfl, rfl⟩

theorem readCache_obs (s : State) (x : Id) : SameObs s (readCache s x).1 := by
  unfold readCache
  split
  · exact SameObs.refl s
  · split
    · exact sameObs_cache s _
    · split
      · exact SameObs.refl s
      · exact sameObs_cache s _

theorem obsBbox_obs (s : State) (x : Id) : SameObs s (obsBbox s x).1 := by
  unfold obsBbox
  split
  · exact SameObs.refl s
  · have := readCache_obs s x
    split <;> simp_all

theorem obsBbox_same (s : State) (x : Id) : SameTree s (obsBbox s x).1 := (obsBbox_obs s x).tree

/-! ### Refusals and observations change the state through `bbox` reads only -/

theorem reprAll_keeps {P : State → Prop} (read : ∀ s x, P s → P (obsBbox s x).1) {s : State} (l : List Id) (h : P s) :
    P (reprAll s l).1 := by
  induction l generalizing s with
  | nil => exact h
  | cons x xs ih =>
    simp only [reprAll]
    split
    · exact ih h
    · have h1 := read s x h
      split
      · rename_i heq; rw [heq] at h1; exact h1
      · rename_i heq; rw [heq] at h1; exact ih h1

theorem refuse_keeps {P : State → Prop} (read : ∀ s x, P s → P (obsBbox s x).1) {s : State} (r : Err × List Id)
    (h : P s) : P (refuse s r).1 := by
  unfold refuse
  have h1 := reprAll_keeps read r.2 h
  split <;> (rename_i heq; rw [heq] at h1; exact h1)

theorem touchAll_keeps {P : State → Prop} (read : ∀ s x, P s → P (obsBbox s x).1) {s : State} (l : List Id) (h : P s) :
    P (touchAll s l).1 := by
  induction l generalizing s with
  | nil => exact h
  | cons x xs ih =>
    simp only [touchAll]
    have h1 := read s x h
    split
    · rename_i heq; rw [heq] at h1; exact h1
    · rename_i heq; rw [heq] at h1; exact ih h1

theorem answer_keeps {P : State → Prop} (read : ∀ s x, P s → P (obsBbox s x).1) {s : State} (x : Id)
    (f : BBox → Out) (h : P s) :
    P (match obsBbox s x with
      | (s1, .error e) => (s1, Out.error e)
      | (s1, .ok b) => (s1, f b)).1 := by
  have h1 := read s x h
  split <;> (rename_i heq; rw [heq] at h1; exact h1)

/-- whatever `bbox` reads keep, every observation keeps -/
theorem observe_keeps {P : State → Prop} (read : ∀ s x, P s → P (obsBbox s x).1) {s : State} (o : Obs) (h : P s) :
    P (observe s o).1 := by
  cases o with
  | bbox x => exact answer_keeps read x Out.box h
  | size x =>
    simp only [observe]
    split
    · exact h
    · exact answer_keeps read x (fun b => Out.pair (b.r - b.l) (b.b - b.t)) h
  | repr x =>
    simp only [observe]
    split
    · exact h
    · exact answer_keeps read x (fun _ => Out.none) h
  | descendants g => simp only [observe]; split <;> exact h
  | len g => exact h
  | index g x =>
    simp only [observe]
    split
    · exact h
    · exact refuse_keeps read _ h
  | count g x => exact h
  | getitem g i =>
    simp only [observe]
    split
    · exact h
    · split <;> exact h
  | contains g x => exact h
  | isVisible x => simp only [observe]; split <;> exact h
  | getter x => exact h
  | touch xs => exact touchAll_keeps read xs h

theorem obsBbox_same_trans {s : State} (s' : State) (x : Id) (h : SameTree s s') : SameTree s (obsBbox s' x).1 :=
  h.trans (obsBbox_same s' x)

theorem reprAll_same (s : State) (l : List Id) : SameTree s (reprAll s l).1 :=
  reprAll_keeps obsBbox_same_trans l (SameTree.refl s)

theorem refuse_same (s : State) (r : Err × List Id) : SameTree s (refuse s r).1 :=
  refuse_keeps obsBbox_same_trans r (SameTree.refl s)

theorem refuse_isError (s : State) (r : Err × List Id) : (refuse s r).2.isError = true := by
  unfold refuse
  split <;> rfl

theorem observe_same (s : State) (o : Obs) : SameTree s (observe s o).1 :=
  observe_keeps obsBbox_same_trans o (SameTree.refl s)

end PsdVerif.TreeSt
