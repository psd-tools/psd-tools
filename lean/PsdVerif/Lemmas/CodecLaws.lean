/-
The two shapes of a round-trip law (DESIGN §3) and the combinators that carry them.

`Lawful`      : `enc v = ok bs → dec (pre ++ bs ++ post) pre.length = ok (v, pre.length + bs.length)` for every `post`
`LawfulAtEnd` : the same with `post = []` only — for readers that look at what follows
                (`is_readable`, read-to-EOF, `while is_readable(fp, k)`).
`block_lawful`: `write_length_block` / `read_length_block` + nested `BytesIO` turn an at-end-lawful body
                into a lawful block (that is why the format wraps such bodies in length blocks).
-/
import PsdVerif.Lemmas.Codec

namespace PsdVerif.Codec

def Lawful {α : Type} (enc : α → Except Err B) (dec : R α) (WF : α → Prop) : Prop :=
  ∀ v bs pre post, WF v → enc v = .ok bs → dec (pre ++ bs ++ post) pre.length = .ok (v, pre.length + bs.length)

def LawfulAtEnd {α : Type} (enc : α → Except Err B) (dec : R α) (WF : α → Prop) : Prop :=
  ∀ v bs pre, WF v → enc v = .ok bs → dec (pre ++ bs) pre.length = .ok (v, pre.length + bs.length)

theorem Lawful.atEnd {α : Type} {enc : α → Except Err B} {dec : R α} {WF : α → Prop} (h : Lawful enc dec WF) :
    LawfulAtEnd enc dec WF := by
  intro v bs pre hwf he
  simpa using h v bs pre [] hwf he

/-- a writer that rejects what `struct.pack` rejects -/
def guard (fits : Prop) [Decidable fits] (bs : B) : Except Err B := if fits then .ok bs else .error .structError

theorem guard_ok {fits : Prop} [Decidable fits] {bs out : B} (h : guard fits bs = .ok out) : fits ∧ out = bs :=
  fits_of_ite_ok h

/-- from the `At` form to the `pre ++ bs ++ post` form -/
theorem lawful_of_reads {α : Type} {encT : α → B} {fits : α → Prop} [DecidablePred fits] {dec : R α} {WF : α → Prop}
    (h : ∀ v, WF v → fits v → Reads dec (encT v) v) :
    Lawful (fun v => guard (fits v) (encT v)) dec WF := by
  intro v bs pre post hwf he
  obtain ⟨hf, rfl⟩ := guard_ok he
  exact h v hwf hf _ _ (At.intro pre (encT v) post)

/-! ### integers, byte strings -/

def encU (w n : Nat) : Except Err B := guard (FitsU w n) (beBytes w n)
def encI16 (z : Int) : Except Err B := guard (FitsI16 z) (i16T z)
def encI32 (z : Int) : Except Err B := guard (FitsI32 z) (i32T z)

theorem u_lawful (w : Nat) : Lawful (encU w) (readU w) (fun _ => True) :=
  lawful_of_reads (encT := beBytes w) (fits := FitsU w) fun _ _ hf => readU_reads hf

theorem u8_lawful : Lawful (encU 1) (readU 1) (fun _ => True) := u_lawful 1
theorem u16_lawful : Lawful (encU 2) (readU 2) (fun _ => True) := u_lawful 2
theorem u32_lawful : Lawful (encU 4) (readU 4) (fun _ => True) := u_lawful 4
theorem u64_lawful : Lawful (encU 8) (readU 8) (fun _ => True) := u_lawful 8

theorem i16_lawful : Lawful encI16 readI16 (fun _ => True) :=
  lawful_of_reads (encT := i16T) (fits := FitsI16) fun _ _ hf => readI16_reads hf

theorem i32_lawful : Lawful encI32 readI32 (fun _ => True) :=
  lawful_of_reads (encT := i32T) (fits := FitsI32) fun _ _ hf => readI32_reads hf

/-- `bytesN n`: a fixed-size field -/
theorem bytesN_lawful (n : Nat) : Lawful (fun (b : B) => guard (b.length = n) b) (readN n) (fun _ => True) :=
  lawful_of_reads (encT := fun b => b) (fits := fun b => b.length = n) fun _ _ hf => readN_reads hf

/-! ### padding, pascal strings, length blocks of raw bytes -/

/-- `padTo`: filler up to a multiple of `divisor`, skipped by a lenient read -/
theorem padTo_lawful (size divisor : Nat) :
    Lawful (fun (_ : Unit) => .ok (zeros (padAmount size divisor))) (readPadding size divisor) (fun _ => True) := by
  intro v bs pre post _ he
  cases he
  rw [readPadding_at (At.intro pre _ post), length_zeros]

theorem pascal_lawful (pad : Nat) :
    Lawful (fun (s : B) => guard (s.length < 256) (pascalT pad s)) (readPascal pad) (fun _ => True) :=
  lawful_of_reads (encT := pascalT pad) (fits := fun s => s.length < 256) fun _ _ hf _ _ h => readPascal_at h hf

theorem lenBlock_lawful (skip w pad : Nat) (hp : (skip + w) % pad = 0) :
    Lawful (fun (b : B) => guard (FitsU w b.length) (lenBlockT skip w pad b)) (readLenBlock skip w pad) (fun _ => True) :=
  lawful_of_reads (encT := lenBlockT skip w pad) (fits := fun b => FitsU w b.length)
    fun _ _ hf => readLenBlock_reads hf hp

/-! ### a length block around an at-end-lawful body -/

def blockEnc {α : Type} (skip w pad : Nat) (enc : α → Except Err B) : α → Except Err B := fun v =>
  match enc v with
  | .ok body => guard (FitsU w body.length) (lenBlockT skip w pad body)
  | .error e => .error e

/-- `data = read_length_block(fp, …); with io.BytesIO(data) as f: return read(f)` -/
def blockDec {α : Type} (skip w pad : Nat) (dec : R α) : R α := fun d p =>
  match readLenBlock skip w pad d p with
  | .ok (data, p') =>
    match dec data 0 with
    | .ok (v, _) => .ok (v, p')
    | .error e => .error e
  | .error e => .error e

theorem block_lawful {α : Type} {enc : α → Except Err B} {dec : R α} {WF : α → Prop} (skip w pad : Nat)
    (hp : (skip + w) % pad = 0) (h : LawfulAtEnd enc dec WF) :
    Lawful (blockEnc skip w pad enc) (blockDec skip w pad dec) WF := by
  intro v bs pre post hwf he
  unfold blockEnc at he
  cases hb : enc v with
  | error e => rw [hb] at he; cases he
  | ok body =>
    rw [hb] at he
    obtain ⟨hf, rfl⟩ := guard_ok he
    have e1 := readLenBlock_at (At.intro pre (lenBlockT skip w pad body) post) hf hp
    have e2 := h v body [] hwf hb
    simp only [List.nil_append, List.length_nil, Nat.zero_add] at e2
    simp only [blockDec, e1, e2]

/-! ### lists -/

def encList {α : Type} (enc : α → Except Err B) : List α → Except Err B
  | [] => .ok []
  | v :: vs =>
    match enc v with
    | .error e => .error e
    | .ok a =>
      match encList enc vs with
      | .error e => .error e
      | .ok b => .ok (a ++ b)

/-- what `enc` emits for `v` (nothing when it rejects): turns `encList … = ok bs` into `bs = listT …` -/
def encBytes {α : Type} (enc : α → Except Err B) (v : α) : B :=
  match enc v with
  | .ok a => a
  | .error _ => []

theorem encList_ok {α : Type} {enc : α → Except Err B} {vs : List α} {bs : B} (he : encList enc vs = .ok bs) :
    bs = listT (encBytes enc) vs ∧ ∀ v ∈ vs, enc v = .ok (encBytes enc v) := by
  induction vs generalizing bs with
  | nil => cases he; exact ⟨rfl, by simp⟩
  | cons v vs ih =>
    simp only [encList] at he
    cases ha : enc v with
    | error e => rw [ha] at he; cases he
    | ok a =>
      rw [ha] at he
      cases hb : encList enc vs with
      | error e => rw [hb] at he; cases he
      | ok b =>
        rw [hb] at he
        cases he
        obtain ⟨rfl, hvs⟩ := ih hb
        have hv : encBytes enc v = a := by simp only [encBytes, ha]
        refine ⟨by rw [listT, hv], ?_⟩
        intro x hx
        rcases List.mem_cons.mp hx with rfl | hx
        · rw [hv, ha]
        · exact hvs x hx

/-- the `At` form of a law -/
theorem Lawful.reads {α : Type} {enc : α → Except Err B} {dec : R α} {WF : α → Prop} (h : Lawful enc dec WF)
    {v : α} {bs : B} (hwf : WF v) (he : enc v = .ok bs) : Reads dec bs v := by
  rintro _ _ ⟨pre, post, rfl, rfl⟩
  exact h v bs pre post hwf he

theorem countList_lawful {α : Type} {enc : α → Except Err B} {dec : R α} {WF : α → Prop} (h : Lawful enc dec WF) :
    ∀ (vs : List α) (bs pre post : B), (∀ v ∈ vs, WF v) → encList enc vs = .ok bs →
      readCount dec vs.length (pre ++ bs ++ post) pre.length = .ok (vs, pre.length + bs.length) := by
  intro vs bs pre post hwf he
  obtain ⟨rfl, hok⟩ := encList_ok he
  exact readCount_at dec (encBytes enc) vs (fun v hv => h.reads (hwf v hv) (hok v hv)) (At.intro pre _ post)

/-- `untilEnd k`: `while is_readable(fp, k): items.append(read(fp))` — lawful at end only:
the loop stops because fewer than `k` bytes are left, which says something about `post`. -/
theorem untilEnd_lawfulAtEnd {α : Type} {enc : α → Except Err B} {dec : R α} {WF : α → Prop} (k : Nat)
    (hk : 1 ≤ k) (h : Lawful enc dec WF) (hsize : ∀ v bs, enc v = .ok bs → k ≤ bs.length) :
    ∀ (vs : List α) (bs pre : B), (∀ v ∈ vs, WF v) → encList enc vs = .ok bs →
      readWhile (isReadable k) (optItem dec) (pre ++ bs) pre.length = .ok (vs, pre.length + bs.length) := by
  intro vs bs pre hwf he
  obtain ⟨rfl, hok⟩ := encList_ok he
  exact readWhile_isReadable_opt hk (fun v hv => h.reads (hwf v hv) (hok v hv)) (fun v hv => hsize v _ (hok v hv))
    ⟨pre, [], (List.append_nil _).symm, rfl⟩ (by simp only [List.length_append]; omega)

end PsdVerif.Codec
