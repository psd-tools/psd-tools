/-
C02 on the payload layer — the generic laws, proved once per combinator of Model/Payload3Base.lean.

`DecOK c` (`dec_returns_encodable` + nothing is normalised out of the domain of C01's round trip) is preserved by every
combinator; with the round-trip law `RtAtEnd` of C01 it gives `Stable c`, the three clauses of C02 for one payload
(`stable_of`). `blocked` is the one combinator with a derived length (the length field of the re-encoded block): its law is
the `…If` form, with exactly that length as the hypothesis (the analogue of `PSD.LenFits` in Props/C02.lean).

`DecOK c` and `DecOKIf c L` are `∀ d p, Rets (c.dec d p) fun v => [L v →] c.WF v ∧ c.Fits v` (`decOK_iff_rets`,
`decOKIf_iff_rets`, by unfolding): that is why a class's law is proved as `fun d p => show Rets (….dec d p) _ from …`, the
chain following the reader (Lemmas/Rets.lean), and why a part's `decOK d q` is a step of such a chain as it stands.
`DecOK c` is `DecOKIf c` without condition (`DecOK.toIf`, `DecOKIf.always`); the unconditional combinator laws are the
conditional ones at `fun _ => True`.

The third clause of `StableIf` (any re-read value is the saved one and re-saves to the same bytes) follows from the second
because the reader is a function; it is spelt out because the property names it. "Consumes everything" is not a clause at
this level: the re-read stops at `c.consumed v`, which for a padded class is before the end of the saved bytes.
-/
import PsdVerif.Lemmas.PayloadResaveFmt

namespace PsdVerif.Payload3
open PsdVerif.Codec PsdVerif.Payload

variable {α β : Type}

theorem decOK_iff_rets {c : PCodec α} : DecOK c ↔ ∀ d p, Rets (c.dec d p) fun v => c.WF v ∧ c.Fits v := Iff.rfl

theorem decOKIf_iff_rets {c : PCodec α} {L : α → Prop} :
    DecOKIf c L ↔ ∀ d p, Rets (c.dec d p) fun v => L v → c.WF v ∧ c.Fits v := Iff.rfl

theorem DecOK.toIf {c : PCodec α} (h : DecOK c) (L : α → Prop) : DecOKIf c L :=
  fun d p v p' hd _ => h d p v p' hd

theorem DecOKIf.always {c : PCodec α} {L : α → Prop} (h : DecOKIf c L) (hl : ∀ v, L v) : DecOK c :=
  fun d p v p' hd => h d p v p' hd (hl v)

theorem DecOKIf.mono {c : PCodec α} {L L' : α → Prop} (h : DecOKIf c L) (hl : ∀ v, L' v → L v) : DecOKIf c L' :=
  fun d p v p' hd l => h d p v p' hd (hl v l)

theorem DecOKIf.encodable {c : PCodec α} {L : α → Prop} (h : DecOKIf c L) {d : B} {p : Nat} {v : α} {p' : Nat}
    (hd : c.dec d p = .ok (v, p')) (hl : L v) : Encodable c v :=
  ⟨c.encT v, by simp only [PCodec.enc, if_pos (h d p v p' hd hl).2]⟩

theorem DecOK.encodable {c : PCodec α} (h : DecOK c) {d : B} {p : Nat} {v : α} {p' : Nat} (hd : c.dec d p = .ok (v, p')) :
    Encodable c v :=
  (h.toIf (fun _ => True)).encodable hd trivial

theorem stableIf_of {c : PCodec α} {L : α → Prop} (h : DecOKIf c L) (hr : c.RtAtEnd) : StableIf c L := by
  intro b v n hd hl
  obtain ⟨hwf, hfits⟩ := h b 0 v n hd hl
  have henc : c.enc v = .ok (c.encT v) := by simp only [PCodec.enc, if_pos hfits]
  have hrt := hr v hwf hfits (c.encT v) 0 (At.self _) (by omega)
  simp only [Nat.zero_add] at hrt
  refine ⟨c.encT v, henc, hrt, ?_⟩
  intro v' n' hd'
  rw [hrt] at hd'
  cases hd'
  exact ⟨rfl, henc⟩

theorem stable_of {c : PCodec α} (h : DecOK c) (hr : c.RtAtEnd) : Stable c := stableIf_of (h.toIf _) hr

theorem rec_decOK (fs : List FI) (hok : fs.all FI.ok = true) : DecOK (rec fs) := by
  intro d p v p' hd
  obtain ⟨a, b, _⟩ := fmtDec_ok fs hok hd
  exact ⟨b, a⟩

theorem seq_decOKIf {a : PCodec α} {b : PCodec β} {La : α → Prop} {Lb : β → Prop} (ha : DecOKIf a La) (hb : DecOKIf b Lb) :
    DecOKIf (seq a b) (fun v => La v.1 ∧ Lb v.2) := fun d p =>
  show Rets ((seq a b).dec d p) _ from
  Rets.bind (ha d p) fun _ q x => Rets.bind (hb d q) fun _ _ y => Rets.ok fun l =>
    ⟨⟨(x l.1).1, (y l.2).1⟩, (x l.1).2, (y l.2).2⟩

theorem seq_decOK {a : PCodec α} {b : PCodec β} (ha : DecOK a) (hb : DecOK b) : DecOK (seq a b) :=
  (seq_decOKIf (ha.toIf (fun _ => True)) (hb.toIf (fun _ => True))).always (fun _ => ⟨trivial, trivial⟩)

/-- the items of a list read with `c`'s reader, each under its side condition -/
theorem items_ok {c : PCodec α} {L : α → Prop} (hc : DecOKIf c L) {d : B} {vs : List α}
    (h : ∀ x ∈ vs, FromItem c.dec d x) (hl : ∀ v ∈ vs, L v) : (∀ v ∈ vs, c.WF v) ∧ listFits c.Fits vs :=
  have hall := fun v hv => let ⟨q, q', hq⟩ := h v hv; hc d q v q' hq (hl v hv)
  ⟨fun v hv => (hall v hv).1, fun v hv => (hall v hv).2⟩

theorem counted_decOKIf {c : PCodec α} {L : α → Prop} (w : Nat) (hc : DecOKIf c L) :
    DecOKIf (counted w c) (fun vs => ∀ v ∈ vs, L v) := fun d p =>
  show Rets ((counted w c).dec d p) _ from
  rets_readU.bind fun _ _ n => (rets_readCount fun {d q} => hc d q).mono fun _ vs hl =>
    ⟨fun v hv => (vs.2 v hv (hl v hv)).1, vs.1 ▸ n, fun v hv => (vs.2 v hv (hl v hv)).2⟩

theorem counted_decOK {c : PCodec α} (w : Nat) (hc : DecOK c) : DecOK (counted w c) :=
  (counted_decOKIf w (hc.toIf (fun _ => True))).always (fun _ _ _ => trivial)

theorem exactly_decOKIf {c : PCodec α} {L : α → Prop} (n : Nat) (hc : DecOKIf c L) :
    DecOKIf (exactly n c) (fun vs => ∀ v ∈ vs, L v) := by
  intro d p vs p' hd
  obtain ⟨hlen, hitems⟩ := readCount_ok (show readCount c.dec n d p = .ok (vs, p') from hd)
  intro hl
  obtain ⟨hw, hf⟩ := items_ok hc hitems hl
  exact ⟨⟨hlen, hw⟩, hf⟩

theorem exactly_decOK {c : PCodec α} (n : Nat) (hc : DecOK c) : DecOK (exactly n c) :=
  (exactly_decOKIf n (hc.toIf (fun _ => True))).always (fun _ _ _ => trivial)

theorem whileR_decOKIf {c : PCodec α} {L : α → Prop} (n pad : Nat) (hc : DecOKIf c L) :
    DecOKIf (whileR n pad c) (fun vs => ∀ v ∈ vs, L v) := by
  intro d p vs p' hd
  have hitems : ∀ x ∈ vs, FromItem c.dec d x := by
    intro x hx
    obtain ⟨q, q', _, hq⟩ := readWhile_ok (show readWhile (isReadable n) (optItem c.dec) d p = .ok (vs, p') from hd) x hx
    exact ⟨q, q', optItem_some hq⟩
  exact items_ok hc hitems

theorem whileR_decOK {c : PCodec α} (n pad : Nat) (hc : DecOK c) : DecOK (whileR n pad c) :=
  (whileR_decOKIf n pad (hc.toIf (fun _ => True))).always (fun _ _ _ => trivial)

theorem padded_decOKIf {c : PCodec α} {L : α → Prop} (pad : Nat) (hc : DecOKIf c L) : DecOKIf (padded pad c) L :=
  fun d p v p' hd => hc d p v p' hd

theorem padded_decOK {c : PCodec α} (pad : Nat) (hc : DecOK c) : DecOK (padded pad c) :=
  fun d p v p' hd => hc d p v p' hd

theorem checked_decOKIf {c : PCodec α} {L : α → Prop} {ok : α → Prop} [DecidablePred ok] {e : Err} (hc : DecOKIf c L) :
    DecOKIf (checked c ok e) L := fun d p =>
  show Rets ((checked c ok e).dec d p) _ from
  Rets.bind (hc d p) fun _ _ x => Rets.guard fun hok => Rets.ok fun l => ⟨⟨(x l).1, hok⟩, (x l).2⟩

theorem checked_decOK {c : PCodec α} {ok : α → Prop} [DecidablePred ok] {e : Err} (hc : DecOK c) : DecOK (checked c ok e) :=
  (checked_decOKIf (hc.toIf (fun _ => True))).always (fun _ => trivial)

theorem tailBytes_decOK : DecOK tailBytes := fun _ _ _ _ _ => ⟨trivial, trivial⟩

theorem pascal_decOK (pw pr : Nat) : DecOK (pascal pw pr) :=
  fun d p v p' hd => ⟨trivial, readPascal_ok (show readPascal pr d p = .ok (v, p') from hd)⟩

/-- the first character of what `decode("utf-16-be", "surrogatepass")` returns is the first unit or a character beyond
the BMP -/
theorem decUnits_head (u : Nat) (r : List Nat) : ∃ t, Unicode.decUnits (u :: r) = u :: t ∨
    ∃ x, Unicode.decUnits (u :: r) = x :: t ∧ 0x10000 ≤ x := by
  cases r with
  | nil => exact ⟨[], Or.inl rfl⟩
  | cons v r =>
    simp only [Unicode.decUnits]
    split
    · exact ⟨_, Or.inr ⟨_, rfl, by omega⟩⟩
    · exact ⟨_, Or.inl rfl⟩

/-- decoding never leaves a high surrogate directly before a low one: the string read is in the domain of C19's law -/
theorem decUnits_noPair : ∀ us : List Nat, Unicode.NoPair (Unicode.decUnits us) := by
  intro us
  fun_induction Unicode.decUnits us with
  | case1 => trivial
  | case2 u => trivial
  | case3 u v r hp ih =>
    cases hr : Unicode.decUnits r with
    | nil => trivial
    | cons y t =>
      rw [hr] at ih
      refine ⟨?_, ih⟩
      unfold Unicode.isHigh
      omega
  | case4 u v r hp ih =>
    obtain ⟨t, ht⟩ := decUnits_head v r
    rcases ht with ht | ⟨x, ht, hx⟩
    · rw [ht] at ih ⊢
      exact ⟨hp, ih⟩
    · rw [ht] at ih ⊢
      refine ⟨?_, ih⟩
      unfold Unicode.isLow
      omega

theorem readUStr_ok {pad : Nat} {d : B} {p : Nat} {s : Payload.Str} {p' : Nat} (h : readUStr pad d p = .ok (s, p')) :
    Unicode.PyStr s ∧ Unicode.NoPair s ∧ (Unicode.encUnits s).length < 4294967296 := by
  unfold readUStr Unicode.readUnicodeString at h
  split at h
  · cases h
  · rename_i n p1 h32
    obtain ⟨hn, _⟩ := Unicode.readU32_spec d p n p1 h32
    simp only at h
    split at h
    · cases h
    · split at h
      · cases h
      · rename_i us hus
        simp only [Except.ok.injEq, Prod.mk.injEq] at h
        obtain ⟨rfl, _⟩ := h
        obtain ⟨hlt, hlen⟩ := Unicode.unitsOfBytes_spec _ us hus
        have hsl := Unicode.slice_length_le d p1 (2 * n)
        refine ⟨Unicode.decUnits_pyStr us hlt, decUnits_noPair us, ?_⟩
        rw [Unicode.encUnits_decUnits us hlt]
        omega

theorem stringElement_decOK (pw pr : Nat) (hp : pr = 1 ∨ pr = pw) (hw : pw ≠ 0) : DecOK (StringElement.codec pw pr) := by
  intro d p s p' hd
  obtain ⟨h1, h2, h3⟩ := readUStr_ok (show readUStr pr d p = .ok (s, p') from hd)
  exact ⟨⟨h1, h2, hp, hw⟩, h3⟩

theorem ustr_decOK : DecOK ustr := stringElement_decOK 1 1 (Or.inl rfl) (by decide)

/-- the one combinator with a derived length: the length field of the re-encoded block -/
theorem blocked_decOKIf {c : PCodec α} {L : α → Prop} (w pad : Nat) (hc : DecOKIf c L) :
    DecOKIf (blocked w pad c) (fun v => L v ∧ FitsU w (c.encT v).length) := fun d p =>
  show Rets ((blocked w pad c).dec d p) _ from
  Rets.skip fun data _ => Rets.bind (hc data 0) fun _ _ x => Rets.ok fun l => ⟨(x l.1).1, (x l.1).2, l.2⟩

/-- ... and that hypothesis is exact: the writer accepts a decoded block iff the re-encoded body fits the length field -/
theorem blocked_fits_iff {c : PCodec α} (w pad : Nat) (v : α) (hf : c.Fits v) :
    (blocked w pad c).Fits v ↔ FitsU w (c.encT v).length :=
  ⟨fun h => h.2, fun h => ⟨hf, h⟩⟩

theorem optTail_decOKIf {c : PCodec α} {L : α → Prop} (hc : DecOKIf c L) : DecOKIf (optTail c) (optFits L) := by
  intro d p o p' hd
  simp only [optTail] at hd
  split at hd
  · split at hd
    · rename_i v q hq
      cases hd
      intro l
      exact hc d p _ _ hq l
    · cases hd
  · cases hd
    exact fun _ => ⟨trivial, trivial⟩

theorem optTail_decOK {c : PCodec α} (hc : DecOK c) : DecOK (optTail c) :=
  (optTail_decOKIf (hc.toIf (fun _ => True))).always (fun o => by cases o <;> simp only [optFits])

end PsdVerif.Payload3
