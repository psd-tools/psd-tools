/-
C09 / C10 — the table machine (`Model/TreeTable.lean`) against the hand-written operations of
`Model/TreeState.lean`: for ANY table whose helper descriptions are the standard ones and whose row for a mutator
is the row written here (`StdRows`, decidable), one run of the table machine IS the hand-written operation, so
every theorem about `step` transfers. The rows are compared with the regenerated table by `decide`
(`Props/C10.lean: current_table_std`).
-/
import PsdVerif.Model.TreeTable
import PsdVerif.Lemmas.TreeInv

namespace PsdVerif.TreeTable
open PsdVerif PsdVerif.TreeSt

theorem checkValidG_std (s : State) (g : Id) (xs : List Id) : checkValidG .std s g xs = checkValid .current s g xs := by
  induction xs with
  | nil => rfl
  | cons x xs ih =>
    simp only [checkValidG, checkValid, Check.std, Cfg.current, Bool.true_and] at ih ⊢
    rw [ih]
    rfl

theorem refreshG_std (s : State) (g : Id) : refreshG .std s g = metadata .current s g := by
  unfold refreshG metadata
  cases desc s g with
  | error e => rfl
  | ok ds =>
    simp only [Refresh.std, Cfg.current]
    cases s.docOf g <;> rfl

theorem updateRecordG_std (s : State) (g : Id) : updateRecordG .std s g = updateRecord .current s g := rfl

/-! ### the rows of the `GroupMixin` mutators as the library writes them -/

def rowAppend : Row :=
  ⟨"GroupMixin.append", [
      .line [.assert (.ne (.var "layer") (.var "self")) [] [],
        .mat "layers_1" (.single (.var "layer")) "[layer]" [],
        .validate (.var "self") (.list "layers_1") [],
        .mutate (.var "self") (.extend (.list "layers_1")) [],
        .refresh (.var "self") [],
        .dirty (.var "self") []]], ""⟩

def rowExtend : Row :=
  ⟨"GroupMixin.extend", [
      .line [.mat "layers_1" (.list "layers") "layers" [],
        .validate (.var "self") (.list "layers_1") [],
        .mutate (.var "self") (.extend (.list "layers_1")) [],
        .refresh (.var "self") [],
        .dirty (.var "self") []]], ""⟩

def rowInsert : Row :=
  ⟨"GroupMixin.insert", [
      .line [.validate (.var "self") (.single (.var "layer")) [],
        .mutate (.var "self") (.insert "index" (.var "layer")) [],
        .refresh (.var "self") [],
        .dirty (.var "self") []]], ""⟩

def rowRemove : Row :=
  ⟨"GroupMixin.remove", [
      .line [.mutate (.var "self") (.remove (.var "layer")) [],
        .dirty (.var "self") []]], "self"⟩

def rowPop : Row :=
  ⟨"GroupMixin.pop", [
      .line [.mutate (.var "self") (.pop "index") [],
        .dirty (.var "self") []]], "popped_"⟩

def rowClear : Row :=
  ⟨"GroupMixin.clear", [
      .line [.mutate (.var "self") (.clear) [],
        .dirty (.var "self") []]], ""⟩

def rowDelitem : Row :=
  ⟨"GroupMixin.__delitem__", [
      .line [.mutate (.var "self") (.delitem "key") [],
        .dirty (.var "self") []]], ""⟩

def rowSetitem : Row :=
  ⟨"GroupMixin.__setitem__", [
      .line [.test 1 (.isSlice "key") [],
        .mat "value_1" (.list "value") "value" [(1, true)],
        .validate (.var "self") (.sliceOr "key" "value_1") [],
        .mutate (.var "self") (.setitem "key" "value_1") [],
        .refresh (.var "self") [],
        .dirty (.var "self") []]], ""⟩

def stdRows : List Row := [rowAppend, rowExtend, rowInsert, rowRemove, rowPop, rowClear, rowDelitem, rowSetitem]

/-- the helpers are described as the standard ones and the rows of the `GroupMixin` mutators are the ones above -/
def StdRows (t : Table) : Bool :=
  t.check == .std && t.refresh == .std && t.dirty == .std && stdRows.all fun r => t.row r.name == some r

theorem StdRows_iff {t : Table} :
    StdRows t = true ↔ t.check = .std ∧ t.refresh = .std ∧ t.dirty = .std ∧ ∀ r, r ∈ stdRows → t.row r.name = some r := by
  simp only [StdRows, Bool.and_eq_true, beq_iff_eq, List.all_eq_true, and_assoc]

/-- the operations for which one run of the table machine is compared with `step` below: the list mutators of
`GroupMixin` other than item and slice assignment (whose row `rowSetitem` is only compared with the regenerated table) -/
def Op.listMutator : Op → Bool
  | .append _ _ | .extend _ _ | .insert _ _ _ | .remove _ _ | .pop _ _ | .clear _ | .delitem _ _ | .delslice _ _ _ => true
  | _ => false

/-- both machines turn a method down at once when the receiver is not a live container -/
theorem method_congr {s : State} {g : Id} {a b : State × Out} (h : s.isGroup g = true → a = b) :
    (if (!s.isGroup g) = true then (s, Out.error Err.attributeError) else a) =
      (if (!s.isGroup g) = true then (s, Out.error Err.attributeError) else b) := by
  split
  · rfl
  · rename_i hg; exact h (by simpa using hg)

theorem step_eq_append {t : Table} (hc : t.check = .std) (hr : t.refresh = .std) (hd : t.dirty = .std)
    (hrow : t.row "GroupMixin.append" = some rowAppend) (s : State) (g x : Id) :
    tableStep t s (.append g x) = step .current s (.append g x) := by
  refine method_congr fun _ => ?_
  · by_cases hx : x = g
    · subst hx
      simp [runRow, hrow, rowAppend, runSegs, runSeg, runSteps, runStep, Env.holds, evalTest, evalObj, Env.get,
        List.lookup, vObj, refuseM, refuse, reprAll, opAppend]
    · have hb : (some x != some g) = true := by simp [hx]
      simp [runRow, hrow, rowAppend, runSegs, runSeg, runSteps, runStep, Env.holds, evalTest, evalObj, Env.get, Env.set,
        List.lookup, vObj, evalArg, readList, hc, hr, hd, checkValidG_std, refreshG_std, updateRecordG_std, refuseM, raise,
        runLOp, opAppend, opExtend, finishInsert, hx, hb]
      cases hv : checkValid Cfg.current s g [x] with
      | some r => simp
      | none =>
        cases hm : metadata Cfg.current (setChildren s g (s.children g ++ [x])) g with
        | mk s2 b => cases b <;> simp [List.lookup, hm]

theorem step_eq_extend {t : Table} (hc : t.check = .std) (hr : t.refresh = .std) (hd : t.dirty = .std)
    (hrow : t.row "GroupMixin.extend" = some rowExtend) (s : State) (g : Id) (xs : List Id) :
    tableStep t s (.extend g xs) = step .current s (.extend g xs) := by
  refine method_congr fun _ => ?_
  · simp [runRow, hrow, rowExtend, runSegs, runSeg, runSteps, runStep, Env.holds, evalObj, Env.get, Env.set,
      List.lookup, vObj, evalArg, readList, hc, hr, hd, checkValidG_std, refreshG_std, updateRecordG_std, refuseM, raise,
      runLOp, opExtend, finishInsert]
    cases hv : checkValid Cfg.current s g xs with
    | some r => simp
    | none =>
      cases hm : metadata Cfg.current (setChildren s g (s.children g ++ xs)) g with
      | mk s2 b => cases b <;> simp [List.lookup, hm]

theorem step_eq_insert {t : Table} (hc : t.check = .std) (hr : t.refresh = .std) (hd : t.dirty = .std)
    (hrow : t.row "GroupMixin.insert" = some rowInsert) (s : State) (g : Id) (i : Int) (x : Id) :
    tableStep t s (.insert g i x) = step .current s (.insert g i x) := by
  refine method_congr fun hgg => ?_
  -- the row has no separate `layer is not self` test (`checkSingle` makes it first): on a live container the item
  -- loop of `_check_valid_layers` refuses `x = g` with the same exception and the same message
  · have hchk : refuse s <$> checkSingle Cfg.current s g x = refuse s <$> checkValid Cfg.current s g [x] := by
      unfold checkSingle
      split
      · rename_i hx
        subst hx
        obtain ⟨hl, -⟩ := isGroup_iff.mp hgg
        by_cases hk : s.kind x = .doc
        · simp [checkValid, State.isLayer, hk, refuse, reprAll]
        · simp [checkValid, State.isLayer, State.live, hl, hk, Cfg.current]
      · rfl
    simp [runRow, hrow, rowInsert, runSegs, runSeg, runSteps, runStep, Env.holds, evalObj, Env.get, 
      List.lookup, vObj, evalArg, hc, hr, hd, checkValidG_std, refreshG_std, updateRecordG_std, refuseM, raise,
      runLOp, opInsert, finishInsert]
    cases hv : checkValid Cfg.current s g [x] with
    | some r =>
      cases hs : checkSingle Cfg.current s g x with
      | some r' => simp [hv, hs] at hchk; simp [hchk]
      | none => simp [hv, hs] at hchk
    | none =>
      cases hs : checkSingle Cfg.current s g x with
      | some r' => simp [hv, hs] at hchk
      | none =>
        cases hm : metadata Cfg.current (setChildren s g (insertAt (s.children g) (clampIdx (s.children g).length i) x)) g with
        | mk s2 b => cases b <;> simp [List.lookup, hm]

theorem step_eq_remove {t : Table} (hd : t.dirty = .std) (hrow : t.row "GroupMixin.remove" = some rowRemove) (s : State) (g x : Id) :
    tableStep t s (.remove g x) = step .current s (.remove g x) := by
  refine method_congr fun _ => ?_
  · by_cases hx : x ∈ s.children g <;>
      simp [runRow, hrow, rowRemove, runSegs, runSeg, runSteps, runStep, Env.holds, evalObj, Env.get, 
        List.lookup, vObj, hd, updateRecordG_std, raise, runLOp, opRemove, finishRemove, hx]

theorem step_eq_clear {t : Table} (hd : t.dirty = .std) (hrow : t.row "GroupMixin.clear" = some rowClear) (s : State) (g : Id) :
    tableStep t s (.clear g) = step .current s (.clear g) := by
  refine method_congr fun _ => ?_
  · simp [runRow, hrow, rowClear, runSegs, runSeg, runSteps, runStep, Env.holds, evalObj, Env.get, 
      List.lookup, vObj, hd, updateRecordG_std, runLOp, opClear, finishRemove]

theorem step_eq_pop {t : Table} (hd : t.dirty = .std) (hrow : t.row "GroupMixin.pop" = some rowPop) (s : State) (g : Id) (i : Int) :
    tableStep t s (.pop g i) = step .current s (.pop g i) := by
  refine method_congr fun _ => ?_
  · cases hn : normIdx (s.children g).length i with
    | none =>
      simp [runRow, hrow, rowPop, runSegs, runSeg, runSteps, runStep, Env.holds, evalObj, Env.get, 
        List.lookup, vObj, raise, runLOp, opPop, hn]
    | some j =>
      cases hl : (s.children g)[j]? <;>
        simp [runRow, hrow, rowPop, runSegs, runSeg, runSteps, runStep, Env.holds, evalObj, Env.get, Env.set,
          List.lookup, vObj, hd, updateRecordG_std, raise, runLOp, opPop, finishRemove, hn, hl]

theorem step_eq_delitem {t : Table} (hd : t.dirty = .std) (hrow : t.row "GroupMixin.__delitem__" = some rowDelitem) (s : State) (g : Id) (i : Int) :
    tableStep t s (.delitem g i) = step .current s (.delitem g i) := by
  refine method_congr fun _ => ?_
  · cases hn : normIdx (s.children g).length i <;>
      simp [runRow, hrow, rowDelitem, runSegs, runSeg, runSteps, runStep, Env.holds, evalObj, Env.get, 
        List.lookup, vObj, hd, updateRecordG_std, raise, runLOp, opDelitem, finishRemove, hn]

theorem step_eq_delslice {t : Table} (hd : t.dirty = .std) (hrow : t.row "GroupMixin.__delitem__" = some rowDelitem) (s : State) (g : Id) (a b : Option Int) :
    tableStep t s (.delslice g a b) = step .current s (.delslice g a b) := by
  refine method_congr fun _ => ?_
  · simp [runRow, hrow, rowDelitem, runSegs, runSeg, runSteps, runStep, Env.holds, evalObj, Env.get, 
      List.lookup, vObj, hd, updateRecordG_std, runLOp, opDelslice, finishRemove]

/-- **one run of the table machine is the hand-written operation** — for any table with the standard helper
descriptions and the rows above -/
theorem tableStep_eq_step {t : Table} (h : StdRows t = true) (s : State) (op : Op) (hop : Op.listMutator op = true) :
    tableStep t s op = step .current s op := by
  obtain ⟨hc, hr, hd, hrows⟩ := StdRows_iff.mp h
  have row : ∀ r, r ∈ stdRows → t.row r.name = some r := hrows
  cases op <;> simp only [Op.listMutator] at hop <;> try cases hop
  · exact step_eq_append hc hr hd (row rowAppend (by simp [stdRows])) s _ _
  · exact step_eq_extend hc hr hd (row rowExtend (by simp [stdRows])) s _ _
  · exact step_eq_insert hc hr hd (row rowInsert (by simp [stdRows])) s _ _ _
  · exact step_eq_remove hd (row rowRemove (by simp [stdRows])) s _ _
  · exact step_eq_pop hd (row rowPop (by simp [stdRows])) s _ _
  · exact step_eq_clear hd (row rowClear (by simp [stdRows])) s _
  · exact step_eq_delitem hd (row rowDelitem (by simp [stdRows])) s _ _
  · exact step_eq_delslice hd (row rowDelitem (by simp [stdRows])) s _ _ _

/-- histories of list mutators: the table machine and the hand-written model run in lockstep -/
theorem tableRun_eq_run {t : Table} (h : StdRows t = true) : ∀ (s : State) (ops : List Op),
    (∀ op, op ∈ ops → Op.listMutator op = true) → tableRun t s ops = run .current s ops
  | _, [], _ => rfl
  | s, op :: ops, hops => by
    have h1 := tableStep_eq_step h s op (hops op (by simp))
    have h2 := tableRun_eq_run h (step .current s op).1 ops (fun o ho => hops o (by simp [ho]))
    simp only [tableRun, run, h1, h2]

end PsdVerif.TreeTable
