/-
C09 — an accepted operation changes the lists exactly like the plain-list operation (`step_acc`), and a guarded
history is the plain-list replay of its accepted operations (`run_refines`).
-/
import PsdVerif.Model.TreeSpec
import PsdVerif.Lemmas.TreeHistory

namespace PsdVerif.TreeSt
open Spec

theorem abs_eq {s : State} {n : Nat} {k : Id → Kind} {l : Id → List Id}
    (h1 : s.next = n) (h2 : s.kind = k) (h3 : s.children = l) : abs s = ⟨n, k, l⟩ := by
  subst h1 h2 h3; rfl

theorem abs_congr {s s' : State} (h1 : s'.next = s.next) (h2 : s'.kind = s.kind) (h3 : s'.children = s.children) :
    abs s' = abs s := by
  unfold abs; rw [h1, h2, h3]

theorem SameTree.abs {s s' : State} (h : SameTree s s') : abs s' = abs s := abs_congr h.next h.kind h.children
theorem SameStruct.abs {s s' : State} (h : SameStruct s s') : abs s' = abs s := abs_congr h.next h.kind h.children

theorem abs_setChildren (s : State) (g : Id) (l : List Id) : abs (setChildren s g l) = (abs s).setList g l := rfl

theorem finishInsert_abs (cfg : Cfg) (s : State) (g : Id) (o : Out) : abs (finishInsert cfg s g o).1 = abs s :=
  abs_congr (finishInsert_frame cfg s g o).next (finishInsert_frame cfg s g o).kind (finishInsert_children cfg s g o)

theorem finishInsert_out {cfg : Cfg} {s : State} {g : Id} {o : Out}
    (h : (finishInsert cfg s g o).2.isError = false) : (finishInsert cfg s g o).2 = o := by
  unfold finishInsert at h ⊢
  split
  · rename_i hm; rw [hm] at h; cases h
  · rfl

theorem updateRecord_abs (cfg : Cfg) (s : State) (g : Id) : abs (updateRecord cfg s g) = abs s :=
  (updateRecord_same cfg s g).abs

/-- what the value of an operation has to be: `some o'` — exactly `o'`; `none` — the specification makes no claim
(attribute edits and box observations) -/
def Agrees (o : Out) : Option Out → Prop
  | none => True
  | some o' => o = o'

/-- `r` is the plain-list result `t'` with value `v` -/
def Is (r : State × Out) (t' : S) (v : Option Out) : Prop := abs r.1 = t' ∧ Agrees r.2 v

theorem Is.spec {r : State × Out} {t : S} {v : Out} (hr : Is r t (some v)) {a : Except Err (S × Option Out)}
    (ha : a = .ok (t, some v)) : ∃ v', a = .ok (abs r.1, v') ∧ Agrees r.2 v' :=
  ⟨some v, by rw [ha, hr.1], hr.2⟩

theorem accepted {s : State} {r : State × Out} {A : Prop} (c : Declined s r ∨ A) (h : r.2.isError = false) : A := by
  rcases c with d | a
  · rw [d.isError] at h; cases h
  · exact a

theorem SplicedTo.acc {cfg : Cfg} {s : State} {g : Id} {xs l' : List Id} {r : State × Out} (sp : SplicedTo cfg s g xs l' r)
    (h : r.2.isError = false) : Is r ((abs s).setList g l') (some .none) := by
  obtain ⟨-, -, rfl⟩ := sp
  exact ⟨by rw [finishInsert_abs]; rfl, finishInsert_out h⟩

theorem ShrunkTo.acc {cfg : Cfg} {s : State} {g : Id} {l' : List Id} {o : Out} {r : State × Out}
    (sh : ShrunkTo cfg s g l' o r) : Is r ((abs s).setList g l') (some o) := by
  obtain ⟨-, -, rfl⟩ := sh
  exact ⟨by unfold finishRemove; rw [updateRecord_abs]; rfl, rfl⟩

theorem opAppend_acc {cfg : Cfg} {s : State} {g x : Id} (h : (opAppend cfg s g x).2.isError = false) :
    Is (opAppend cfg s g x) ((abs s).setList g ((abs s).lists g ++ [x])) (some .none) :=
  (accepted (opAppend_cases cfg s g x) h).acc h

theorem opInsert_acc {cfg : Cfg} {s : State} {g : Id} {k : Int} {x : Id} (h : (opInsert cfg s g k x).2.isError = false) :
    Is (opInsert cfg s g k x)
      ((abs s).setList g (insertAt ((abs s).lists g) (clampIdx ((abs s).lists g).length k) x)) (some .none) :=
  (accepted (opInsert_cases cfg s g k x) h).acc h

theorem opRemove_acc {cfg : Cfg} {s : State} {g x : Id} (h : (opRemove cfg s g x).2.isError = false) :
    x ∈ s.children g ∧ Is (opRemove cfg s g x) ((abs s).setList g (((abs s).lists g).erase x)) (some (.id g)) :=
  (accepted (opRemove_cases cfg s g x) h).imp_right ShrunkTo.acc

theorem eraseAll_of_detached {s : State} {x : Id} (h : Detached s x) : (abs s).eraseAll x = abs s := by
  unfold S.eraseAll abs
  simp only
  congr 1
  funext c
  exact List.erase_of_not_mem (h c)

theorem eraseAll_of_listed {s : State} (i : Inv s) {p x : Id} (hx : x ∈ s.children p) :
    (abs s).eraseAll x = (abs s).setList p ((s.children p).erase x) := by
  unfold S.eraseAll S.setList abs
  simp only
  congr 1
  funext c
  unfold upd
  split
  · rename_i e; subst e; rfl
  · rename_i e
    exact List.erase_of_not_mem (fun hc => e (i.unique hc hx))

theorem leaveParent_abs {cfg : Cfg} {s : State} (i : Inv s) (x : Id) : abs (leaveParent cfg s x).1 = (abs s).eraseAll x := by
  rcases leaveParent_cases cfg s x with e | ⟨p, hx, e⟩
  · have hd := detached_leaveParent (cfg := cfg) i x
    rw [e] at hd ⊢
    exact (eraseAll_of_detached hd).symm
  · rw [e, eraseAll_of_listed i hx]
    exact (opRemove_acc (opRemove_not_error_of_mem cfg s p x hx)).2.1

theorem opMoveToGroup_acc {cfg : Cfg} {s : State} (i : Inv s) {x g : Id}
    (h : (opMoveToGroup cfg s x g).2.isError = false) :
    Is (opMoveToGroup cfg s x g) (moveTo (abs s) x g) (some (.id x)) := by
  rcases opMoveToGroup_cases cfg s x g with d | ⟨-, -, -, -, e⟩
  · rw [d.isError] at h; cases h
  · rw [e] at h ⊢
    obtain ⟨-, h2, e2⟩ := andThen_ok h
    rw [e2]
    refine ⟨?_, rfl⟩
    rw [(opAppend_acc h2).1, leaveParent_abs i x]
    rfl

theorem alloc_abs (s : State) (k : Kind) (p : Option Id) (b : BBox) : abs (alloc s k p b) = (abs s).alloc k := rfl

theorem isGroup_abs (s : State) (g : Id) : (abs s).isGroup g = s.isGroup g := rfl

theorem moveAll_acc {cfg : Cfg} (hself : cfg.itemSelfCheck = true) (n : Id) (s : State) (i : Inv s) (xs : List Id)
    (h : (moveAll cfg n s xs).2.isError = false) :
    abs (moveAll cfg n s xs).1 = moveAllTo n (abs s) xs := by
  induction xs generalizing s with
  | nil => rfl
  | cons x xs ih =>
    simp only [moveAll] at h ⊢
    by_cases h1 : (opMoveToGroup cfg s x n).2.isError = true
    · rw [if_pos h1] at h; rw [h1] at h; cases h
    · rw [if_neg h1] at h ⊢
      have h1' : (opMoveToGroup cfg s x n).2.isError = false := by simpa using h1
      have i1 := (Kept.ofInv hself).keeps_moveToGroup i x n (ne_rec_of_not_isError h1)
      rw [ih _ i1 h, (opMoveToGroup_acc i h1').1]
      rfl

/-- the list that contains `x`, found by search, is the one the parent pointer names -/
theorem containerOf_listed {s : State} (i : Inv s) {p x : Id} (hx : x ∈ s.children p) :
    (abs s).containerOf x = some p := by
  unfold S.containerOf
  cases hf : (List.range (abs s).next).find? (fun c => decide (x ∈ (abs s).lists c)) with
  | none =>
    have := List.find?_eq_none.mp hf p (List.mem_range.mpr (i.live p x hx).1)
    simp [abs, hx] at this
  | some c =>
    have := List.find?_some hf
    have hc : x ∈ s.children c := of_decide_eq_true this
    rw [i.unique hc hx]

theorem containerOf_detached {s : State} {x : Id} (h : Detached s x) : (abs s).containerOf x = none := by
  unfold S.containerOf
  apply List.find?_eq_none.mpr
  intro c _
  simp [abs, h c]

/-- for the repaired code only (`listedParentOnly`, 14de9fd): the snapshot took the parent pointer of the first layer even
when that parent no longer listed it, which no search through the lists can find -/
theorem glParent_abs {s : State} (i : Inv s) (p : Option Id) (x0 : Id) :
    glParent .current s p x0 = (match p with | some q => some q | none => (abs s).containerOf x0) := by
  unfold glParent
  cases p with
  | some q => rfl
  | none =>
    simp only
    cases hp : s.parent x0 with
    | none =>
      simp only
      rw [containerOf_detached]
      exact detached_of_not_listed_by_parent i (fun p' hp' => by rw [hp] at hp'; cases hp')
    | some q =>
      simp only [Cfg.current, Bool.not_true, Bool.false_or]
      by_cases hx : x0 ∈ s.children q
      · have hc : s.cont q = true := i.contOnly q (List.ne_nil_of_mem hx)
        simp only [hc, hx, decide_true, Bool.and_self, if_true]
        rw [containerOf_listed i hx]
      · simp only [hx, decide_false, Bool.and_false, Bool.false_eq_true, if_false]
        rw [containerOf_detached]
        exact detached_of_not_listed_by_parent i (fun p' hp' => by rw [hp] at hp'; cases hp'; exact hx)

theorem abs_setChildren_updateRecord (cfg : Cfg) (s : State) (g : Id) (l : List Id) :
    abs (setChildren (updateRecord cfg s g) g l) = (abs s).setList g l := by
  rw [abs_setChildren, updateRecord_abs]

theorem warnRepr_abs (s : State) (x : Id) : abs (warnRepr s x).1 = abs s := by
  unfold warnRepr
  have h := reprAll_same s [x]
  split <;> (rename_i heq; rw [heq] at h; exact h.abs)

theorem warnRepr_out {s : State} {x : Id} (h : (warnRepr s x).2.isError = false) : (warnRepr s x).2 = .id x := by
  unfold warnRepr at h ⊢
  split
  · rfl
  · rename_i heq; rw [heq] at h; cases h

theorem opDeleteLayer_acc {cfg : Cfg} {s : State} (i : Inv s) {x : Id} (h : (opDeleteLayer cfg s x).2.isError = false) :
    Is (opDeleteLayer cfg s x) ((abs s).eraseAll x) (some (.id x)) := by
  unfold opDeleteLayer at h ⊢
  have hd1 := leaveParent_abs (cfg := cfg) i x
  unfold leaveParent at hd1
  by_cases h1 : (!s.isLayer x) = true
  · rw [if_pos h1] at h; cases h
  · rw [if_neg h1] at h ⊢
    cases hp : s.parent x with
    | none =>
      simp only [hp] at h hd1 ⊢
      exact ⟨by rw [warnRepr_abs]; exact hd1, warnRepr_out h⟩
    | some p =>
      simp only [hp] at h hd1 ⊢
      by_cases hcp : s.cont p = true
      · simp only [hcp, Bool.not_true, Bool.false_eq_true, if_false, if_true, detach_not_error] at h hd1 ⊢
        exact ⟨by unfold finishRemove; rw [updateRecord_abs]; exact hd1, rfl⟩
      · simp only [hcp, Bool.not_false, if_true] at h hd1 ⊢
        exact ⟨by rw [warnRepr_abs]; exact hd1, warnRepr_out h⟩

theorem opMoveUp_acc {cfg : Cfg} {s : State} (i : Inv s) {x : Id} {k : Int} (h : (opMoveUp cfg s x k).2.isError = false) :
    (abs s).listed x = true ∧
    Is (opMoveUp cfg s x k)
      { abs s with lists := fun c => if x ∈ (abs s).lists c then reinsert ((abs s).lists c) x k else (abs s).lists c }
      (some (.id x)) := by
  rcases opMoveUp_cases cfg s x k with d | ⟨p, -, -, -, hx, e⟩
  · rw [d.isError] at h; cases h
  · rw [e] at h ⊢
    obtain ⟨h1, h2, e2⟩ := andThen_ok h
    rw [e2]
    refine ⟨List.any_eq_true.mpr ⟨p, List.mem_range.mpr (i.live p x hx).1, by simp [abs, hx]⟩, ?_, rfl⟩
    rw [(opInsert_acc h2).1, (opRemove_acc h1).2.1]
    unfold S.setList abs
    simp only
    congr 1
    funext c
    by_cases hc : c = p
    · subst hc
      simp only [upd, hx, if_true, reinsert, moveIdx]
    · have hxc : x ∉ s.children c := fun hxc => hc (i.unique hxc hx)
      simp [upd, hc, hxc]

theorem opNewGroup_acc {cfg : Cfg} {s : State} (i : Inv s) (p : Option Id) (h : (opNewGroup cfg s p).2.isError = false) :
    ∃ v, Spec.apply (abs s) (.newGroup p) = .ok (abs (opNewGroup cfg s p).1, v) ∧ Agrees (opNewGroup cfg s p).2 v := by
  refine ⟨some (.id s.next), ?_⟩
  unfold opNewGroup at h ⊢
  cases p with
  | none => exact ⟨rfl, rfl⟩
  | some q =>
    simp only [Spec.apply, isGroup_abs] at h ⊢
    by_cases hg : s.isGroup q = true
    · simp only [hg, if_true] at h ⊢
      by_cases he : (opMoveToGroup cfg (alloc s .group none BBox.zero) s.next q).2.isError = true
      · rw [if_pos he, he] at h; cases h
      · rw [if_neg he]
        exact ⟨by rw [(opMoveToGroup_acc (inv_alloc i .group none BBox.zero) (by simpa using he)).1]; rfl, rfl⟩
    · simp only [hg, Bool.false_eq_true, if_false] at h ⊢
      exact ⟨rfl, rfl⟩

theorem glBody_acc {cfg : Cfg} {s : State} (i : Inv s) (hself : cfg.itemSelfCheck = true) (par : Option Id) (xs : List Id)
    (h : (glBody cfg s par xs).2.isError = false) :
    Is (glBody cfg s par xs) (groupInto (abs s) par xs) (some (.id s.next)) := by
  rw [glBody_eq] at h ⊢
  obtain ⟨h1, h2, e2⟩ := andThen_ok h
  rw [e2]
  refine ⟨?_, rfl⟩
  have hmv := moveAll_acc hself s.next _ (inv_alloc i .group none BBox.zero) xs h1
  rw [alloc_abs] at hmv
  unfold groupInto
  cases par with
  | none => exact hmv
  | some q =>
    simp only [isGroup_abs] at h2 ⊢
    by_cases hq : s.isGroup q = true
    · simp only [hq, if_true] at h2 ⊢
      rw [(opAppend_acc h2).1, hmv]
      rfl
    · simp only [hq, Bool.false_eq_true, if_false]
      exact hmv

theorem opGroupLayers_acc {s : State} (i : Inv s) (xs : List Id) (p : Option Id)
    (h : (opGroupLayers .current s xs p).2.isError = false) :
    ∃ v, Spec.apply (abs s) (.groupLayers xs p) = .ok (abs (opGroupLayers .current s xs p).1, v) ∧
      Agrees (opGroupLayers .current s xs p).2 v := by
  refine ⟨some (.id s.next), ?_⟩
  unfold opGroupLayers at h ⊢
  cases xs with
  | nil => cases h
  | cons x0 rest =>
    simp only at h ⊢
    by_cases h0 : (!s.isLayer x0) = true
    · rw [if_pos h0] at h; cases h
    · rw [if_neg h0] at h ⊢
      cases hp : glPre .current s (glParent .current s p x0) (x0 :: rest) with
      | some r => simp only [hp] at h; rw [refuse_isError] at h; cases h
      | none =>
        simp only [hp] at h ⊢
        have hb := glBody_acc i rfl (glParent .current s p x0) (x0 :: rest) h
        refine ⟨?_, hb.2⟩
        rw [hb.1, glParent_abs i p x0]
        rfl

theorem opSetVisible_abs (cfg : Cfg) (s : State) (x : Id) (v : Bool) : abs (opSetVisible cfg s x v).1 = abs s :=
  (opSetVisible_struct cfg s x v).abs

theorem opSetOffset_abs (cfg : Cfg) (s : State) (x : Id) (h : Bool) (v : Int) : abs (opSetOffset cfg s x h v).1 = abs s :=
  (opSetOffset_struct cfg s x h v).abs

theorem observe_acc {s : State} (o : Obs) (h : (observe s o).2.isError = false) :
    ∃ v, Spec.apply (abs s) (.observe o) = .ok (abs (observe s o).1, v) ∧ Agrees (observe s o).2 v := by
  have hsame := (observe_same s o).abs
  cases o with
  | bbox x => exact ⟨none, by rw [hsame]; rfl, trivial⟩
  | size x => exact ⟨none, by rw [hsame]; rfl, trivial⟩
  | repr x => exact ⟨none, by rw [hsame]; rfl, trivial⟩
  | descendants g => exact ⟨none, by rw [hsame]; rfl, trivial⟩
  | isVisible x => exact ⟨none, by rw [hsame]; rfl, trivial⟩
  | getter x => exact ⟨none, rfl, trivial⟩
  | touch xs => exact ⟨none, by rw [hsame]; rfl, trivial⟩
  | len g => exact ⟨_, rfl, rfl⟩
  | count g x => exact ⟨_, rfl, rfl⟩
  | contains g x => exact ⟨_, rfl, rfl⟩
  | index g x =>
    simp only [observe, Spec.apply] at h ⊢
    by_cases hx : x ∈ s.children g
    · have hx' : x ∈ (abs s).lists g := hx
      rw [if_pos hx, if_pos hx']
      exact ⟨_, rfl, rfl⟩
    · rw [if_neg hx] at h; rw [refuse_isError] at h; cases h
  | getitem g k =>
    simp only [observe, Spec.apply] at h ⊢
    cases hn : normIdx (s.children g).length k with
    | none => rw [hn] at h; cases h
    | some j =>
      have hn' : normIdx ((abs s).lists g).length k = some j := hn
      rw [hn] at h
      simp only [hn'] at h ⊢
      cases hx : (s.children g)[j]? with
      | none => rw [hx] at h; cases h
      | some y =>
        have hx' : ((abs s).lists g)[j]? = some y := hx
        simp only [hx']
        exact ⟨_, rfl, rfl⟩

theorem method_accepted {s : State} {g : Id} {a : State × Out}
    (h : (if (!s.isGroup g) = true then (s, Out.error Err.attributeError) else a).2.isError = false) :
    (if (!s.isGroup g) = true then (s, Out.error Err.attributeError) else a) = a := by
  split at h
  · cases h
  · rename_i hg; rw [if_neg hg]

/-- an accepted operation is the plain-list operation -/
theorem step_acc (s : State) (op : Op) (i : Inv s) (h : (step .current s op).2.isError = false) :
    ∃ v, Spec.apply (abs s) op = .ok (abs (step .current s op).1, v) ∧ Agrees (step .current s op).2 v := by
  cases op with
  | append g x =>
    have e : step .current s (.append g x) = _ := method_accepted h
    rw [e] at h ⊢
    exact (opAppend_acc h).spec rfl
  | extend g xs =>
    have e : step .current s (.extend g xs) = _ := method_accepted h
    rw [e] at h ⊢
    exact ((accepted (opExtend_cases _ s g xs) h).acc h).spec rfl
  | insert g k x =>
    have e : step .current s (.insert g k x) = _ := method_accepted h
    rw [e] at h ⊢
    exact (opInsert_acc h).spec rfl
  | remove g x =>
    have e : step .current s (.remove g x) = _ := method_accepted h
    rw [e] at h ⊢
    obtain ⟨hx, sh⟩ := accepted (opRemove_cases _ s g x) h
    exact sh.acc.spec (if_pos hx)
  | pop g k =>
    have e : step .current s (.pop g k) = _ := method_accepted h
    rw [e] at h ⊢
    obtain ⟨j, x, hn, hx, sh⟩ := accepted (opPop_cases _ s g k) h
    have hn' : normIdx ((abs s).lists g).length k = some j := hn
    have hx' : ((abs s).lists g)[j]? = some x := hx
    refine sh.acc.spec ?_
    simp only [Spec.apply, hn', hx']
    rfl
  | clear g =>
    have e : step .current s (.clear g) = _ := method_accepted h
    rw [e] at h ⊢
    exact (opClear_cases _ s g).acc.spec rfl
  | setitem g k x =>
    have e : step .current s (.setitem g k x) = _ := method_accepted h
    rw [e] at h ⊢
    obtain ⟨j, hn, sp⟩ := accepted (opSetitem_cases _ s g k x) h
    have hn' : normIdx ((abs s).lists g).length k = some j := hn
    refine (sp.acc h).spec ?_
    simp only [Spec.apply, hn']
    rfl
  | setslice g a b xs =>
    have e : step .current s (.setslice g a b xs) = _ := method_accepted h
    rw [e] at h ⊢
    exact ((accepted (opSetslice_cases _ s g a b xs) h).acc h).spec rfl
  | delitem g k =>
    have e : step .current s (.delitem g k) = _ := method_accepted h
    rw [e] at h ⊢
    obtain ⟨j, hn, sh⟩ := accepted (opDelitem_cases _ s g k) h
    have hn' : normIdx ((abs s).lists g).length k = some j := hn
    refine sh.acc.spec ?_
    simp only [Spec.apply, hn']
    rfl
  | delslice g a b =>
    have e : step .current s (.delslice g a b) = _ := method_accepted h
    rw [e] at h ⊢
    exact (opDelslice_cases _ s g a b).acc.spec rfl
  | deleteLayer x => exact (opDeleteLayer_acc i h).spec rfl
  | moveToGroup x g => exact (opMoveToGroup_acc i h).spec rfl
  | moveUp x k => exact (opMoveUp_acc i h).2.spec (if_pos (opMoveUp_acc i h).1)
  | moveDown x k => exact (opMoveUp_acc i (k := -k) h).2.spec (if_pos (opMoveUp_acc i (k := -k) h).1)
  | newGroup p => exact opNewGroup_acc i p h
  | groupLayers xs p => exact opGroupLayers_acc i xs p h
  | newLayer p bx => exact ⟨some (.id s.next), rfl, rfl⟩
  | newDoc bx => exact ⟨some (.id s.next), rfl, rfl⟩
  | setVisible x v =>
    exact ⟨none, by simp only [Spec.apply]; show _ = Except.ok (abs (opSetVisible _ s x v).1, _); rw [opSetVisible_abs],
      trivial⟩
  | setLeft x v =>
    exact ⟨none, by simp only [Spec.apply]; show _ = Except.ok (abs (opSetOffset _ s x true v).1, _); rw [opSetOffset_abs],
      trivial⟩
  | setTop x v =>
    exact ⟨none, by simp only [Spec.apply]; show _ = Except.ok (abs (opSetOffset _ s x false v).1, _); rw [opSetOffset_abs],
      trivial⟩
  | setAttr x =>
    simp only [step, Op.target] at h ⊢
    by_cases hl : (!s.isLayer x) = true
    · rw [if_pos hl] at h; cases h
    · rw [if_neg hl]; exact ⟨none, rfl, trivial⟩
  | setBlocks x ks =>
    simp only [step, Op.target] at h ⊢
    by_cases hl : (!s.isLayer x) = true
    · rw [if_pos hl] at h; cases h
    · rw [if_neg hl]; exact ⟨none, rfl, trivial⟩
  | observe o => exact observe_acc o h

/-- the operations of a history that the code accepted (refused ones are no-ops) -/
def acceptedOps (cfg : Cfg) : State → List Op → List Op
  | _, [] => []
  | s, op :: ops =>
    if (step cfg s op).2.isError then acceptedOps cfg (step cfg s op).1 ops
    else op :: acceptedOps cfg (step cfg s op).1 ops

theorem run_refines (s : State) (ops : List Op) (i : Inv s) (hg : Guarded .current s ops) :
    Spec.runLists (abs s) (acceptedOps .current s ops) = .ok (abs (runState .current s ops)) := by
  induction ops generalizing s with
  | nil => rfl
  | cons op ops ih =>
    obtain ⟨hgd, hne, hrest⟩ := hg
    have i1 := inv_step s op i hgd hne
    have ih' := ih _ i1 hrest
    simp only [acceptedOps]
    by_cases he : (step .current s op).2.isError = true
    · rw [if_pos he]
      -- refused: the lists are the old ones
      have hsame : abs (step .current s op).1 = abs s := by
        cases ho : (step .current s op).2 with
        | error e =>
          have hne' : e ≠ .recursionError := by
            intro h'; subst h'; exact hne ho
          exact (step_ref s op e i ho hne').abs
        | none => rw [ho] at he; cases he
        | id _ => rw [ho] at he; cases he
        | ids _ => rw [ho] at he; cases he
        | box _ => rw [ho] at he; cases he
        | pair _ _ => rw [ho] at he; cases he
        | int _ => rw [ho] at he; cases he
        | bool _ => rw [ho] at he; cases he
      rw [← hsame]
      exact ih'
    · rw [if_neg he]
      obtain ⟨v, hv, _⟩ := step_acc s op i (by simpa using he)
      simp only [Spec.runLists, hv]
      exact ih'

end PsdVerif.TreeSt
