/-
C01, `LayerInfoBlock` (`Lr16` / `Lr32`) — the deep document: the layer and mask section and the whole file with typed
document-level blocks: `lamRead_at` / `docRead_sections` of Lemmas/CodecPsd3.lean with `tblocksDec_at` as the reader of
the block list.
-/
import PsdVerif.Lemmas.PayloadLayerInfo1

namespace PsdVerif.Payload
open PsdVerif PsdVerif.Codec PsdVerif.Psd

theorem map_flat_keys (v pad : Nat) (ts : List TBlock) :
    (ts.map (TBlock.flat v pad)).map TaggedBlock.key = ts.map TBlock.key := by
  simp only [List.map_map]; rfl

/-- typed well-formedness of the document-level blocks, from the skeleton's and the payloads' -/
theorem tblocksWF_of_flat {v : Nat} {ts : List TBlock} (h1 : taggedBlocksWF v (ts.map (TBlock.flat v 4)))
    (h2 : ∀ t ∈ ts, t.WF v 4) : tblocksWF v 4 ts :=
  ⟨h2, by rw [← map_flat_keys v 4 ts]; exact h1.2⟩

theorem DeepLam.flat_refresh (v : Nat) (x : DeepLam) : (x.refresh.flat v) = (x.flat v).refresh := by
  obtain ⟨li, g, ts⟩ := x
  simp only [DeepLam.refresh, DeepLam.flat, LayerAndMask.refresh, LayerAndMask.mk.injEq, true_and]
  cases ts with
  | none => rfl
  | some ts =>
    simp only [Option.map_some, List.map_map, Option.some.injEq]
    apply List.map_congr_left
    intro t _
    exact TBlock.flat_refresh v 4 t

theorem DeepLam.dec_eq_lamRead (v : Nat) : DeepLam.dec v = lamRead (LayerInfo.dec v) (tblocksDec v 4) DeepLam.mk v := rfl

/-- `LayerAndMaskInformation.read` with typed document-level blocks, on the main stream -/
theorem DeepLam.dec_at {v pad : Nat} {x : DeepLam} (hwf : (x.flat v).WF v pad)
    (htb : optAll (fun (t : TBlock) => t.WF v 4) x.taggedBlocks) {d : B} {p : Nat}
    (hat : At d p ((x.flat v).encT v pad)) :
    DeepLam.dec v d p = .ok (x.refresh, p + ((x.flat v).encT v pad).length) := by
  obtain ⟨⟨_, _, _, hfb⟩, hrest⟩ := hwf
  obtain ⟨li, g, ts⟩ := x
  rw [DeepLam.dec_eq_lamRead]
  simp only [DeepLam.flat] at hrest
  cases li with
  | none =>
    obtain ⟨rfl, hts⟩ := hrest
    cases ts with
    | some ts => simp at hts
    | none => exact lamRead_empty hat
  | some li =>
    obtain ⟨hli, hg, hts, hgt⟩ := hrest
    cases ts with
    | none => simp at hts
    | some ts =>
      simp only [Option.map_some] at hts hgt
      simp only [optAll] at htb
      have hbody : LayerAndMask.bodyT v pad ⟨some li, g, some (ts.map (TBlock.flat v 4))⟩ =
          li.encT v pad ++ (optT' GlobalLayerMaskInfo.encT g ++ tblocksT v 4 ts) := by
        simp only [LayerAndMask.bodyT, optT', List.append_assoc, tblocksT_flat]
      simp only [DeepLam.flat, Option.map_some, LayerAndMask.encT, hbody] at hfb hat ⊢
      exact lamRead_at (fun h => LayerInfo.dec_step hli h) (by have := li.length_encT_ge v pad; omega) hg
        (fun h => tblocksDec_at (Or.inr (Or.inr rfl)) (tblocksWF_of_flat hts htb) (some _) h
          (fun e he => by cases he; exact Nat.le_refl _) (by simp [taggedCond]))
        (fun hn => by have := hgt hn; simp only [Option.some.injEq, List.map_eq_nil_iff] at this; subst this; exact ⟨rfl, rfl⟩)
        hfb hat

/-! ## the whole file -/

theorem DeepPSD.read_eq_docRead : DeepPSD.read = docRead resourcesDec DeepLam.dec DeepPSD.mk := rfl

theorem DeepPSD.read_encT {pad : Nat} {x : DeepPSD} (hwf : x.WF pad) :
    DeepPSD.read (x.encT pad) 0 = .ok (x.refresh, (x.encT pad).length) := by
  obtain ⟨⟨hh, hc, hr, hl, hi⟩, htb⟩ := hwf
  rw [DeepPSD.read_eq_docRead]
  refine docRead_sections hh hc hi (resourcesDec_at hr) (DeepLam.dec_at hl htb) ?_
  simp only [DeepPSD.encT, PSD.encT, DeepPSD.flat, List.append_assoc]

/-- what the deep writer emits, the skeleton writer emits for the bytes view -/
theorem DeepPSD.enc_below {pad : Nat} {x : DeepPSD} {bs : B} (h : DeepPSD.enc pad x = .ok bs) : PSD.enc pad x.flat = .ok bs := by
  unfold DeepPSD.enc at h
  split at h
  · cases h
  · rename_i hw
    split at h
    · rw [← Except.ok.inj h]
      simp only [PSD.enc, hw, DeepPSD.encT]
    · cases h

theorem DeepPSD.enc_ok {pad : Nat} {x : DeepPSD} {bs : B} (h : DeepPSD.enc pad x = .ok bs) : bs = x.encT pad :=
  PSD.enc_ok (DeepPSD.enc_below h)

theorem DeepPSD.enc_of {pad : Nat} {x : DeepPSD} (hw : x.flat.writeError pad = none) (hf : x.payloadFits) :
    DeepPSD.enc pad x = .ok (x.encT pad) := by
  unfold DeepPSD.enc
  rw [hw]
  exact if_pos hf

theorem DeepPSD.flat_refresh (x : DeepPSD) : x.refresh.flat = x.flat.refresh := by
  simp only [DeepPSD.refresh, DeepPSD.flat, PSD.refresh_eq, DeepLam.flat_refresh]

theorem DeepPSD.payloadFits_refresh (x : DeepPSD) : x.refresh.payloadFits ↔ x.payloadFits := by
  obtain ⟨h, c, r, ⟨li, g, ts⟩, i⟩ := x
  cases ts with
  | none => exact Iff.rfl
  | some ts =>
    simp only [DeepPSD.payloadFits, DeepPSD.refresh, DeepLam.refresh, Option.map_some, optAll, List.mem_map,
      forall_exists_index, and_imp, forall_apply_eq_imp_iff₂, TBlock.refresh, Payload.Fits_refresh]

/-- re-writing the document object as `write` left it (= as it is re-read) gives the same bytes -/
theorem DeepPSD.enc_refresh (pad : Nat) (x : DeepPSD) : DeepPSD.enc pad x.refresh = DeepPSD.enc pad x := by
  unfold DeepPSD.enc DeepPSD.encT
  simp only [DeepPSD.flat_refresh, PSD.writeError_refresh, PSD.encT_refresh, DeepPSD.payloadFits_refresh]

end PsdVerif.Payload
