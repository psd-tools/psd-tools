/-
C01 payload classes — psd/patterns.py: the laws of `VirtualMemoryArray`, `VirtualMemoryArrayList`, `Pattern`, `Patterns`.
-/
import PsdVerif.Lemmas.PayloadSimple
import PsdVerif.Model.PayloadPatterns

namespace PsdVerif.Payload
open PsdVerif.Codec

/-- `read_fmt("nX")` for an unsigned width: `n` integers back to back -/
theorem readUList_step {w n : Nat} {vs : List Nat} (hn : vs.length = n) (hf : listFits (FitsU w) vs) {d : B} {p : Nat} {rest : B}
    (h : At d p (listT (beBytes w) vs ++ rest)) :
    readCount (readU w) n d p = .ok (vs, p + w * n) ∧ At d (p + w * n) rest :=
  readCount_fixed_step hn (fun v hv _ _ h => readU_at h (hf v hv)) (fun v _ => length_beBytes w v) h

theorem readI16List_step {n : Nat} {vs : List Int} (hn : vs.length = n) (hf : listFits FitsI16 vs) {d : B} {p : Nat} {rest : B}
    (h : At d p (listT i16T vs ++ rest)) :
    readCount readI16 n d p = .ok (vs, p + 2 * n) ∧ At d (p + 2 * n) rest :=
  readCount_fixed_step hn (fun v hv _ _ h => readI16_at h (hf v hv)) (fun v _ => length_i16T v) h

theorem readPy_sub (k n : Nat) {d : B} {p : Nat} (h : p + n ≤ d.length) :
    readPy (((k + n : Nat) : Int) - (k : Int)) d p = readUpTo n d p := by
  rw [show (((k + n : Nat) : Int) - (k : Int)) = (n : Int) by omega]
  exact readPy_natCast n h

/-! ## VirtualMemoryArray -/

namespace VMAContent

theorem length_bodyT (c : VMAContent) (h4 : c.rectangle.length = 4) : c.bodyT.length = 23 + c.data.length := by
  have hl := length_listT_const (beBytes 4) 4 c.rectangle (fun v _ => length_beBytes 4 v)
  simp only [bodyT, List.length_append, length_beBytes, hl, h4]

theorem bodyP_eq (c : VMAContent) : c.bodyP = (c.bodyT, c.bodyT.length) := by
  simp only [bodyP, bodyT, wBytes_eq, wSeq_eq, List.append_assoc]

end VMAContent

namespace VMA

theorem encP_eq (x : VMA) : x.encP = (x.encT, x.encT.length) := by
  obtain ⟨iw, c⟩ := x
  unfold encP encT
  by_cases h0 : iw = 0
  · simp only [h0, if_true, wBytes_eq, List.append_nil]
  · simp only [h0, if_false]
    cases c with
    | none => simp only [wBytes_eq, wSeq_eq]
    | some c => simp only [VMAContent.bodyP_eq, wBytes_eq, wLenBlock_eq, wSeq_eq]

theorem dec_step {x : VMA} (hwf : x.WF) (hf : x.Fits) {d : B} {p : Nat} {rest : B} (h : At d p (x.encT ++ rest)) :
    dec d p = .ok (x, p + x.encT.length) ∧ At d (p + x.encT.length) rest := by
  refine ⟨?_, h.right⟩
  obtain ⟨iw, c⟩ := x
  obtain ⟨fiw, fc⟩ := hf
  have hwf : contentWF iw c := hwf
  simp only at fiw fc
  unfold encT at h ⊢
  by_cases h0 : iw = 0
  · have hc : c = none := by
      cases c with
      | none => rfl
      | some c => exact absurd h0 hwf.1
    subst hc
    simp only [h0, if_true, List.append_nil] at h ⊢
    obtain ⟨e1, _⟩ := readU_step h (by decide)
    simp only [dec, bind, Except.bind, e1, if_true, length_beBytes]
  · simp only [h0, if_false] at h ⊢
    cases c with
    | none =>
      simp only [List.append_assoc] at h
      obtain ⟨e1, h⟩ := readU_step h fiw
      obtain ⟨e2, _⟩ := readU_step h (by decide)
      simp only [dec, bind, Except.bind, e1, if_neg h0, e2, if_true, List.length_append, length_beBytes, Nat.add_assoc]
    | some c =>
      have hcomp : c.compression ∈ Psd.G.compressions := hwf.2
      obtain ⟨f1, ⟨r4, fr⟩, f2, f3, flen⟩ := fc h0
      have hbl := c.length_bodyT r4
      have hne : ¬ c.bodyT.length = 0 := by omega
      have h : At d p (beBytes 4 iw ++ (beBytes 4 c.bodyT.length ++ (beBytes 4 c.depth ++ (listT (beBytes 4) c.rectangle ++
          (beBytes 2 c.pixelDepth ++ (beBytes 1 c.compression ++ (c.data ++ rest))))))) := by
        simpa only [lenBlockT, zeros, List.replicate_zero, List.nil_append, padAmount_one, List.append_nil, VMAContent.bodyT,
          List.append_assoc] using h
      obtain ⟨e1, h⟩ := readU_step h fiw
      obtain ⟨e2, h⟩ := readU_step h flen
      obtain ⟨e3, h⟩ := readU_step h f1
      obtain ⟨e4, h⟩ := readUList_step r4 fr h
      obtain ⟨e5, h⟩ := readU_step h f2
      obtain ⟨e6, h⟩ := readU_step h f3
      have e7 := readUpTo_at h.left
      have hpy : readPy ((c.bodyT.length : Int) - 23) d (p + 4 + 4 + 4 + 4 * 4 + 2 + 1) =
          readUpTo c.data.length d (p + 4 + 4 + 4 + 4 * 4 + 2 + 1) := by
        rw [hbl]; exact readPy_sub 23 c.data.length (by have := h.left.bound; omega)
      have hL : (beBytes 4 iw ++ lenBlockT 0 4 1 c.bodyT).length = 4 + 4 + 4 + 4 * 4 + 2 + 1 + c.data.length := by
        simp only [List.length_append, length_beBytes, length_lenBlockT, padAmount_one, hbl]; omega
      simp only [dec, bind, Except.bind, e1, if_neg h0, e2, if_neg hne, e3, e4, e5, e6, hpy, e7, if_pos hcomp, hL,
        Nat.add_assoc]

theorem rt : codec.RtAnywhere := .of_fields fun _ hwf hf _ _ h => (dec_step hwf hf h.nil_right).1
theorem count : codec.Count := encP_eq

end VMA

/-! ## VirtualMemoryArrayList -/

namespace VMAL

theorem bodyP_eq (x : VMAL) : x.bodyP = (x.bodyT, x.bodyT.length) := by
  simp only [bodyP, bodyT]
  rw [wList_eq VMA.encP VMA.encT x.channels (fun c _ => c.encP_eq)]
  simp only [wBytes_eq, wSeq_eq]

theorem encP_eq (x : VMAL) : x.encP = (x.encT, x.encT.length) := by
  simp only [encP, encT, bodyP_eq, wBytes_eq, wLenBlock_eq, wSeq_eq]

theorem dec_step {x : VMAL} (hwf : x.WF) (hf : x.Fits) {d : B} {p : Nat} {rest : B} (h : At d p (x.encT ++ rest)) :
    dec d p = .ok (x, p + x.encT.length) ∧ At d (p + x.encT.length) rest := by
  refine ⟨?_, h.right⟩
  obtain ⟨hv, hch⟩ := hwf
  obtain ⟨fv, ⟨r4, fr⟩, ⟨h2, fn⟩, fch, flen⟩ := hf
  simp only [encT, List.append_assoc] at h
  obtain ⟨e1, h⟩ := readU_step h fv
  obtain ⟨e2, _⟩ := readLenBlock_step h flen (by decide)
  -- the nested stream
  have hn : At x.bodyT 0 (listT (beBytes 4) x.rectangle ++ (beBytes 4 (x.channels.length - 2) ++ (listT VMA.encT x.channels ++ []))) := by
    have := At.self x.bodyT
    simpa only [bodyT, List.append_assoc, List.append_nil] using this
  obtain ⟨n1, hn⟩ := readUList_step r4 fr hn
  obtain ⟨n2, hn⟩ := readU_step hn fn
  obtain ⟨n3, _⟩ := readCount_step VMA.dec VMA.encT x.channels
    (fun c hc d p h => (VMA.dec_step (hch c hc) (fch c hc) h.nil_right).1) hn
  have hcnt : x.channels.length - 2 + 2 = x.channels.length := by omega
  obtain ⟨version, rect, chans⟩ := x
  simp only at *
  subst hv
  simp only [dec, bind, Except.bind, e1, if_true, e2, n1, n2, hcnt, n3, encT, List.length_append, length_beBytes, Nat.add_assoc]

theorem rt : codec.RtAnywhere := .of_fields fun _ hwf hf _ _ h => (dec_step hwf hf h.nil_right).1
theorem count : codec.Count := encP_eq

end VMAL

/-! ## Pattern -/

namespace Pattern

theorem length_rowT (row : List Nat) : (rowT row).length = row.length := by
  have := length_listT_const (beBytes 1) 1 row (fun v _ => length_beBytes 1 v)
  simpa [rowT] using this

theorem rows_step {rows : List (List Nat)} (hf : listFits (fun (row : List Nat) => row.length = 3 ∧ listFits (FitsU 1) row) rows)
    {d : B} {p : Nat} {rest : B} (h : At d p (listT rowT rows ++ rest)) :
    readCount (readCount (readU 1) 3) rows.length d p = .ok (rows, p + 3 * rows.length) ∧ At d (p + 3 * rows.length) rest := by
  have hl := length_listT_const rowT 3 rows (fun r hr => by rw [length_rowT, (hf r hr).1])
  obtain ⟨e, h'⟩ := readCount_step (readCount (readU 1) 3) rowT rows
    (fun r hr d p h => by
      have h' : At d p (listT (beBytes 1) r ++ []) := by simpa [rowT] using h
      have := (readUList_step (hf r hr).1 (hf r hr).2 h').1
      rw [this, length_rowT, (hf r hr).1]) h
  rw [hl] at e h'
  exact ⟨e, h'⟩

theorem tableP_eq (t : Option (List (List Nat))) : tableP t = (tableT t, (tableT t).length) := by
  cases t with
  | none => rfl
  | some rows =>
    cases rows with
    | nil => rfl
    | cons r rs =>
      simp only [tableP, tableT]
      rw [wList_eq (fun row => wBytes (rowT row)) rowT (r :: rs) (fun row _ => rfl)]
      simp only [wBytes_eq, wSeq_eq]

theorem encP_eq (x : Pattern) : x.encP = (x.encT, x.encT.length) := by
  simp only [encP, encT, wUStr_eq, tableP_eq, VMAL.encP_eq, wPascal_eq, wBytes_eq, wSeq_eq, List.append_assoc]

theorem dec_step {x : Pattern} (hwf : x.WF) (hf : x.Fits) {d : B} {p : Nat} {rest : B} (h : At d p (x.encT ++ rest)) :
    dec d p = .ok (x, p + x.encT.length) ∧ At d (p + x.encT.length) rest := by
  refine ⟨?_, h.right⟩
  obtain ⟨version, mode, point, name, pid, table, data⟩ := x
  obtain ⟨hv, hmode, ⟨hpy, hnp⟩, hascii, htable, hdata⟩ := hwf
  obtain ⟨fv, fm, ⟨p2, fp⟩, fname, fid, ftab, fdata⟩ := hf
  simp only at hv hmode hpy hnp hascii htable hdata fv fm p2 fp fname fid ftab fdata
  subst hv
  have hL : (encT ⟨1, mode, point, name, pid, table, data⟩).length = 4 + (4 + (2 * 2 + ((ustrT 1 name).length +
      ((pascalT 1 pid).length + ((tableT table).length + data.encT.length))))) := by
    have hl := length_listT_const i16T 2 point (fun v _ => length_i16T v)
    simp only [encT, List.length_append, length_beBytes, hl, p2]; omega
  rw [hL]
  simp only [encT, List.append_assoc] at h
  obtain ⟨e1, h1⟩ := readU_step h fv
  obtain ⟨e2, h2⟩ := readU_step h1 fm
  obtain ⟨e3, h3⟩ := readI16List_step p2 fp h2
  obtain ⟨e4, h4⟩ := readUStr_step ⟨hpy, fname⟩ hnp (by decide) h3
  obtain ⟨e5, h5⟩ := readPascal_step h4 fid
  cases table with
  | some rows =>
    obtain ⟨hdec, h256⟩ := htable
    have hidx : mode = GP.colorModeIndexed := of_decide_eq_true hdec
    clear hdec
    have hrne : rows ≠ [] := by intro hnil; rw [hnil] at h256; simp at h256
    obtain ⟨r0, rs, rfl⟩ := List.exists_cons_of_ne_nil hrne
    simp only [tableT, tableFits, List.append_assoc] at h5 ftab ⊢
    obtain ⟨e6, h6⟩ := rows_step ftab h5
    rw [h256] at e6 h6
    obtain ⟨e7, h7⟩ := readSkip_step h6
    obtain ⟨e8, _⟩ := VMAL.dec_step hdata fdata h7
    have hl := length_listT_const rowT 3 (r0 :: rs) (fun r hr => by rw [length_rowT, (ftab r hr).1])
    simp only [dec, bind, Except.bind, e1, if_true, e2, if_pos hmode, e3, e4, e5, hascii, if_pos hidx, e6, e7, e8]
    simp only [List.length_append, hl, h256, length_zeros, Nat.add_assoc]
  | none =>
    have hidx : ¬ mode = GP.colorModeIndexed := of_decide_eq_false htable
    simp only [tableT, List.nil_append] at h5 ⊢
    obtain ⟨e8, _⟩ := VMAL.dec_step hdata fdata h5
    simp only [dec, bind, Except.bind, e1, if_true, e2, if_pos hmode, e3, e4, e5, hascii, if_neg hidx, e8]
    simp only [List.length_nil, Nat.zero_add, Nat.add_assoc]

theorem rt : codec.RtAnywhere := .of_fields fun _ hwf hf _ _ h => (dec_step hwf hf h.nil_right).1
theorem count : codec.Count := encP_eq

end Pattern

/-! ## Patterns -/

theorem Patterns.rt : Patterns.codec.RtAtEnd := by
  intro xs hwf hf d p h hend
  simp only [Patterns.codec] at *
  refine readWhile_isReadable (enc := fun (x : Pattern) => lenBlockT 0 4 4 x.encT) (by decide) ?_
    (fun x _ => by have hl := length_lenBlockT 0 4 4 x.encT; omega) h (by omega)
  intro x hx q hq
  have e1 := readLenBlock_at hq (hf x hx).2 (by decide)
  have e2 := (Pattern.dec_step (hwf x hx) (hf x hx).1 (At.self x.encT).nil_right).1
  simp only [bind, Except.bind, e1, e2]

theorem length_listT_mod {α : Type} (f : α → B) (k : Nat) (vs : List α) (h : ∀ v ∈ vs, (f v).length % k = 0) :
    (listT f vs).length % k = 0 := by
  induction vs with
  | nil => exact Nat.zero_mod k
  | cons v vs ih =>
    rw [listT, List.length_append, Nat.add_mod, h v (by simp), ih (fun x hx => h x (by simp [hx]))]
    rfl

/-- every pattern sits in a length block padded to 4 -/
theorem Patterns.length_encT_mod (xs : List Pattern) : (Patterns.codec.encT xs).length % 4 = 0 :=
  length_listT_mod _ 4 xs fun x _ => by
    have := add_padAmount_mod (x.encT.length + (0 + 4)) 4 (by decide)
    rw [length_lenBlockT]
    omega

theorem Patterns.count : Patterns.codec.Count := by
  intro xs
  simp only [Patterns.codec]
  exact wList_eq _ _ xs (fun x _ => by rw [Pattern.encP_eq, wLenBlock_eq])

end PsdVerif.Payload
