/-
C17. First the two notions the statement of `C17.merged_equals_composite` uses beside the model's: whether the
old merged image can be read, and its planes. Then helper lemmas: lists of equal-size planes (join / split), the
sources of the planes chosen by `mergedRoutes`, the regeneration, what a save keeps, histories.
Core Lean only.
-/
import PsdVerif.Model.Merged
import PsdVerif.Lemmas.Pixels

namespace PsdVerif.MergedPixels
open PsdVerif PsdVerif.Merged

/-- can the merged image that is there be read (`try: get_data(header)`) -/
def oldReadable (s : DocState) : Bool :=
  match getData s.imageData s.info.header with | .ok _ => true | .error _ => false

/-- its planes (`[]` when it cannot be read: the planes are then filled) -/
def oldPlanes (s : DocState) : List (List UInt8) :=
  match getData s.imageData s.info.header with | .ok ps => ps | .error _ => []

end PsdVerif.MergedPixels

namespace PsdVerif.Merged
open PsdVerif PsdVerif.Pixels PsdVerif.MergedPixels

theorem channels_pos {h : Header} (hch : h.cmode.expected ≤ h.channels) : 0 < h.channels :=
  Nat.lt_of_lt_of_le (by cases h.cmode <;> decide) hch

theorem flatten_length_of_all {β : Type} (ps : List (List β)) (size : Nat)
    (h : ∀ p ∈ ps, p.length = size) : ps.flatten.length = ps.length * size := by
  induction ps with
  | nil => simp
  | cons p ps ih =>
    have hp := h p (List.mem_cons_self ..)
    have := ih (fun q hq => h q (List.mem_cons_of_mem _ hq))
    simp [List.flatten_cons, hp, this, Nat.add_mul, Nat.add_comm]

theorem chunks_flatten (ps : List (List UInt8)) (size : Nat) (h : ∀ p ∈ ps, p.length = size) :
    chunks ps.flatten size ps.length = ps := by
  induction ps with
  | nil => simp [chunks]
  | cons p ps ih =>
    have hp := h p (List.mem_cons_self ..)
    have := ih (fun q hq => h q (List.mem_cons_of_mem _ hq))
    simp only [List.flatten_cons, List.length_cons, chunks]
    rw [List.take_left' hp, List.drop_left' hp, this]

theorem chunks_length (data : List UInt8) (size n : Nat) : (chunks data size n).length = n := by
  induction n generalizing data with
  | zero => simp [chunks]
  | succ n ih => simp [chunks, ih]

theorem chunks_all_length (data : List UInt8) (size n : Nat) (h : size * n ≤ data.length) :
    ∀ p ∈ chunks data size n, p.length = size := by
  induction n generalizing data with
  | zero => simp [chunks]
  | succ n ih =>
    intro p hp
    simp only [chunks, List.mem_cons] at hp
    rw [Nat.mul_succ] at h
    rcases hp with rfl | hp
    · simp only [List.length_take]
      omega
    · refine ih (data.drop size) ?_ p hp
      simp only [List.length_drop]
      omega

theorem section_eq (h : Header) : sectionBytes h = h.channels * planeBytes h := by
  unfold sectionBytes planeBytes
  simp [Nat.mul_comm, Nat.mul_left_comm, Nat.mul_assoc]

theorem getData_setData (c : Comp) (planes : List (List UInt8)) (h : Header)
    (hl : planes.length = h.channels) (hs : ∀ p ∈ planes, p.length = planeBytes h) (hc : 0 < h.channels) :
    getData (setData c planes h) h = .ok planes := by
  have hflat : planes.flatten.length = sectionBytes h := by
    rw [flatten_length_of_all planes _ hs, hl, section_eq]
  have hdiv : sectionBytes h / h.channels = planeBytes h := by
    rw [section_eq]; exact Nat.mul_div_cancel_left _ hc
  have hne : h.channels ≠ 0 := by omega
  have hchunks : chunks planes.flatten (planeBytes h) h.channels = planes := by
    rw [← hl]; exact chunks_flatten planes _ hs
  cases c <;>
    simp [getData, setData, hflat, hdiv, hne, hchunks, List.take_of_length_le]

/-- a source that `realise` can serve: colour channels the composite has, old planes that exist -/
def PlaneSrc.Valid (ncolor nold : Nat) : PlaneSrc → Prop
  | .colorFlat k => k < ncolor
  | .color k => k < ncolor
  | .alpha => True
  | .old k => k < nold
  | .fill => True

theorem pySet_ok {β : Type} (l : List β) (i : Nat) (x : β) (h : i < l.length) :
    pySet l i x = .ok (l.set i x) := by simp [pySet, h]

theorem set_valid (nc no : Nat) (l : List PlaneSrc) (i : Nat) (x : PlaneSrc)
    (hl : ∀ y ∈ l, y.Valid nc no) (hx : x.Valid nc no) : ∀ y ∈ l.set i x, y.Valid nc no := by
  intro y hy
  rcases List.mem_or_eq_of_mem_set hy with h | h
  · exact hl y h
  · exact h ▸ hx

theorem setColours_ok (flat : Bool) (nc no : Nat) (n : Nat) (l : List PlaneSrc) (hn : n ≤ l.length)
    (hnc : n ≤ nc) (hl : ∀ y ∈ l, y.Valid nc no) :
    ∃ l', setColours flat n l = .ok l' ∧ l'.length = l.length ∧ ∀ y ∈ l', y.Valid nc no := by
  induction n with
  | zero => exact ⟨l, rfl, rfl, hl⟩
  | succ n ih =>
    obtain ⟨l', h1, h2, h3⟩ := ih (by omega) (by omega)
    refine ⟨l'.set n (if flat then .colorFlat n else .color n), ?_, by simp [h2], ?_⟩
    · simp only [setColours, h1]
      exact pySet_ok _ _ _ (by omega)
    · apply set_valid nc no l' n _ h3
      cases flat <;> simp [PlaneSrc.Valid] <;> omega

theorem mergedRoutes_ok (m : Meta) (rd : Bool)
    (hd : m.header.depth = 8 ∨ m.header.depth = 16 ∨ m.header.depth = 32) (hb : m.header.cmode ≠ .bitmap)
    (hch : m.header.cmode.expected ≤ m.header.channels) :
    ∃ rs, mergedRoutes m rd = .ok (some rs) ∧ rs.length = m.header.channels ∧
      ∀ r ∈ rs, r.Valid m.header.cmode.expected (if rd then m.header.channels else 0) := by
  have hstart : ∀ y ∈ (List.range m.header.channels).map
      (fun k => if rd then PlaneSrc.old k else .fill),
      y.Valid m.header.cmode.expected (if rd then m.header.channels else 0) := by
    intro y hy
    simp only [List.mem_map, List.mem_range] at hy
    obtain ⟨k, hk, rfl⟩ := hy
    cases rd <;> simp [PlaneSrc.Valid, hk]
  obtain ⟨l', h1, h2, h3⟩ := setColours_ok
    (!(decide (m.header.channels > m.header.cmode.expected) && m.hasTransparency) || decide (m.header.cmode = .rgb))
    m.header.cmode.expected (if rd then m.header.channels else 0) m.header.cmode.expected
    ((List.range m.header.channels).map (fun k => if rd then PlaneSrc.old k else .fill))
    (by simp; exact hch) (Nat.le_refl _) hstart
  simp only [List.length_map, List.length_range] at h2
  unfold mergedRoutes
  have hsup : ¬ (¬(m.header.depth = 8 ∨ m.header.depth = 16 ∨ m.header.depth = 32) ∨ m.header.cmode = .bitmap) := by
    intro h; rcases h with h | h
    · exact h hd
    · exact hb h
  simp only [hsup, if_false, h1]
  by_cases ht : (decide (m.header.channels > m.header.cmode.expected) && m.hasTransparency) = true
  · simp only [ht, if_true]
    have hgt : m.header.channels > m.header.cmode.expected := by
      simp only [Bool.and_eq_true, decide_eq_true_eq] at ht; exact ht.1
    have hidx : (m.transparencyIndex % (m.header.channels : Int)).toNat < m.header.channels := by
      have hpos : (0 : Int) < (m.header.channels : Int) := by omega
      have h1 := Int.emod_nonneg m.transparencyIndex (by omega : (m.header.channels : Int) ≠ 0)
      have h2 := Int.emod_lt_of_pos m.transparencyIndex hpos
      omega
    have hmax : max (m.transparencyIndex % (m.header.channels : Int)).toNat m.header.cmode.expected < l'.length := by
      rw [h2]; omega
    rw [pySet_ok _ _ _ hmax]
    exact ⟨_, rfl, by simp [h2], set_valid _ _ l' _ PlaneSrc.alpha h3 (by simp [PlaneSrc.Valid])⟩
  · simp only [ht, if_false, Bool.false_eq_true]
    exact ⟨l', rfl, h2, h3⟩

theorem encPlane_length {α : Type} (Q : Quant α) (hQ : Q.Lawful) (d : Nat) (p : List α) :
    (encPlane Q d p).length = p.length * (d / 8) := by
  unfold encPlane
  rw [flatten_length_of_all _ (d / 8)]
  · simp
  · intro q hq
    simp only [List.mem_map] at hq
    obtain ⟨x, _, rfl⟩ := hq
    exact hQ d x

theorem realise_ok {α : Type} (Q : Quant α) (hQ : Q.Lawful) (h : Header)
    (hd : h.depth = 8 ∨ h.depth = 16 ∨ h.depth = 32)
    (c : Composite α) (hc : c.WF h) (old : List (List UInt8))
    (hold : ∀ p ∈ old, p.length = planeBytes h) (r : PlaneSrc)
    (hr : r.Valid h.cmode.expected old.length) :
    ∃ p, realise Q h.depth c old r = .ok p ∧ p.length = planeBytes h := by
  obtain ⟨hc1, hc2, hc3⟩ := hc
  have hpb : planeBytes h = h.width * h.height * (h.depth / 8) := by
    unfold planeBytes
    rcases hd with hd | hd | hd <;> simp [hd]
  cases r with
  | colorFlat k =>
    simp only [PlaneSrc.Valid] at hr
    have hk : k < c.color.length := by omega
    have hp := hc2 c.color[k] (List.getElem_mem hk)
    refine ⟨encPlane Q h.depth (List.zipWith Q.flat c.color[k] c.alpha),
      by simp [realise, List.getElem?_eq_getElem hk], ?_⟩
    rw [encPlane_length Q hQ, hpb]
    simp [hp, hc3]
  | color k =>
    simp only [PlaneSrc.Valid] at hr
    have hk : k < c.color.length := by omega
    have hp := hc2 c.color[k] (List.getElem_mem hk)
    refine ⟨encPlane Q h.depth c.color[k], by simp [realise, List.getElem?_eq_getElem hk], ?_⟩
    rw [encPlane_length Q hQ, hpb, hp]
  | alpha =>
    refine ⟨_, rfl, ?_⟩
    rw [encPlane_length Q hQ, hpb, hc3]
  | old k =>
    simp only [PlaneSrc.Valid] at hr
    refine ⟨old[k], by simp [realise, List.getElem?_eq_getElem hr], ?_⟩
    exact hold _ (List.getElem_mem hr)
  | fill =>
    refine ⟨_, rfl, ?_⟩
    rw [encPlane_length Q hQ, hpb]
    simp [hc3]

theorem getData_geometry (d : ImageData) (h : Header) (ps : List (List UInt8))
    (hg : getData d h = .ok ps) : ps.length = h.channels ∧ ∀ p ∈ ps, p.length = planeBytes h := by
  unfold getData at hg
  have key : ∀ data : List UInt8, data.length = sectionBytes h → h.channels ≠ 0 →
      (chunks data (data.length / h.channels) h.channels).length = h.channels ∧
      ∀ p ∈ chunks data (data.length / h.channels) h.channels, p.length = planeBytes h := by
    intro data hlen hne
    have hdiv : data.length / h.channels = planeBytes h := by
      rw [hlen, section_eq]; exact Nat.mul_div_cancel_left _ (by omega)
    rw [hdiv]
    refine ⟨chunks_length _ _ _, chunks_all_length _ _ _ ?_⟩
    rw [hlen, section_eq, Nat.mul_comm]
    exact Nat.le_refl _
  cases hcomp : d.comp <;> simp only [hcomp] at hg
  · by_cases hl : d.payload.length ≥ sectionBytes h
    · simp only [hl, if_true] at hg
      by_cases h0 : h.channels = 0
      · simp [h0] at hg
      · simp only [h0, if_false, Except.ok.injEq] at hg
        subst hg
        exact key _ (by simp [List.length_take]; omega) h0
    · simp [hl] at hg
  all_goals
    by_cases hl : d.payload.length = sectionBytes h
    · simp only [hl, if_true, Nat.lt_irrefl, if_false] at hg
      by_cases h0 : h.channels = 0
      · simp [h0] at hg
      · simp only [h0, if_false, Except.ok.injEq] at hg
        subst hg
        have := key _ hl h0
        rw [hl] at this
        exact this
    · by_cases hlt : sectionBytes h < d.payload.length
      · simp [hl, hlt] at hg
      · simp [hl, hlt] at hg

theorem setData_comp (c : Comp) (planes : List (List UInt8)) (h : Header) : (setData c planes h).comp = c := by
  cases c <;> rfl

theorem save_eq_regenerate {α : Type} (Q : Quant α) (s : DocState) (c : Composite α) :
    save Q s c = if !s.dirty then .ok s else
      match regenerate Q s c with
      | .error e => .error e
      | .ok none => .ok s
      | .ok (some planes) =>
        .ok { s with imageData := setData s.imageData.comp planes s.info.header,
                     info := { s.info with versionInfo := s.info.versionInfo.map fun _ => true } } := by
  unfold save regenerate
  cases hd : s.dirty
  · simp
  · simp only [Bool.not_true, Bool.false_eq_true, if_false]
    cases mergedRoutes s.info (match getData s.imageData s.info.header with | .ok _ => true | .error _ => false) with
    | error e => rfl
    | ok r =>
      cases r with
      | none => rfl
      | some routes =>
        simp only
        cases traverse (realise Q s.info.header.depth c
          (match getData s.imageData s.info.header with | .ok ps => ps | .error _ => [])) routes <;> rfl

theorem save_keeps {α : Type} (Q : Quant α) (s s' : DocState) (c : Composite α) (h : save Q s c = .ok s') :
    s'.dirty = s.dirty ∧ s'.info.header = s.info.header ∧ s'.imageData.comp = s.imageData.comp := by
  rw [save_eq_regenerate] at h
  cases hd : s.dirty
  · simp [hd] at h; subst h; exact ⟨hd, rfl, rfl⟩
  · simp only [hd, Bool.not_true, Bool.false_eq_true, if_false] at h
    cases hr : regenerate Q s c with
    | error e => simp [hr] at h
    | ok r =>
      cases r with
      | none => simp [hr] at h; subst h; exact ⟨hd, rfl, rfl⟩
      | some planes =>
        simp [hr] at h; subst h
        exact ⟨rfl, rfl, setData_comp _ _ _⟩

theorem regenerate_eq {α : Type} (Q : Quant α) (s : DocState) (c : Composite α) :
    regenerate Q s c = match mergedRoutes s.info (oldReadable s) with
      | .error e => .error e
      | .ok none => .ok none
      | .ok (some routes) =>
        match traverse (realise Q s.info.header.depth c (oldPlanes s)) routes with
        | .error e => .error e
        | .ok planes => .ok (some planes) := rfl

/-- for a supported document the regeneration succeeds: one route per channel, each served by the composite or
by the old planes, and planes of the header geometry -/
theorem regenerate_ok {α : Type} (Q : Quant α) (hQ : Q.Lawful) (s : DocState) (c : Composite α)
    (hdep : s.info.header.depth = 8 ∨ s.info.header.depth = 16 ∨ s.info.header.depth = 32)
    (hb : s.info.header.cmode ≠ .bitmap)
    (hch : s.info.header.cmode.expected ≤ s.info.header.channels) (hc : c.WF s.info.header) :
    ∃ routes planes, mergedRoutes s.info (oldReadable s) = .ok (some routes) ∧
      traverse (realise Q s.info.header.depth c (oldPlanes s)) routes = .ok planes ∧
      regenerate Q s c = .ok (some planes) ∧ routes.length = s.info.header.channels ∧
      (∀ r ∈ routes, r.Valid s.info.header.cmode.expected (oldPlanes s).length) ∧
      planes.length = s.info.header.channels ∧ ∀ p ∈ planes, p.length = planeBytes s.info.header := by
  -- the old planes, when readable, have the header geometry
  have hold : (∀ p ∈ oldPlanes s, p.length = planeBytes s.info.header) ∧
      (if oldReadable s then s.info.header.channels else 0) = (oldPlanes s).length := by
    unfold oldPlanes oldReadable
    cases h : getData s.imageData s.info.header with
    | ok ps => have := getData_geometry _ _ _ h; exact ⟨this.2, this.1.symm⟩
    | error e => exact ⟨by simp, rfl⟩
  obtain ⟨rs, hrs, hrl, hrv⟩ := mergedRoutes_ok s.info (oldReadable s) hdep hb hch
  rw [hold.2] at hrv
  obtain ⟨planes, hp, hpl, hpall⟩ := traverse_all (realise Q s.info.header.depth c (oldPlanes s))
    (fun p => p.length = planeBytes s.info.header) rs
    (fun r hr => realise_ok Q hQ s.info.header hdep c hc _ hold.1 r (hrv r hr))
  exact ⟨rs, planes, hrs, hp, by simp only [regenerate_eq, hrs, hp], hrl, hrv, by rw [hpl, hrl], hpall⟩

theorem runEvents_ops {α : Type} (Q : Quant α) (s : DocState) (ops : List Op) :
    runEvents Q s (ops.map Event.op) = .ok { s with dirty := dirtyAfter s.dirty ops } := by
  induction ops generalizing s with
  | nil => simp [runEvents, dirtyAfter]
  | cons o os ih =>
    simp only [List.map_cons, runEvents, step]
    rw [ih]
    simp [dirtyAfter, Bool.or_assoc]

theorem runEvents_append {α : Type} (Q : Quant α) (s s' : DocState) (es fs : List (Event α))
    (h : runEvents Q s es = .ok s') : runEvents Q s (es ++ fs) = runEvents Q s' fs := by
  induction es generalizing s with
  | nil => simp [runEvents] at h; subst h; rfl
  | cons e es ih =>
    simp only [List.cons_append, runEvents] at h ⊢
    cases hs : step Q s e with
    | error err => simp [hs] at h
    | ok t => simp only [hs] at h ⊢; exact ih t h

end PsdVerif.Merged
