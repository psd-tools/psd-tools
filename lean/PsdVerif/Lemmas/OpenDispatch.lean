/-
C06 — every runner of Model/OpenDispatch.lean is bounded: `(a + 1) · len + (b + 1)` from the `Cost` judgement of its
class (`runD_bound`; `runCC_bound` compares these constants with the uniform ones), uniformly `1867 · len + 1853` for the classes of `tagged_blocks.TYPES` and
`(62 + 4 · len) · len + 63` for those of `image_resources.TYPES` (`Slices` is the quadratic one), and none reports
`Err.other`. Hence `mkHooks` satisfies `Hooks.Ok` and `Hooks.Bound`.
-/
import PsdVerif.Model.OpenDispatch
import PsdVerif.Lemmas.OpenCost3
import PsdVerif.Lemmas.PayloadCostResources
import PsdVerif.Lemmas.PayloadCostPatterns
import PsdVerif.Lemmas.PayloadCostAdjust
import PsdVerif.Lemmas.PayloadCostFilter
import PsdVerif.Lemmas.PayloadCostVector
import PsdVerif.Lemmas.PayloadCostDesc

namespace PsdVerif.OpenCost
open PsdVerif.Codec PsdVerif.PsdCost PsdVerif.PayloadCost

def RB (a b : Nat) (f : B → CE Unit) : Prop := ∀ data, (f data).2.w ≤ a * data.length + b ∧ (f data).1 ≠ .error .other

def RQ (ar br sq : Nat) (f : B → CE Unit) : Prop :=
  ∀ data, (f data).2.w ≤ (ar + sq * data.length) * data.length + br ∧ (f data).1 ≠ .error .other

theorem RB.mono {a b a' b' : Nat} {f : B → CE Unit} (h : RB a' b' f) (ha : a' ≤ a) (hb : b' ≤ b) : RB a b f := by
  intro data
  have h1 := h data
  have : a' * data.length ≤ a * data.length := Nat.mul_le_mul_right _ ha
  exact ⟨by omega, h1.2⟩

theorem RB.toRQ {a b sq : Nat} {f : B → CE Unit} (h : RB a b f) : RQ a b sq f := by
  intro data
  have h1 := h data
  have : a * data.length ≤ (a + sq * data.length) * data.length := Nat.mul_le_mul_right _ (Nat.le_add_right _ _)
  exact ⟨by omega, h1.2⟩

theorem RQ.mono {ar br sq ar' br' : Nat} {f : B → CE Unit} (h : RQ ar' br' sq f) (ha : ar' ≤ ar) (hb : br' ≤ br) : RQ ar br sq f := by
  intro data
  have h1 := h data
  have : (ar' + sq * data.length) * data.length ≤ (ar + sq * data.length) * data.length :=
    Nat.mul_le_mul_right _ (by omega)
  exact ⟨by omega, h1.2⟩

/-- `X.frombytes(data)` from the `Cost` judgement of `X` -/
theorem runD_bound {α : Type} {decC : RC α} {a b k : Nat} (hc : CostR a b k decC) : RB (a + 1) (b + 1) (runD decC) := by
  intro data
  have h := hc data 0 (Nat.zero_le _)
  have hw := h.w_le
  simp only [Nat.sub_zero] at hw
  refine ⟨?_, run_ne_other data fun he => (h.of_error he).1 rfl⟩
  rw [show (runD decC data).2.w = _ from run_w data _, Nat.add_mul, Nat.one_mul]
  omega

/-- the constants come from the shape of the class (`x.sh.a`, `x.sh.b`); `ha`, `hb` compare them with the uniform ones
(1867 / 1853 for blocks, see `blockRunners_bound`) by evaluation: a class whose shape exceeds them fails here with a `rfl`
error at its line of the runner tables below -/
theorem runCC_bound {α : Type} {x : CC α} {a b : Nat} (hs : x.Sound) (hp : x.sh.bodyProgress = true)
    (ha : x.sh.a + 1 ≤ a := by exact Nat.le_of_ble_eq_true rfl) (hb : x.sh.b + 1 ≤ b := by exact Nat.le_of_ble_eq_true rfl) :
    RB a b (runCC x) := (runD_bound (hs hp).2).mono ha hb

def AllR (P : (B → CE Unit) → Prop) : Runners → Prop
  | [] => True
  | e :: es => P e.2 ∧ AllR P es

theorem AllR.lookup {P : (B → CE Unit) → Prop} {l : Runners} (h : AllR P l) {n : String} {f : B → CE Unit}
    (hf : List.lookup n l = some f) : P f := by
  induction l with
  | nil => cases hf
  | cons e es ih =>
    obtain ⟨m, g⟩ := e
    unfold List.lookup at hf
    split at hf
    · cases hf; exact h.1
    · exact ih h.2 hf

section
variable (tb : Descriptor.Tables) {engine tysh : B → CE Unit}

theorem blockRunners_bound (he : RB 1867 1853 engine) (ht : RB 1867 1853 tysh) :
    AllR (RB 1867 1853) (blockRunners tb engine tysh) := by
  unfold blockRunners
  refine ⟨runCC_bound Annotations.cc_sound rfl,
    runCC_bound BrightnessContrast.cc_sound rfl,
    runCC_bound ByteElement.cc_sound rfl,
    runCC_bound BytesElement.cc_sound rfl,
    runCC_bound ChannelBlendingRestrictionsSetting.cc_sound rfl,
    runCC_bound ChannelMixer.cc_sound rfl,
    runCC_bound ColorBalance.cc_sound rfl,
    runCC_bound (ColorLookup.cc_sound tb 4) rfl,
    runCC_bound Curves.cc_sound rfl,
    runCC_bound (DescriptorPayload.cc_sound tb 4) rfl,
    runCC_bound (Descriptor2Payload.cc_sound tb 4) rfl,
    runCC_bound EffectsLayer.cc_sound rfl,
    runCC_bound EmptyElement.cc_sound rfl,
    he,
    runCC_bound (Exposure.cc_sound 4) rfl,
    runCC_bound FilterEffects.cc_sound rfl,
    runCC_bound FilterMask.cc_sound rfl,
    runCC_bound GradientMap.cc_sound rfl,
    runCC_bound HueSaturation.cc_sound rfl,
    runCC_bound IntegerElement.cc_sound rfl,
    runCC_bound Levels.cc_sound rfl,
    runCC_bound (LinkedLayers.cc_sound tb) rfl,
    runCC_bound (MetadataSettings.cc_sound tb) rfl,
    runCC_bound Patterns.cc_sound rfl,
    runCC_bound PhotoFilter.cc_sound rfl,
    runCC_bound (PixelSourceData2.cc_sound 4) rfl,
    runCC_bound (PlacedLayerData.cc_sound tb 4) rfl,
    runCC_bound IntegerElement.cc_sound rfl,
    runCC_bound ReferencePoint.cc_sound rfl,
    runCC_bound SectionDividerSetting.cc_sound rfl,
    runCC_bound SelectiveColor.cc_sound rfl,
    runCC_bound SheetColorSetting.cc_sound rfl,
    runCC_bound ShortIntegerElement.cc_sound rfl,
    runCC_bound (SmartObjectLayerData.cc_sound tb 4) rfl,
    runCC_bound (StringElement.cc_sound 4 1 (by decide)) rfl,
    ht,
    runCC_bound UserMask.cc_sound rfl,
    runCC_bound VectorMaskSetting.cc_sound rfl,
    runCC_bound (VectorStrokeContentSetting.cc_sound tb 4) rfl,
    trivial⟩

/-- `Slices.frombytes(data)`: quadratic -/
theorem slices_runner (tb : Descriptor.Tables) : RQ 58 54 4 (runD (Slices.decC tb)) := by
  intro data
  have h := Slices.decC_left tb data 0 (Nat.zero_le _)
  simp only [Nat.sub_zero] at h
  refine ⟨?_, run_ne_other data h.2⟩
  have e : (58 + 4 * data.length) * data.length + 54 =
      (1 + data.length) + (data.length + 1) * (4 * data.length + 53) := by
    rw [Nat.add_mul, Nat.add_mul, Nat.mul_add, Nat.mul_add]
    have : 4 * data.length * data.length = data.length * (4 * data.length) := Nat.mul_comm ..
    omega
  rw [e, show (runD (Slices.decC tb) data).2.w = _ from run_w data _]
  omega

theorem resourceRunners_bound : AllR (RQ 62 63 4) (resourceRunners tb) := by
  unfold resourceRunners
  refine ⟨(runCC_bound AlphaIdentifiers.cc_sound rfl).toRQ,
    (runCC_bound AlphaNamesPascal.cc_sound rfl).toRQ,
    (runCC_bound AlphaNamesUnicode.cc_sound rfl).toRQ,
    (runCC_bound ResByte.cc_sound rfl).toRQ,
    (runCC_bound Color.cc_sound rfl).toRQ,
    (runCC_bound (DescriptorResource.cc_sound tb) rfl).toRQ,
    (runCC_bound DisplayInfo.cc_sound rfl).toRQ,
    (runCC_bound GridGuidesInfo.cc_sound rfl).toRQ,
    (runCC_bound HalftoneScreens.cc_sound rfl).toRQ,
    (runCC_bound ResInteger.cc_sound rfl).toRQ,
    (runCC_bound LayerGroupEnabledIDs.cc_sound rfl).toRQ,
    (runCC_bound LayerGroupInfo.cc_sound rfl).toRQ,
    (runCC_bound LayerSelectionIDs.cc_sound rfl).toRQ,
    (runCC_bound PascalString.cc_sound rfl).toRQ,
    (runCC_bound PixelAspectRatio.cc_sound rfl).toRQ,
    (runCC_bound PrintFlags.cc_sound rfl).toRQ,
    (runCC_bound PrintFlagsInfo.cc_sound rfl).toRQ,
    (runCC_bound PrintScale.cc_sound rfl).toRQ,
    (runCC_bound ResolutionInfo.cc_sound rfl).toRQ,
    (runCC_bound ResShortInteger.cc_sound rfl).toRQ,
    (slices_runner tb).mono (by decide) (by decide),
    (runCC_bound (StringElement.cc_sound 1 1 (by decide)) rfl).toRQ,
    (runCC_bound Thumbnail.cc_sound rfl).toRQ,
    (runCC_bound Thumbnail.cc_sound rfl).toRQ,
    (runCC_bound TransferFunctions.cc_sound rfl).toRQ,
    (runCC_bound URLList.cc_sound rfl).toRQ,
    (runCC_bound VersionInfo.cc_sound rfl).toRQ,
    trivial⟩

/-- `TYPES.get(key)`: the registry names a class, the class has a runner -/
theorem mkHooks_blk (he : RB 1867 1853 engine) (ht : RB 1867 1853 tysh) {v : Nat} {key : B} {f : B → CE Unit}
    (hf : (mkHooks tb engine tysh).blk v key = some f) : RB 1867 1853 f := by
  obtain ⟨n, _, hn⟩ := Option.bind_eq_some_iff.1 hf
  exact (blockRunners_bound tb he ht).lookup hn

theorem mkHooks_res {key : Nat} {f : B → CE Unit} (hf : (mkHooks tb engine tysh).res key = some f) : RQ 62 63 4 f := by
  obtain ⟨n, _, hn⟩ := Option.bind_eq_some_iff.1 hf
  exact (resourceRunners_bound tb).lookup hn

theorem mkHooks_ok (he : RB 1867 1853 engine) (ht : RB 1867 1853 tysh) : (mkHooks tb engine tysh).Ok :=
  ⟨fun _ _ _ data hf => (mkHooks_blk tb he ht hf data).2, fun _ _ data hf => (mkHooks_res tb hf data).2⟩

theorem mkHooks_bound (he : RB 1867 1853 engine) (ht : RB 1867 1853 tysh) :
    (mkHooks tb engine tysh).Bound 1867 1853 62 63 4 :=
  ⟨fun _ _ _ data hf => (mkHooks_blk tb he ht hf data).1, fun _ _ data hf => (mkHooks_res tb hf data).1⟩

end

/-! ### ties: every registered class has a runner -/

def blockRunnerNames : List String := ["Annotations", "BrightnessContrast", "ByteElement", "Bytes",
  "ChannelBlendingRestrictionsSetting", "ChannelMixer", "ColorBalance", "ColorLookup", "Curves", "DescriptorBlock",
  "DescriptorBlock2", "EffectsLayer", "EmptyElement", "EngineData2", "Exposure", "FilterEffects", "FilterMask",
  "GradientMap", "HueSaturation", "IntegerElement", "Levels", "LinkedLayers", "MetadataSettings", "Patterns",
  "PhotoFilter", "PixelSourceData2", "PlacedLayerData", "ProtectedSetting", "ReferencePoint", "SectionDividerSetting",
  "SelectiveColor", "SheetColorSetting", "ShortIntegerElement", "SmartObjectLayerData", "StringElement",
  "TypeToolObjectSetting", "UserMask", "VectorMaskSetting", "VectorStrokeContentSetting"]

def resourceRunnerNames : List String := ["AlphaIdentifiers", "AlphaNamesPascal", "AlphaNamesUnicode", "Byte", "Color",
  "DescriptorBlock", "DisplayInfo", "GridGuidesInfo", "HalftoneScreens", "Integer", "LayerGroupEnabledIDs",
  "LayerGroupInfo", "LayerSelectionIDs", "PascalString", "PixelAspectRatio", "PrintFlags", "PrintFlagsInfo", "PrintScale",
  "ResoulutionInfo", "ShortInteger", "Slices", "StringElement", "ThumbnailResource", "ThumbnailResourceV4",
  "TransferFunctions", "URLList", "VersionInfo"]

theorem blockRunners_names (tb : Descriptor.Tables) (engine tysh : B → CE Unit) :
    (blockRunners tb engine tysh).map (·.1) = blockRunnerNames := rfl

theorem resourceRunners_names (tb : Descriptor.Tables) : (resourceRunners tb).map (·.1) = resourceRunnerNames := rfl

end PsdVerif.OpenCost
