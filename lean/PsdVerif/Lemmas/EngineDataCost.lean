/-
C06 — the counting twin of the engine-data parser (`Model/EngineDataCost.lean`) IS the parser of the C18 model, and its
cost is linear in the size of the engine data.

* `nextTokC_fst`, `parseDictC_fst`, `parseListC_fst`, `parseC_fst : (parseC d).1 = parse d` - erasure;
* `next_total`: the token is no longer than what its `__next__` call consumed (with `next_length`: ≥ 1 byte consumed);
  `nextTokC_some` / `_none` / `_err`: a token is paid by the bytes it consumed at 14 per byte + 16, a `StopIteration` costs
  the bytes left + 4, a `ValueError` of the tokenizer at most 18 per byte left + 19;
* `Bd A n x` and its rules; `parse_bd_aux` (mutual induction on the fuel): with more fuel than data,
  `parseDictC` / `parseListC` stay within `63 · |d| + 20`, pay `63` per byte they leave, and do not run out of fuel;
* `parseC_cost : (parseC d).2.w ≤ 63 · |d| + 20`; `parse_never_out_of_fuel : parse d ≠ .error .recursionError`;
* `runEngineData_bound : (runEngineData data).2.w ≤ 65 · |data| + 22 ∧ (runEngineData data).1 ≠ .error .other`.

Where the 63 comes from: per byte consumed 1 (scan) + 12 (the anchored searches) + 1 (the copy) for the token, 7 for the
value conversion, and the constants of a token (16 + 25 + the iteration tick) are paid by the ≥ 1 byte it consumed.
What is TRUSTED is in the header of the model file (each `re` search linear in its subject, each value conversion
linear in the token).
-/
import PsdVerif.Model.EngineDataCost
import PsdVerif.Lemmas.EngineDataTokens
import PsdVerif.Lemmas.SafeCost3

namespace PsdVerif.EngineDataCost
open PsdVerif PsdVerif.Codec PsdVerif.PsdCost PsdVerif.EngineData PsdVerif.SafeCost

/-! ## erasure: the twin IS the parser -/

theorem nextTokC_fst (d : BL) : (nextTokC d).1 = nextTok d := by
  unfold nextTokC nextTok
  cases next d with
  | error e => rfl
  | ok o =>
    cases o with
    | none => rfl
    | some tr =>
      obtain ⟨tok, rest⟩ := tr
      simp only
      cases classify tok <;> rfl

theorem valueC_fst (ty : Tok) (tok : BL) : (valueC ty tok).1 = .ok (valueOfToken ty tok) := rfl

/-- the three shapes a branch of the loops has once the token type is known -/
theorem value_branch_fst {α : Type} (ty : Tok) (tok : BL) (e0 : Err) (kc : Scalar → CE α) (k : Scalar → Except Err α)
    (hk : ∀ v, (kc v).1 = k v) :
    (valueC ty tok >>= fun v => match v with
      | none => CE.error e0
      | some (.error e) => CE.error e
      | some (.ok v) => kc v).1 =
    (match valueOfToken ty tok with
      | none => .error e0
      | some (.error e) => .error e
      | some (.ok v) => k v) := by
  rw [bind_fst, valueC_fst]
  simp only
  cases valueOfToken ty tok with
  | none => rfl
  | some r =>
    cases r with
    | error e => rfl
    | ok v => exact hk v

theorem parse_fst_aux (f : Nat) :
    (∀ d acc, (parseDictC f d acc).1 = parseDict f d acc) ∧
    (∀ d acc, (parseListC f d acc).1 = parseList f d acc) := by
  induction f with
  | zero =>
    refine ⟨fun d acc => ?_, fun d acc => ?_⟩
    · rw [parseDictC, parseDict]; rfl
    · rw [parseListC, parseList]; rfl
  | succ f ih =>
    obtain ⟨ihD, ihL⟩ := ih
    refine ⟨fun d acc => ?_, fun d acc => ?_⟩
    · rw [parseDictC, parseDict, bind_fst, tick_fst]
      simp only
      rw [bind_fst, nextTokC_fst]
      cases nextTok d with
      | error e => rfl
      | ok o =>
        cases o with
        | none => rfl
        | some x =>
          obtain ⟨tok, ty, rest⟩ := x
          simp only
          cases ty <;> simp only
          case property =>
            rw [bind_fst, nextTokC_fst]
            cases nextTok rest with
            | error e => rfl
            | ok o2 =>
              cases o2 with
              | none => rfl
              | some y =>
                obtain ⟨vtok, vty, rest2⟩ := y
                simp only
                cases vty <;> simp only
                case arrayStart =>
                  rw [bind_fst, ihL]
                  cases parseList f rest2 [] with
                  | error e => rfl
                  | ok x => exact ihD _ _
                case dictStart =>
                  rw [bind_fst, ihD]
                  cases parseDict f rest2 [] with
                  | error e => rfl
                  | ok x => exact ihD _ _
                all_goals exact value_branch_fst _ _ _ _ _ (fun v => ihD _ _)
          case dictEnd => rfl
          all_goals exact ihD _ _
    · rw [parseListC, parseList, bind_fst, tick_fst]
      simp only
      rw [bind_fst, nextTokC_fst]
      cases nextTok d with
      | error e => rfl
      | ok o =>
        cases o with
        | none => rfl
        | some x =>
          obtain ⟨tok, ty, rest⟩ := x
          simp only
          cases ty <;> simp only
          case arrayEnd => rfl
          case arrayStart =>
            rw [bind_fst, ihL]
            cases parseList f rest [] with
            | error e => rfl
            | ok x => exact ihL _ _
          case dictStart =>
            rw [bind_fst, ihD]
            cases parseDict f rest [] with
            | error e => rfl
            | ok x => exact ihL _ _
          all_goals exact value_branch_fst _ _ _ _ _ (fun v => ihL _ _)

theorem parseDictC_fst (f : Nat) (d : BL) (acc : List (BL × Val)) : (parseDictC f d acc).1 = parseDict f d acc :=
  (parse_fst_aux f).1 d acc

theorem parseListC_fst (f : Nat) (d : BL) (acc : List Val) : (parseListC f d acc).1 = parseList f d acc :=
  (parse_fst_aux f).2 d acc

theorem parseC_fst (d : BL) : (parseC d).1 = parse d := by
  unfold parseC parse
  rw [bind_fst, parseDictC_fst]
  cases parseDict (d.length + 1) d [] with
  | error e => rfl
  | ok x => rfl

/-! ## a token is no longer than what its call consumed -/

theorem strScan_total (d x r : BL) (h : strScan d = some (x, r)) : x.length + r.length = d.length := by
  induction d using strScan.induct generalizing x r with
  | case1 => simp [strScan] at h
  | case2 t => rw [strScan.eq_def] at h; simp at h; obtain ⟨rfl, rfl⟩ := h; simp; omega
  | case3 _ => rw [strScan.eq_def] at h; simp at h
  | case4 c t' hs _ ih => rw [strScan.eq_def] at h; simp [hs] at h
  | case5 c t' x' r' hs _ ih =>
    rw [strScan.eq_def] at h; simp [hs] at h; obtain ⟨rfl, rfl⟩ := h
    have := ih x' r' hs
    simp; omega
  | case6 b t hb hb2 hs ih => rw [strScan.eq_def] at h; simp [hb, hb2, hs] at h
  | case7 b t hb hb2 x' r' hs ih =>
    rw [strScan.eq_def] at h; simp [hb, hb2, hs] at h; obtain ⟨rfl, rfl⟩ := h
    have := ih x' r' hs
    simp; omega

theorem strToken_total (d x r : BL) (h : strToken d = some (x, r)) : x.length + r.length = d.length := by
  unfold strToken at h
  split at h
  · rename_i a b c t
    cases hs : strScan t with
    | none => simp [hs] at h
    | some xr =>
      obtain ⟨x', r'⟩ := xr
      simp only [hs] at h
      injection h with h; injection h with h1 h2; subst h1; subst h2
      have := strScan_total t x' r' hs
      simp; omega
  · cases h

/-- `len(token) ≤` the bytes the call consumed -/
theorem next_total (d tok rest : BL) (h : next d = .ok (some (tok, rest))) : tok.length + rest.length ≤ d.length := by
  induction d with
  | nil => simp [next] at h
  | cons b t ih =>
    rw [next.eq_2] at h
    by_cases h1 : strStart (b :: t) = true
    · simp only [h1, if_true] at h
      cases hs : strToken (b :: t) with
      | none => simp [hs] at h
      | some xr =>
        obtain ⟨x', r'⟩ := xr
        simp only [hs] at h
        injection h with h; injection h with h; injection h with h1 h2; subst h1; subst h2
        exact Nat.le_of_eq (strToken_total _ _ _ hs)
    · simp only [h1] at h
      by_cases h2 : isDiv b = true
      · simp only [h2, if_true] at h
        have := ih h; simp; omega
      · simp only [h2] at h
        injection h with h; injection h with h; injection h with h1 h2; subst h1; subst h2
        have e0 : ((b :: t).takeWhile (fun x => !isDiv x)).length + ((b :: t).dropWhile (fun x => !isDiv x)).length
            = (b :: t).length := by
          rw [← List.length_append, List.takeWhile_append_dropWhile]
        have e1 := length_dropWhile_le isDiv (List.dropWhile (fun x => !isDiv x) (b :: t))
        omega

/-- the tokenizer itself only raises `ValueError` -/
theorem next_error (d : BL) (e : Err) (h : next d = .error e) : e = .valueError := by
  induction d with
  | nil => simp [next] at h
  | cons b t ih =>
    rw [next.eq_2] at h
    by_cases h1 : strStart (b :: t) = true
    · simp only [h1, if_true] at h
      cases hs : strToken (b :: t) with
      | none => simp only [hs] at h; injection h with h; exact h.symm
      | some xr => simp [hs] at h
    · simp only [h1] at h
      by_cases h2 : isDiv b = true
      · simp only [h2, if_true] at h; exact ih h
      · simp [h2] at h

/-! ## what one `next(tokenizer)` costs -/

theorem callTicks_le (d : BL) : callTicks d ≤ 4 := by
  unfold callTicks
  split
  · decide
  · split <;> decide

/-- a token: paid by the bytes consumed, at 14 per byte (1 scanned + 12 searched + 1 copied) -/
theorem nextTokC_some {d tok : BL} {ty : Tok} {rest : BL} (h : (nextTokC d).1 = .ok (some (tok, ty, rest))) :
    rest.length < d.length ∧ tok.length + rest.length ≤ d.length ∧
      (nextTokC d).2.w + 14 * rest.length ≤ 14 * d.length + 16 := by
  have hc := callTicks_le d
  unfold nextTokC at h ⊢
  cases hn : next d with
  | error e => simp [hn] at h
  | ok o =>
    cases o with
    | none => simp [hn] at h
    | some tr =>
      obtain ⟨tok', rest'⟩ := tr
      simp only [hn] at h ⊢
      cases hcl : classify tok' with
      | none => simp [hcl] at h
      | some ty' =>
        simp only [hcl] at h ⊢
        injection h with h; injection h with h; injection h with h1 h; injection h with h2 h3
        subst h1; subst h2; subst h3
        have l1 := next_length _ _ _ hn
        have l2 := next_total _ _ _ hn
        refine ⟨l1, l2, ?_⟩
        simp only [Cost.w]
        omega

theorem nextTokC_none {d : BL} (h : (nextTokC d).1 = .ok none) : (nextTokC d).2.w ≤ d.length + 4 := by
  have hc := callTicks_le d
  unfold nextTokC at h ⊢
  cases hn : next d with
  | error e => simp [hn] at h
  | ok o =>
    cases o with
    | none => simp only [Cost.w]; omega
    | some tr =>
      obtain ⟨tok', rest'⟩ := tr
      simp only [hn] at h
      cases hcl : classify tok' <;> simp [hcl] at h

/-- a `ValueError` of the tokenizer: the scan, the twelve searches and the formatted message -/
theorem nextTokC_err {d : BL} {e : Err} (h : (nextTokC d).1 = .error e) :
    e = .valueError ∧ (nextTokC d).2.w ≤ 18 * d.length + 19 := by
  have hc := callTicks_le d
  unfold nextTokC at h ⊢
  cases hn : next d with
  | error e' =>
    simp only [hn] at h ⊢
    injection h with h; subst h
    refine ⟨next_error _ _ hn, ?_⟩
    simp only [Cost.w]; omega
  | ok o =>
    cases o with
    | none => simp [hn] at h
    | some tr =>
      obtain ⟨tok', rest'⟩ := tr
      simp only [hn] at h ⊢
      cases hcl : classify tok' with
      | none =>
        simp only [hcl] at h ⊢
        injection h with h
        have l1 := next_length _ _ _ hn
        have l2 := next_total _ _ _ hn
        refine ⟨h.symm, ?_⟩
        simp only [Cost.w]; omega
      | some ty' => simp [hcl] at h

theorem valueC_w (ty : Tok) (tok : BL) : (valueC ty tok).2.w = 7 * tok.length + 25 := by
  simp only [valueC, Cost.w]; omega

/-! ## a value class only raises `UnicodeError` -/

theorem units_error (be : Bool) : ∀ (d : BL) (e : Err), units be d = .error e → e = .unicodeError
  | [], e, h => by simp [units] at h
  | [a], e, h => by rw [units.eq_def] at h; simp at h; exact h.symm
  | a :: b :: t, e, h => by
    rw [units.eq_def] at h
    simp only at h
    cases hu : units be t with
    | error e' => simp only [hu] at h; injection h with h; subst h; exact units_error be t e' hu
    | ok us => simp [hu] at h

theorem decUnits_error : ∀ (us : List Nat) (e : Err), decUnits us = .error e → e = .unicodeError
  | [], e, h => by simp [decUnits] at h
  | [u], e, h => by
    rw [decUnits.eq_def] at h
    simp only at h
    split at h
    · simp [decUnits] at h
    · split at h <;> (injection h with h; exact h.symm)
  | u :: v :: t, e, h => by
    rw [decUnits.eq_def] at h
    simp only at h
    split at h
    · cases hd : decUnits (v :: t) with
      | error e' => simp only [hd] at h; injection h with h; subst h; exact decUnits_error (v :: t) e' hd
      | ok cs => simp [hd] at h
    · split at h
      · split at h
        · cases hd : decUnits t with
          | error e' => simp only [hd] at h; injection h with h; subst h; exact decUnits_error t e' hd
          | ok cs => simp [hd] at h
        · injection h with h; exact h.symm
      · injection h with h; exact h.symm

theorem decodeUtf16_error (d : BL) (e : Err) (h : decodeUtf16 d = .error e) : e = .unicodeError := by
  have key : ∀ be x, decodeWith be x = .error e → e = .unicodeError := by
    intro be x hx
    unfold decodeWith at hx
    cases hu : units be x with
    | error e' => simp only [hu] at hx; injection hx with hx; subst hx; exact units_error be x e' hu
    | ok us => simp only [hu] at hx; exact decUnits_error us e hx
  unfold decodeUtf16 at h
  split at h
  · split at h
    · exact key _ _ h
    · split at h <;> exact key _ _ h
  · exact key _ _ h

theorem valueOfToken_error (ty : Tok) (tok : BL) (e : Err) (h : valueOfToken ty tok = some (.error e)) :
    e = .unicodeError := by
  cases ty
  case string =>
    unfold valueOfToken at h; simp only at h
    cases hd : decodeUtf16 (unescape ((tok.drop 1).dropLast)) with
    | error e' =>
      rw [hd] at h; simp only at h
      injection h with h; injection h with h; subst h; exact decodeUtf16_error _ _ hd
    | ok s => rw [hd] at h; simp at h
  all_goals (unfold valueOfToken at h; simp at h)

/-! ## the linear bound

`Bd A n x`: the run `x` of a parser that returns the rest of the data is within the budget `n`, and what it leaves
unconsumed is still paid for at `A` per byte: a success at rest `r` satisfies `cost + A · |r| ≤ n`; a failure costs at
most `n` and is not "out of fuel". -/

def Bd {α : Type} (A n : Nat) (x : CE (α × BL)) : Prop :=
  match x.1 with
  | .ok (_, r) => x.2.w + A * r.length ≤ n
  | .error e => e ≠ .recursionError ∧ x.2.w ≤ n

theorem Bd.of_ok {α : Type} {A n : Nat} {x : CE (α × BL)} {v : α} {r : BL} (h : Bd A n x) (hx : x.1 = .ok (v, r)) :
    x.2.w + A * r.length ≤ n := by
  unfold Bd at h; rw [hx] at h; exact h

theorem Bd.of_error {α : Type} {A n : Nat} {x : CE (α × BL)} {e : Err} (h : Bd A n x) (hx : x.1 = .error e) :
    e ≠ .recursionError ∧ x.2.w ≤ n := by
  unfold Bd at h; rw [hx] at h; exact h

theorem Bd.w_le {α : Type} {A n : Nat} {x : CE (α × BL)} (h : Bd A n x) : x.2.w ≤ n := by
  cases hx : x.1 with
  | error e => exact (h.of_error hx).2
  | ok y => obtain ⟨v, r⟩ := y; have := h.of_ok hx; omega

theorem Bd.ne_rec {α : Type} {A n : Nat} {x : CE (α × BL)} (h : Bd A n x) : x.1 ≠ .error .recursionError := by
  intro hx
  exact (h.of_error hx).1 rfl

theorem Bd.mono {α : Type} {A n n' : Nat} {x : CE (α × BL)} (h : Bd A n x) (hn : n ≤ n') : Bd A n' x := by
  unfold Bd at h ⊢
  cases hx : x.1 with
  | error e => rw [hx] at h; exact ⟨h.1, by have := h.2; omega⟩
  | ok y => obtain ⟨v, r⟩ := y; rw [hx] at h; simp only at h ⊢; omega

theorem Bd.ok {α : Type} {A : Nat} (v : α) (r : BL) : Bd A (A * r.length) (CE.ok (v, r)) := by
  show (CE.ok (v, r) : CE (α × BL)).2.w + A * r.length ≤ A * r.length
  rw [ok_w]; omega

theorem Bd.error {α : Type} {A : Nat} (e : Err) (he : e ≠ .recursionError) : Bd A 0 (CE.error e : CE (α × BL)) :=
  ⟨he, Nat.le_refl _⟩

/-- a step that succeeded, then the rest -/
theorem Bd.bind_ok {α β : Type} {A n n' : Nat} {m : CE β} {f : β → CE (α × BL)} {a : β}
    (h : m.1 = .ok a) (hf : Bd A n' (f a)) (hle : m.2.w + n' ≤ n) : Bd A n (m >>= f) := by
  rw [bind_ok' h]
  unfold Bd at hf ⊢
  simp only
  cases hx : (f a).1 with
  | error e => rw [hx] at hf; simp only at hf ⊢; rw [w_add]; exact ⟨hf.1, by have := hf.2; omega⟩
  | ok y => obtain ⟨v, r⟩ := y; rw [hx] at hf; simp only at hf ⊢; rw [w_add]; omega

/-- a step that failed -/
theorem Bd.bind_err {α β : Type} {A n : Nat} {m : CE β} {f : β → CE (α × BL)} {e : Err}
    (h : m.1 = .error e) (he : e ≠ .recursionError) (hle : m.2.w ≤ n) : Bd A n (m >>= f) := by
  rw [bind_err' h]
  exact ⟨he, hle⟩

/-- a nested parse within `n'`, then a continuation on what it left with `B'` on top -/
theorem Bd.bind_nested {α β : Type} {A n n' B' : Nat} {m : CE (β × BL)} {f : β × BL → CE (α × BL)}
    (hm : Bd A n' m) (hf : ∀ v r, m.1 = .ok (v, r) → Bd A (A * r.length + B') (f (v, r))) (hle : n' + B' ≤ n) :
    Bd A n (m >>= f) := by
  cases hx : m.1 with
  | error e =>
    have := hm.of_error hx
    exact Bd.bind_err hx this.1 (by omega)
  | ok y =>
    obtain ⟨v, r⟩ := y
    have := hm.of_ok hx
    exact Bd.bind_ok hx (hf v r hx) (by omega)

/-- a scalar token: its value is computed (`7 · len(tok) + 25`), then the loop goes on with `k` -/
theorem Bd.value {α : Type} {A n : Nat} (ty : Tok) (tok : BL) {e0 : Err} (he0 : e0 ≠ .recursionError)
    {k : Scalar → CE (α × BL)} (hk : ∀ v, Bd A n (k v)) :
    Bd A (n + (7 * tok.length + 25)) (valueC ty tok >>= fun v => match v with
      | none => CE.error e0
      | some (.error e) => CE.error e
      | some (.ok v) => k v) := by
  refine Bd.bind_ok (valueC_fst _ _) (n' := n) ?_ (by rw [valueC_w]; omega)
  cases hv : valueOfToken ty tok with
  | none => exact (Bd.error _ he0).mono (Nat.zero_le _)
  | some rv =>
    cases rv with
    | error e =>
      refine (Bd.error _ ?_).mono (Nat.zero_le _)
      rw [valueOfToken_error _ _ _ hv]; decide
    | ok v => exact hk v

theorem parse_bd_aux (f : Nat) :
    (∀ d acc, d.length < f → Bd 63 (63 * d.length + 20) (parseDictC f d acc)) ∧
    (∀ d acc, d.length < f → Bd 63 (63 * d.length + 20) (parseListC f d acc)) := by
  induction f with
  | zero => exact ⟨fun d acc h => absurd h (Nat.not_lt_zero _), fun d acc h => absurd h (Nat.not_lt_zero _)⟩
  | succ f ih =>
    obtain ⟨ihD, ihL⟩ := ih
    refine ⟨fun d acc hd => ?_, fun d acc hd => ?_⟩
    · rw [parseDictC]
      cases hn : (nextTokC d).1 with
      | error e =>
        have h1 := nextTokC_err hn
        refine Bd.bind_ok tick_fst (Bd.bind_err hn ?_ (Nat.le_refl _)) ?_
        · rw [h1.1]; decide
        · rw [tick_w]; omega
      | ok o =>
        cases o with
        | none =>
          have h1 := nextTokC_none hn
          refine Bd.bind_ok tick_fst (Bd.bind_ok hn (Bd.ok _ _) (Nat.le_refl _)) ?_
          rw [tick_w]; simp only [List.length_nil]; omega
        | some x =>
          obtain ⟨tok, ty, rest⟩ := x
          obtain ⟨l1, l2, hw⟩ := nextTokC_some hn
          refine Bd.bind_ok tick_fst (Bd.bind_ok hn (n' := 63 * d.length + 20 - (1 + (nextTokC d).2.w)) ?_ (Nat.le_refl _))
            (by rw [tick_w]; omega)
          simp only
          split
          · cases hn2 : (nextTokC rest).1 with
            | error e =>
              have h2 := nextTokC_err hn2
              refine Bd.bind_err hn2 ?_ (by omega)
              rw [h2.1]; decide
            | ok o2 =>
              cases o2 with
              | none =>
                have h2 := nextTokC_none hn2
                exact Bd.bind_ok hn2 (Bd.error _ (by decide)) (by omega)
              | some y =>
                obtain ⟨vtok, vty, rest2⟩ := y
                obtain ⟨m1, m2, hw2⟩ := nextTokC_some hn2
                refine Bd.bind_ok hn2 (n' := 63 * rest2.length + 20 + (7 * vtok.length + 25)) ?_ (by omega)
                simp only
                split
                · have hN := ihL rest2 [] (by omega)
                  exact Bd.bind_nested hN (fun v r hx => ihD r _ (by have := hN.of_ok hx; omega)) (by omega)
                · have hN := ihD rest2 [] (by omega)
                  exact Bd.bind_nested hN (fun v r hx => ihD r _ (by have := hN.of_ok hx; omega)) (by omega)
                · exact Bd.value _ _ (by decide) fun v => ihD rest2 _ (by omega)
          · exact (Bd.ok _ _).mono (by omega)
          · exact (ihD rest acc (by omega)).mono (by omega)
    · rw [parseListC]
      cases hn : (nextTokC d).1 with
      | error e =>
        have h1 := nextTokC_err hn
        refine Bd.bind_ok tick_fst (Bd.bind_err hn ?_ (Nat.le_refl _)) ?_
        · rw [h1.1]; decide
        · rw [tick_w]; omega
      | ok o =>
        cases o with
        | none =>
          have h1 := nextTokC_none hn
          refine Bd.bind_ok tick_fst (Bd.bind_ok hn (Bd.ok _ _) (Nat.le_refl _)) ?_
          rw [tick_w]; simp only [List.length_nil]; omega
        | some x =>
          obtain ⟨tok, ty, rest⟩ := x
          obtain ⟨l1, l2, hw⟩ := nextTokC_some hn
          refine Bd.bind_ok tick_fst (Bd.bind_ok hn (n' := 63 * rest.length + 20 + (7 * tok.length + 25)) ?_ (Nat.le_refl _))
            (by rw [tick_w]; omega)
          simp only
          split
          · exact (Bd.ok _ _).mono (by omega)
          · have hN := ihL rest [] (by omega)
            exact Bd.bind_nested hN (fun v r hx => ihL r _ (by have := hN.of_ok hx; omega)) (by omega)
          · have hN := ihD rest [] (by omega)
            exact Bd.bind_nested hN (fun v r hx => ihL r _ (by have := hN.of_ok hx; omega)) (by omega)
          · exact Bd.value _ _ (by decide) fun v => ihL rest _ (by omega)

theorem parseDictC_bd (f : Nat) (d : BL) (acc : List (BL × Val)) (h : d.length < f) :
    Bd 63 (63 * d.length + 20) (parseDictC f d acc) := (parse_bd_aux f).1 d acc h

theorem parseListC_bd (f : Nat) (d : BL) (acc : List Val) (h : d.length < f) :
    Bd 63 (63 * d.length + 20) (parseListC f d acc) := (parse_bd_aux f).2 d acc h

/-- the nested parsers, started anywhere with enough fuel: linear in what is left, never out of fuel -/
theorem parseDictC_cost (f : Nat) (d : BL) (acc : List (BL × Val)) (h : d.length < f) :
    (parseDictC f d acc).2.w ≤ 63 * d.length + 20 ∧ (parseDictC f d acc).1 ≠ .error .recursionError :=
  ⟨(parseDictC_bd f d acc h).w_le, (parseDictC_bd f d acc h).ne_rec⟩

theorem parseListC_cost (f : Nat) (d : BL) (acc : List Val) (h : d.length < f) :
    (parseListC f d acc).2.w ≤ 63 * d.length + 20 ∧ (parseListC f d acc).1 ≠ .error .recursionError :=
  ⟨(parseListC_bd f d acc h).w_le, (parseListC_bd f d acc h).ne_rec⟩

theorem parseC_spec (d : BL) : (parseC d).2.w ≤ 63 * d.length + 20 ∧ (parseC d).1 ≠ .error .recursionError := by
  have hb := parseDictC_bd (d.length + 1) d [] (Nat.lt_succ_self _)
  unfold parseC
  cases hx : (parseDictC (d.length + 1) d []).1 with
  | error e =>
    have := hb.of_error hx
    rw [bind_err' hx]
    exact ⟨this.2, fun h => this.1 (by injection h)⟩
  | ok y =>
    have := hb.w_le
    rw [bind_ok' hx]
    refine ⟨?_, fun h => by cases h⟩
    simp only [w_add, ok_w]; omega

/-- ticks + bytes of the whole engine-data parse: at most `63 · len(data) + 20` -/
theorem parseC_cost (d : BL) : (parseC d).2.w ≤ 63 * d.length + 20 := (parseC_spec d).1

/-- the fuel `len(data) + 1` of `parse` is never exhausted (every loop iteration consumes a byte) -/
theorem parse_never_out_of_fuel (d : BL) : parse d ≠ .error .recursionError := by
  rw [← parseC_fst]; exact (parseC_spec d).2

/-! ## the block -/

theorem reErr_snd {α : Type} (x : CE α) : (reErr x).2 = x.2 := by
  obtain ⟨r, c⟩ := x
  cases r with
  | ok a => rfl
  | error e => cases e <;> rfl

theorem reErr_ne_other {α : Type} (x : CE α) (h : x.1 ≠ .error .recursionError) : (reErr x).1 ≠ .error .other := by
  obtain ⟨r, c⟩ := x
  cases r with
  | ok a => intro h'; cases h'
  | error e =>
    cases e
    case recursionError => exact absurd rfl h
    all_goals (intro h'; cases h')

/-- `reErr` only renames: the outcome is a success exactly when the parse is, with the same tree -/
theorem reErr_ok {α : Type} (x : CE α) (a : α) : (reErr x).1 = .ok a ↔ x.1 = .ok a := by
  obtain ⟨r, c⟩ := x
  cases r with
  | ok b => exact Iff.rfl
  | error e => cases e <;> (constructor <;> (intro h'; cases h'))

/-- The engine data of a block costs at most `65 · len(data) + 22` ticks + bytes, and its parse never runs out of fuel. -/
theorem runEngineData_bound (data : B) :
    (runEngineData data).2.w ≤ 65 * data.length + 22 ∧ (runEngineData data).1 ≠ .error .other := by
  have hp := parseC_spec data
  have hr : (readAllC data 0).1 = .ok (data, data.length) := by
    show readAll data 0 = _
    simp [readAll]
  have hrw : (readAllC data 0).2.w = 1 + data.length := by
    show 1 + (data.length - 0) = _
    omega
  unfold runEngineData
  rw [bind_ok' (enterBlock_fst data), bind_ok' hr]
  simp only
  have hs := reErr_snd (parseC data)
  have hn := reErr_ne_other (parseC data) hp.2
  cases hx : (reErr (parseC data)).1 with
  | error e =>
    rw [bind_err' hx]
    refine ⟨?_, fun h => hn (by rw [hx]; injection h with h; rw [h])⟩
    simp only [w_add, enterBlock_w, hrw, hs]; omega
  | ok t =>
    rw [bind_ok' hx]
    refine ⟨?_, fun h => by cases h⟩
    simp only [w_add, enterBlock_w, hrw, hs, ok_w]; omega

end PsdVerif.EngineDataCost
