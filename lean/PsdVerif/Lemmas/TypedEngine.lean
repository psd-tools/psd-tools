/-
C01 (typed documents) — engine data inside the C01 model (Model/TypedEngine.lean): the laws of the `Txt2` payload and of
the `TypeToolObjectSetting` whose engine data is parsed at read time, from C18's `parse (writeT l t) = t`.
-/
import PsdVerif.Lemmas.EngineDataParse
import PsdVerif.Lemmas.EngineDataFloat
import PsdVerif.Lemmas.PayloadDescWrap
import PsdVerif.Model.TypedEngine

namespace PsdVerif.Typed
open PsdVerif.Codec PsdVerif.Payload

/-! ### the well-formedness predicate is C18's -/

theorem EngineWF.scalar_eq (s : EngineData.Scalar) : EngineWF.scalar s = EngineData.wfScalar s := by
  cases s <;> rfl

mutual
theorem EngineWF.val_eq (v : EngineData.Val) : EngineWF.val v = EngineData.wfVal v := by
  cases v with
  | dict items => simp only [EngineWF.val, EngineData.wfVal, EngineWF.pairs_eq items]
  | list elems => simp only [EngineWF.val, EngineData.wfVal, EngineWF.elems_eq elems]
  | sc s => simp only [EngineWF.val, EngineData.wfVal, EngineWF.scalar_eq]
theorem EngineWF.pairs_eq (t : List (EngineData.BL × EngineData.Val)) : EngineWF.pairs t = EngineData.wfPairs t := by
  cases t with
  | nil => rfl
  | cons kv t =>
    obtain ⟨k, v⟩ := kv
    simp only [EngineWF.pairs, EngineData.wfPairs, EngineWF.val_eq v, EngineWF.pairs_eq t]
    rfl
theorem EngineWF.elems_eq (t : List EngineData.Val) : EngineWF.elems' t = EngineData.wfElems t := by
  cases t with
  | nil => rfl
  | cons v t => simp only [EngineWF.elems', EngineData.wfElems, EngineWF.val_eq v, EngineWF.elems_eq t]
end

/-- C18's round trip on the total writer, for the trees of `TreeWF` -/
theorem parse_writeT (l : EngineData.Layout) (t : Tree) (h : TreeWF t) : EngineData.parse (EngineData.writeT l t) = .ok t := by
  have hw : EngineData.wfPairs t = true := by rw [← EngineWF.pairs_eq]; exact h
  exact EngineData.parse_of_toks EngineData.floatOK l t hw _ (EngineData.toks_writeT EngineData.floatOK l t hw)

/-! ### `EngineData2` (`Txt2`) -/

namespace EngineData2

theorem rt : codec.RtAtEnd := by
  intro t hwf _ d p hat hend
  have hdrop := hat.drop_of_end hend
  have hb := hat.bound
  simp only [codec] at hdrop hb hend ⊢
  simp only [dec, hdrop, parse_writeT .compact t hwf, Except.ok.injEq, Prod.mk.injEq, true_and]
  omega

theorem count : codec.Count := fun _ => rfl

end EngineData2

/-! ### the engine data slot of the text descriptor -/

theorem slotOf_setSlot_raw {items : Descriptor.Items} {tag : Descriptor.RawTag} {b0 : B} (w : B)
    (h : slotOf items = some (.raw tag b0)) : slotOf (setSlot w items) = some (.raw tag w) := by
  induction items with
  | nil => simp [slotOf] at h
  | cons kv r ih =>
    obtain ⟨k, v⟩ := kv
    by_cases hk : k.bytes = engineKey
    · simp only [slotOf, if_pos hk, Option.some.injEq] at h
      subst h
      simp only [setSlot, if_pos hk, slotOf]
    · simp only [slotOf, if_neg hk] at h
      simp only [setSlot, if_neg hk, slotOf, ih h]

theorem setSlot_setSlot (w w' : B) (items : Descriptor.Items) : setSlot w' (setSlot w items) = setSlot w' items := by
  induction items with
  | nil => rfl
  | cons kv r ih =>
    obtain ⟨k, v⟩ := kv
    by_cases hk : k.bytes = engineKey
    · simp only [setSlot, if_pos hk]
      cases v <;> rfl
    · simp only [setSlot, if_neg hk, ih]

theorem setSlot_self {items : Descriptor.Items} {tag : Descriptor.RawTag} {b : B}
    (h : slotOf items = some (.raw tag b)) : setSlot b items = items := by
  induction items with
  | nil => rfl
  | cons kv r ih =>
    obtain ⟨k, v⟩ := kv
    by_cases hk : k.bytes = engineKey
    · simp only [slotOf, if_pos hk, Option.some.injEq] at h
      subst h
      simp only [setSlot, if_pos hk]
    · simp only [slotOf, if_neg hk] at h
      simp only [setSlot, if_neg hk, ih h]

namespace TypeToolTyped
variable (tb : Descriptor.Tables)

theorem withItems_self (x : TypeToolObjectSetting) : withItems x x.textData.items = x := rfl

/-- the engine-data step of the reader on what the writer wrote gives the object back -/
theorem engineStep_flat {x : TypeToolTyped} (h : slotWF x) : engineStep (flat x) = x := by
  obtain ⟨base, engine⟩ := x
  cases engine with
  | none =>
    simp only [slotWF] at h
    simp only [flat, engineStep]
    split
    · rename_i tag b hs
      simp only [hs] at h
      cases hp : EngineData.parse b with
      | ok t => rw [hp] at h; simp [Except.toBool] at h
      | error e => rfl
    · rfl
  | some t =>
    simp only [slotWF] at h
    obtain ⟨hs, ht⟩ := h
    split at hs
    · rename_i tag b hslot
      subst hs
      have h1 := slotOf_setSlot_raw (EngineData.writeT .indented t) hslot
      simp only [flat, engineStep, withItems, h1, parse_writeT .indented t ht, setSlot_setSlot, setSlot_self hslot]
    · exact absurd hs id

/-- the reader on what the writer wrote, whatever the engine-data slot holds: the engine-data step on the bytes view -/
theorem dec_at (pad : Nat) {x : TypeToolTyped} (hwf : (TypeToolObjectSetting.codec tb pad).WF (flat x))
    (hf : TypeToolObjectSetting.Fits tb (flat x)) {d : B} {p : Nat} (h : At d p ((codec tb pad).encT x)) :
    (codec tb pad).dec d p = .ok (engineStep (flat x), p + (codec tb pad).consumed x) := by
  have e := TypeToolObjectSetting.rt tb pad (flat x) hwf hf d p h
  simp only [TypeToolObjectSetting.codec] at e
  simp only [codec, dec, e]

theorem rt (pad : Nat) : (codec tb pad).RtAnywhere := by
  intro x hwf hf d p h
  rw [dec_at tb pad hwf.1 hf.1 h, engineStep_flat hwf.2]

theorem count (pad : Nat) : (codec tb pad).Count := fun x => TypeToolObjectSetting.encP_eq tb pad (flat x)

end TypeToolTyped

end PsdVerif.Typed
