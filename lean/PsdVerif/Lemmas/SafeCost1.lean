/-
C06 — the counting interpreter erases to the plain reader: `(X.decC d p).1 = X.dec d p` for every reader
of `Model/PsdCost.lean` (it IS the same reader; only the costs were added).
-/
import PsdVerif.Model.PsdCost
import PsdVerif.Lemmas.Safe1

namespace PsdVerif.SafeCost
open PsdVerif PsdVerif.Codec PsdVerif.Psd PsdVerif.PsdCost

theorem bind_fst {α β : Type} (m : CE β) (f : β → CE α) :
    (m >>= f).1 = (match m.1 with | .ok a => (f a).1 | .error e => .error e) := by
  show (CE.bind m f).1 = _
  unfold CE.bind
  cases m.1 <;> rfl

theorem bind_snd {α β : Type} (m : CE β) (f : β → CE α) :
    (m >>= f).2 = (match m.1 with | .ok a => m.2 + (f a).2 | .error _ => m.2) := by
  show (CE.bind m f).2 = _
  unfold CE.bind
  cases m.1 <;> rfl

theorem bind_ok' {α β : Type} {m : CE β} {f : β → CE α} {a : β} (h : m.1 = .ok a) :
    (m >>= f) = ((f a).1, m.2 + (f a).2) := by
  show CE.bind m f = _
  unfold CE.bind; rw [h]

theorem bind_err' {α β : Type} {m : CE β} {f : β → CE α} {e : Err} (h : m.1 = .error e) :
    (m >>= f) = (.error e, m.2) := by
  show CE.bind m f = _
  unfold CE.bind; rw [h]

theorem ok_bind {α β : Type} (a : β) (f : β → CE α) : (CE.ok a >>= f) = f a := by
  show ((f a).1, (⟨0 + (f a).2.ticks, 0 + (f a).2.alloc⟩ : Cost)) = f a
  rw [Nat.zero_add, Nat.zero_add]
  rfl

theorem erase_bind {α β : Type} {mc : CE β} {m : Except Err β} {fc : β → CE α} {f : β → Except Err α}
    (hm : mc.1 = m) (hf : ∀ x, (fc x).1 = f x) : (mc >>= fc).1 = (m >>= f) := by
  subst hm
  rw [bind_fst]
  cases h : mc.1 with
  | error e => rfl
  | ok a => exact hf a

/-- a step that always succeeds (`tick`, `enterBlock`, a loop condition) -/
theorem erase_ok {α β : Type} {u : CE β} {b : β} {fc : β → CE α} {r : Except Err α}
    (hu : u.1 = .ok b) (hf : (fc b).1 = r) : (u >>= fc).1 = r := by
  rw [bind_fst, hu]; exact hf

/-- `erase_bind` for a continuation on a pair: no pattern has to be matched. A long reader is walked with this and `erase_ite`,
one line per statement; the one-line `simp only` form (see "the skeleton" below) rebuilds the term at every statement and is
kept for the short ones. -/
theorem erase_seq {α β γ : Type} {mc : CE (β × γ)} {m : Except Err (β × γ)} {fc : β × γ → CE α}
    {f : β × γ → Except Err α} (hm : mc.1 = m) (hf : ∀ v p, (fc (v, p)).1 = f (v, p)) : (mc >>= fc).1 = (m >>= f) :=
  erase_bind hm fun x => hf x.1 x.2

theorem erase_ite {α : Type} {c : Prop} [Decidable c] {xc yc : CE α} {x y : Except Err α}
    (hx : c → xc.1 = x) (hy : ¬ c → yc.1 = y) : (if c then xc else yc).1 = if c then x else y := by
  split
  · exact hx ‹_›
  · exact hy ‹_›

theorem tick_fst : tick.1 = .ok () := rfl
theorem enterBlock_fst (data : B) : (enterBlock data).1 = .ok () := rfl

theorem readNC_fst (n : Nat) (d : B) (p : Nat) : (readNC n d p).1 = readN n d p := rfl
theorem readUpToC_fst (n : Nat) (d : B) (p : Nat) : (readUpToC n d p).1 = readUpTo n d p := rfl
theorem readAllC_fst (d : B) (p : Nat) : (readAllC d p).1 = readAll d p := rfl
theorem isReadableC_fst (n : Nat) (d : B) (p : Nat) : (isReadableC n d p).1 = .ok (isReadable n d p) := rfl

theorem readPyC_fst (n : Int) (d : B) (p : Nat) : (readPyC n d p).1 = readPy n d p := by
  unfold readPyC readPy
  split
  · rfl
  · split <;> rfl

theorem readUC_fst (w : Nat) (d : B) (p : Nat) : (readUC w d p).1 = readU w d p := by
  unfold readUC readU
  rw [bind_fst, readNC_fst]
  cases readN w d p with
  | error e => rfl
  | ok x => rfl

theorem readI16C_fst (d : B) (p : Nat) : (readI16C d p).1 = readI16 d p := by
  unfold readI16C readI16
  rw [bind_fst, readUC_fst]
  cases readU 2 d p with
  | error e => rfl
  | ok x => rfl

theorem readI32C_fst (d : B) (p : Nat) : (readI32C d p).1 = readI32 d p := by
  unfold readI32C readI32
  rw [bind_fst, readUC_fst]
  cases readU 4 d p with
  | error e => rfl
  | ok x => rfl

theorem readPaddingC_fst (size divisor : Nat) (d : B) (p : Nat) :
    (readPaddingC size divisor d p).1 = readPadding size divisor d p := by
  unfold readPaddingC readPadding
  rw [bind_fst, readUpToC_fst]
  cases readUpTo (padAmount size divisor) d p with
  | error e => rfl
  | ok x => rfl

theorem readLenBlockC_fst (skip w pad : Nat) (d : B) (p : Nat) :
    (readLenBlockC skip w pad d p).1 = readLenBlock skip w pad d p := by
  unfold readLenBlockC readLenBlock
  rw [bind_fst, readNC_fst]
  cases readN skip d p with
  | error e => rfl
  | ok x0 =>
    obtain ⟨y, p0⟩ := x0
    simp only
    rw [bind_fst, readUC_fst]
    cases readU w d p0 with
    | error e => rfl
    | ok x1 =>
      obtain ⟨n, p1⟩ := x1
      simp only
      split
      · rfl
      · rw [bind_fst, readUpToC_fst]
        cases readUpTo n d p1 with
        | error e => rfl
        | ok x2 =>
          obtain ⟨x, p2⟩ := x2
          simp only
          split
          · rfl
          · rw [bind_fst, readPaddingC_fst]
            cases readPadding n pad d p2 with
            | error e => rfl
            | ok x3 => rfl

theorem readPascalC_fst (pad : Nat) (d : B) (p : Nat) : (readPascalC pad d p).1 = readPascal pad d p := by
  unfold readPascalC readPascal
  rw [bind_fst, readUC_fst]
  cases readU 1 d p with
  | error e => rfl
  | ok x1 =>
    obtain ⟨n, p1⟩ := x1
    simp only
    rw [bind_fst, readUpToC_fst]
    cases readUpTo n d p1 with
    | error e => rfl
    | ok x2 =>
      obtain ⟨x, p2⟩ := x2
      simp only
      split
      · rfl
      · rw [bind_fst, readPaddingC_fst]
        cases readPadding (p2 - p) pad d p2 with
        | error e => rfl
        | ok x3 => rfl

theorem optItemC_fst {α : Type} {itemC : RC α} {item : R α} (hi : ∀ d p, (itemC d p).1 = item d p) (d : B) (p : Nat) :
    (optItemC itemC d p).1 = optItem item d p := by
  unfold optItemC optItem
  rw [bind_fst, hi]
  cases item d p with
  | error e => rfl
  | ok x => rfl

theorem readForC_fst {α β : Type} {itemC : β → RC α} {item : β → R α} (xs : List β)
    (hi : ∀ x ∈ xs, ∀ d p, (itemC x d p).1 = item x d p)
    (d : B) (p : Nat) : (readForC itemC xs d p).1 = readFor item xs d p := by
  induction xs generalizing p with
  | nil => rfl
  | cons x xs ih =>
    unfold readForC readFor
    refine erase_ok tick_fst ?_
    rw [bind_fst, hi x (by simp)]
    cases item x d p with
    | error e => rfl
    | ok y =>
      obtain ⟨a, p1⟩ := y
      simp only
      rw [bind_fst, ih (fun z hz => hi z (by simp [hz]))]
      cases readFor item xs d p1 with
      | error e => rfl
      | ok z => rfl

theorem readCountC_eq_readForC {α : Type} (item : RC α) (n : Nat) :
    readCountC item n = readForC (fun _ : Unit => item) (List.replicate n ()) := by
  induction n with
  | zero => rfl
  | succ n ih => funext d p; simp only [readCountC, List.replicate_succ, readForC, ih]

theorem readCountC_fst {α : Type} {itemC : RC α} {item : R α} (hi : ∀ d p, (itemC d p).1 = item d p)
    (n : Nat) (d : B) (p : Nat) : (readCountC itemC n d p).1 = readCount item n d p := by
  rw [readCountC_eq_readForC, Safe.readCount_eq_readFor]
  exact readForC_fst _ (fun _ _ => hi) d p

theorem readWhileFuelC_fst {α : Type} {condC : B → Nat → CE Bool} {cond : B → Nat → Bool} {itemC : RC (Option α)}
    {item : R (Option α)} (hc : ∀ d p, (condC d p).1 = .ok (cond d p)) (hi : ∀ d p, (itemC d p).1 = item d p)
    (fuel : Nat) (d : B) (p : Nat) : (readWhileFuelC condC itemC fuel d p).1 = readWhileFuel cond item fuel d p := by
  induction fuel generalizing p with
  | zero => rfl
  | succ fuel ih =>
    unfold readWhileFuelC readWhileFuel
    refine erase_ok tick_fst ?_
    refine erase_ok (hc d p) ?_
    split
    · rw [bind_fst, hi]
      cases item d p with
      | error e => rfl
      | ok x =>
        obtain ⟨o, p1⟩ := x
        cases o with
        | none => rfl
        | some a =>
          simp only
          rw [bind_fst, ih]
          cases readWhileFuel cond item fuel d p1 with
          | error e => rfl
          | ok y => rfl
    · rfl

theorem readWhileC_fst {α : Type} {condC : B → Nat → CE Bool} {cond : B → Nat → Bool} {itemC : RC (Option α)}
    {item : R (Option α)} (hc : ∀ d p, (condC d p).1 = .ok (cond d p)) (hi : ∀ d p, (itemC d p).1 = item d p)
    (d : B) (p : Nat) : (readWhileC condC itemC d p).1 = readWhile cond item d p :=
  readWhileFuelC_fst hc hi _ d p

/-! ### the skeleton

`.1` commutes with `>>=`, `if`, `CE.ok`, `CE.error`: the erasure of a reader is its definition, the reader's definition, and
the erasures of its parts. -/

theorem fst_bind {α β : Type} (m : CE β) (f : β → CE α) : (m >>= f).1 = m.1 >>= fun x => (f x).1 := by
  rw [bind_fst]; cases m.1 <;> rfl

theorem ok_fst {α : Type} (a : α) : (CE.ok a : CE α).1 = .ok a := rfl
theorem error_fst {α : Type} (e : Err) : (CE.error e : CE α).1 = .error e := rfl

theorem ite_fst {α : Type} (c : Prop) [Decidable c] (a b : CE α) : (if c then a else b).1 = if c then a.1 else b.1 := by
  split <;> rfl

theorem except_ok_bind {α β : Type} (a : β) (f : β → Except Err α) : (Except.ok a >>= f) = f a := rfl

theorem header_fst (d : B) (p : Nat) : (PsdCost.Header.decC d p).1 = Header.dec d p := by
  simp only [PsdCost.Header.decC, Header.dec, fst_bind, ok_fst, error_fst, ite_fst, readNC_fst, readUC_fst]

theorem colorMode_fst (d : B) (p : Nat) : (colorModeDecC d p).1 = colorModeDec d p := readLenBlockC_fst 0 4 1 d p

theorem resource_fst (d : B) (p : Nat) : (PsdCost.Resource.decC d p).1 = Resource.dec d p := by
  simp only [PsdCost.Resource.decC, Resource.dec, fst_bind, ok_fst, error_fst, ite_fst, readNC_fst, readUC_fst,
    readPascalC_fst, readLenBlockC_fst]

theorem resourcesLoop_fst (d : B) (p : Nat) :
    (readWhileC (isReadableC 4) (optItemC PsdCost.Resource.decC) d p).1 = readWhile (isReadable 4) (optItem Resource.dec) d p :=
  readWhileC_fst (isReadableC_fst 4) (optItemC_fst resource_fst) d p

theorem resources_fst (d : B) (p : Nat) : (resourcesDecC d p).1 = resourcesDec d p := by
  simp only [resourcesDecC, resourcesDec, fst_bind, ok_fst, readLenBlockC_fst, enterBlock_fst, except_ok_bind,
    resourcesLoop_fst]

theorem tagged_fst (v pad : Nat) (d : B) (p : Nat) : (PsdCost.TaggedBlock.decC v pad d p).1 = TaggedBlock.dec v pad d p := by
  simp only [PsdCost.TaggedBlock.decC, TaggedBlock.dec, fst_bind, ok_fst, ite_fst, readNC_fst, readLenBlockC_fst]

theorem taggedCondC_fst (endPos : Option Nat) (d : B) (p : Nat) : (taggedCondC endPos d p).1 = .ok (taggedCond endPos d p) := by
  unfold taggedCondC taggedCond
  exact erase_ok (isReadableC_fst 8 d p) rfl

theorem taggedLoop_fst (v pad : Nat) (endPos : Option Nat) (d : B) (p : Nat) :
    (readWhileC (taggedCondC endPos) (PsdCost.TaggedBlock.decC v pad) d p).1 =
      readWhile (taggedCond endPos) (TaggedBlock.dec v pad) d p :=
  readWhileC_fst (taggedCondC_fst endPos) (tagged_fst v pad) d p

theorem taggedBlocks_fst (v pad : Nat) (endPos : Option Nat) (d : B) (p : Nat) :
    (taggedBlocksDecC v pad endPos d p).1 = taggedBlocksDec v pad endPos d p := by
  simp only [taggedBlocksDecC, taggedBlocksDec, fst_bind, ok_fst, taggedLoop_fst]

theorem readOptC_fst (c : Bool) (w : Nat) (d : B) (p : Nat) : (readOptC c w d p).1 = readOpt c w d p := by
  unfold readOptC readOpt
  split
  · rw [bind_fst, readUC_fst]
    cases readU w d p with
    | error e => rfl
    | ok x => rfl
  · rfl

theorem maskParameters_fst (d : B) (p : Nat) : (PsdCost.MaskParameters.decC d p).1 = MaskParameters.dec d p := by
  simp only [PsdCost.MaskParameters.decC, MaskParameters.dec, fst_bind, ok_fst, readUC_fst, readOptC_fst]

theorem maskReal_fst (d : B) (p : Nat) : (PsdCost.MaskReal.decC d p).1 = MaskReal.dec d p := by
  simp only [PsdCost.MaskReal.decC, MaskReal.dec, fst_bind, ok_fst, readUC_fst, readI32C_fst]

theorem maskBody_fst (length : Nat) (d : B) (p : Nat) : (PsdCost.MaskData.bodyDecC length d p).1 = MaskData.bodyDec length d p := by
  simp only [PsdCost.MaskData.bodyDecC, MaskData.bodyDec, fst_bind, ok_fst, ite_fst, readUC_fst, readI32C_fst,
    optItemC_fst maskReal_fst, optItemC_fst maskParameters_fst]

theorem mask_fst (d : B) (p : Nat) : (maskDecC d p).1 = maskDec d p := by
  simp only [maskDecC, maskDec, fst_bind, ok_fst, ite_fst, readLenBlockC_fst, enterBlock_fst, except_ok_bind,
    maskBody_fst]

theorem range4_fst (d : B) (p : Nat) : (PsdCost.Range4.decC d p).1 = Range4.dec d p := by
  simp only [PsdCost.Range4.decC, Range4.dec, fst_bind, ok_fst, readUC_fst]

theorem rangesLoop_fst (d : B) (p : Nat) :
    (readWhileC (isReadableC 8) (optItemC PsdCost.Range4.decC) d p).1 = readWhile (isReadable 8) (optItem Range4.dec) d p :=
  readWhileC_fst (isReadableC_fst 8) (optItemC_fst range4_fst) d p

theorem blendingRanges_fst (d : B) (p : Nat) : (PsdCost.BlendingRanges.decC d p).1 = BlendingRanges.dec d p := by
  simp only [PsdCost.BlendingRanges.decC, BlendingRanges.dec, fst_bind, ok_fst, ite_fst, readLenBlockC_fst,
    enterBlock_fst, except_ok_bind, range4_fst, rangesLoop_fst]

theorem channelInfo_fst (v : Nat) (d : B) (p : Nat) : (PsdCost.ChannelInfo.decC v d p).1 = ChannelInfo.dec v d p := by
  simp only [PsdCost.ChannelInfo.decC, ChannelInfo.dec, fst_bind, ok_fst, error_fst, ite_fst, readI16C_fst,
    readUC_fst]

theorem extra_fst (v : Nat) (d : B) (p : Nat) : (PsdCost.LayerRecord.extraDecC v d p).1 = LayerRecord.extraDec v d p := by
  simp only [PsdCost.LayerRecord.extraDecC, LayerRecord.extraDec, fst_bind, ok_fst, mask_fst, blendingRanges_fst,
    readPascalC_fst, taggedBlocks_fst]

theorem layerRecord_fst (v : Nat) (d : B) (p : Nat) : (PsdCost.LayerRecord.decC v d p).1 = LayerRecord.dec v d p := by
  simp only [PsdCost.LayerRecord.decC, LayerRecord.dec, fst_bind, ok_fst, error_fst, ite_fst, readNC_fst,
    readUC_fst, readI32C_fst, readCountC_fst (channelInfo_fst v), readLenBlockC_fst, enterBlock_fst, except_ok_bind,
    extra_fst]

theorem channelData_fst (ciLength : Nat) (d : B) (p : Nat) : (PsdCost.ChannelData.decC ciLength d p).1 = ChannelData.dec ciLength d p := by
  simp only [PsdCost.ChannelData.decC, ChannelData.dec, fst_bind, ok_fst, error_fst, ite_fst, readUC_fst, readPyC_fst]

theorem channelList_fst (cis : List ChannelInfo) (d : B) (p : Nat) : (channelListDecC cis d p).1 = channelListDec cis d p :=
  readForC_fst cis (fun ci _ d p => channelData_fst ci.length d p) d p

theorem channelImage_fst (rs : List LayerRecord) (d : B) (p : Nat) : (channelImageDecC rs d p).1 = channelImageDec rs d p :=
  readForC_fst rs (fun r _ d p => channelList_fst r.channelInfo d p) d p

theorem layerInfoBody_fst (v : Nat) (d : B) (p : Nat) : (PsdCost.LayerInfo.bodyDecC v d p).1 = LayerInfo.bodyDec v d p := by
  simp only [PsdCost.LayerInfo.bodyDecC, LayerInfo.bodyDec, fst_bind, ok_fst, readI16C_fst,
    readCountC_fst (layerRecord_fst v), channelImage_fst]

theorem layerInfo_fst (v : Nat) (d : B) (p : Nat) : (PsdCost.LayerInfo.decC v d p).1 = LayerInfo.dec v d p := by
  unfold PsdCost.LayerInfo.decC LayerInfo.dec
  refine erase_seq (readUC_fst ..) fun length p => ?_
  refine erase_seq (erase_ite (fun _ => rfl) fun _ => ?_) fun li p' => ?_
  · rw [bind_fst, layerInfoBody_fst]
    cases LayerInfo.bodyDec v d p with
    | error e => rfl
    | ok x => rfl
  · exact erase_ite (fun _ => erase_ite (fun _ => rfl) fun _ => rfl) fun _ => rfl

theorem globalMask_fst (d : B) (p : Nat) : (PsdCost.GlobalLayerMaskInfo.decC d p).1 = GlobalLayerMaskInfo.dec d p := by
  simp only [PsdCost.GlobalLayerMaskInfo.decC, GlobalLayerMaskInfo.dec, fst_bind, ok_fst, error_fst, ite_fst,
    readLenBlockC_fst, enterBlock_fst, except_ok_bind, readCountC_fst (readUC_fst 2), readUC_fst]

theorem layerAndMaskBody_fst (v endPos : Nat) (d : B) (p : Nat) :
    (PsdCost.LayerAndMask.bodyDecC v endPos d p).1 = LayerAndMask.bodyDec v endPos d p := by
  simp only [PsdCost.LayerAndMask.bodyDecC, LayerAndMask.bodyDec, fst_bind, ok_fst, ite_fst, layerInfo_fst,
    globalMask_fst, taggedBlocks_fst]

theorem layerAndMask_fst (v : Nat) (d : B) (p : Nat) : (PsdCost.LayerAndMask.decC v d p).1 = LayerAndMask.dec v d p := by
  simp only [PsdCost.LayerAndMask.decC, LayerAndMask.dec, fst_bind, ok_fst, error_fst, ite_fst, readUC_fst,
    layerAndMaskBody_fst]

theorem imageData_fst (d : B) (p : Nat) : (PsdCost.ImageData.decC d p).1 = ImageData.dec d p := by
  simp only [PsdCost.ImageData.decC, ImageData.dec, fst_bind, ok_fst, error_fst, ite_fst, readUC_fst, readAllC_fst]

theorem psd_fst (d : B) (p : Nat) : (PsdCost.PSD.readC d p).1 = PSD.read d p := by
  simp only [PsdCost.PSD.readC, PSD.read, fst_bind, ok_fst, header_fst, colorMode_fst, resources_fst,
    layerAndMask_fst, imageData_fst]

end PsdVerif.SafeCost
