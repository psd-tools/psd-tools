/-
The compositor model over plain layer trees (C11, C13). A plain tree is an effect-carrying tree without effects
(`applyFxNode_embed`), so the range invariants and the independence of the viewport come from
`Lemmas/CompositeFx.lean` and `Lemmas/CompositeFxSim.lean`.
-/
import PsdVerif.Lemmas.CompositeFxEmbed
import PsdVerif.Lemmas.CompositeFxSim

namespace PsdVerif.Composite

/-- the range invariant through a plain layer: `applyFxNode_inv` on `embed n` -/
theorem applyNode_inv (B : Mode → Color → Color → Color) (V : Rect) (x y : Int) (cc : Bool) (st : PState)
    (hst : Inv st) (n : Node) (hn : nodeOk n) : Inv (applyNode B V x y cc st n) := by
  rw [← applyFxNode_embed B false]
  exact applyFxNode_inv B false V x y cc st hst _ (embed_ok n hn)

theorem applyList_inv (B : Mode → Color → Color → Color) (V : Rect) (x y : Int) (st : PState) (hst : Inv st)
    (ns : List Node) (h : listOk ns) : Inv (applyList B V x y st ns) := by
  rw [← applyFxList_embed B false]
  exact applyFxList_inv B false V x y st hst _ (embedList_ok ns h)

theorem applyClips_inv (B : Mode → Color → Color → Color) (V : Rect) (x y : Int) (st : PState) (hst : Inv st)
    (ns : List Node) (h : listOk ns) : Inv (applyClips B V x y st ns) := by
  rw [← applyFxClips_embed B false]
  exact applyFxClips_inv B false V x y st hst _ (embedList_ok ns h)

theorem applyList_xinv {B : Mode → Color → Color → Color} (hB : BOk B) (V : Rect) (x y : Int) (st : PState)
    (hst : Inv st) (hx : XInv st) (ns : List Node) (h : listOk ns) : XInv (applyList B V x y st ns) := by
  rw [← applyFxList_embed B false]
  exact applyFxList_xinv hB false V x y st hst hx _ (embedList_ok ns h)

theorem applyClips_xinv {B : Mode → Color → Color → Color} (hB : BOk B) (V : Rect) (x y : Int) (st : PState)
    (hst : Inv st) (hx : XInv st) (ns : List Node) (h : listOk ns) : XInv (applyClips B V x y st ns) := by
  rw [← applyFxClips_embed B false]
  exact applyFxClips_xinv hB false V x y st hst hx _ (embedList_ok ns h)

theorem embed_props (n : Node) : (embed n).props = n.props := by
  cases n <;> rfl

mutual
theorem embed_const : (n : Node) → fxNodeConst (embed n)
  | .leaf pr hasPixels color shape clips => by
    unfold embed; exact ⟨fun s hs => absurd hs (List.not_mem_nil), embedList_const clips⟩
  | .group pr passThrough children clips => by
    unfold embed; exact ⟨fun s hs => absurd hs (List.not_mem_nil), embedList_const children, embedList_const clips⟩
theorem embedList_const : (ns : List Node) → fxListConst (embedList ns)
  | [] => by unfold embedList; trivial
  | n :: rest => by unfold embedList; exact ⟨embed_const n, embedList_const rest⟩
end

/-- **Skipped or applied, a layer that does not cover the pixel is invisible there.** -/
theorem applyNode_outside_sim (B : Mode → Color → Color → Color) (V : Rect) (x y : Int) (hV : V.contains x y = true)
    (cc : Bool) (st : PState) (hst : Inv st) (n : Node) (hout : n.props.bbox.contains x y = false) :
    Sim (applyNode B V x y cc st n) st := by
  rw [← applyFxNode_embed B false]
  exact applyFxNode_outside_sim B false V x y hV cc st hst _ (by rw [embed_props]; exact hout)

/-- the viewport does not matter at a pixel: `applyFxNode_sim` on `embed n` -/
theorem applyNode_sim (B : Mode → Color → Color → Color) (V₁ V₂ : Rect) (x y : Int)
    (h₁ : V₁.contains x y = true) (h₂ : V₂.contains x y = true) (cc : Bool) (s t : PState)
    (hs : Sim s t) (is : Inv s) (it : Inv t) :
    (n : Node) → nodeOk n → Sim (applyNode B V₁ x y cc s n) (applyNode B V₂ x y cc t n) := by
  intro n hn
  rw [← applyFxNode_embed B false, ← applyFxNode_embed B false]
  exact applyFxNode_sim B false V₁ V₂ x y h₁ h₂ cc s t hs is it _ (embed_ok n hn) (embed_const n)

theorem applyList_sim (B : Mode → Color → Color → Color) (V₁ V₂ : Rect) (x y : Int)
    (h₁ : V₁.contains x y = true) (h₂ : V₂.contains x y = true) (s t : PState)
    (hs : Sim s t) (is : Inv s) (it : Inv t) (ns : List Node) (h : listOk ns) :
    Sim (applyList B V₁ x y s ns) (applyList B V₂ x y t ns) := by
  rw [← applyFxList_embed B false, ← applyFxList_embed B false]
  exact applyFxList_sim B false V₁ V₂ x y h₁ h₂ s t hs is it _ (embedList_ok ns h) (embedList_const ns)

theorem applyClips_sim (B : Mode → Color → Color → Color) (V₁ V₂ : Rect) (x y : Int)
    (h₁ : V₁.contains x y = true) (h₂ : V₂.contains x y = true) (s t : PState)
    (hs : Sim s t) (is : Inv s) (it : Inv t) :
    (ns : List Node) → listOk ns → Sim (applyClips B V₁ x y s ns) (applyClips B V₂ x y t ns) := by
  intro ns h
  rw [← applyFxClips_embed B false, ← applyFxClips_embed B false]
  exact applyFxClips_sim B false V₁ V₂ x y h₁ h₂ s t hs is it _ (embedList_ok ns h) (embedList_const ns)

theorem applyList_outside_sim (B : Mode → Color → Color → Color) (V : Rect) (x y : Int) (hV : V.contains x y = true)
    (st : PState) (hst : Inv st) (ns : List Node) (hns : listOk ns) (hout : ∀ n ∈ ns, n.props.bbox.contains x y = false) :
    Sim (applyList B V x y st ns) st := by
  induction ns generalizing st with
  | nil => exact Sim.refl st
  | cons n ns ih =>
    rw [applyList]
    have h1 := applyNode_outside_sim B V x y hV false st hst n (hout n (List.mem_cons_self ..))
    exact (applyList_sim B V V x y hV hV _ _ h1 (applyNode_inv B V x y false st hst n hns.1) hst ns hns.2).trans
      (ih st hst hns.2 fun m hm => hout m (List.mem_cons_of_mem _ hm))

theorem applyNode_c0 (B : Mode → Color → Color → Color) (V : Rect) (x y : Int) (cc : Bool) (st : PState) (n : Node) :
    (applyNode B V x y cc st n).c0 = st.c0 := by
  rw [← applyFxNode_embed B false]
  exact (applyFxNode_a0_c0 B false V x y cc st _).2

theorem applyList_c0 (B : Mode → Color → Color → Color) (V : Rect) (x y : Int) (st : PState) (ns : List Node) :
    (applyList B V x y st ns).c0 = st.c0 := by
  induction ns generalizing st with
  | nil => rfl
  | cons n ns ih => rw [applyList, ih, applyNode_c0]

end PsdVerif.Composite
