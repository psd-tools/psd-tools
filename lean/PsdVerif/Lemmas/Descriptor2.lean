/-
C01 descriptors — the round trip of every value class, by mutual structural induction
(value / list of values / list of keyed items) on `Codec.Reads`, the fuel bound, and the `written` accumulator.
-/
import PsdVerif.Lemmas.Descriptor1

namespace PsdVerif.Descriptor
open PsdVerif.Codec

/-! ### `_read_body` on a written body, given the law of its items -/

theorem readBody_reads {tb : Tables} {rec : Tag → R DVal} {nm : Str} {cid : Key} {items : Items}
    (hitems : Reads (readCount (keyed tb rec) items.length) (encItemsT tb items) items)
    (hnm : StrWF nm) (fnm : StrFits nm) (hcid : KeyWF tb cid) (fcid : KeyFits tb cid)
    (hlen : items.length < 4294967296) (hnd : KeysNodup items) :
    Reads (readBody tb rec) (bodyT tb nm cid items) (nm, cid, items) := by
  have h : Reads (readBody tb rec) (bodyT tb nm cid items) (nm, cid, dictOf items) :=
    (readStr_reads hnm fnm).bind ((readKey_reads hcid fcid).bind ((readU_reads (w := 4) hlen).bind (hitems.map _)))
  rwa [dictOf_of_nodup items hnd] at h

/-! ### the main induction -/

theorem need_pos (v : DVal) : 1 ≤ need v := by cases v <;> simp [need]

theorem decWith_int (tb : Tables) (rec : Tag → R DVal) (t : IntTag) : decWith tb rec t.tag = decInt t := by
  cases t <;> rfl
theorem decWith_class (tb : Tables) (rec : Tag → R DVal) (t : ClassTag) : decWith tb rec t.tag = decClass tb t := by
  cases t <;> rfl
theorem decWith_raw (tb : Tables) (rec : Tag → R DVal) (t : RawTag) : decWith tb rec t.tag = decRaw t := by
  cases t <;> rfl
theorem decWith_list (tb : Tables) (rec : Tag → R DVal) (t : ListTag) : decWith tb rec t.tag = decList rec t := by
  cases t <;> rfl
theorem decWith_desc (tb : Tables) (rec : Tag → R DVal) (t : DescTag) : decWith tb rec t.tag = decDesc tb rec t := by
  cases t <;> rfl

mutual
/-- each class's reader on what its writer emitted: the readers in the order of the fields written -/
theorem decBody_reads (tb : Tables) (v : DVal) (fuel : Nat) (hwf : WF tb v) (hf : Fits tb v) (hfuel : need v ≤ fuel) :
    Reads (decBody tb fuel v.tag) (encT tb v) v := by
  cases fuel with
  | zero => have := need_pos v; omega
  | succ fuel =>
  unfold decBody
  cases v with
  | int t z => rw [DVal.tag, decWith_int]; exact (readI32_reads hf).map _
  | large z => exact (readI64_reads hf).map _
  | bool b => exact (readBool_reads b).map _
  | double bits => exact (readF64_reads hf).map _
  | unitFloat u bits =>
    rw [encT, unitT_eq hwf]
    exact (readN_reads hwf.1).bind ((readF64_reads hf).bind_nil (.nil_bind (unitOf_ok hwf) (.pure _)))
  | unitFloats u vs =>
    rw [encT, unitT_eq hwf]
    exact (readN_reads hwf.1).bind ((readU_reads (w := 4) hf.1).bind
      (.nil_bind (unitOf_ok hwf) ((readF64s_reads hf.2).map _)))
  | string s => exact (readStr_reads hwf hf).map _
  | enumerated ty en => exact (readKey_reads hwf.1 hf.1).bind ((readKey_reads hwf.2 hf.2).map _)
  | enumRef nm cid ty en =>
    exact (readStr_reads hwf.1 hf.1).bind ((readKey_reads hwf.2.1 hf.2.1).bind
      ((readKey_reads hwf.2.2.1 hf.2.2.1).bind ((readKey_reads hwf.2.2.2 hf.2.2.2).map _)))
  | klass t nm cid =>
    rw [DVal.tag, decWith_class]
    exact (readStr_reads hwf.1 hf.1).bind ((readKey_reads hwf.2 hf.2).map _)
  | property nm cid kid =>
    exact (readStr_reads hwf.1 hf.1).bind ((readKey_reads hwf.2.1 hf.2.1).bind ((readKey_reads hwf.2.2 hf.2.2).map _))
  | name nm cid val =>
    exact (readStr_reads hwf.1 hf.1).bind ((readKey_reads hwf.2.1 hf.2.1).bind ((readStr_reads hwf.2.2 hf.2.2).map _))
  | offset nm cid val =>
    obtain ⟨n, rfl⟩ := Int.eq_ofNat_of_zero_le hf.2.2.1
    exact (readStr_reads hwf.1 hf.1).bind ((readKey_reads hwf.2 hf.2.1).bind
      ((readU32_reads (Int.ofNat_lt.mp hf.2.2.2)).map _))
  | raw t data => rw [DVal.tag, decWith_raw]; exact (readLenBlock_reads hf (by decide)).map _
  | list t items =>
    rw [DVal.tag, decWith_list]
    exact (readU_reads (w := 4) hf.1).bind ((decBody_list_reads tb items fuel hwf hf.2 (by rw [need] at hfuel; omega)).map _)
  | desc t nm cid items =>
    rw [DVal.tag, decWith_desc]
    exact (readBody_reads (decBody_items_reads tb items fuel hwf.2.2.2 hf.2.2.2 (by rw [need] at hfuel; omega))
      hwf.1 hf.1 hwf.2.1 hf.2.1 hf.2.2.1 hwf.2.2.1).map fun x => DVal.desc t x.1 x.2.1 x.2.2
  | objArray c nm cid items =>
    obtain ⟨n, rfl⟩ := Int.eq_ofNat_of_zero_le hf.1.1
    exact (readU32_reads (Int.ofNat_lt.mp hf.1.2)).bind
      ((readBody_reads (decBody_items_reads tb items fuel hwf.2.2.2 hf.2.2.2.2 (by rw [need] at hfuel; omega))
        hwf.1 hf.2.1 hwf.2.1 hf.2.2.1 hf.2.2.2.1 hwf.2.2.1).map fun x => DVal.objArray n x.1 x.2.1 x.2.2)

theorem decBody_list_reads (tb : Tables) (vs : List DVal) (fuel : Nat) (hwf : WFList tb vs) (hf : FitsList tb vs)
    (hfuel : needList vs ≤ fuel) :
    Reads (readCount (tagged (decBody tb fuel)) vs.length) (encListT tb vs) vs := by
  cases vs with
  | nil => exact .readCount_nil _
  | cons v vs =>
    rw [needList] at hfuel
    rw [encListT, ← List.append_assoc]
    exact .readCount_cons ((readTag_reads v.tag).bind (decBody_reads tb v fuel hwf.1 hf.1 (by omega)))
      (decBody_list_reads tb vs fuel hwf.2 hf.2 (by omega))

theorem decBody_items_reads (tb : Tables) (its : Items) (fuel : Nat) (hwf : WFItems tb its) (hf : FitsItems tb its)
    (hfuel : needItems its ≤ fuel) :
    Reads (readCount (keyed tb (decBody tb fuel)) its.length) (encItemsT tb its) its := by
  cases its with
  | nil => exact .readCount_nil _
  | cons kv its =>
    obtain ⟨k, v⟩ := kv
    rw [needItems] at hfuel
    have hkv : Reads (keyed tb (decBody tb fuel)) (keyT tb k ++ (v.tag.bytes ++ encT tb v)) (k, v) :=
      (readKey_reads hwf.1 hf.1).bind
        (((readTag_reads v.tag).bind (decBody_reads tb v fuel hwf.2.1 hf.2.1 (by omega))).map fun v => (k, v))
    have h := Reads.readCount_cons hkv (decBody_items_reads tb its fuel hwf.2.2 hf.2.2 (by omega))
    rwa [List.append_assoc, List.append_assoc] at h
end

theorem decBody_list (tb : Tables) (vs : List DVal) : ∀ (fuel : Nat) (d : B) (p : Nat) (rest : B),
    WFList tb vs → FitsList tb vs → needList vs ≤ fuel → At d p (encListT tb vs ++ rest) →
    readCount (tagged (decBody tb fuel)) vs.length d p = .ok (vs, p + (encListT tb vs).length) ∧
      At d (p + (encListT tb vs).length) rest :=
  fun fuel _ _ _ hwf hf hfuel h => (decBody_list_reads tb vs fuel hwf hf hfuel).step h

/-! ### the fuel `dec` supplies is enough -/

mutual
theorem need_le (tb : Tables) (v : DVal) : need v ≤ (encT tb v).length + 1 := by
  cases v with
  | list t items =>
    have := needList_le tb items
    simp only [need, encT, List.length_append, length_beBytes]; omega
  | desc t nm cid items =>
    have := needItems_le tb items
    simp only [need, encT, List.length_append, length_beBytes]; omega
  | objArray c nm cid items =>
    have := needItems_le tb items
    simp only [need, encT, List.length_append, length_beBytes]; omega
  | _ => simp only [need]; omega
theorem needList_le (tb : Tables) (vs : List DVal) : needList vs ≤ (encListT tb vs).length := by
  cases vs with
  | nil => simp [needList]
  | cons v vs =>
    have := need_le tb v
    have := needList_le tb vs
    simp only [needList, encListT, List.length_append, Tag.length_bytes]; omega
theorem needItems_le (tb : Tables) (its : Items) : needItems its ≤ (encItemsT tb its).length := by
  cases its with
  | nil => simp [needItems]
  | cons kv its =>
    obtain ⟨k, v⟩ := kv
    have := need_le tb v
    have := needItems_le tb its
    simp only [needItems, encItemsT, List.length_append, Tag.length_bytes]; omega
end

theorem dec_reads {tb : Tables} {v : DVal} (hwf : WF tb v) (hf : Fits tb v) : Reads (dec tb v.tag) (encT tb v) v := by
  intro d p h
  have h1 := need_le tb v
  have h2 := h.bound
  exact decBody_reads tb v _ hwf hf (by omega) d p h

theorem dec_step {tb : Tables} {v : DVal} (hwf : WF tb v) (hf : Fits tb v) {d : B} {p : Nat} {rest : B}
    (h : At d p (encT tb v ++ rest)) :
    dec tb v.tag d p = .ok (v, p + (encT tb v).length) ∧ At d (p + (encT tb v).length) rest :=
  (dec_reads hwf hf).step h

theorem dec_encT {tb : Tables} {v : DVal} (hwf : WF tb v) (hf : Fits tb v) :
    dec tb v.tag (encT tb v) 0 = .ok (v, (encT tb v).length) := by
  simpa only [Nat.zero_add] using dec_reads hwf hf _ 0 (At.self _)

theorem readBody_step {tb : Tables} {nm : Str} {cid : Key} {items : Items}
    (hnm : StrWF nm) (fnm : StrFits nm) (hcid : KeyWF tb cid) (fcid : KeyFits tb cid)
    (hlen : items.length < 4294967296) (hnd : KeysNodup items) (hwf : WFItems tb items) (hf : FitsItems tb items)
    {d : B} {p : Nat} {rest : B} (h : At d p (bodyT tb nm cid items ++ rest)) :
    readBody tb (decBody tb (d.length + 1)) d p = .ok ((nm, cid, items), p + (bodyT tb nm cid items).length) ∧
      At d (p + (bodyT tb nm cid items).length) rest := by
  have h1 := needItems_le tb items
  have h2 := h.left.bound
  simp only [bodyT, List.length_append] at h2
  exact (readBody_reads (decBody_items_reads tb items _ hwf hf (by omega)) hnm fnm hcid fcid hlen hnd).step h

/-! ### the `written` accumulator -/

theorem wKey_eq (tb : Tables) (k : Key) : wKey tb k = (keyT tb k, (keyT tb k).length) := by
  simp only [wKey, wBytes_eq, wSeq_eq, keyT]

theorem wStr_eq (s : Str) : wStr s = (strT s, (strT s).length) := by
  simp only [wStr, wBytes_eq, wSeq_eq, wPad_eq, padAmount_one, zeros, List.replicate_zero, strT,
    List.length_append]
  simp [W.seq]

mutual
theorem encW_eq (tb : Tables) (v : DVal) : encW tb v = (encT tb v, (encT tb v).length) := by
  cases v with
  | list t items =>
    simp only [encW, encT, encListW_eq tb items, wBytes_eq, wSeq_eq]
  | desc t nm cid items =>
    simp only [encW, encT, encItemsW_eq tb items, wBytes_eq, wSeq_eq, wStr_eq, wKey_eq, List.append_assoc]
  | objArray c nm cid items =>
    simp only [encW, encT, encItemsW_eq tb items, wBytes_eq, wSeq_eq, wStr_eq, wKey_eq, List.append_assoc]
  | raw t data =>
    simp only [encW, encT, wBytes_eq, wLenBlock_eq]
  | _ => simp only [encW, encT, wBytes_eq, wSeq_eq, wStr_eq, wKey_eq, List.append_assoc]
theorem encListW_eq (tb : Tables) (vs : List DVal) : encListW tb vs = (encListT tb vs, (encListT tb vs).length) := by
  cases vs with
  | nil => rfl
  | cons v vs =>
    simp only [encListW, encListT, encW_eq tb v, encListW_eq tb vs, wBytes_eq, wSeq_eq, List.append_assoc]
theorem encItemsW_eq (tb : Tables) (its : Items) : encItemsW tb its = (encItemsT tb its, (encItemsT tb its).length) := by
  cases its with
  | nil => rfl
  | cons kv its =>
    obtain ⟨k, v⟩ := kv
    simp only [encItemsW, encItemsT, encW_eq tb v, encItemsW_eq tb its, wBytes_eq, wSeq_eq, wKey_eq, List.append_assoc]
end

theorem bodyW_eq (tb : Tables) (nm : Str) (cid : Key) (items : Items) :
    bodyW tb nm cid items = (bodyT tb nm cid items, (bodyT tb nm cid items).length) := by
  simp only [bodyW, bodyT, encItemsW_eq, wBytes_eq, wSeq_eq, wStr_eq, wKey_eq, List.append_assoc]

end PsdVerif.Descriptor
