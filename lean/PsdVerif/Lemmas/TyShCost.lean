/-
C06 — the linear bound of `tyshRunner` (Model/TyShCost.lean): `TypeToolObjectSetting.frombytes(data)`
together with the engine-data parse it performs on `text_data[b"EngineData"].value`.

The bytes handed to the engine-data parser are a `RawData` value of the text descriptor, which `DescriptorBlock.read`
read from `data` (`Descriptor.Block.dec_rawSize_inside`, `Descriptor.findRaw_le`): they are no longer than `data`, so an
engine-data parser that is linear in its input (`A · len + Bc`) keeps the whole run linear in `len(data)`.
-/
import PsdVerif.Model.TyShCost
import PsdVerif.Lemmas.DescriptorRawSize
import PsdVerif.Lemmas.PayloadCostDesc

namespace PsdVerif.PayloadCost
open PsdVerif.Codec PsdVerif.PsdCost PsdVerif.Payload PsdVerif.SafeCost

/-- the raw values of the text descriptor of a `TypeToolObjectSetting` read from `d` fit in `d` -/
theorem TypeToolObjectSetting.dec_rawSize {tb : Descriptor.Tables} {d : B} {p : Nat} {v : TypeToolObjectSetting} {p' : Nat}
    (h : TypeToolObjectSetting.dec tb d p = .ok (v, p')) : Descriptor.rawSizeItems v.textData.items ≤ d.length := by
  revert v p'
  show Rets (TypeToolObjectSetting.dec tb d p) _
  exact Rets.skip fun _ _ => Rets.skip fun _ _ => Rets.skip fun _ _ =>
    Rets.bind (P := fun b => Descriptor.rawSizeItems b.items ≤ d.length)
      (fun _ _ e => by have := Descriptor.Block.dec_rawSize_inside e; omega) fun _ _ text =>
    Rets.skip fun _ _ => Rets.skip fun _ _ => Rets.skip fun _ _ => Rets.skip fun _ _ => Rets.skip fun _ _ =>
    Rets.skip fun _ _ => Rets.guard fun _ => Rets.ok text

/-- the bytes given to the engine-data parser are no longer than the block -/
theorem TypeToolObjectSetting.engineData_le {tb : Descriptor.Tables} {d : B} {p : Nat} {v : TypeToolObjectSetting} {p' : Nat}
    {key raw : B} (h : TypeToolObjectSetting.dec tb d p = .ok (v, p'))
    (hf : Descriptor.findRaw key v.textData.items = some raw) : raw.length ≤ d.length :=
  Nat.le_trans (Descriptor.findRaw_le hf) (TypeToolObjectSetting.dec_rawSize h)

/-- the bound, for any twin of the reader that erases to it and satisfies a `CostR a b k` judgement -/
theorem tyshRunner_bound_of {tb : Descriptor.Tables} {engine : B → CE Unit} {a b k A Bc : Nat}
    (hfst : ∀ d p, (TypeToolObjectSetting.decC tb d p).1 = TypeToolObjectSetting.dec tb d p)
    (hcost : CostR a b k (TypeToolObjectSetting.decC tb))
    (he : ∀ raw, (engine raw).2.w ≤ A * raw.length + Bc) (data : B) :
    (tyshRunner tb engine data).2.w ≤ (a + 1 + A) * data.length + (b + 1 + Bc) ∧
      (tyshRunner tb engine data).1 ≠ .error .other := by
  have c := hcost data 0 (Nat.zero_le _)
  have hw : (enterBlock data).2.w = 1 + data.length := rfl
  have hexp : (a + 1 + A) * data.length = a * data.length + data.length + A * data.length := by
    rw [Nat.add_mul, Nat.add_mul, Nat.one_mul]
  unfold tyshRunner
  rw [bind_ok' (enterBlock_fst data)]
  cases hx : (TypeToolObjectSetting.decC tb data 0).1 with
  | error e =>
    have h1 := c.of_error hx
    rw [Nat.sub_zero] at h1
    rw [bind_err' hx]
    dsimp only
    rw [w_add, hw]
    refine ⟨by omega, ?_⟩
    intro hcontra
    cases hcontra
    exact h1.1 rfl
  | ok y =>
    obtain ⟨v, p'⟩ := y
    have h1 := c.of_ok hx
    rw [Nat.sub_zero] at h1
    have hd : TypeToolObjectSetting.dec tb data 0 = .ok (v, p') := by rw [← hfst]; exact hx
    have hmul : a * p' ≤ a * data.length := Nat.mul_le_mul_left a (by omega)
    rw [bind_ok' hx]
    dsimp only
    cases hf : Descriptor.findRaw engineDataKey v.textData.items with
    | none =>
      dsimp only
      rw [w_add, w_add, hw, ok_w]
      refine ⟨by omega, ?_⟩
      intro hcontra
      cases hcontra
    | some raw =>
      dsimp only
      have hr := TypeToolObjectSetting.engineData_le hd hf
      have hA : A * raw.length ≤ A * data.length := Nat.mul_le_mul_left A hr
      have := he raw
      rw [w_add, w_add, hw]
      refine ⟨by omega, ?_⟩
      intro hcontra
      cases hcontra

/-- `TypeToolObjectSetting.frombytes(data)` with an engine-data parser that costs at most `A · len + Bc`:
at most `(4 + 1 + A) · len(data) + (33 + 1 + Bc)`; it never fails with the model's catch-all error -/
theorem tyshRunner_bound {engine : B → CE Unit} {A Bc : Nat} (he : ∀ raw, (engine raw).2.w ≤ A * raw.length + Bc)
    (tb : Descriptor.Tables) (data : B) :
    (tyshRunner tb engine data).2.w ≤ (4 + 1 + A) * data.length + (33 + 1 + Bc) ∧
      (tyshRunner tb engine data).1 ≠ .error .other :=
  tyshRunner_bound_of (TypeToolObjectSetting.decC_fst tb) (TypeToolObjectSetting.decC_cost tb) he data

end PsdVerif.PayloadCost
