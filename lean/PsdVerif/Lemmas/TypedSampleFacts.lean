/-
C01 (typed documents) — the facts about the three `TySh` samples and the engine-data tree of Lemmas/TypedSamples.lean that
Props/C01Typed.lean quotes (`engine_samples_wf`, `type_tool_engine_bytes_follow_the_key`).
-/
import PsdVerif.Lemmas.TypedSamples

namespace PsdVerif.Typed.Samples
open PsdVerif.Payload

/-- the two samples inside `WF` with the tree; the sample outside it: only the slot clause fails -/
theorem typeTool_facts :
    ((TypeToolTyped.codec rtb 4).WF typeTool ∧ (TypeToolTyped.codec rtb 4).Fits typeTool ∧
      (TypeToolTyped.codec rtb 4).WF typeToolBytes ∧ (TypeToolTyped.codec rtb 4).Fits typeToolBytes ∧
      EngineData2.codec.WF tree ∧ EngineData2.codec.Fits tree) ∧
    ¬ TypeToolTyped.slotWF typeToolParsable ∧ (TypeToolObjectSetting.codec rtb 4).WF typeToolParsable.flat ∧
      TypeToolObjectSetting.Fits rtb typeToolParsable.flat := by decide +kernel

end PsdVerif.Typed.Samples
