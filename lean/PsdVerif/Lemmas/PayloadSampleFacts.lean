/-
C01 payload classes — the facts about the samples of Lemmas/PayloadSamples.lean that the non-vacuity theorems and examples of
Props/C01Payload.lean quote: `WF` and `Fits` of the samples of units 2, 5 and 6 (they carry the same descriptor block), and the
clauses of the one document of unit 1 with its nested layer info.
-/
import PsdVerif.Lemmas.PayloadSamples
import PsdVerif.Lemmas.PayloadLinked

namespace PsdVerif.Payload.Samples
open PsdVerif PsdVerif.Codec PsdVerif.Payload

theorem descriptor_samples_ok :
    (Color.codec.Fits rgb ∧ Color.codec.Fits lab ∧ Color.codec.Fits customSpace ∧
      SectionDividerSetting.codec.WF dividerKindOnly ∧ SectionDividerSetting.codec.WF dividerBlend ∧
      SectionDividerSetting.codec.WF dividerSub ∧
      (MetadataSettings.codec Descriptor.realTables).WF metadata ∧ (MetadataSettings.codec Descriptor.realTables).Fits metadata ∧
      Annotations.codec.WF annotations ∧ Annotations.codec.Fits annotations ∧
      (PixelSourceData2.codec 4).WF pixelSources ∧ (StringElement.codec 4 1).WF [0x4C, 0xD800, 0x1F600]) ∧
    -- the width of an item's length field, stated on the sum of the lengths of its parts (`LinkedLayer.partsLen`)
    (∀ x ∈ linkedAll, x.WF Descriptor.realTables ∧ x.Fits Descriptor.realTables ∧
      FitsU 8 (LinkedLayer.partsLen Descriptor.realTables x)) ∧
    ((SmartObjectLayerData.codec Descriptor.realTables 4).WF smartObject ∧
      (SmartObjectLayerData.codec Descriptor.realTables 4).Fits smartObject ∧
      (PlacedLayerData.codec Descriptor.realTables 4).WF placedLayer ∧ (PlacedLayerData.codec Descriptor.realTables 4).Fits placedLayer ∧
      (TypeToolObjectSetting.codec Descriptor.realTables 4).WF typeTool ∧
      (TypeToolObjectSetting.codec Descriptor.realTables 4).Fits typeTool) := by
  decide +kernel

theorem nested_samples_ok :
    (DeepPSD.WF 4 deepDoc ∧ DeepPSD.WF 4 deepDocStale) ∧
    (deepDoc.flat.writeError 4 = none ∧ deepDoc.payloadFits ∧ (deepDoc.encT 4).length = 832 ∧ deepDoc.refresh = deepDoc) ∧
    (deepDocStale.refresh = deepDoc ∧ deepDocStale.refresh ≠ deepDocStale) ∧
    (LayerInfoBlock.WF 2 nestedLayers ∧ LayerInfoBlock.WF 1 nestedStale) ∧
    (LayerInfoBlock.Fits 2 nestedLayers ∧ blockRefresh nestedLayers = nestedLayers) := by
  decide +kernel

end PsdVerif.Payload.Samples
