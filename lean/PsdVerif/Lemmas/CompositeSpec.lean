/-
C11: the state of the code against the state of the published recurrences (`Model/CompositeSpec.lean`), and
one `_apply_source` step as one step of those recurrences.
-/
import PsdVerif.Model.CompositeSpec
import PsdVerif.Lemmas.Composite

namespace PsdVerif.Composite

/-- The state of the code and the state of the published recurrences describe the same thing: equal
shape/alpha bookkeeping, and the spec's premultiplied colours are the code's colours times their alphas.
(Colour under zero alpha is junk on the code's side — 1.0 from the `0/0` fallback or whatever was there —
and does not occur on the spec's side.) -/
structure Rel (st : PState) (σ : SState) : Prop where
  sg : σ.sg = st.sg
  ag : σ.ag = st.ag
  a : σ.a = st.a
  a0 : σ.a0 = st.a0
  P : ∀ ch, σ.P ch = st.c ch * st.a
  P0 : ∀ ch, σ.P0 ch = st.c0 ch * st.a0

theorem rel_init {color P : Color} {alpha : Rat} (iso : Bool) (hP : ∀ ch, P ch = color ch * alpha) :
    Rel (PState.init color alpha iso) (SState.init P alpha iso) := by
  unfold PState.init SState.init
  cases iso <;> simp only [Bool.false_eq_true, if_false, if_true]
  · exact ⟨rfl, rfl, rfl, rfl, hP, hP⟩
  · exact ⟨rfl, rfl, rfl, rfl, fun ch => by simp, fun ch => by simp⟩

theorem straight_eq {P c : Color} {a : Rat} (h : ∀ ch, P ch = c ch * a) (ha : a ≠ 0) : straight P a = c := by
  funext ch
  unfold straight
  rw [h ch]
  field_simp

/-- the backdrop of an element of the published model, as `backdrop` for the code -/
def specBackdrop (σ : SState) (knockout : Bool) : Color × Rat :=
  (if knockout then σ.P0 else σ.P, if knockout then σ.a0 else σ.a)

theorem Rel.backdrop {st : PState} {σ : SState} (h : Rel st σ) (knockout : Bool) :
    (specBackdrop σ knockout).2 = (backdrop st knockout).2 ∧
      ∀ ch, (specBackdrop σ knockout).1 ch = (backdrop st knockout).1 ch * (backdrop st knockout).2 := by
  cases knockout
  · exact ⟨h.a, h.P⟩
  · exact ⟨h.a0, h.P0⟩

/-- **One element**: an `_apply_source` step of the code is one step of the published recurrences on
premultiplied colour — for a knockout element with the group-alpha rule as coded (`KoRule.pdf17`). -/
theorem applySource_rel {bl : Color → Color → Color} {st : PState} {σ : SState} {color Ps : Color}
    {shape alpha : Rat} (h : Inv st) (hr : Rel st σ) (hs : SrcOk color shape alpha) (hb : BlendOk bl)
    (hP : ∀ ch, Ps ch = color ch * alpha) (ko : Bool) :
    Rel (applySource bl st color shape alpha ko) (specSource .pdf17 bl σ Ps shape alpha ko) := by
  have hag : (specSource .pdf17 bl σ Ps shape alpha ko).ag = (applySource bl st color shape alpha ko).ag := by
    unfold specSource applySource KoRule.alpha
    simp only
    rw [hr.ag, hr.a0]
  have ha : (specSource .pdf17 bl σ Ps shape alpha ko).a = (applySource bl st color shape alpha ko).a := by
    unfold specSource applySource KoRule.alpha
    simp only
    rw [hr.ag, hr.a0]
  refine ⟨?_, hag, ha, ?_, ?_, fun ch => hr.P0 ch⟩
  · unfold specSource; simp only [applySource_sg, hr.sg]
  · unfold specSource; simp only [applySource_a0, hr.a0]
  · intro ch
    obtain ⟨ea, eP⟩ := hr.backdrop ko
    rw [applySource_mul h hs hb ko ch]
    show (1 - shape) * σ.P ch + (shape - alpha) * (specBackdrop σ ko).1 ch + (1 - (specBackdrop σ ko).2) * Ps ch
      + (specBackdrop σ ko).2 * alpha * bl (straight (specBackdrop σ ko).1 (specBackdrop σ ko).2) (straight Ps alpha) ch = _
    rw [ea, eP ch, hr.P ch, hP ch]
    -- the blend function sees straight colours wherever its result is not multiplied by zero
    have hbl : (backdrop st ko).2 * alpha * bl (straight (specBackdrop σ ko).1 (backdrop st ko).2) (straight Ps alpha) ch
        = (backdrop st ko).2 * alpha * bl (backdrop st ko).1 color ch := by
      by_cases ha0 : (backdrop st ko).2 = 0
      · rw [ha0]; ring
      · by_cases hal : alpha = 0
        · rw [hal]; ring
        · rw [straight_eq eP ha0, straight_eq hP hal]
    rw [hbl]
    unfold stepNum
    ring

/-- colour handed back by a clipping group: the code takes the run's straight colour `C_n`, the published
model `aj·P_n/α_n`; the same thing since the run's backdrop alpha is the base's alpha `aj` -/
theorem clipGroupColor_rel {stc : PState} {σc : SState} (hrel : Rel stc σc) (hinv : Inv stc) {aj : Rat}
    (ha0 : stc.a0 = aj) (ch : Nat) : clipGroupColor σc aj ch = stc.c ch * aj := by
  unfold clipGroupColor
  rw [hrel.P ch, hrel.a]
  by_cases h : aj = 0
  · rw [h]; ring
  · have hne : stc.a ≠ 0 := a_ne_zero_of_a0 hinv (by rw [ha0]; exact h)
    field_simp

/-- the straight colour from the premultiplied one, where the alpha is not zero -/
theorem colour_of_premul {c P : Color} {a a' : Rat} (h2 : a = a') (h3 : ∀ ch, c ch * a = P ch) (hne : a ≠ 0) (ch : Nat) :
    c ch = P ch / a' := by
  rw [← h2]
  exact eq_div_of_mul_eq hne (h3 ch)

end PsdVerif.Composite
