/-
C06 — cost of the counting payload readers: the loops, and the soundness of every `CC` constructor.

`CC.Sound x`: if the shape of `x` passes `bodyProgress`, then the counting reader of `x` erases to the reader of the
codec `x.c` and `CostR x.sh.a x.sh.b x.sh.k x.decC`.

Between the two: `Slack s a b k`, the judgement for readers that recurse through a count-driven loop (a success leaves
`s` units unspent and has no additive constant), and `Cost.enter` for a nested run on a block that was read.
-/
import PsdVerif.Lemmas.PayloadCost1

namespace PsdVerif.PayloadCost
open PsdVerif PsdVerif.Codec PsdVerif.PsdCost PsdVerif.Payload3 PsdVerif.SafeCost

/-! ### `for _ in range(n)` -/

/-- a body that consumes ≥ 1 byte when it succeeds: the bound does not mention `n`. An iteration that succeeds pays
its own constant, the tick and the constant of the rest of the loop out of the `≥ 1` bytes it consumed. -/
theorem readCountC_cost {α : Type} {item : RC α} {a b k : Nat} {d : B}
    (hi : ∀ p, p ≤ d.length → Cost a b k d p (item d p)) (hk : 1 ≤ k) (n : Nat) (p : Nat) (hp : p ≤ d.length) :
    Cost (a + b + 1) (b + 1) 0 d p (readCountC item n d p) := by
  induction n generalizing p with
  | zero => exact (Cost.ok _ hp).mono (Nat.zero_le _) (Nat.zero_le _) (Nat.le_refl _)
  | succ n ih =>
    unfold readCountC
    apply Cost.tick
    refine Cost.bind_le (b₂ := fun _ _ => b + 1) (hi p hp) (fun a1 p₁ _ hp₁ => Cost.map (ih p₁ hp₁))
      (fun _ p₁ _ h _ => ?_) (by omega) (Nat.le_refl _) (Nat.le_refl _) (Nat.zero_le _)
    have hx : 1 ≤ p₁ - p := by omega
    have := Nat.le_mul_of_pos_right b hx
    rw [Nat.add_mul, Nat.add_mul, Nat.one_mul]
    omega

/-- any body, `n` iterations: `(b + 1) · n` is added (for a count that is a constant of the format) -/
theorem readCountC_cost_fixed {α : Type} {item : RC α} {a b k : Nat} {d : B}
    (hi : ∀ p, p ≤ d.length → Cost a b k d p (item d p)) (n : Nat) (p : Nat) (hp : p ≤ d.length) :
    Cost a ((b + 1) * n) (n * k) d p (readCountC item n d p) := by
  induction n generalizing p with
  | zero => exact (Cost.ok _ hp).mono (Nat.zero_le _) (Nat.zero_le _) (by omega)
  | succ n ih =>
    unfold readCountC
    refine (Cost.tick (Cost.bind (hi p hp) fun a1 p₁ _ hp₁ => Cost.map (ih p₁ hp₁))).mono
      (Nat.le_of_eq (Nat.max_self a)) ?_ ?_
    · rw [Nat.mul_succ]; omega
    · rw [Nat.succ_mul]; omega

/-! ### `while is_readable(fp, m)` -/

/-- the condition costs one read of at most `m` bytes; the body consumes ≥ 1 byte when it returns an item
(`none` ends the loop). The fuel `remaining + 1` is never exhausted. An iteration with an item pays, out of the `≥ 1`
bytes it consumed, its constant and what the next test of the condition may cost. -/
theorem readWhileFuelC_cost {α : Type} {item : RC (Option α)} {a b k m : Nat} {d : B}
    (hi : ∀ p, p ≤ d.length → Cost a b k d p (item d p)) (hk : 1 ≤ k)
    (fuel : Nat) (p : Nat) (hp : p ≤ d.length) (hf : d.length - p + 1 ≤ fuel) :
    Cost (a + b + m + 2) (b + 2 * (m + 2)) 0 d p (readWhileFuelC (isReadableC m) item fuel d p) := by
  induction fuel generalizing p with
  | zero => omega
  | succ fuel ih =>
    unfold readWhileFuelC
    refine (Cost.tick (Cost.step (n := 1 + m) (b := b + m + 2) (by rw [isReadableC_w']; omega) (by intro h; cases h)
      fun c _ => ?_)).mono (Nat.le_refl _) (by omega) (Nat.le_refl _)
    split
    · refine Cost.bind_le (b₂ := fun _ _ => b + 2 * (m + 2)) (k₂ := 0) (hi p hp) (fun o p₁ h1 hp₁ => ?_) (fun _ p₁ _ h _ => ?_)
        (by omega) (by omega) (Nat.le_refl _) (Nat.zero_le _)
      · have hadv := ((hi p hp).of_ok h1).1
        cases o with
        | none => exact (Cost.ok _ hp₁).mono (Nat.zero_le _) (Nat.zero_le _) (Nat.le_refl _)
        | some a1 => exact Cost.map (ih p₁ hp₁ (by omega))
      · have hx : 1 ≤ p₁ - p := by omega
        have := Nat.le_mul_of_pos_right (b + m + 2) hx
        rw [Nat.add_mul (a + b + m), Nat.add_mul (a + b), Nat.add_mul a]
        rw [Nat.add_mul (b + m), Nat.add_mul b] at this
        omega
    · exact (Cost.ok _ hp).mono (Nat.zero_le _) (Nat.zero_le _) (Nat.le_refl _)

theorem readWhileC_cost {α : Type} {item : RC (Option α)} {a b k : Nat} (m : Nat) {d : B}
    (hi : ∀ p, p ≤ d.length → Cost a b k d p (item d p)) (hk : 1 ≤ k) (p : Nat) (hp : p ≤ d.length) :
    Cost (a + b + m + 2) (b + 2 * (m + 2)) 0 d p (readWhileC (isReadableC m) item d p) :=
  readWhileFuelC_cost hi hk _ p hp (Nat.le_refl _)

theorem optItemC_cost {α : Type} {item : RC α} {a b k : Nat} {d : B} {p : Nat} (h : Cost a b k d p (item d p)) :
    Cost a b k d p (optItemC item d p) := by
  unfold optItemC
  exact Cost.map (g := some) h

/-! ### a cost judgement with slack

For a reader that recurses through a count-driven loop (a descriptor item, a path record): `readCountC_cost` would add the
body's constants to the coefficient once per nesting level. With slack the constants are the same at every depth. -/

/-- as `Cost`, but a success leaves `s` units unspent and has no additive constant:
ticks + bytes + `s` ≤ `a` · (bytes consumed) -/
def Slack {β : Type} (s a b k : Nat) (d : B) (p : Nat) (x : CE (β × Nat)) : Prop :=
  (∀ v p', x.1 = .ok (v, p') → p + k ≤ p' ∧ p' ≤ d.length ∧ x.2.w + s ≤ a * (p' - p)) ∧
  (∀ e, x.1 = .error e → e ≠ .other ∧ x.2.w + s ≤ a * (d.length - p) + b)

theorem slack_seq {a a₂ x y z w₁ w₂ s b₂ : Nat} (h₁ : w₁ + (s + b₂) ≤ a * x) (h₂ : w₂ ≤ a₂ * y + b₂) (ha : a₂ ≤ a)
    (hz : y + x = z) : w₁ + w₂ + s ≤ a * z := by
  subst hz
  have := Nat.mul_le_mul_right y ha
  rw [Nat.mul_add]
  omega

theorem Slack.intro {β : Type} {s a b k : Nat} {d : B} {p : Nat} {x : CE (β × Nat)}
    (hok : ∀ v p', x.1 = .ok (v, p') → p + k ≤ p' ∧ p' ≤ d.length ∧ x.2.w + s ≤ a * (p' - p))
    (herr : ∀ e, x.1 = .error e → e ≠ .other ∧ x.2.w + s ≤ a * (d.length - p) + b) : Slack s a b k d p x :=
  ⟨hok, herr⟩

theorem Slack.of_ok {β : Type} {s a b k : Nat} {d : B} {p : Nat} {x : CE (β × Nat)} {v : β} {p' : Nat}
    (h : Slack s a b k d p x) (hx : x.1 = .ok (v, p')) : p + k ≤ p' ∧ p' ≤ d.length ∧ x.2.w + s ≤ a * (p' - p) :=
  h.1 v p' hx

theorem Slack.of_error {β : Type} {s a b k : Nat} {d : B} {p : Nat} {x : CE (β × Nat)} {e : Err}
    (h : Slack s a b k d p x) (hx : x.1 = .error e) : e ≠ .other ∧ x.2.w + s ≤ a * (d.length - p) + b :=
  h.2 e hx

theorem Slack.cost {β : Type} {s a b k : Nat} {d : B} {p : Nat} {x : CE (β × Nat)} (h : Slack s a b k d p x) :
    Cost a b k d p x := by
  refine Cost.intro (fun v p' hx => ?_) (fun e hx => ?_)
  · have h1 := h.of_ok hx
    exact ⟨h1.1, h1.2.1, by omega⟩
  · have h1 := h.of_error hx
    exact ⟨h1.1, by omega⟩

theorem Slack.mono {β : Type} {s s' a b k : Nat} {d : B} {p : Nat} {x : CE (β × Nat)} (h : Slack s a b k d p x)
    (hs : s' ≤ s) : Slack s' a b k d p x := by
  refine Slack.intro (fun v p' hx => ?_) (fun e hx => ?_)
  · have h1 := h.of_ok hx
    exact ⟨h1.1, h1.2.1, Nat.le_trans (Nat.add_le_add_left hs _) h1.2.2⟩
  · have h1 := h.of_error hx
    exact ⟨h1.1, Nat.le_trans (Nat.add_le_add_left hs _) h1.2⟩

/-- a reader that consumes at least `k₁` bytes pays its constant (and the slack) out of these bytes -/
theorem Slack.of_cost {β : Type} {s a b a₁ b₁ k₁ : Nat} {d : B} {p : Nat} {x : CE (β × Nat)}
    (h : Cost a₁ b₁ k₁ d p x) (hpay : ∀ n, k₁ ≤ n → a₁ * n + b₁ + s ≤ a * n) (ha : a₁ ≤ a) (hb : b₁ + s ≤ b) :
    Slack s a b k₁ d p x := by
  refine Slack.intro (fun v p' hx => ?_) (fun e hx => ?_)
  · have h1 := h.of_ok hx
    have := hpay (p' - p) (by omega)
    exact ⟨h1.1, h1.2.1, by omega⟩
  · have h1 := h.of_error hx
    have : a₁ * (d.length - p) ≤ a * (d.length - p) := Nat.mul_le_mul_right _ ha
    exact ⟨h1.1, by omega⟩

theorem Slack.error {β : Type} {a b k : Nat} {d : B} {p : Nat} {e : Err} (he : e ≠ .other) :
    Slack 0 a b k d p (CE.error e : CE (β × Nat)) := by
  refine Slack.intro (fun v' p' hx => by cases hx) (fun e' hx => ?_)
  cases hx
  have : (CE.error e : CE (β × Nat)).2.w = 0 := rfl
  exact ⟨he, by omega⟩

theorem Slack.ok {β : Type} {a b : Nat} {d : B} {q : Nat} (v : β) (hq : q ≤ d.length) :
    Slack 0 a b 0 d q (CE.ok (v, q) : CE (β × Nat)) := by
  refine Slack.intro (fun v' p' hx => ?_) (fun e hx => by cases hx)
  cases hx
  have : (CE.ok (v, q) : CE (β × Nat)).2.w = 0 := rfl
  exact ⟨by omega, hq, by omega⟩

/-- sequencing: what follows a step with slack has no constant of its own -/
theorem Slack.seq {α β : Type} {s a b k k₁ k₂ : Nat} {d : B} {p : Nat} {m : CE (β × Nat)}
    {f : β × Nat → CE (α × Nat)} (hm : Slack s a b k₁ d p m)
    (hf : ∀ v p₁, m.1 = .ok (v, p₁) → p₁ ≤ d.length → Slack 0 a b k₂ d p₁ (f (v, p₁))) (hk : k ≤ k₁ + k₂) :
    Slack s a b k d p (m >>= f) := by
  cases hm1 : m.1 with
  | error e =>
    rw [bind_err' hm1]
    exact Slack.intro (fun _ _ hx => by cases hx) (fun e' hx => by cases hx; exact hm.of_error hm1)
  | ok y =>
    obtain ⟨v, p₁⟩ := y
    have h1 := hm.of_ok hm1
    have h2' := hf v p₁ hm1 h1.2.1
    have hpp := Nat.le_of_add_right_le h1.1
    rw [bind_ok' hm1]
    refine Slack.intro (fun v' p' hx => ?_) (fun e' hx => ?_)
    · have h2 := h2'.of_ok hx
      refine ⟨adv_add h1.1 h2.1 hk, h2.2.1, ?_⟩
      show (m.2 + (f (v, p₁)).2).w + s ≤ _
      rw [w_add, Nat.add_right_comm, ← Nat.sub_add_sub_cancel (Nat.le_of_add_right_le h2.1) hpp, Nat.mul_add, Nat.add_comm (a * _)]
      exact Nat.add_le_add h1.2.2 h2.2.2
    · have h2 := h2'.of_error hx
      refine ⟨h2.1, ?_⟩
      show (m.2 + (f (v, p₁)).2).w + s ≤ _
      rw [w_add, Nat.add_right_comm, ← Nat.sub_add_sub_cancel h1.2.1 hpp, Nat.mul_add, Nat.add_comm (a * _), Nat.add_assoc (a * _)]
      exact Nat.add_le_add h1.2.2 h2.2

/-- sequencing: the slack of the first step pays the constant of what follows -/
theorem Slack.seq_cost {α β : Type} {s a b k k₁ a₂ b₂ k₂ : Nat} {d : B} {p : Nat} {m : CE (β × Nat)}
    {f : β × Nat → CE (α × Nat)} (hm : Slack (s + b₂) a b k₁ d p m)
    (hf : ∀ v p₁, m.1 = .ok (v, p₁) → p₁ ≤ d.length → Cost a₂ b₂ k₂ d p₁ (f (v, p₁))) (ha : a₂ ≤ a) (hk : k ≤ k₁ + k₂) :
    Slack s a b k d p (m >>= f) := by
  cases hm1 : m.1 with
  | error e =>
    rw [bind_err' hm1]
    refine Slack.intro (fun _ _ hx => by cases hx) (fun e' hx => ?_)
    cases hx
    have h1 := hm.of_error hm1
    exact ⟨h1.1, Nat.le_trans (Nat.add_le_add_left (Nat.le_add_right s b₂) _) h1.2⟩
  | ok y =>
    obtain ⟨v, p₁⟩ := y
    have h1 := hm.of_ok hm1
    have h2' := hf v p₁ hm1 h1.2.1
    have hpp := Nat.le_of_add_right_le h1.1
    rw [bind_ok' hm1]
    refine Slack.intro (fun v' p' hx => ?_) (fun e' hx => ?_)
    · have h2 := h2'.of_ok hx
      refine ⟨adv_add h1.1 h2.1 hk, h2.2.1, ?_⟩
      show (m.2 + (f (v, p₁)).2).w + s ≤ _
      rw [w_add]
      exact slack_seq h1.2.2 h2.2.2 ha (Nat.sub_add_sub_cancel (Nat.le_of_add_right_le h2.1) hpp)
    · have h2 := h2'.of_error hx
      refine ⟨h2.1, ?_⟩
      show (m.2 + (f (v, p₁)).2).w + s ≤ _
      rw [w_add]
      exact Nat.le_trans (slack_seq h1.2.2 h2.2 ha (Nat.sub_add_sub_cancel h1.2.1 hpp)) (Nat.le_add_right ..)

/-- sequencing: the first step pays its constant and the slack out of the `k₁` bytes it consumes, the rest has none -/
theorem Slack.bind {α β : Type} {s a b k a₁ b₁ k₁ k₂ : Nat} {d : B} {p : Nat} {m : CE (β × Nat)}
    {f : β × Nat → CE (α × Nat)} (hm : Cost a₁ b₁ k₁ d p m)
    (hf : ∀ v p₁, m.1 = .ok (v, p₁) → p₁ ≤ d.length → Slack 0 a b k₂ d p₁ (f (v, p₁)))
    (hpay : ∀ n, k₁ ≤ n → a₁ * n + b₁ + s ≤ a * n) (ha : a₁ ≤ a) (hb : b₁ + s ≤ b) (hk : k ≤ k₁ + k₂) :
    Slack s a b k d p (m >>= f) :=
  Slack.seq (Slack.of_cost hm hpay ha hb) hf hk

/-- the value is post-processed: `let (v, p') ← m; ok (g v, p')` -/
theorem Slack.map {α β : Type} {s a b k : Nat} {d : B} {p : Nat} {m : CE (β × Nat)} {g : β → α}
    (hm : Slack s a b k d p m) : Slack s a b k d p (m >>= fun x => CE.ok (g x.1, x.2)) :=
  Slack.seq hm (fun v _ _ hp₁ => Slack.ok (g v) hp₁) (Nat.le_refl _)

/-- the tick of a loop iteration is the unit of slack its item left -/
theorem Slack.tick {α : Type} {a b k : Nat} {d : B} {p : Nat} {x : CE (α × Nat)} (h : Slack 1 a b k d p x) :
    Slack 0 a b k d p (PsdCost.tick >>= fun _ => x) := by
  rw [bind_ok' tick_fst]
  refine Slack.intro (fun v p' hx => ?_) (fun e hx => ?_)
  · have h1 := h.of_ok hx
    refine ⟨h1.1, h1.2.1, ?_⟩
    show (PsdCost.tick.2 + x.2).w + 0 ≤ _
    rw [w_add, tick_w, Nat.add_comm 1]
    exact h1.2.2
  · have h1 := h.of_error hx
    refine ⟨h1.1, ?_⟩
    show (PsdCost.tick.2 + x.2).w + 0 ≤ _
    rw [w_add, tick_w, Nat.add_comm 1]
    exact h1.2

/-- `for _ in range(n)` over items that pay for their own iteration: `a` per byte consumed and nothing else, whatever `n` -/
theorem readCountC_slack {α : Type} {item : RC α} {a b k : Nat} {d : B} (n : Nat) :
    ∀ p, p ≤ d.length → (∀ q, p ≤ q → q ≤ d.length → Slack 1 a b k d q (item d q)) →
      Slack 0 a b 0 d p (readCountC item n d p) := by
  induction n with
  | zero => intro p hp _; exact Slack.ok _ hp
  | succ n ih =>
    intro p hp hi
    have hip := hi p (Nat.le_refl _) hp
    unfold readCountC
    refine Slack.tick (Slack.seq hip (fun a1 p₁ h1 hp₁ => Slack.map (ih p₁ hp₁ fun q hq hq' => hi q ?_ hq')) (Nat.zero_le _))
    exact Nat.le_trans (Nat.le_of_add_right_le (hip.of_ok h1).1) hq

/-! ### a nested run: `with io.BytesIO(data) as f: …` -/

/-- the continuation after a block was read: enter it, run `inner` on it at cursor 0, go on with `f` -/
theorem Cost.enter {α β : Type} {ai bi ki a b k : Nat} {d data : B} {q : Nat} {inner : CE (β × Nat)}
    {f : β × Nat → CE (α × Nat)} (hin : Cost ai bi ki data 0 inner) (hf : ∀ y, inner.1 = .ok y → Cost a b k d q (f y)) :
    Cost a ((1 + data.length) + ((ai * data.length + bi) + b)) k d q (enterBlock data >>= fun _ => inner >>= f) :=
  Cost.step (Nat.le_of_eq (enterBlock_w data)) (by intro h; cases h) fun _ _ =>
    Cost.step hin.w_le hin.ne_other hf

/-! ### soundness of the constructors -/

namespace CC

def Erases {α : Type} (x : CC α) : Prop := ∀ d p, (x.decC d p).1 = x.c.dec d p

/-- what is proved of a costed codec, given that its loops make progress -/
def Sound {α : Type} (x : CC α) : Prop :=
  x.sh.bodyProgress = true → x.Erases ∧ CostR x.sh.a x.sh.b x.sh.k x.decC

/-! the codec of a combinator term is the combinator term of the codecs; rewriting with these equations compares two
terms node by node, where `rfl` on a deep term makes the unifier unfold the combinators themselves -/

theorem fmt_c (fs : List FI) : (CC.fmt fs).c = Payload3.rec fs := rfl
theorem seq_c {α β : Type} (x : CC α) (y : CC β) : (CC.seq x y).c = Payload3.seq x.c y.c := rfl
theorem counted_c {α : Type} (w : Nat) (x : CC α) : (CC.counted w x).c = Payload3.counted w x.c := rfl
theorem exactly_c {α : Type} (n : Nat) (x : CC α) : (CC.exactly n x).c = Payload3.exactly n x.c := rfl
theorem whileR_c {α : Type} (n pad : Nat) (x : CC α) : (CC.whileR n pad x).c = Payload3.whileR n pad x.c := rfl
theorem padded_c {α : Type} (pad : Nat) (x : CC α) : (CC.padded pad x).c = Payload3.padded pad x.c := rfl
theorem checked_c {α : Type} (x : CC α) (ok : α → Prop) [DecidablePred ok] (e : Err) :
    (CC.checked x ok e).c = Payload3.checked x.c ok e := rfl
theorem ustr_c : CC.ustr.c = Payload3.ustr := rfl
theorem blocked_c {α : Type} (w pad : Nat) (x : CC α) : (CC.blocked w pad x).c = Payload3.blocked w pad x.c := rfl
theorem optTail_c {α : Type} (x : CC α) : (CC.optTail x).c = Payload3.optTail x.c := rfl

theorem fmt_sound (fs : List FI) : (CC.fmt fs).Sound := fun _ =>
  ⟨fun d p => fmtDecC_fst fs d p, fun _ _ hp => fmtDecC_cost fs hp⟩

theorem tailBytes_sound : CC.tailBytes.Sound := fun _ =>
  ⟨fun d p => readAllC_fst d p, fun _ _ hp => readAllC_cost hp⟩

theorem pascal_sound (pw pr : Nat) : (CC.pascal pw pr).Sound := fun _ =>
  ⟨fun d p => readPascalC_fst pr d p, fun _ _ hp => readPascalC_cost pr hp⟩

theorem ustr_sound : CC.ustr.Sound := fun _ =>
  ⟨fun d p => readUStrC_fst 1 d p, fun _ _ hp => readUStrC_cost 1 (by decide) hp⟩

theorem padded_sound {α : Type} (pad : Nat) {x : CC α} (hx : x.Sound) : (CC.padded pad x).Sound := fun hb =>
  hx hb

theorem seq_sound {α β : Type} {x : CC α} {y : CC β} (hx : x.Sound) (hy : y.Sound) : (CC.seq x y).Sound := by
  intro hb
  have hb' : x.sh.bodyProgress = true ∧ y.sh.bodyProgress = true := by
    simpa [CC.seq, Sh.bodyProgress] using hb
  obtain ⟨ex, cx⟩ := hx hb'.1
  obtain ⟨ey, cy⟩ := hy hb'.2
  refine ⟨fun d p => ?_, fun d p hp => ?_⟩
  · show ((CC.seq x y).decC d p).1 = (Payload3.seq x.c y.c).dec d p
    simp only [CC.seq, Payload3.seq, fst_bind, ok_fst, show ∀ d p, _ from ex, show ∀ d p, _ from ey]
  · show Cost (max x.sh.a y.sh.a) (x.sh.b + y.sh.b) (x.sh.k + y.sh.k) d p _
    unfold CC.seq
    dsimp only
    apply Cost.mono
    case h =>
      cbind (cx d p hp)
      cbind (cy _ _ (by assumption))
      cdone
    cside

theorem counted_sound {α : Type} (w : Nat) {x : CC α} (hx : x.Sound) : (CC.counted w x).Sound := by
  intro hb
  have hb' : x.sh.bodyProgress = true ∧ 1 ≤ x.sh.k := by
    simpa [CC.counted, Sh.bodyProgress] using hb
  obtain ⟨ex, cx⟩ := hx hb'.1
  refine ⟨fun d p => ?_, fun d p hp => ?_⟩
  · show ((CC.counted w x).decC d p).1 = (Payload3.counted w x.c).dec d p
    simp only [CC.counted, Payload3.counted, fst_bind, readUC_fst, readCountC_fst ex]
  · show Cost (x.sh.a + x.sh.b + 1) (x.sh.b + 2) w d p _
    unfold CC.counted
    dsimp only
    apply Cost.mono
    case h =>
      cbind (readUC_cost w)
      exact readCountC_cost (fun q hq => cx d q hq) hb'.2 _ _ (by assumption)
    cside

theorem exactly_sound {α : Type} (n : Nat) {x : CC α} (hx : x.Sound) : (CC.exactly n x).Sound := by
  intro hb
  have hb' : x.sh.bodyProgress = true := by simpa [CC.exactly, Sh.bodyProgress] using hb
  obtain ⟨ex, cx⟩ := hx hb'
  refine ⟨fun d p => readCountC_fst ex n d p, fun d p hp => ?_⟩
  show Cost x.sh.a ((x.sh.b + 1) * n) (n * x.sh.k) d p _
  exact readCountC_cost_fixed (fun q hq => cx d q hq) n p hp

theorem whileR_sound {α : Type} (n pad : Nat) {x : CC α} (hx : x.Sound) : (CC.whileR n pad x).Sound := by
  intro hb
  have hb' : (x.sh.bodyProgress = true ∧ 1 ≤ x.sh.k) ∧ 1 ≤ n := by
    simpa [CC.whileR, Sh.bodyProgress] using hb
  obtain ⟨ex, cx⟩ := hx hb'.1.1
  refine ⟨fun d p => ?_, fun d p hp => ?_⟩
  · exact readWhileC_fst (isReadableC_fst n) (optItemC_fst ex) d p
  · show Cost (x.sh.a + x.sh.b + n + 2) (x.sh.b + 2 * (n + 2)) 0 d p _
    exact readWhileC_cost n (fun q hq => optItemC_cost (cx d q hq)) hb'.1.2 p hp

theorem checked_sound {α : Type} {x : CC α} (hx : x.Sound) (ok : α → Prop) [DecidablePred ok] (e : Err) (he : e ≠ .other) :
    (CC.checked x ok e).Sound := by
  intro hb
  obtain ⟨ex, cx⟩ := hx hb
  refine ⟨fun d p => ?_, fun d p hp => ?_⟩
  · show ((CC.checked x ok e).decC d p).1 = (Payload3.checked x.c ok e).dec d p
    simp only [CC.checked, Payload3.checked, fst_bind, ok_fst, error_fst, ite_fst, show ∀ d p, _ from ex]
  · show Cost x.sh.a x.sh.b x.sh.k d p _
    unfold CC.checked
    dsimp only
    apply Cost.mono
    case h =>
      cbind (cx d p hp)
      apply Cost.ite_else_error (he := he)
      intro _
      exact Cost.ok _ (by assumption)
    cside

theorem blocked_sound {α : Type} (w pad : Nat) {x : CC α} (hx : x.Sound) : (CC.blocked w pad x).Sound := by
  intro hb
  obtain ⟨ex, cx⟩ := hx hb
  refine ⟨fun d p => ?_, fun d p hp => ?_⟩
  · show ((CC.blocked w pad x).decC d p).1 = (Payload3.blocked w pad x.c).dec d p
    simp only [CC.blocked, Payload3.blocked, fst_bind, ok_fst, readLenBlockC_fst, enterBlock_fst, except_ok_bind,
      show ∀ d p, _ from ex]
  · show Cost (x.sh.a + 2) (x.sh.b + 5) w d p _
    unfold CC.blocked
    dsimp only
    refine Cost.bind_le (k₂ := 0) (readLenBlockC_cost 0 w pad hp)
      (fun data p₁ _ hp₁ => Cost.enter (cx data 0 (Nat.zero_le _)) fun y _ => Cost.ok y.1 hp₁) (fun data p₁ h1 _ _ => ?_)
      (by omega) (by omega) (Nat.zero_le _) (by omega)
    have hl := readLenBlockC_ok h1
    have := Nat.mul_le_mul_left x.sh.a (by omega : data.length ≤ p₁ - p)
    dsimp only
    rw [Nat.add_mul]
    omega

theorem optTail_sound {α : Type} {x : CC α} (hx : x.Sound) : (CC.optTail x).Sound := by
  intro hb
  obtain ⟨ex, cx⟩ := hx hb
  refine ⟨fun d p => ?_, fun d p hp => ?_⟩
  · show ((CC.optTail x).decC d p).1 = (Payload3.optTail x.c).dec d p
    unfold CC.optTail Payload3.optTail
    dsimp only
    refine erase_ok (isReadableC_fst 1 d p) ?_
    split
    · rw [bind_fst, ex]
      cases x.c.dec d p with
      | error e => rfl
      | ok y => rfl
    · rfl
  · show Cost (max 1 x.sh.a) (x.sh.b + 2) 0 d p _
    unfold CC.optTail
    dsimp only
    have hw : (isReadableC 1 d p).2.w ≤ 2 := by rw [isReadableC_w']; omega
    refine (Cost.step (a := max 1 x.sh.a) (b := x.sh.b) (k := 0) hw (by intro h; cases h) fun r _ => ?_).mono
      (Nat.le_refl _) (by omega) (Nat.le_refl _)
    split
    · exact (Cost.map (g := some) (cx d p hp)).mono (Nat.le_max_right ..) (Nat.le_refl _) (Nat.zero_le _)
    · exact (Cost.ok _ hp).mono (Nat.zero_le _) (Nat.zero_le _) (Nat.le_refl _)

end CC

end PsdVerif.PayloadCost
