/-
Helper lemmas for C04: the 32-bit byte shuffle. `_shuffle_byte_order` scatters the
source along the index list `_shuffled_order`, `_restore_byte_order` gathers along the
same list; the list has no repetition and stays inside the buffer.
Core Lean only.
-/
import PsdVerif.Model.Compression
import PsdVerif.Lemmas.Bytes

namespace PsdVerif.Compression

/-- The scatter loop succeeds and puts `src[n + t]` at `S[t]`. (That cells outside `S` are untouched is
what the induction needs; the round trip uses the last clause only. Same for `gatherAux_spec`.) -/
theorem scatterAux_spec (src : Array UInt8) (N : Nat) :
    ∀ (S : List Nat) (n : Nat) (arr : Array UInt8), arr.size = N → (∀ s ∈ S, s < N) →
      n + S.length ≤ src.size → S.Nodup →
      ∃ b, scatterAux src S n arr = .ok b ∧ b.size = N ∧
        (∀ j, j ∉ S → b[j]? = arr[j]?) ∧
        (∀ t (ht : t < S.length), b[S[t]]? = src[n + t]?) := by
  intro S
  induction S with
  | nil =>
    intro n arr ha _ _ _
    exact ⟨arr, rfl, ha, fun _ _ => rfl, fun t ht => absurd ht (by simp)⟩
  | cons s S ih =>
    intro n arr ha hS hn hnd
    have hsn : n < src.size := by simp at hn; omega
    have hs : s < arr.size := by rw [ha]; exact hS s (by simp)
    obtain ⟨hnot, hnd'⟩ := List.nodup_cons.mp hnd
    obtain ⟨b, hb1, hb2, hb3, hb4⟩ := ih (n + 1) (arr.setIfInBounds s src[n]) (by simp [ha])
      (fun x hx => hS x (by simp [hx])) (by simp at hn ⊢; omega) hnd'
    refine ⟨b, ?_, hb2, ?_, ?_⟩
    · simp only [scatterAux, Array.getElem?_eq_getElem hsn, hs, if_true]
      exact hb1
    · intro j hj
      have hjs : s ≠ j := fun h => hj (by simp [h])
      rw [hb3 j (fun h => hj (by simp [h])), Array.getElem?_setIfInBounds_ne hjs]
    · intro t ht
      cases t with
      | zero =>
        simp only [List.getElem_cons_zero, Nat.add_zero]
        rw [hb3 s hnot]
        simp [hs, Array.getElem?_eq_getElem hsn]
      | succ t =>
        simp only [List.getElem_cons_succ]
        have := hb4 t (by simp at ht; omega)
        rw [this]; congr 1; omega

theorem gatherAux_spec (src : Array UInt8) :
    ∀ (S : List Nat) (n : Nat) (arr : Array UInt8), (∀ s ∈ S, s < src.size) →
      n + S.length ≤ arr.size →
      ∃ r, gatherAux src S n arr = .ok r ∧ r.size = arr.size ∧
        (∀ j, j < n ∨ n + S.length ≤ j → r[j]? = arr[j]?) ∧
        (∀ t (ht : t < S.length), r[n + t]? = src[S[t]]?) := by
  intro S
  induction S with
  | nil =>
    intro n arr _ _
    exact ⟨arr, rfl, rfl, fun _ _ => rfl, fun t ht => absurd ht (by simp)⟩
  | cons s S ih =>
    intro n arr hS hn
    have hs : s < src.size := hS s (by simp)
    have hna : n < arr.size := by simp at hn; omega
    obtain ⟨r, hr1, hr2, hr3, hr4⟩ := ih (n + 1) (arr.setIfInBounds n src[s])
      (fun x hx => hS x (by simp [hx])) (by simp at hn ⊢; omega)
    refine ⟨r, ?_, by simpa using hr2, ?_, ?_⟩
    · simp only [gatherAux, Array.getElem?_eq_getElem hs, hna, if_true]
      exact hr1
    · intro j hj
      simp only [List.length_cons] at hj
      rw [hr3 j (by omega), Array.getElem?_setIfInBounds_ne (by omega)]
    · intro t ht
      cases t with
      | zero =>
        simp only [List.getElem_cons_zero, Nat.add_zero]
        rw [hr3 n (by omega)]
        simp [hna, Array.getElem?_eq_getElem hs]
      | succ t =>
        simp only [List.getElem_cons_succ]
        have := hr4 t (by simp at ht; omega)
        rw [← this]; congr 1; omega

/-- The index list `_shuffled_order` returns for a non-zero width. -/
def order (w h : Nat) : List Nat :=
  (List.range h).flatMap fun i => (List.range w).flatMap fun p =>
    (List.range 4).map fun k => i * (4 * w) + p + k * w

theorem shuffledOrder_eq {w : Nat} (hw : w ≠ 0) (h : Nat) : shuffledOrder w h = .ok (order w h) := by
  rw [shuffledOrder, if_neg hw]; rfl

theorem order_length (w h : Nat) : (order w h).length = 4 * w * h := by
  unfold order
  rw [length_flatMap_const _ (w * 4)]
  · simp; rw [Nat.mul_comm 4 w, Nat.mul_comm]
  · intro i _
    rw [length_flatMap_const _ 4]
    · simp
    · intro p _; simp

/-- Mixed radix: a smaller leading digit gives a smaller number, whatever follows. -/
theorem radix_lt {m a b x : Nat} (y : Nat) (hab : a < b) (hx : x < m) : a * m + x < b * m + y := by
  have := Nat.mul_le_mul_right m (Nat.succ_le_of_lt hab)
  rw [Nat.succ_mul] at this
  omega

theorem slot_lt {w p k : Nat} (hp : p < w) (hk : k < 4) : k * w + p < 4 * w := by
  have := radix_lt 0 hk hp
  omega

theorem order_mem (w h s : Nat) (hs : s ∈ order w h) :
    ∃ i p k, i < h ∧ p < w ∧ k < 4 ∧ s = i * (4 * w) + p + k * w := by
  simp only [order, List.mem_flatMap, List.mem_range, List.mem_map] at hs
  obtain ⟨i, hi, p, hp, k, hk, rfl⟩ := hs
  exact ⟨i, p, k, hi, hp, hk, rfl⟩

theorem order_lt (w h : Nat) : ∀ s ∈ order w h, s < 4 * w * h := by
  intro s hs
  obtain ⟨i, p, k, hi, hp, hk, rfl⟩ := order_mem w h s hs
  have h1 := radix_lt 0 hi (slot_lt hp hk)
  rw [Nat.mul_comm h] at h1
  omega

theorem pairwise_range_of_lt {R : Nat → Nat → Prop} (n : Nat)
    (h : ∀ a b, a < b → b < n → R a b) : List.Pairwise R (List.range n) := by
  rw [List.pairwise_iff_getElem]
  intro i j hi hj hij
  simp only [List.getElem_range]
  simp only [List.length_range] at hi hj
  exact h i j hij hj

theorem order_nodup (w h : Nat) : (order w h).Nodup := by
  unfold order
  rw [List.nodup_iff_pairwise_ne, List.pairwise_flatMap]
  constructor
  · intro i _
    rw [List.pairwise_flatMap]
    constructor
    · intro p hp
      rw [List.pairwise_map]
      apply pairwise_range_of_lt
      intro a b hab _
      have := radix_lt p hab (List.mem_range.mp hp)
      omega
    · apply pairwise_range_of_lt
      intro p p' hpp hp' x hx y hy
      simp only [List.mem_map, List.mem_range] at hx hy
      obtain ⟨k, hk, rfl⟩ := hx
      obtain ⟨k', hk', rfl⟩ := hy
      rcases Nat.lt_trichotomy k k' with hlt | rfl | hlt
      · have := radix_lt p' hlt (Nat.lt_trans hpp hp'); omega
      · omega
      · have := radix_lt p hlt hp'; omega
  · apply pairwise_range_of_lt
    intro i i' hii hi' x hx y hy
    simp only [List.mem_flatMap, List.mem_map, List.mem_range] at hx hy
    obtain ⟨p, hp, k, hk, rfl⟩ := hx
    obtain ⟨p', hp', k', hk', rfl⟩ := hy
    have := radix_lt (k' * w + p') hii (slot_lt hp hk)
    omega
/-- `_restore_byte_order(_shuffle_byte_order(a, w, h), w, h) = a` for `4*w*h` bytes, `w > 0`. -/
theorem shuffleArr_roundtrip (w h : Nat) (a : Array UInt8) (hw : 0 < w) (ha : a.size = 4 * w * h) :
    ∃ b, shuffle a w h = .ok b ∧ b.size = a.size ∧ restore b w h = .ok a := by
  have hw' : w ≠ 0 := by omega
  have hord := shuffledOrder_eq hw' h
  obtain ⟨b, hb1, hb2, _, hb4⟩ := scatterAux_spec a (4 * w * h) (order w h) 0 a ha (order_lt w h)
    (by rw [order_length]; omega) (order_nodup w h)
  obtain ⟨r, hr1, hr2, _, hr4⟩ := gatherAux_spec b (order w h) 0 b
    (by rw [hb2]; exact order_lt w h) (by rw [order_length]; omega)
  refine ⟨b, ?_, by omega, ?_⟩
  · simp only [shuffle, hord]; exact hb1
  · simp only [restore, hord]
    rw [hr1]
    congr 1
    apply Array.ext_getElem?
    intro t
    by_cases ht : t < (order w h).length
    · have e1 := hr4 t ht
      have e2 := hb4 t ht
      simp only [Nat.zero_add] at e1 e2
      rw [e1, e2]
    · rw [order_length] at ht
      rw [Array.getElem?_eq_none (by omega), Array.getElem?_eq_none (by omega)]

end PsdVerif.Compression
