/-
C02 on the payload layer — payloads inside their containers: the typed image resource (`ImageResource.read` with the
`TYPES[key].frombytes` dispatch), the typed resource section, the document with typed resources, and a payload inside a
skeleton tagged block / image resource.
-/
import PsdVerif.Lemmas.PayloadResave2
import PsdVerif.Lemmas.Payload3Typed
import PsdVerif.Lemmas.Lenient2

namespace PsdVerif.Payload3
open PsdVerif.Codec PsdVerif.Psd PsdVerif.Payload PsdVerif.Payload.PCodec

variable (tb : Descriptor.Tables)

/-- the side condition of a class as an image-resource payload: only the slices have one (C01's `chainOK`) -/
def RClass.ResaveOK : (c : RClass) → c.Val → Prop
  | .slices => Slices.ResaveOK
  | _ => fun _ => True

theorem RClass.decOKIf (ht : Descriptor.TermsFour tb) : ∀ c : RClass, DecOKIf (c.codec tb) c.ResaveOK
  | .resolutionInfo => ResolutionInfo.decOK.toIf _
  | .alphaNamesPascal => AlphaNamesPascal.decOK.toIf _
  | .pascalString => PascalString.decOK.toIf _
  | .color => Payload.Color.decOK.toIf _
  | .printFlags => PrintFlags.decOK.toIf _
  | .halftoneScreens => HalftoneScreens.decOK.toIf _
  | .transferFunctions => TransferFunctions.decOK.toIf _
  | .shortInteger => ShortInteger.decOK.toIf _
  | .layerGroupInfo => LayerGroupInfo.decOK.toIf _
  | .gridGuidesInfo => GridGuidesInfo.decOK.toIf _
  | .thumbnailV4 => Thumbnail.decOK.toIf _
  | .byte => Byte.decOK.toIf _
  | .thumbnail => Thumbnail.decOK.toIf _
  | .integer => Integer.decOK.toIf _
  | .alphaNamesUnicode => AlphaNamesUnicode.decOK.toIf _
  | .slices => Slices.decOKIf tb ht
  | .stringElement => (stringElement_decOK 1 1 (Or.inl rfl) (by decide)).toIf _
  | .alphaIdentifiers => AlphaIdentifiers.decOK.toIf _
  | .urlList => URLList.decOK.toIf _
  | .versionInfo => VersionInfo.decOK.toIf _
  | .printScale => PrintScale.decOK.toIf _
  | .pixelAspectRatio => PixelAspectRatio.decOK.toIf _
  | .descriptorBlock => (DescriptorResource.decOK tb ht).toIf _
  | .layerSelectionIDs => LayerSelectionIDs.decOK.toIf _
  | .layerGroupEnabledIDs => LayerGroupEnabledIDs.decOK.toIf _
  | .displayInfo => DisplayInfo.decOK.toIf _
  | .printFlagsInfo => PrintFlagsInfo.decOK.toIf _

/-- the side condition of the slices is a clause of their `WF` -/
theorem RClass.resaveOK_of_wf (c : RClass) (v : c.Val) (h : (c.codec tb).WF v) : c.ResaveOK v := by
  cases c
  case slices =>
    have h2 : (match v.data with
      | .v6 s => v.version = 6 ∧ SlicesV6.WF tb s
      | .desc b => v.version ≠ 6 ∧ b.WF tb) := h.2
    show Slices.ResaveOK v
    unfold Slices.ResaveOK
    cases hv : v.data with
    | v6 s => rw [hv] at h2; exact h2.2.2.2
    | desc b => trivial
  all_goals trivial

namespace TRes

/-- the side conditions of a typed resource: the payload's own, and the length field of the re-encoded payload -/
def ResaveOK (r : TRes) : Prop :=
  (match r.data with
   | .raw _ => True
   | .typed c v => c.ResaveOK v) ∧ FitsU 4 (r.data.encT tb).length

/-- the side conditions are part of `WF`: the slices' `chainOK`, the length field of the payload -/
theorem WF.resaveOK {r : TRes} (h : r.WF tb) : r.ResaveOK tb := by
  refine ⟨?_, h.1.2.2.2⟩
  obtain ⟨_, _, hd⟩ := h
  cases hr : r.data with
  | raw _ => trivial
  | typed c v =>
    rw [hr] at hd
    exact RClass.resaveOK_of_wf tb c v hd.2

/-- `ImageResource.read` with the payload dispatch: what it returns is a well-formed typed resource that the writer
accepts -/
theorem dec_ok (ht : Descriptor.TermsFour tb) {d : B} {p : Nat} {r : TRes} {p' : Nat} (h : TRes.dec tb d p = .ok (r, p'))
    (hl : r.ResaveOK tb) : r.WF tb ∧ r.Fits tb := by
  unfold TRes.dec at h
  obtain ⟨⟨sig, p1⟩, _, h⟩ := bind_ok h
  obtain ⟨⟨key, p2⟩, e2, h⟩ := bind_ok h
  obtain ⟨⟨name, p3⟩, e3, h⟩ := bind_ok h
  obtain ⟨⟨data, p4⟩, _, h⟩ := bind_ok h
  obtain ⟨pl, hpl, h⟩ := bind_ok h
  obtain ⟨hsig, h⟩ := ok_of_ite h
  cases h
  have hflat : (TRes.flat tb ⟨sig, key, name, pl⟩).WF := ⟨hsig, (readU_ok e2).1, readPascal_ok e3, hl.2⟩
  unfold TRes.typedData at hpl
  split at hpl
  · rename_i c hc
    split at hpl
    · rename_i v q hv
      cases hpl
      obtain ⟨w, f⟩ := RClass.decOKIf tb ht c data 0 v q hv hl.1
      exact ⟨⟨hflat, f, hc, w⟩, f, hflat.2⟩
    · cases hpl
  · rename_i hc
    cases hpl
    exact ⟨⟨hflat, trivial, hc⟩, trivial, hflat.2⟩

end TRes

/-- `ImageResources.read` with typed items -/
theorem tresourcesDec_ok (ht : Descriptor.TermsFour tb) {d : B} {p : Nat} {rs : List TRes} {p' : Nat}
    (h : tresourcesDec tb d p = .ok (rs, p')) (hl : ∀ r ∈ rs, r.ResaveOK tb) :
    (∀ r ∈ rs, r.WF tb ∧ r.Fits tb) ∧ (rs.map TRes.key).Nodup := by
  revert rs p'
  show Rets (tresourcesDec tb d p) _
  exact Rets.skip fun _ _ => (rets_readWhile fun _ _ e hl => TRes.dec_ok tb ht e hl).bind fun _ _ items =>
    Rets.ok fun hl => ⟨fun r hr => items r (mem_odict _ _ _ hr) (hl r hr), nodup_odict _ _⟩

namespace ResPSD

/-- the side conditions of the typed resources of a document -/
def ResourcesOK (x : ResPSD) : Prop := ∀ r ∈ x.resources, r.ResaveOK tb

/-- `PSD.read` with typed resources: every resource it returns is well formed and writable; the resource ids are distinct -/
theorem read_resources_ok (ht : Descriptor.TermsFour tb) {b : B} {p : Nat} {x : ResPSD} {p' : Nat}
    (h : ResPSD.read tb b p = .ok (x, p')) (hl : x.ResourcesOK tb) :
    (∀ r ∈ x.resources, r.WF tb ∧ r.Fits tb) ∧ (x.resources.map TRes.key).Nodup := by
  revert x p'
  show Rets (ResPSD.read tb b p) _
  exact Rets.skip fun _ _ => Rets.skip fun _ _ => Rets.bind (fun _ _ e hl => tresourcesDec_ok tb ht e hl) fun _ _ res =>
    Rets.skip fun _ _ => Rets.skip fun _ _ => Rets.ok res

/-- a well-formed document with typed resources is written without error -/
theorem enc_of_wf {pad : Nat} {x : ResPSD} (h : ResPSD.WF tb pad x) : ResPSD.enc tb pad x = .ok ((x.flat tb).encT pad) := by
  obtain ⟨⟨hflat, hblocks⟩, hres⟩ := h
  have hpf : (x.flat tb).payloadFits := by
    unfold DeepPSD.payloadFits
    cases hts : (x.flat tb).layerAndMask.taggedBlocks with
    | none => trivial
    | some ts => rw [hts] at hblocks; exact fun t ht => (hblocks t ht).2.1
  have hrf : ResPSD.payloadFits tb x := fun r hr => (hres r hr).2.1
  unfold ResPSD.enc DeepPSD.enc
  rw [if_pos hrf, PSD.WF.writeError_none hflat, if_pos hpf]

end ResPSD

/-! ### a payload inside the skeleton's containers -/

/-- A tagged block the skeleton reader accepted, whose payload the class's reader accepted (`TaggedBlock.read` runs
`kls.frombytes(data)` on exactly the bytes of the length block): the block with the re-encoded payload is a well-formed
block, it is read back as itself wherever it is written, and its payload is read back as the value - provided the
re-encoded payload fits the length field of the block. -/
theorem tagged_block_resave {α : Type} {c : PCodec α} {L : α → Prop} (hc : DecOKIf c L) (hr : c.RtAtEnd) (ver pad : Nat)
    (hp : pad = 1 ∨ pad = 2 ∨ pad = 4) {d : B} {p : Nat} {t : TaggedBlock} {p' : Nat}
    (hd : TaggedBlock.dec ver pad d p = .ok (some t, p')) {v : α} {n : Nat} (hv : c.dec t.data 0 = .ok (v, n)) (hl : L v)
    (hlen : FitsU (tbLenW ver t.key) (c.encT v).length) :
    c.enc v = .ok (c.encT v) ∧ (⟨t.signature, t.key, c.encT v⟩ : TaggedBlock).WF ver ∧
      ∀ pre post : B,
        TaggedBlock.dec ver pad (pre ++ (⟨t.signature, t.key, c.encT v⟩ : TaggedBlock).encT ver pad ++ post) pre.length =
            .ok (some ⟨t.signature, t.key, c.encT v⟩, pre.length + ((⟨t.signature, t.key, c.encT v⟩ : TaggedBlock).encT ver pad).length) ∧
          c.dec (c.encT v) 0 = .ok (v, c.consumed v) := by
  obtain ⟨hw, hf⟩ := hc t.data 0 v n hv hl
  have henc : c.enc v = .ok (c.encT v) := by simp only [PCodec.enc, if_pos hf]
  have htwf := TaggedBlock.dec_ok hd
  have hwf' : (⟨t.signature, t.key, c.encT v⟩ : TaggedBlock).WF ver := ⟨htwf.1, htwf.2.1, hlen⟩
  exact ⟨henc, hwf', fun pre post => tagged_block_payload hr ver pad hp _ hwf' v hw henc pre post⟩

/-- the same for an image resource of the skeleton (`ImageResource.read` runs `TYPES[key].frombytes(data)`) -/
theorem image_resource_resave {α : Type} {c : PCodec α} {L : α → Prop} (hc : DecOKIf c L) (hr : c.RtAtEnd)
    {d : B} {p : Nat} {r : Resource} {p' : Nat} (hd : Resource.dec d p = .ok (r, p')) {v : α} {n : Nat}
    (hv : c.dec r.data 0 = .ok (v, n)) (hl : L v) (hlen : FitsU 4 (c.encT v).length) :
    c.enc v = .ok (c.encT v) ∧ (⟨r.signature, r.key, r.name, c.encT v⟩ : Resource).WF ∧
      ∀ pre post : B,
        Resource.dec (pre ++ (⟨r.signature, r.key, r.name, c.encT v⟩ : Resource).encT ++ post) pre.length =
            .ok (⟨r.signature, r.key, r.name, c.encT v⟩, pre.length + (⟨r.signature, r.key, r.name, c.encT v⟩ : Resource).encT.length) ∧
          c.dec (c.encT v) 0 = .ok (v, c.consumed v) := by
  obtain ⟨hw, hf⟩ := hc r.data 0 v n hv hl
  have henc : c.enc v = .ok (c.encT v) := by simp only [PCodec.enc, if_pos hf]
  have hrwf := Resource.dec_ok hd
  have hwf' : (⟨r.signature, r.key, r.name, c.encT v⟩ : Resource).WF := ⟨hrwf.1, hrwf.2.1, hrwf.2.2.1, hlen⟩
  exact ⟨henc, hwf', fun pre post => resourcePayload_of hr _ hwf' v hw henc pre post⟩

instance (x : SlicesV6) : Decidable (SlicesV6.ResaveOK x) := by unfold SlicesV6.ResaveOK; exact inferInstance
instance (x : Slices) : Decidable (Slices.ResaveOK x) := by
  unfold Slices.ResaveOK; cases x.data <;> simp only <;> exact inferInstance
def slicesDec (v : Slices) : Decidable (Slices.ResaveOK v) := inferInstance

instance RClass.decResaveOK : (c : RClass) → (v : c.Val) → Decidable (c.ResaveOK v)
  | .resolutionInfo, _ => isTrue trivial
  | .alphaNamesPascal, _ => isTrue trivial
  | .pascalString, _ => isTrue trivial
  | .color, _ => isTrue trivial
  | .printFlags, _ => isTrue trivial
  | .halftoneScreens, _ => isTrue trivial
  | .transferFunctions, _ => isTrue trivial
  | .shortInteger, _ => isTrue trivial
  | .layerGroupInfo, _ => isTrue trivial
  | .gridGuidesInfo, _ => isTrue trivial
  | .thumbnailV4, _ => isTrue trivial
  | .byte, _ => isTrue trivial
  | .thumbnail, _ => isTrue trivial
  | .integer, _ => isTrue trivial
  | .alphaNamesUnicode, _ => isTrue trivial
  | .slices, v => slicesDec v
  | .stringElement, _ => isTrue trivial
  | .alphaIdentifiers, _ => isTrue trivial
  | .urlList, _ => isTrue trivial
  | .versionInfo, _ => isTrue trivial
  | .printScale, _ => isTrue trivial
  | .pixelAspectRatio, _ => isTrue trivial
  | .descriptorBlock, _ => isTrue trivial
  | .layerSelectionIDs, _ => isTrue trivial
  | .layerGroupEnabledIDs, _ => isTrue trivial
  | .displayInfo, _ => isTrue trivial
  | .printFlagsInfo, _ => isTrue trivial
instance (tb : Descriptor.Tables) (r : TRes) : Decidable (r.ResaveOK tb) := by
  unfold TRes.ResaveOK
  cases r.data with
  | raw b => simp only; exact inferInstance
  | typed c v => simp only; exact @instDecidableAnd _ _ (RClass.decResaveOK c v) inferInstance
instance (tb : Descriptor.Tables) (x : ResPSD) : Decidable (x.ResourcesOK tb) := by unfold ResPSD.ResourcesOK; exact inferInstance

end PsdVerif.Payload3
