/-
List plumbing for C17 (`Model/MergedPixels.lean`): big-endian bytes, samples of an encoded plane, `traverse`
elementwise, the planes cut from the composite, `setColours` plane by plane.
Core Lean only.
-/
import PsdVerif.Model.MergedPixels
import PsdVerif.Lemmas.Merged
import PsdVerif.Lemmas.Bytes

namespace PsdVerif.MergedPixels
open PsdVerif PsdVerif.Pixels PsdVerif.Merged

theorem be_length (k n : Nat) : (be k n).length = k := by
  induction k with
  | zero => rfl
  | succ k ih => simp [be, ih]

theorem unbe_foldl (bs : List UInt8) (acc : Nat) :
    bs.foldl (fun acc b => acc * 256 + b.toNat) acc = acc * 256 ^ bs.length + unbe bs := by
  induction bs generalizing acc with
  | nil => simp [unbe]
  | cons b bs ih =>
    simp only [List.foldl_cons, List.length_cons, unbe]
    rw [ih, ih (0 * 256 + b.toNat)]
    simp only [Nat.zero_mul, Nat.zero_add, Nat.pow_succ]
    rw [Nat.add_mul, Nat.mul_assoc, Nat.add_assoc, Nat.mul_comm 256]

theorem unbe_cons (b : UInt8) (bs : List UInt8) : unbe (b :: bs) = b.toNat * 256 ^ bs.length + unbe bs := by
  have := unbe_foldl bs (0 * 256 + b.toNat)
  simp only [Nat.zero_mul, Nat.zero_add] at this
  simpa [unbe] using this

theorem unbe_be (k n : Nat) : unbe (be k n) = n % 256 ^ k := by
  induction k with
  | zero => simp [be, unbe, Nat.mod_one]
  | succ k ih =>
    simp only [be, unbe_cons, be_length, ih]
    rw [toNat_ofNat, Nat.mod_mod, Nat.pow_succ, Nat.mod_mul, Nat.mul_comm, Nat.add_comm]

theorem planeEnc_length (d : Nat) (v : Rat) : (planeEnc d v).length = d / 8 := by
  unfold planeEnc
  split
  · rename_i h; subst h; simp [be_length]
  · split <;> simp [be_length]

theorem ratQuant_lawful : ratQuant.Lawful := fun d v => planeEnc_length d v

theorem flatten_sampleAt (ls : List (List UInt8)) (size : Nat) (h : ∀ l ∈ ls, l.length = size) (i : Nat)
    (hi : i < ls.length) : sampleAt ls.flatten size i = ls[i] := by
  unfold sampleAt
  induction ls generalizing i with
  | nil => simp at hi
  | cons l ls ih =>
    have hl := h l (List.mem_cons_self ..)
    cases i with
    | zero => simp [List.take_left' hl]
    | succ i =>
      have e : (i + 1) * size = size + i * size := by rw [Nat.add_mul, Nat.one_mul, Nat.add_comm]
      simp only [List.flatten_cons, e, List.getElem_cons_succ]
      rw [← List.drop_drop, List.drop_left' hl]
      exact ih (fun q hq => h q (List.mem_cons_of_mem _ hq)) i (by simpa using hi)

theorem encPlane_sampleAt {α : Type} (Q : Quant α) (hQ : Q.Lawful) (d : Nat) (p : List α) (i : Nat)
    (hi : i < p.length) : sampleAt (encPlane Q d p) (d / 8) i = Q.enc d p[i] := by
  unfold encPlane
  rw [flatten_sampleAt _ (d / 8) _ i (by simpa using hi)]
  · simp
  · intro l hl
    simp only [List.mem_map] at hl
    obtain ⟨x, _, rfl⟩ := hl
    exact hQ d x

theorem compositePlanes_wf (h : Header) (px : Int → Int → Px) : (compositePlanes h px).WF h := by
  unfold compositePlanes Merged.Composite.WF
  refine ⟨by simp, ?_, by simp⟩
  intro p hp
  simp only [List.mem_map, List.mem_range] at hp
  obtain ⟨k, _, rfl⟩ := hp
  simp

theorem index_mod (w x y : Nat) (hx : x < w) : (y * w + x) % w = x := by
  rw [Nat.add_comm, Nat.add_mul_mod_self_right, Nat.mod_eq_of_lt hx]

theorem index_div (w x y : Nat) (hx : x < w) : (y * w + x) / w = y := by
  have hw : 0 < w := by omega
  rw [Nat.add_comm, Nat.add_mul_div_right _ _ hw, Nat.div_eq_of_lt hx, Nat.zero_add]

theorem index_lt (w hh x y : Nat) (hx : x < w) (hy : y < hh) : y * w + x < w * hh := by
  have : (y + 1) * w ≤ hh * w := Nat.mul_le_mul_right w hy
  rw [Nat.add_mul, Nat.one_mul] at this
  rw [Nat.mul_comm w hh]
  omega


theorem compositePlanes_color (h : Header) (px : Int → Int → Px) (k : Nat) (hk : k < h.cmode.expected) :
    (compositePlanes h px).color[k]? = some ((List.range (h.width * h.height)).map fun i =>
      (px ((i % h.width : Nat) : Int) ((i / h.width : Nat) : Int)).1 k) := by
  simp [compositePlanes, hk]

theorem compositePlanes_alpha (h : Header) (px : Int → Int → Px) :
    (compositePlanes h px).alpha = (List.range (h.width * h.height)).map fun i =>
      (px ((i % h.width : Nat) : Int) ((i / h.width : Nat) : Int)).2.2 := rfl

theorem setColours_getElem? (flat : Bool) (n : Nat) (l l' : List PlaneSrc) (h : setColours flat n l = .ok l') :
    l'.length = l.length ∧
    ∀ k, l'[k]? = if k < n then some (if flat then PlaneSrc.colorFlat k else .color k) else l[k]? := by
  induction n generalizing l' with
  | zero => simp [setColours] at h; subst h; simp
  | succ n ih =>
    simp only [setColours] at h
    cases h1 : setColours flat n l with
    | error e => simp [h1] at h
    | ok l1 =>
      obtain ⟨hl, hall⟩ := ih l1 h1
      simp only [h1, pySet] at h
      by_cases hn : n < l1.length
      · simp only [hn, if_true, Except.ok.injEq] at h
        subst h
        refine ⟨by simp [hl], ?_⟩
        intro k
        rw [List.getElem?_set]
        by_cases hk : n = k
        · subst hk; simp [hn]
        · simp only [hk, if_false, hall k]
          by_cases h2 : k < n
          · have : k < n + 1 := by omega
            simp [h2, this]
          · have : ¬ k < n + 1 := by omega
            simp [h2, this]
      · simp [hn] at h

theorem mergedRoutes_eq (m : Meta) (rd : Bool) : mergedRoutes m rd =
    if ¬(m.header.depth = 8 ∨ m.header.depth = 16 ∨ m.header.depth = 32) ∨ m.header.cmode = .bitmap then .ok none else
    match setColours (flattens m) m.header.cmode.expected
        ((List.range m.header.channels).map fun k => if rd then PlaneSrc.old k else .fill) with
    | .error e => .error e
    | .ok planes =>
      if transparencyPlane m then
        match pySet planes (max (m.transparencyIndex % (m.header.channels : Int)).toNat m.header.cmode.expected) .alpha with
        | .error e => .error e
        | .ok planes => .ok (some planes)
      else .ok (some planes) := rfl

end PsdVerif.MergedPixels
