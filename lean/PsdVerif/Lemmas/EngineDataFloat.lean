/-
Lemmas for C18: the Float token of a decimal in normal form (`Dec.wf`). Core Lean only.
-/
import PsdVerif.Lemmas.EngineDataTree

namespace PsdVerif.EngineData

def signB (neg : Bool) : BL := if neg then [0x2D] else []

theorem isDigit_dot : isDigit 0x2E = false := by decide

theorem unsigned_head (ip fp : BL) (hip : ∀ b ∈ ip, isDigit b = true) :
    ∃ h r, ip ++ 0x2E :: fp = h :: r ∧ h ≠ 0x2D ∧ (isDigit h = true ∨ h = 0x2E) := by
  cases ip with
  | nil => exact ⟨0x2E, fp, rfl, by decide, Or.inr rfl⟩
  | cons a t =>
    have ha := hip a (by simp)
    exact ⟨a, t ++ 0x2E :: fp, rfl, (digit_facts a ha).2.2.1, Or.inl ha⟩

theorem dec_takeWhile (ip fp : BL) (hip : ∀ b ∈ ip, isDigit b = true) :
    (ip ++ 0x2E :: fp).takeWhile isDigit = ip :=
  takeWhile_all isDigit ip _ hip (Or.inr ⟨0x2E, fp, rfl, isDigit_dot⟩)

theorem dec_dropWhile (ip fp : BL) (hip : ∀ b ∈ ip, isDigit b = true) :
    (ip ++ 0x2E :: fp).dropWhile isDigit = 0x2E :: fp :=
  dropWhile_all isDigit ip _ hip (Or.inr ⟨0x2E, fp, rfl, isDigit_dot⟩)

theorem optMinus_signed (neg : Bool) (ip fp : BL) (hip : ∀ b ∈ ip, isDigit b = true) :
    optMinus (signB neg ++ (ip ++ 0x2E :: fp)) = ip ++ 0x2E :: fp := by
  cases neg with
  | true => simp [signB, optMinus]
  | false =>
    obtain ⟨h, r, e, hne, _⟩ := unsigned_head ip fp hip
    simp only [signB, Bool.false_eq_true, if_false, List.nil_append]
    rw [e]; simp [optMinus, hne]

theorem decOfToken_shape (neg : Bool) (ip fp : BL) (hip : ∀ b ∈ ip, isDigit b = true)
    (hfp : ∀ b ∈ fp, isDigit b = true) :
    decOfToken (signB neg ++ (ip ++ 0x2E :: fp)) = ⟨neg, parseNat (ip ++ fp), fp.length⟩ := by
  simp only [decOfToken, optMinus_signed neg ip fp hip, dec_takeWhile ip fp hip, dec_dropWhile ip fp hip,
    List.drop_succ_cons, List.drop_zero, takeWhile_self isDigit fp hfp]
  cases neg with
  | true => simp [signB]
  | false =>
    obtain ⟨h, r, e, hne, _⟩ := unsigned_head ip fp hip
    simp only [signB, Bool.false_eq_true, if_false, List.nil_append]
    rw [e]; simp [hne]

theorem plain_shape (neg : Bool) (ip fp : BL) (hip : ∀ b ∈ ip, isDigit b = true)
    (hfp : ∀ b ∈ fp, isDigit b = true) : Plain (signB neg ++ (ip ++ 0x2E :: fp)) := by
  apply plain_digits_like
  · cases neg <;> simp [signB]
  · intro b hb
    simp only [List.mem_append, List.mem_cons] at hb
    rcases hb with hb | hb | hb | hb
    · cases neg
      · simp [signB] at hb
      · simp [signB] at hb; exact Or.inr (Or.inl hb)
    · exact Or.inl (hip b hb)
    · exact Or.inr (Or.inr hb)
    · exact Or.inl (hfp b hb)

theorem classify_shape (neg : Bool) (ip fp : BL) (hip : ∀ b ∈ ip, isDigit b = true)
    (hfp : ∀ b ∈ fp, isDigit b = true) (hne : fp ≠ []) :
    classify (signB neg ++ (ip ++ 0x2E :: fp)) = some .numberDec := by
  have om := optMinus_signed neg ip fp hip
  have tw := dec_takeWhile ip fp hip
  have dw := dec_dropWhile ip fp hip
  have twf := takeWhile_self isDigit fp hfp
  have dwf := dropWhile_self isDigit fp hfp
  have hnum : reNumber (signB neg ++ (ip ++ 0x2E :: fp)) = false := by
    simp [reNumber, om, tw, dw, isEnd]
  have hdec : reNumberDec (signB neg ++ (ip ++ 0x2E :: fp)) = true := by
    simp [reNumberDec, om, dw, twf, dwf, isEnd, hne]
  -- the token starts with `-`, a digit or the dot
  have hhead : ∃ h r, signB neg ++ (ip ++ 0x2E :: fp) = h :: r ∧ plainHead h = true := by
    cases neg with
    | true => exact ⟨0x2D, ip ++ 0x2E :: fp, rfl, by decide⟩
    | false =>
      obtain ⟨h, r, e, _, hh⟩ := unsigned_head ip fp hip
      refine ⟨h, r, by simpa [signB] using e, ?_⟩
      rcases hh with hh | rfl
      · exact (digit_facts h hh).2.2.2.2
      · decide
  obtain ⟨h, r, e, hh⟩ := hhead
  rw [e] at hnum hdec ⊢
  rw [classify_cons h r hh, hnum, hdec]
  rfl

theorem fixDigits_digits (w n : Nat) : ∀ b ∈ fixDigits w n, isDigit b = true := by
  induction w generalizing n with
  | zero => intro b hb; simp [fixDigits] at hb
  | succ w ih =>
    intro b hb
    simp only [fixDigits, List.mem_append, List.mem_singleton] at hb
    rcases hb with hb | rfl
    · exact ih _ b hb
    · exact isDigit_digitByte _ (by omega)

theorem fixDigits_length (w n : Nat) : (fixDigits w n).length = w := by
  induction w generalizing n with
  | zero => rfl
  | succ w ih => simp [fixDigits, ih]

theorem parseNat_fixDigits (x : BL) (w n : Nat) (h : n < 10 ^ w) :
    parseNat (x ++ fixDigits w n) = parseNat x * 10 ^ w + n := by
  induction w generalizing n with
  | zero => simp at h; subst h; simp [fixDigits]
  | succ w ih =>
    have hw : n / 10 < 10 ^ w := by rw [Nat.pow_succ] at h; omega
    rw [fixDigits, ← List.append_assoc, parseNat_append, ih _ hw, digitByte_toNat _ (by omega), Nat.pow_succ,
      ← Nat.mul_assoc]
    omega

theorem fixDigits_mul_pow (a b x : Nat) :
    fixDigits (a + b) (x * 10 ^ b) = fixDigits a x ++ List.replicate b 0x30 := by
  induction b with
  | zero => simp
  | succ b ih =>
    have e1 : x * 10 ^ (b + 1) / 10 = x * 10 ^ b := by
      rw [Nat.pow_succ, ← Nat.mul_assoc]; omega
    have e2 : x * 10 ^ (b + 1) % 10 = 0 := by
      rw [Nat.pow_succ, ← Nat.mul_assoc]; omega
    rw [← Nat.add_assoc, fixDigits, e1, e2, ih, List.replicate_succ', List.append_assoc]
    rfl

theorem rstrip_zeros (p : BL) (n : Nat) : rstripZeros (p ++ List.replicate n 0x30) = rstripZeros p := by
  unfold rstripZeros
  rw [List.reverse_append, List.reverse_replicate]
  congr 1
  induction n with
  | zero => rfl
  | succ n ih => simp [List.replicate_succ, ih]

theorem rstrip_stop (p : BL) (x : UInt8) (hx : x ≠ 0x30) : rstripZeros (p ++ [x]) = p ++ [x] := by
  unfold rstripZeros
  simp [List.reverse_append, hx]

theorem replace2_nodot (l : BL) (h : ∀ b ∈ l, b ≠ 0x2E) : replace2 0x30 0x2E [0x2E] l = l := by
  induction l with
  | nil => rfl
  | cons a t ih =>
    have iht := ih (fun b hb => h b (by simp [hb]))
    rw [replace2_cons _ _ _ _ _ ?_, iht]
    right
    cases t with
    | nil => simp
    | cons b t => simp; exact h b (by simp)

theorem m8_arith (mant k : Nat) (h8 : k ≤ 8) :
    mant * 10 ^ (8 - k) / 10 ^ 8 = mant / 10 ^ k ∧
    mant * 10 ^ (8 - k) % 10 ^ 8 = (mant % 10 ^ k) * 10 ^ (8 - k) := by
  have h : 10 ^ 8 = 10 ^ k * 10 ^ (8 - k) := by rw [← Nat.pow_add, Nat.add_sub_cancel' h8]
  rw [h]
  exact ⟨Nat.mul_div_mul_right _ _ (Nat.pow_pos (by decide)), Nat.mul_mod_mul_right _ _ _⟩

theorem digit_ne_dot (b : UInt8) (h : isDigit b = true) : b ≠ 0x2E := (digit_facts b h).2.2.2.1

theorem writeFloat_shape (d : Dec) (h : d.wf = true) :
    ∃ ip, writeFloat d = signB d.neg ++ (ip ++ 0x2E :: fixDigits d.k (d.mant % 10 ^ d.k)) ∧
      (∀ b ∈ ip, isDigit b = true) ∧
      parseNat (ip ++ fixDigits d.k (d.mant % 10 ^ d.k)) = d.mant := by
  obtain ⟨neg, mant, k⟩ := d
  simp only [Dec.wf, Bool.and_eq_true, decide_eq_true_eq, Bool.or_eq_true, beq_iff_eq, bne_iff_ne] at h
  obtain ⟨⟨h1, h8⟩, hnorm⟩ := h
  obtain ⟨k', rfl⟩ : ∃ k', k = k' + 1 := ⟨k - 1, by omega⟩
  obtain ⟨a1, a2⟩ := m8_arith mant (k' + 1) h8
  have hm8 : m8 ⟨neg, mant, k' + 1⟩ = mant * 10 ^ (8 - (k' + 1)) := by simp [m8, h8]
  have hF : mant % 10 ^ (k' + 1) < 10 ^ (k' + 1) := Nat.mod_lt _ (Nat.pow_pos (by decide))
  -- the last digit of the fractional part
  have hlast : mant % 10 ^ (k' + 1) % 10 = mant % 10 := by
    exact Nat.mod_mod_of_dvd mant ⟨10 ^ k', by rw [Nat.pow_succ, Nat.mul_comm]⟩
  have hfix8 : fixDigits 8 (mant % 10 ^ (k' + 1) * 10 ^ (8 - (k' + 1)))
      = fixDigits (k' + 1) (mant % 10 ^ (k' + 1)) ++ List.replicate (8 - (k' + 1)) 0x30 := by
    have := fixDigits_mul_pow (k' + 1) (8 - (k' + 1)) (mant % 10 ^ (k' + 1))
    rwa [Nat.add_sub_cancel' h8] at this
  -- the rendering before the `0.` → `.` replacement
  have hcanon : (let v := rstripZeros (fmt8 ⟨neg, mant, k' + 1⟩)
      if v.getLast? = some 0x2E then v ++ [0x30] else v)
      = signB neg ++ (D (mant / 10 ^ (k' + 1)) ++ 0x2E :: fixDigits (k' + 1) (mant % 10 ^ (k' + 1))) := by
    simp only [fmt8, hm8, a1, a2, hfix8, natDigits_eq]
    rw [fixDigits]
    rw [show (if neg = true then [0x2D] else []) = signB neg from rfl]
    rw [← List.append_assoc, ← List.append_assoc, rstrip_zeros, hlast]
    by_cases hz : mant % 10 = 0
    · -- only possible with one fractional digit: "…x.0" is stripped to "…x." and gets its 0 back
      have hk : k' = 0 := by
        rcases hnorm with hk | hk
        · omega
        · exact absurd hz hk
      subst hk
      rw [hz]
      have e0 : digitByte 0 = 0x30 := rfl
      simp only [fixDigits, List.append_nil, e0]
      have := rstrip_zeros (signB neg ++ D (mant / 10 ^ (0 + 1)) ++ [0x2E]) 1
      simp only [List.replicate_one] at this
      rw [this, rstrip_stop _ _ (by decide)]
      simp
    · have h10 : mant % 10 < 10 := Nat.mod_lt _ (by decide)
      rw [rstrip_stop _ _ (digitByte_ne_zero _ h10 hz)]
      have hnd : digitByte (mant % 10) ≠ 0x2E := digit_ne_dot _ (isDigit_digitByte _ h10)
      simp only [List.getLast?_concat, Option.some.injEq, hnd, if_false]
      simp [List.append_assoc]
  refine ⟨if 0 < mant ∧ mant < 10 ^ (k' + 1) then [] else D (mant / 10 ^ (k' + 1)), ?_, ?_, ?_⟩
  · unfold writeFloat
    simp only []
    simp only [] at hcanon
    rw [hcanon]
    by_cases hsmall : 0 < mant ∧ mant < 10 ^ (k' + 1)
    · simp only [hsmall, and_self, if_true, List.nil_append]
      have hI : mant / 10 ^ (k' + 1) = 0 := Nat.div_eq_of_lt hsmall.2
      have hD0 : D 0 = [0x30] := by rw [D]; rfl
      rw [hI, hD0]
      have hfd : ∀ b ∈ fixDigits (k' + 1) (mant % 10 ^ (k' + 1)), b ≠ 0x2E :=
        fun b hb => digit_ne_dot b (fixDigits_digits _ _ b hb)
      cases neg with
      | false =>
        simp only [signB, Bool.false_eq_true, if_false, List.nil_append, List.singleton_append]
        rw [replace2.eq_def]
        simp [replace2_nodot _ hfd]
      | true =>
        simp only [signB, if_true, List.cons_append, List.nil_append]
        rw [replace2_cons _ _ _ _ _ (Or.inl (by decide)), replace2.eq_def]
        simp [replace2_nodot _ hfd]
    · simp only [hsmall, if_false]
  · intro b hb
    split at hb
    · cases hb
    · exact D_digits _ b hb
  · by_cases hsmall : 0 < mant ∧ mant < 10 ^ (k' + 1)
    · simp only [hsmall, and_self, if_true, List.nil_append]
      have := parseNat_fixDigits [] (k' + 1) _ hF
      simp only [List.nil_append] at this
      rw [this, Nat.mod_eq_of_lt hsmall.2]
      simp [parseNat]
    · simp only [hsmall, if_false]
      rw [parseNat_fixDigits _ _ _ hF, parseNat_D]
      exact Nat.div_add_mod' mant (10 ^ (k' + 1))

theorem floatOK : FloatOK := by
  intro d h
  obtain ⟨ip, hw, hip, hval⟩ := writeFloat_shape d h
  have hfp := fixDigits_digits d.k (d.mant % 10 ^ d.k)
  have hk : 1 ≤ d.k := by
    simp only [Dec.wf, Bool.and_eq_true, decide_eq_true_eq] at h
    exact h.1.1
  have hne : fixDigits d.k (d.mant % 10 ^ d.k) ≠ [] := by
    intro e
    have := fixDigits_length d.k (d.mant % 10 ^ d.k)
    rw [e] at this; simp at this; omega
  refine ⟨Or.inr ?_, ?_, ?_⟩
  · show Plain (writeFloat d)
    rw [hw]; exact plain_shape _ _ _ hip hfp
  · show classify (writeFloat d) = some .numberDec
    rw [hw]; exact classify_shape _ _ _ hip hfp hne
  · show valueOfToken .numberDec (writeFloat d) = some (.ok (.flt d))
    simp only [valueOfToken]
    rw [hw, decOfToken_shape _ _ _ hip hfp, hval, fixDigits_length]

end PsdVerif.EngineData
