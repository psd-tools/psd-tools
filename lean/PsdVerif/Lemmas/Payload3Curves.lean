/-
C01 payload classes — `Curves` / `CurvesExtraMarker` / `CurvesExtraItem` (Model/Payload3Adjust.lean): the readers that
remember where they failed, and the round trip of `Curves` at the end of a stream.
-/
import PsdVerif.Lemmas.Payload3Adjust

namespace PsdVerif.Payload3
open PsdVerif.Codec PsdVerif.Payload

theorem fmtDecE_ok {fs : List FI} {d : B} {p : Nat} {r : Row × Nat} (h : fmtDec fs d p = .ok r) : fmtDecE fs d p = .ok r := by
  simp only [fmtDecE, h]

theorem readCountE_at {α : Type} (item : RE α) (enc : α → B) (vs : List α)
    (hitem : ∀ v ∈ vs, ∀ d p, At d p (enc v) → item d p = .ok (v, p + (enc v).length))
    {d : B} {p : Nat} (h : At d p (listT enc vs)) :
    readCountE item vs.length d p = .ok (vs, p + (listT enc vs).length) := by
  induction vs generalizing p with
  | nil => simp [readCountE, listT]
  | cons v vs ih =>
    simp only [listT] at h ⊢
    simp only [List.length_cons, readCountE]
    rw [hitem v (by simp) d p h.left]
    simp only
    rw [ih (fun x hx => hitem x (by simp [hx])) h.right]
    simp only [List.length_append, Nat.add_assoc]

/-- a one-field row of an unsigned field -/
theorem row1_shape {w : Nat} {r : Row} (hf : fmtFits [U w] r) : ∃ c : Int, r = [.int c] ∧ 0 ≤ c ∧ c.toNat < 256 ^ w := by
  match r, hf with
  | [.int c], hf =>
    simp only [U, fmtFits, FT.Fits] at hf
    exact ⟨c, rfl, hf.1.1, hf.1.2⟩

theorem all_replicate {α : Type} (q : α → Bool) (n : Nat) (a : α) (h : q a = true) : (List.replicate n a).all q = true := by
  induction n with
  | zero => rfl
  | succ n ih => simp only [List.replicate_succ, List.all_cons, h, ih, Bool.and_self]

theorem mapFmt_ok : mapFmt.all FI.ok = true := all_replicate _ 256 (U 1) rfl
theorem mapFmt_plain : mapFmt.all (fun i => match i with | .fld .q => false | .fld (.str _) => false | _ => true) = true :=
  all_replicate _ 256 (U 1) rfl

namespace CurvesExtraItem

theorem encP_eq (x : CurvesExtraItem) : x.encP = (x.encT, x.encT.length) := by
  obtain ⟨c, pts⟩ := x
  cases pts with
  | map r => simp only [encP, encT, wBytes_eq, wSeq_eq]
  | pairs ps =>
    simp only [encP, encT, rowsP_eq]
    simp only [wBytes_eq, wSeq_eq, List.append_assoc]

theorem decE_at {isMap : Bool} {i : CurvesExtraItem} (hw : Curves.itemWF isMap i) (hf : i.Fits) {d : B} {p : Nat}
    (h : At d p i.encT) : decE isMap d p = .ok (i, p + i.encT.length) := by
  obtain ⟨cid, pts⟩ := i
  obtain ⟨f1, f2⟩ := hf
  cases pts with
  | map r =>
    simp only [Curves.itemWF] at hw
    subst hw
    simp only at f1 f2
    simp only [encT] at h ⊢
    obtain ⟨e1, h1⟩ := fmt_step' (fs := [U 2]) rfl f1 (fmtWF_of_plain _ _ rfl) h
    obtain ⟨e2, _⟩ := fmt_step' (fs := mapFmt) mapFmt_ok f2 (fmtWF_of_plain _ _ mapFmt_plain) h1.nil_right
    simp only [decE, if_true, fmtDecE_ok e1, fmtDecE_ok e2, List.length_append, Nat.add_assoc]
  | pairs ps =>
    simp only [Curves.itemWF] at hw
    subst hw
    simp only at f1 f2
    obtain ⟨c, rfl, hc0, hc1⟩ := row1_shape f1
    have hrow : fmtT [U 2] [.int c] ++ (beBytes 2 ps.length ++ listT (fmtT pairFmt) ps) =
        fmtT [U 2, U 2] [.int c, .int ps.length] ++ listT (fmtT pairFmt) ps := by
      simp only [U, fmtT, FT.encT, Int.toNat_natCast, List.append_assoc, List.append_nil]
    simp only [encT, hrow] at h ⊢
    have hfit : fmtFits [U 2, U 2] [.int c, .int ps.length] := by
      simp only [U, fmtFits, FT.Fits, Int.toNat_natCast]
      exact ⟨⟨hc0, hc1⟩, ⟨Int.natCast_nonneg _, f2.1⟩, trivial⟩
    obtain ⟨e1, h1⟩ := fmt_step' (fs := [U 2, U 2]) rfl hfit (fmtWF_of_plain _ _ rfl) h
    have e2 := readCountE_at (fmtDecE pairFmt) (fmtT pairFmt) ps
      (fun r hr d p hat => fmtDecE_ok (fmt_step' (fs := pairFmt) rfl (f2.2 r hr) (fmtWF_of_plain _ _ rfl) hat.nil_right).1) h1
    have hn : (Row.int [FV.int c, FV.int ps.length] 1).toNat = ps.length := by
      simp [Row.int, FV.toInt]
    simp only [decE, Bool.false_eq_true, if_false, fmtDecE_ok e1, hn, e2, List.take, List.length_append, Nat.add_assoc]

end CurvesExtraItem

namespace CurvesExtraMarker

theorem encP_eq (x : CurvesExtraMarker) : x.encP = (x.encT, x.encT.length) := by
  simp only [encP, encT]
  rw [wList_eq _ CurvesExtraItem.encT x.items (fun i _ => CurvesExtraItem.encP_eq i)]
  simp only [wBytes_eq, wSeq_eq, List.append_assoc]

theorem decE_at {isMap : Bool} {m : CurvesExtraMarker} (hv : m.version ∈ G3.curvesExtraVersions)
    (hw : ∀ i ∈ m.items, Curves.itemWF isMap i) (hf : m.Fits) {d : B} {p : Nat} {rest : B} (h : At d p (m.encT ++ rest)) :
    decE isMap d p = .ok (m, p + m.encT.length) := by
  obtain ⟨version, items⟩ := m
  obtain ⟨f1, f2, f3⟩ := hf
  simp only at hv hw f1 f2 f3
  have hrow : encT ⟨version, items⟩ = fmtT hdrFmt [.bytes sigCrv, .int version, .int items.length] ++ listT CurvesExtraItem.encT items := by
    simp only [encT, hdrFmt, SN, U, fmtT, FT.encT, Int.toNat_natCast, List.append_assoc, List.append_nil]
    rfl
  rw [hrow, List.append_assoc] at h
  rw [hrow]
  have hfit : fmtFits hdrFmt [.bytes sigCrv, .int version, .int items.length] := by
    simp only [hdrFmt, SN, U, fmtFits, FT.Fits, Int.toNat_natCast]
    exact ⟨trivial, ⟨Int.natCast_nonneg _, f1⟩, ⟨Int.natCast_nonneg _, f2⟩, trivial⟩
  have hwf : fmtWF hdrFmt [.bytes sigCrv, .int version, .int items.length] := by
    simp only [hdrFmt, SN, U, fmtWF, FT.WF]
    exact ⟨rfl, trivial, trivial, trivial⟩
  obtain ⟨e1, h1⟩ := fmt_step' (fs := hdrFmt) rfl hfit hwf h
  have e2 := readCountE_at (CurvesExtraItem.decE isMap) CurvesExtraItem.encT items
    (fun i hi d p hat => CurvesExtraItem.decE_at (hw i hi) (f3 i hi) hat) h1.left
  have hn : (Row.int [FV.bytes sigCrv, FV.int version, FV.int items.length] 2).toNat = items.length := by
    simp [Row.int, FV.toInt]
  have hvv : (Row.int [FV.bytes sigCrv, FV.int version, FV.int items.length] 1).toNat = version := by
    simp [Row.int, FV.toInt]
  simp only [decE, fmtDecE_ok e1, List.take, if_true, hn, e2, hvv, if_pos hv, List.length_append, Nat.add_assoc]

end CurvesExtraMarker

namespace Curves

theorem curveP_eq (c : List Row) : curveP c = (curveT c, (curveT c).length) := by
  simp only [curveP, curveT, rowsP_eq]
  simp only [wBytes_eq, wSeq_eq]

theorem optMarkerP_eq (o : Option CurvesExtraMarker) :
    optP CurvesExtraMarker.encP o = (optT CurvesExtraMarker.encT o, (optT CurvesExtraMarker.encT o).length) := by
  cases o with
  | none => rfl
  | some m => exact CurvesExtraMarker.encP_eq m

theorem encP_eq (x : Curves) : x.encP = (x.encT, x.encT.length) := by
  obtain ⟨isMap, version, countMap, data, extra⟩ := x
  cases data with
  | maps ms =>
    simp only [encP, encT, bodyT, dataT, rowsP_eq, optMarkerP_eq]
    simp only [wBytes_eq, wSeq_eq, wPad_eq, List.append_assoc]
  | curves cs =>
    simp only [encP, encT, bodyT, dataT, optMarkerP_eq]
    rw [wList_eq curveP curveT cs (fun c _ => curveP_eq c)]
    simp only [wBytes_eq, wSeq_eq, wPad_eq, List.append_assoc]

theorem curve_at {c : List Row} (hf : FitsU 2 c.length ∧ listFits (fmtFits pairFmt) c) (hl : 2 ≤ c.length ∧ c.length ≤ 19)
    {d : B} {p : Nat} (h : At d p (curveT c)) : curveDec d p = .ok (c, p + (curveT c).length) := by
  simp only [curveT] at h ⊢
  obtain ⟨e1, h1⟩ := readU_step h hf.1
  obtain ⟨e2, _⟩ := rows_step (fs := pairFmt) rfl c hf.2 (fun r _ => fmtWF_of_plain _ _ rfl) h1.nil_right
  simp only [curveDec, bind, Except.bind, e1, if_pos hl, e2, List.length_append, length_beBytes, Nat.add_assoc]

theorem rt : codec.RtAtEnd := by
  intro x hwf hf d p h hend
  obtain ⟨isMap, version, countMap, data, extra⟩ := x
  obtain ⟨hv, hcount, hcurves, hextra⟩ := hwf
  obtain ⟨f1, f2, f3, f4⟩ := hf
  simp only at hv hcount hcurves hextra f1 f2 f3 f4
  have hb : boolT isMap = beBytes 1 (if isMap then 1 else 0) := by cases isMap <;> rfl
  have hbit : ((if isMap then 1 else 0 : Nat) != 0) = isMap := by cases isMap <;> rfl
  have h0 : At d p (beBytes 1 (if isMap then 1 else 0) ++ (beBytes 2 version ++ (beBytes 4 countMap ++ (dataT data ++
      (optT CurvesExtraMarker.encT extra ++ zeros (padAmount (bodyT ⟨isMap, version, countMap, data, extra⟩).length 4)))))) := by
    simpa only [codec, encT, bodyT, hb, List.append_assoc] using h
  have hbl : (bodyT ⟨isMap, version, countMap, data, extra⟩).length =
      1 + (2 + (4 + ((dataT data).length + (optT CurvesExtraMarker.encT extra).length))) := by
    simp only [bodyT, List.length_append, length_boolT, length_beBytes]
  have hend' : p + ((bodyT ⟨isMap, version, countMap, data, extra⟩).length +
      padAmount (bodyT ⟨isMap, version, countMap, data, extra⟩).length 4) = d.length := by
    simpa only [codec, encT, List.length_append, length_zeros] using hend
  clear h hend
  obtain ⟨e1, h1⟩ := readU_step h0 (by cases isMap <;> decide)
  obtain ⟨e2, h2⟩ := readU_step h1 f1
  obtain ⟨e3, h3⟩ := readU_step h2 f2
  have edata : dataDec isMap (countOf version countMap) d (p + 1 + 2 + 4) = .ok (data, p + 1 + 2 + 4 + (dataT data).length) := by
    cases data with
    | maps ms =>
      simp only [dataFits] at f3
      obtain ⟨rfl, fm⟩ := f3
      simp only [dataLen] at hcount
      simp only [dataT] at h3 ⊢
      obtain ⟨e4, _⟩ := rows_step (fs := mapFmt) mapFmt_ok ms fm (fun r _ => fmtWF_of_plain _ _ mapFmt_plain) h3
      rw [hcount] at e4
      simp only [dataDec, if_true, e4]
    | curves cs =>
      simp only [dataFits] at f3
      obtain ⟨rfl, fc⟩ := f3
      simp only [dataLen] at hcount
      simp only [dataT] at h3 ⊢
      obtain ⟨e4, _⟩ := readCount_step curveDec curveT cs
        (fun c hc d p hat => curve_at (fc c hc) (hcurves c hc) hat) h3
      rw [hcount] at e4
      simp only [dataDec, Bool.false_eq_true, if_false, e4]
  have h4 := h3.right
  have eextra : extraDec isMap version d (p + 1 + 2 + 4 + (dataT data).length) =
      .ok (extra, p + 1 + 2 + 4 + (dataT data).length + (optT CurvesExtraMarker.encT extra).length) := by
    rcases hv with rfl | rfl
    · cases extra with
      | some m =>
        simp only [optT, optFits] at h4 f4 hextra ⊢
        have e5 := CurvesExtraMarker.decE_at (isMap := isMap) hextra.2.1 hextra.2.2 f4 h4
        simp only [extraDec, if_true, e5]
      | none =>
        -- version 1 without an extra marker: fewer than the 10 bytes of `"4sHI"` follow (only filler), `read_fmt` raises
        -- IOError and the reader takes the `except` branch
        have hlt := padAmount_lt (bodyT ⟨isMap, 1, countMap, data, none⟩).length 4 (by decide)
        have hb0 := h4.bound
        simp only [optT, List.length_nil, Nat.add_zero] at hbl ⊢
        have hs := fmt_short CurvesExtraMarker.hdrFmt (d := d) (p := p + 1 + 2 + 4 + (dataT data).length) (by omega)
          (by simp only [CurvesExtraMarker.hdrFmt, SN, U, fmtSize, FT.size]; omega)
        simp only [extraDec, if_true, CurvesExtraMarker.decE, fmtDecE, hs]
    · cases extra with
      | some m => simp only at hextra; omega
      | none => simp only [extraDec, (by decide : ¬ (4 : Nat) = 1), if_false, optT, List.length_nil, Nat.add_zero]
  simp only [codec, dec, bind, Except.bind, e1, e2, e3, if_pos hv, hbit, edata, eextra]
  simp only [hbl, Nat.add_assoc]

theorem count : codec.Count := encP_eq

end Curves

end PsdVerif.Payload3
