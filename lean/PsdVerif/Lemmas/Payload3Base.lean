/-
C01 payload classes, third batch — laws of the `struct`-format codec and of the `PCodec` combinators of
Model/Payload3Base.lean, each proved once.
-/
import PsdVerif.Lemmas.PayloadSimple
import PsdVerif.Model.Payload3Base

namespace PsdVerif.Payload3
open PsdVerif.Codec PsdVerif.Payload PsdVerif.Payload.PCodec

theorem readBool_ok {d : B} {p : Nat} {b : Bool} {p' : Nat} (h : readBool d p = .ok (b, p')) :
    p' = p + 1 ∧ p + 1 ≤ d.length := by
  unfold readBool readU readN at h
  split at h
  · rename_i n q hq
    cases h
    split at hq
    · rename_i bs q' hn
      cases hq
      split at hn
      · cases hn; exact ⟨rfl, ‹_›⟩
      · cases hn
    · cases hq
  · cases h

/-! ### struct formats -/

theorem length_packS (n : Nat) (b : B) : (packS n b).length = n := by
  simp only [packS, List.length_take, List.length_append, length_zeros]; omega

theorem packS_of_length {n : Nat} {b : B} (h : b.length = n) : packS n b = b := by
  subst h; simp only [packS, List.take_left']

theorem FT.length_encT {t : FT} {v : FV} (hf : t.Fits v) : (t.encT v).length = t.size := by
  cases t <;> cases v <;> simp only [FT.Fits] at hf <;>
    simp only [FT.encT, FT.size, length_beBytes, length_sT, length_boolT, length_packS]

theorem FT.dec_step {t : FT} {v : FV} (hok : t.ok = true) (hf : t.Fits v) (hw : t.WF v) {d : B} {p : Nat} {rest : B}
    (h : At d p (t.encT v ++ rest)) : t.dec d p = .ok (v, p + t.size) ∧ At d (p + t.size) rest := by
  cases t with
  | u w =>
    cases v with
    | bytes b => simp only [FT.Fits] at hf
    | int z =>
      simp only [FT.Fits] at hf
      simp only [FT.encT] at h
      obtain ⟨e, h'⟩ := readU_step h hf.2
      refine ⟨?_, h'⟩
      simp only [FT.dec, e, FT.size, Int.toNat_of_nonneg hf.1]
  | s w =>
    cases v with
    | bytes b => simp only [FT.Fits] at hf
    | int z =>
      simp only [FT.Fits] at hf
      simp only [FT.encT] at h
      obtain ⟨e, h'⟩ := readS_step h hf
      exact ⟨by simp only [FT.dec, e, FT.size], h'⟩
  | q =>
    cases v with
    | bytes b => simp only [FT.Fits] at hf
    | int z =>
      simp only [FT.WF] at hw
      simp only [FT.encT] at h
      obtain ⟨e, h'⟩ := readBool_step h
      refine ⟨?_, h'⟩
      simp only [FT.dec, e, FT.size]
      rcases hw with rfl | rfl <;> rfl
  | str n =>
    cases v with
    | int z => simp only [FT.Fits] at hf
    | bytes b =>
      simp only [FT.WF] at hw
      simp only [FT.encT, packS_of_length hw] at h
      obtain ⟨e, h'⟩ := readN_step h hw
      exact ⟨by simp only [FT.dec, e, FT.size], h'⟩

theorem length_fmtT : ∀ (fs : List FI) (vs : Row), fmtFits fs vs → (fmtT fs vs).length = fmtSize fs
  | [], _, _ => rfl
  | .pad n :: fs, vs, hf => by
    simp only [fmtFits] at hf
    simp only [fmtT, fmtSize, List.length_append, length_zeros, length_fmtT fs vs hf]
  | .fld t :: fs, v :: vs, hf => by
    simp only [fmtFits] at hf
    simp only [fmtT, fmtSize, List.length_append, FT.length_encT hf.1, length_fmtT fs vs hf.2]
  | .fld _ :: _, [], hf => by simp only [fmtFits] at hf

/-- `read_fmt(fmt, fp)` returns the row `write_fmt(fp, fmt, *row)` wrote -/
theorem fmt_step : ∀ (fs : List FI) (vs : Row), fs.all FI.ok = true → fmtFits fs vs → fmtWF fs vs →
    ∀ {d : B} {p : Nat} {rest : B}, At d p (fmtT fs vs ++ rest) →
      fmtDec fs d p = .ok (vs, p + fmtSize fs) ∧ At d (p + fmtSize fs) rest
  | [], vs, _, hf, _, d, p, rest, h => by
    simp only [fmtFits] at hf
    subst hf
    exact ⟨rfl, by simpa [fmtT, fmtSize] using h⟩
  | .pad n :: fs, vs, hok, hf, hw, d, p, rest, h => by
    simp only [List.all_cons, Bool.and_eq_true] at hok
    simp only [fmtFits] at hf
    simp only [fmtWF] at hw
    simp only [fmtT, List.append_assoc] at h
    obtain ⟨e1, h⟩ := readSkip_step h
    obtain ⟨e2, h⟩ := fmt_step fs vs hok.2 hf hw h
    exact ⟨by simp only [fmtDec, e1, e2, fmtSize, Nat.add_assoc], by simpa only [fmtSize, Nat.add_assoc] using h⟩
  | .fld t :: fs, v :: vs, hok, hf, hw, d, p, rest, h => by
    simp only [List.all_cons, Bool.and_eq_true, FI.ok] at hok
    simp only [fmtFits] at hf
    simp only [fmtWF] at hw
    simp only [fmtT, List.append_assoc] at h
    obtain ⟨e1, h⟩ := FT.dec_step hok.1 hf.1 hw.1 h
    obtain ⟨e2, h⟩ := fmt_step fs vs hok.2 hf.2 hw.2 h
    exact ⟨by simp only [fmtDec, e1, e2, fmtSize, Nat.add_assoc], by simpa only [fmtSize, Nat.add_assoc] using h⟩
  | .fld _ :: _, [], _, hf, _, _, _, _, _ => by simp only [fmtFits] at hf

/-! ### `read_fmt` on too little data -/

theorem FT.dec_short {t : FT} {d : B} {p : Nat} (h : d.length < p + t.size) : t.dec d p = .error .ioError := by
  cases t <;> simp only [FT.size] at h <;>
    simp only [FT.dec, readU, readS, readBool, readN_short h]

theorem FT.dec_long {t : FT} {d : B} {p : Nat} (h : p + t.size ≤ d.length) : ∃ v, t.dec d p = .ok (v, p + t.size) := by
  cases t <;> simp only [FT.size] at h <;> obtain ⟨b, hb⟩ := readN_long h <;>
    simp only [FT.dec, readU, readS, readBool, hb, FT.size] <;> exact ⟨_, rfl⟩

/-- `read_fmt` raises `IOError` when fewer bytes than the format needs are left -/
theorem fmt_short : ∀ (fs : List FI) {d : B} {p : Nat}, p ≤ d.length → d.length < p + fmtSize fs → fmtDec fs d p = .error .ioError
  | [], d, p, hp, h => by simp only [fmtSize] at h; omega
  | .pad n :: fs, d, p, hp, h => by
    simp only [fmtSize] at h
    by_cases hn : p + n ≤ d.length
    · obtain ⟨b, hb⟩ := readN_long hn
      simp only [fmtDec, readSkip, hb]
      exact fmt_short fs hn (by omega)
    · simp only [fmtDec, readSkip, readN_short (by omega : d.length < p + n)]
  | .fld t :: fs, d, p, hp, h => by
    simp only [fmtSize] at h
    by_cases hn : p + t.size ≤ d.length
    · obtain ⟨v, hv⟩ := FT.dec_long hn
      simp only [fmtDec, hv]
      rw [fmt_short fs hn (by omega)]
    · simp only [fmtDec, FT.dec_short (by omega : d.length < p + t.size)]

/-- the step form with the position written as a length of written bytes -/
theorem fmt_step' {fs : List FI} {vs : Row} (hok : fs.all FI.ok = true) (hf : fmtFits fs vs) (hw : fmtWF fs vs)
    {d : B} {p : Nat} {rest : B} (h : At d p (fmtT fs vs ++ rest)) :
    fmtDec fs d p = .ok (vs, p + (fmtT fs vs).length) ∧ At d (p + (fmtT fs vs).length) rest := by
  rw [length_fmtT fs vs hf]
  exact fmt_step fs vs hok hf hw h

/-- a format without `?` / `ns` fields has no WF clause -/
theorem fmtWF_of_plain : ∀ (fs : List FI) (vs : Row),
    fs.all (fun i => match i with | .fld .q => false | .fld (.str _) => false | _ => true) = true → fmtWF fs vs
  | [], _, _ => trivial
  | .pad _ :: fs, vs, h => by
    simp only [List.all_cons, Bool.and_eq_true] at h
    simp only [fmtWF]; exact fmtWF_of_plain fs vs h.2
  | .fld t :: fs, v :: vs, h => by
    simp only [List.all_cons, Bool.and_eq_true] at h
    simp only [fmtWF]
    refine ⟨?_, fmtWF_of_plain fs vs h.2⟩
    cases t <;> cases v <;> first | trivial | exact Bool.noConfusion h.1
  | .fld _ :: _, [], _ => trivial

/-! ### combinators -/

variable {α β : Type}

/-- the reader consumes everything the writer wrote (no trailing filler) -/
def Tight (c : PCodec α) : Prop := ∀ v, c.Fits v → c.consumed v = (c.encT v).length

theorem step_of {c : PCodec α} (h : c.RtAnywhere) (ht : Tight c) {v : α} (hw : c.WF v) (hf : c.Fits v) {d : B} {p : Nat}
    {rest : B} (hat : At d p (c.encT v ++ rest)) :
    c.dec d p = .ok (v, p + (c.encT v).length) ∧ At d (p + (c.encT v).length) rest :=
  ⟨by rw [← ht v hf]; exact h v hw hf d p hat.left, hat.right⟩

theorem item_of {c : PCodec α} (h : c.RtAnywhere) (ht : Tight c) {v : α} (hw : c.WF v) (hf : c.Fits v) (d : B) (p : Nat)
    (hat : At d p (c.encT v)) : c.dec d p = .ok (v, p + (c.encT v).length) := by
  rw [← ht v hf]; exact h v hw hf d p hat

theorem rec_rt (fs : List FI) (hok : fs.all FI.ok = true) : (rec fs).RtAnywhere :=
  fun vs hw hf _ _ h => (fmt_step fs vs hok hf hw h.nil_right).1
theorem rec_tight (fs : List FI) : Tight (rec fs) := fun vs hf => (length_fmtT fs vs hf).symm
theorem rec_count (fs : List FI) : (rec fs).Count := fun _ => rfl

theorem seq_rt {a : PCodec α} {b : PCodec β} (ha : a.RtAnywhere) (hta : Tight a) (hb : b.RtAnywhere) :
    (seq a b).RtAnywhere := by
  intro v hwf hf d p h
  obtain ⟨e1, h'⟩ := step_of ha hta hwf.1 hf.1 (show At d p (a.encT v.1 ++ b.encT v.2) from h)
  have e2 := hb v.2 hwf.2 hf.2 d _ h'
  simp only [seq, bind, Except.bind, e1, e2, Nat.add_assoc]

theorem seq_rt_end {a : PCodec α} {b : PCodec β} (ha : a.RtAnywhere) (hta : Tight a) (hb : b.RtAtEnd) :
    (seq a b).RtAtEnd := by
  intro v hwf hf d p h hend
  obtain ⟨e1, h'⟩ := step_of ha hta hwf.1 hf.1 (show At d p (a.encT v.1 ++ b.encT v.2) from h)
  have hend' : p + (a.encT v.1).length + (b.encT v.2).length = d.length := by
    have : ((seq a b).encT v).length = (a.encT v.1).length + (b.encT v.2).length := by simp only [seq, List.length_append]
    omega
  have e2 := hb v.2 hwf.2 hf.2 d _ h' hend'
  simp only [seq, bind, Except.bind, e1, e2, Nat.add_assoc]

theorem seq_tight {a : PCodec α} {b : PCodec β} (htb : Tight b) : Tight (seq a b) := by
  intro v hf
  simp only [seq, List.length_append, htb v.2 hf.2]

theorem seq_count {a : PCodec α} {b : PCodec β} (ha : a.Count) (hb : b.Count) : (seq a b).Count := by
  intro v
  simp only [seq, ha v.1, hb v.2, wSeq_eq]

theorem counted_rt {c : PCodec α} (w : Nat) (hc : c.RtAnywhere) (ht : Tight c) : (counted w c).RtAnywhere := by
  intro vs hwf hf d p h
  obtain ⟨e1, h⟩ := readU_step (n := vs.length) h hf.1
  have e2 := readCount_at c.dec c.encT vs (fun v hv d p hat => item_of hc ht (hwf v hv) (hf.2 v hv) d p hat) h
  simp only [counted, bind, Except.bind, e1, e2, Nat.add_assoc]

theorem counted_tight {c : PCodec α} (w : Nat) : Tight (counted w c) := by
  intro vs _
  simp only [counted, List.length_append, length_beBytes]

theorem counted_count {c : PCodec α} (w : Nat) (hc : c.Count) : (counted w c).Count := by
  intro vs
  simp only [counted]
  rw [wList_eq _ c.encT vs (fun v _ => hc v)]
  simp only [wBytes_eq, wSeq_eq]

theorem exactly_rt {c : PCodec α} (n : Nat) (hc : c.RtAnywhere) (ht : Tight c) : (exactly n c).RtAnywhere := by
  intro vs hwf hf d p h
  obtain ⟨hn, hwf⟩ := hwf
  have e := readCount_at c.dec c.encT vs (fun v hv d p hat => item_of hc ht (hwf v hv) (hf v hv) d p hat)
    (show At d p (listT c.encT vs) from h)
  rw [hn] at e
  exact e

theorem exactly_tight {c : PCodec α} (n : Nat) : Tight (exactly n c) := fun _ _ => rfl

theorem exactly_count {c : PCodec α} (n : Nat) (hc : c.Count) : (exactly n c).Count := by
  intro vs
  simp only [exactly]
  rw [wList_eq _ c.encT vs (fun v _ => hc v)]

/-- `while is_readable(fp, n)`: every item has at least `n` bytes, the final filler fewer -/
theorem whileR_rt {c : PCodec α} (n pad : Nat) (hc : c.RtAnywhere) (ht : Tight c)
    (hlen : ∀ v, c.Fits v → n ≤ (c.encT v).length) (hn : 0 < n) (hpad : 0 < pad ∧ pad ≤ n) : (whileR n pad c).RtAtEnd := by
  intro vs hwf hf d p h hend
  simp only [whileR] at h hend ⊢
  simp only [List.length_append, length_zeros] at hend
  have hlt := padAmount_lt (listT c.encT vs).length pad hpad.1
  exact readWhile_isReadable_opt (enc := c.encT) hn (fun v hv => item_of hc ht (hwf v hv) (hf v hv)) (fun v hv => hlen v (hf v hv))
    h.left (by omega)

theorem whileR_count {c : PCodec α} (n pad : Nat) (hc : c.Count) : (whileR n pad c).Count := by
  intro vs
  simp only [whileR]
  rw [wList_eq _ c.encT vs (fun v _ => hc v)]
  simp only [wSeq_eq, wPad_eq]

theorem whileR_tight1 {c : PCodec α} (n : Nat) : Tight (whileR n 1 c) := by
  intro vs _
  simp only [whileR, padAmount_one, zeros, List.replicate_zero, List.append_nil]

theorem padded_rt {c : PCodec α} (pad : Nat) (hc : c.RtAnywhere) : (padded pad c).RtAnywhere :=
  fun v hwf hf d p h => hc v hwf hf d p (show At d p (c.encT v ++ _) from h).left

theorem padded_count {c : PCodec α} (pad : Nat) (hc : c.Count) : (padded pad c).Count := by
  intro v
  simp only [padded, hc v, wSeq_eq, wPad_eq]

theorem checked_rt {c : PCodec α} {ok : α → Prop} [DecidablePred ok] {e : Err} (hc : c.RtAnywhere) :
    (checked c ok e).RtAnywhere := by
  intro v hwf hf d p h
  have e1 := hc v hwf.1 hf d p h
  simp only [checked, bind, Except.bind, e1, if_pos hwf.2]

theorem checked_rt_end {c : PCodec α} {ok : α → Prop} [DecidablePred ok] {e : Err} (hc : c.RtAtEnd) :
    (checked c ok e).RtAtEnd := by
  intro v hwf hf d p h hend
  have e1 := hc v hwf.1 hf d p h hend
  simp only [checked, bind, Except.bind, e1, if_pos hwf.2]

theorem checked_tight {c : PCodec α} {ok : α → Prop} [DecidablePred ok] {e : Err} (ht : Tight c) : Tight (checked c ok e) :=
  fun v hf => ht v hf

theorem checked_count {c : PCodec α} {ok : α → Prop} [DecidablePred ok] {e : Err} (hc : c.Count) : (checked c ok e).Count :=
  fun v => hc v

theorem tailBytes_rt : tailBytes.RtAtEnd := by
  intro v _ _ d p h hend
  exact readAll_at_end h hend

theorem tailBytes_count : tailBytes.Count := fun _ => rfl
theorem tailBytes_tight : Tight tailBytes := fun _ _ => rfl

theorem pascal_rt (pad : Nat) : (pascal pad pad).RtAnywhere := fun _ _ hf _ _ h => readPascal_at h hf
theorem pascal_count (pw pr : Nat) : (pascal pw pr).Count := fun s => wPascal_eq pw s
theorem pascal_tight (pw pr : Nat) : Tight (pascal pw pr) := fun _ _ => rfl

/-- written without filler, read with any padding at the end of a stream: `read_padding` finds nothing to take -/
theorem pascal_rt_end (pr : Nat) : (pascal 1 pr).RtAtEnd := by
  intro s _ hf d p h hend
  have hT : pascalT 1 s = beBytes 1 s.length ++ (s ++ []) := by
    simp only [pascalT, padAmount_one, zeros, List.replicate_zero, List.append_nil]
  simp only [pascal] at h hend hf ⊢
  rw [hT] at h hend ⊢
  obtain ⟨e1, h1⟩ := readU_step h (show s.length < 256 ^ 1 by simpa using hf)
  have e2 := readUpTo_at h1.left
  simp only [List.length_append, length_beBytes, List.length_nil, Nat.add_zero] at hend ⊢
  have hd : (d.drop (p + 1 + s.length)) = [] := by
    apply List.drop_eq_nil_of_le; omega
  have e3 : readPadding (p + 1 + s.length - p) pr d (p + 1 + s.length) = .ok ((), p + 1 + s.length) := by
    simp only [readPadding, readUpTo, hd, List.take_nil, List.length_nil, Nat.add_zero]
  unfold readPascal
  rw [e1]
  simp only
  rw [e2]
  simp only [ne_eq, not_true_eq_false, if_false]
  rw [e3]
  simp only [Nat.add_assoc]

theorem ustr_rt : ustr.RtAnywhere := StringElement.rt 1 1
theorem ustr_count : ustr.Count := StringElement.count 1 1
theorem ustr_tight : Tight ustr := by
  intro s _
  simp only [ustr, StringElement.codec, if_true, length_ustrT, padAmount_one, Nat.add_zero]


theorem blocked_rt {c : PCodec α} (w pad : Nat) (hc : c.RtAtEnd) (ht : Tight c) (hp : (0 + w) % pad = 0) :
    (blocked w pad c).RtAnywhere := by
  intro v hwf hf d p h
  have e1 := readLenBlock_at (skip := 0) h hf.2 hp
  have e2 := hc v hwf hf.1 (c.encT v) 0 (At.self _) (by omega)
  rw [ht v hf.1] at e2
  simp only [blocked, bind, Except.bind, e1, e2]

theorem blocked_tight {c : PCodec α} (w pad : Nat) : Tight (blocked w pad c) := fun _ _ => rfl

theorem blocked_count {c : PCodec α} (w pad : Nat) (hc : c.Count) : (blocked w pad c).Count := by
  intro v
  simp only [blocked, hc v, wLenBlock_eq]

theorem blocked_ge {c : PCodec α} (w pad : Nat) : ∀ v, (blocked w pad c).Fits v → w ≤ ((blocked w pad c).encT v).length := by
  intro v _
  simp only [blocked, length_lenBlockT]; omega

theorem optTail_rt {c : PCodec α} (hc : c.RtAtEnd) (ht : Tight c) (hpos : ∀ v, c.Fits v → 1 ≤ (c.encT v).length) :
    (optTail c).RtAtEnd := by
  intro o hwf hf d p h hend
  cases o with
  | none =>
    simp only [optTail, optT, List.length_nil, Nat.add_zero] at hend ⊢
    simp only [isReadable_false (by omega : d.length < p + 1), Bool.false_eq_true, if_false]
  | some v =>
    simp only [optTail, optT, optFits] at h hend hwf hf ⊢
    have r1 : isReadable 1 d p = true := isReadable_of_at h (hpos v hf)
    have e1 := hc v hwf hf d p h hend
    rw [ht v hf] at e1
    simp only [r1, if_true, e1]

theorem optP_eq {f : α → W} {g : α → B} (h : ∀ v, f v = (g v, (g v).length)) (o : Option α) :
    optP f o = (optT g o, (optT g o).length) := by
  cases o with
  | none => rfl
  | some v => exact h v

theorem optTail_count {c : PCodec α} (hc : c.Count) : (optTail c).Count := optP_eq hc

theorem ustr_step {s : Payload.Str} (hw : ustr.WF s) (hf : ustr.Fits s) {d : B} {p : Nat} {rest : B}
    (h : At d p (ustr.encT s ++ rest)) :
    ustr.dec d p = .ok (s, p + (ustr.encT s).length) ∧ At d (p + (ustr.encT s).length) rest :=
  step_of ustr_rt ustr_tight hw hf h

/-! ### lengths of items (for `while is_readable(fp, n)`) -/

theorem rec_ge (fs : List FI) (n : Nat) (h : n ≤ fmtSize fs) : ∀ v, (rec fs).Fits v → n ≤ ((rec fs).encT v).length := by
  intro v hf
  have := length_fmtT fs v hf
  simp only [rec]; omega

theorem checked_ge {α : Type} {c : PCodec α} {ok : α → Prop} [DecidablePred ok] {e : Err} {n : Nat}
    (h : ∀ v, c.Fits v → n ≤ (c.encT v).length) : ∀ v, (checked c ok e).Fits v → n ≤ ((checked c ok e).encT v).length := h

theorem seq_ge {α β : Type} {a : PCodec α} {b : PCodec β} {m k : Nat} (ha : ∀ v, a.Fits v → m ≤ (a.encT v).length)
    (hb : ∀ v, b.Fits v → k ≤ (b.encT v).length) : ∀ v, (seq a b).Fits v → m + k ≤ ((seq a b).encT v).length := by
  intro v hf
  have h1 := ha v.1 hf.1
  have h2 := hb v.2 hf.2
  simp only [seq, List.length_append]; omega

theorem pascal_ge (pw pr : Nat) : ∀ v, (pascal pw pr).Fits v → 1 ≤ ((pascal pw pr).encT v).length := by
  intro v _
  simp only [pascal, pascalT, List.length_append, length_beBytes]; omega

theorem ustr_ge : ∀ v, ustr.Fits v → 1 ≤ (ustr.encT v).length := by
  intro v _
  simp only [ustr, StringElement.codec, length_ustrT]; omega

/-! ### what the property theorems need beyond Lemmas/PayloadBase.lean -/

/-- as the payload of a skeleton image resource: `ImageResource.read` takes the length block and runs the payload reader
(`TYPES[key].frombytes(raw_data)`) on exactly those bytes, from position 0 of their own `BytesIO` -/
def ResourcePayload (c : PCodec α) : Prop :=
  ∀ r : Psd.Resource, r.WF → ∀ v, c.WF v → c.enc v = .ok r.data → ∀ pre post : B,
    Psd.Resource.dec (pre ++ r.encT ++ post) pre.length = .ok (r, pre.length + r.encT.length) ∧
      c.dec r.data 0 = .ok (v, c.consumed v)

theorem resourcePayload_of {c : PCodec α} (h : c.RtAtEnd) : ResourcePayload c := by
  intro r hwf v hv henc pre post
  refine ⟨Psd.Resource.dec_at hwf (At.intro pre _ post), ?_⟩
  simpa using roundtrip_at_end h v hv r.data [] henc

end PsdVerif.Payload3
