/-
C01 descriptors — the fuel of `dec` is never exhausted: on any stream, from any cursor inside it, the model reader
does not return `recursionError` (which it uses for "out of fuel" only). Every reader moves the cursor forward and
keeps it inside the stream, and every nested value starts after a successfully read 4-byte OSType.
-/
import PsdVerif.Lemmas.Descriptor1

namespace PsdVerif.Descriptor
open PsdVerif.Codec

/-- at `(d, p)`: success moves the cursor forward and keeps it inside the stream; failure is not "out of fuel" -/
def OkAt {α : Type} (r : R α) (d : B) (p : Nat) : Prop :=
  match r d p with
  | .ok (_, p') => p ≤ p' ∧ p' ≤ d.length
  | .error e => e ≠ .recursionError

/-- `OkAt` at every cursor `q ≤ p ≤ d.length` -/
def GoodIn {α : Type} (d : B) (q : Nat) (r : R α) : Prop := ∀ p, q ≤ p → p ≤ d.length → OkAt r d p

theorem GoodIn.mono {α : Type} {d : B} {q q' : Nat} {r : R α} (h : GoodIn d q r) (hq : q ≤ q') : GoodIn d q' r :=
  fun p hp hl => h p (Nat.le_trans hq hp) hl

theorem GoodIn.bind {α β : Type} {d : B} {q : Nat} {r : R α} {f : α → R β} (hr : GoodIn d q r)
    (hf : ∀ a, GoodIn d q (f a)) : GoodIn d q (r >>- f) := by
  intro p hq hl
  have h1 := hr p hq hl
  unfold OkAt at h1 ⊢
  unfold rbind
  cases h : r d p with
  | error e => rw [h] at h1; exact h1
  | ok x =>
    obtain ⟨a, p1⟩ := x
    rw [h] at h1
    simp only at h1 ⊢
    have h2 := hf a p1 (Nat.le_trans hq h1.1) h1.2
    unfold OkAt at h2
    cases h' : f a d p1 with
    | error e => rw [h'] at h2; exact h2
    | ok y =>
      obtain ⟨b, p2⟩ := y
      rw [h'] at h2
      simp only at h2 ⊢
      exact ⟨Nat.le_trans h1.1 h2.1, h2.2⟩

theorem GoodIn.pure {α : Type} (d : B) (q : Nat) (a : α) : GoodIn d q (rpure a) := by
  intro p _ hl
  simp only [OkAt, rpure]
  exact ⟨Nat.le_refl _, hl⟩

theorem GoodIn.map {α β : Type} {d : B} {q : Nat} {r : R α} (hr : GoodIn d q r) (g : α → β) :
    GoodIn d q (r >>- fun a => rpure (g a)) :=
  hr.bind fun _ => GoodIn.pure d q _

theorem GoodIn.fail {α : Type} (d : B) (q : Nat) (e : Err) (he : e ≠ .recursionError) : GoodIn d q (rfail e : R α) := by
  intro p _ _
  simp only [OkAt, rfail]
  exact he

theorem okAt_of {α : Type} {r : R α} {d : B} {p : Nat}
    (hok : ∀ a p', r d p = .ok (a, p') → p ≤ p' ∧ p' ≤ d.length)
    (herr : ∀ e, r d p = .error e → e ≠ .recursionError) : OkAt r d p := by
  unfold OkAt
  cases h : r d p with
  | error e => exact herr e h
  | ok x => obtain ⟨a, p'⟩ := x; exact hok a p' h

/-! ### primitives -/

theorem good_readN (d : B) (q n : Nat) : GoodIn d q (readN n) := by
  intro p _ _
  unfold OkAt readN
  by_cases h : p + n ≤ d.length
  · rw [if_pos h]; exact ⟨Nat.le_add_right p n, h⟩
  · rw [if_neg h]; dsimp only; decide

theorem good_readU (d : B) (q w : Nat) : GoodIn d q (readU w) := by
  intro p hq hl
  have h := good_readN d q w p hq hl
  unfold OkAt at h ⊢
  unfold readU
  cases h' : readN w d p with
  | error e => rw [h'] at h; exact h
  | ok x => obtain ⟨a, p1⟩ := x; rw [h'] at h; exact h

theorem good_readUpTo (d : B) (q n : Nat) : GoodIn d q (readUpTo n) := by
  intro p _ hl
  simp only [OkAt, readUpTo, List.length_take, List.length_drop]
  omega

theorem good_readI32 (d : B) (q : Nat) : GoodIn d q readI32 := by
  intro p hq hl
  have h := good_readU d q 4 p hq hl
  unfold OkAt at h ⊢
  unfold readI32
  cases h' : readU 4 d p with
  | error e => rw [h'] at h; exact h
  | ok x => obtain ⟨a, p1⟩ := x; rw [h'] at h; exact h

theorem good_readI64 (d : B) (q : Nat) : GoodIn d q readI64 :=
  (good_readU d q 8).map _

theorem good_readBool (d : B) (q : Nat) : GoodIn d q readBool :=
  (good_readU d q 1).map _

/-- the `fp.read(length)` guard of `read_length_block`: a declared length of `2^63` or more raises OverflowError -/
def roverflow (n : Nat) : R Unit := fun d p => if overflows n d then .error .overflowError else .ok ((), p)

theorem good_roverflow (d : B) (q n : Nat) : GoodIn d q (roverflow n) := by
  intro p _ hl
  unfold OkAt roverflow
  by_cases hov : overflows n d
  · simp only [hov, if_true]; decide
  · simp only [hov, if_false]; exact ⟨Nat.le_refl _, hl⟩

/-- `read_length_block` written with the reader monad (the same function) -/
theorem readLenBlock_eq (pad : Nat) :
    readLenBlock 0 4 pad = ((readN 0) >>- fun _ => (readU 4) >>- fun n => (roverflow n) >>- fun _ => (readUpTo n) >>- fun x =>
      if x.length ≠ n then rfail .ioError else (readUpTo (padAmount n pad)) >>- fun _ => rpure x) := by
  funext d p
  unfold readLenBlock rbind readPadding roverflow
  cases readN 0 d p with
  | error e => rfl
  | ok a =>
    obtain ⟨_, p0⟩ := a
    dsimp only
    cases readU 4 d p0 with
    | error e => rfl
    | ok b =>
      obtain ⟨n, p1⟩ := b
      dsimp only
      by_cases hov : overflows n d
      · simp only [hov, if_true]
      · simp only [hov, if_false]
        cases readUpTo n d p1 with
        | error e => rfl
        | ok c =>
          obtain ⟨x, p2⟩ := c
          dsimp only
          split
          · rfl
          · dsimp only
            cases readUpTo (padAmount n pad) d p2 with
            | error e => rfl
            | ok e => rfl

theorem good_readLenBlock (d : B) (q pad : Nat) : GoodIn d q (readLenBlock 0 4 pad) := by
  rw [readLenBlock_eq]
  refine (good_readN d q 0).bind fun _ => (good_readU d q 4).bind fun n => (good_roverflow d q n).bind fun _ =>
    (good_readUpTo d q n).bind fun x => ?_
  split
  · exact GoodIn.fail d q _ (by decide)
  · exact (good_readUpTo d q _).map _

theorem _root_.PsdVerif.Globals.readU32_ok {d : B} {p n p1 : Nat} (h : Globals.readU32 d p = .ok (n, p1)) : p1 = p + 4 ∧ p + 4 ≤ d.length := by
  unfold Globals.readU32 at h
  split at h
  · split at h
    · cases h; exact ⟨rfl, ‹_›⟩
    · cases h
  · cases h

theorem _root_.PsdVerif.Globals.readU32_err {d : B} {p : Nat} {e : Err} (h : Globals.readU32 d p = .error e) : e = .ioError := by
  unfold Globals.readU32 at h
  split at h
  · split at h
    · cases h
    · cases h; rfl
  · cases h; rfl

theorem good_readKey (tb : Tables) (d : B) (q : Nat) : GoodIn d q (readKeyR tb) := by
  intro p _ hl
  unfold OkAt readKeyR Globals.readKey
  cases h32 : Globals.readU32 d p with
  | error e => rw [Globals.readU32_err h32]; dsimp only; decide
  | ok x =>
    obtain ⟨n, p1⟩ := x
    obtain ⟨rfl, hb⟩ := Globals.readU32_ok h32
    dsimp only
    have hle : ((d.drop (p + 4)).take (if n = 0 then 4 else n)).length ≤ d.length - (p + 4) := by
      simp only [List.length_take, List.length_drop]; omega
    generalize (if n = 0 then 4 else n) = m at hle ⊢
    generalize (d.drop (p + 4)).take m = kb at hle ⊢
    by_cases hc : kb.length ≠ m
    · rw [if_pos hc]; dsimp only; decide
    · rw [if_neg hc]
      by_cases hi : n = 0 ∧ ¬ tb.terms kb = true
      · rw [if_pos hi]; dsimp only; omega
      · rw [if_neg hi]; dsimp only; omega

theorem _root_.PsdVerif.Unicode.readU32_bound {d : B} {p n p1 : Nat} (h : Unicode.readU32 d p = .ok (n, p1)) : p1 = p + 4 ∧ p + 4 ≤ d.length := by
  obtain ⟨_, hp1⟩ := Unicode.readU32_spec d p n p1 h
  refine ⟨hp1, ?_⟩
  unfold Unicode.readU32 at h
  split at h
  · rename_i a b c e hs
    have := congrArg List.length hs
    simp only [Unicode.slice, List.length_take, List.length_drop, List.length_cons, List.length_nil] at this
    omega
  · cases h

theorem good_readStr (d : B) (q : Nat) : GoodIn d q readStr := by
  intro p _ hl
  unfold OkAt readStr Unicode.readUnicodeString
  cases h32 : Unicode.readU32 d p with
  | error e =>
    unfold Unicode.readU32 at h32
    split at h32
    · cases h32
    · cases h32; dsimp only; decide
  | ok x =>
    obtain ⟨n, p1⟩ := x
    obtain ⟨rfl, hb⟩ := Unicode.readU32_bound h32
    have h1 := Unicode.slice_end_le d (p + 4) (2 * n) hb
    have h2 := Unicode.slice_end_le d (p + 4 + (Unicode.slice d (p + 4) (2 * n)).length) (Unicode.padLen (4 + 2 * n) 1) h1
    simp only [Unicode.readPadding, Nat.one_ne_zero, if_false]
    cases Unicode.unitsOfBytes (Unicode.slice d (p + 4) (2 * n)) with
    | none => dsimp only; decide
    | some us => dsimp only; omega
theorem good_unitOf (tb : Tables) (b : B) (d : B) (q : Nat) : GoodIn d q (unitOf tb b) := by
  unfold unitOf
  split
  · exact GoodIn.pure d q _
  · split
    · exact GoodIn.pure d q _
    · exact GoodIn.fail d q _ (by decide)

theorem good_readCount {α : Type} {d : B} {q : Nat} {item : R α} (h : GoodIn d q item) (n : Nat) :
    GoodIn d q (readCount item n) := by
  induction n with
  | zero => intro p _ hl; simp only [OkAt, readCount]; exact ⟨Nat.le_refl _, hl⟩
  | succ n ih =>
    have e : readCount item (n + 1) = (item >>- fun a => (readCount item n) >>- fun as => rpure (a :: as)) := by
      funext d p
      simp only [readCount, rbind, rpure]
      cases item d p with
      | error e => rfl
      | ok x =>
        obtain ⟨a, p1⟩ := x
        simp only
        cases readCount item n d p1 with
        | error e => rfl
        | ok y => rfl
    rw [e]
    exact h.bind fun _ => ih.map _

theorem good_readF64s (d : B) (q n : Nat) : GoodIn d q (readF64s n) := by
  intro p hq hl
  have hc := good_readCount (good_readU d q 8) n p hq hl
  unfold OkAt at hc
  apply okAt_of
  · intro a p' h
    unfold readF64s at h
    split at h
    · rw [h] at hc; exact hc
    · cases h
  · intro e h
    unfold readF64s at h
    split at h
    · rw [h] at hc; exact hc
    · cases h; decide

/-! ### OSType, then a nested value: the nested reader runs at least four bytes further -/

theorem Tag.ofBytes_some {b : B} {t : Tag} (h : Tag.ofBytes b = some t) : b.length = 4 := by
  unfold Tag.ofBytes at h
  have := List.find?_some h
  simp only [beq_iff_eq] at this
  rw [← this]
  exact Tag.length_bytes t

theorem good_tagged {d : B} {q : Nat} {rec : Tag → R DVal} (h : ∀ t, GoodIn d (q + 4) (rec t)) :
    GoodIn d q (tagged rec) := by
  intro p hq hl
  unfold OkAt tagged readTag rbind
  simp only [readUpTo]
  cases ht : Tag.ofBytes (List.take 4 (List.drop p d)) with
  | none => simp only [rfail]; decide
  | some t =>
    have h4 := Tag.ofBytes_some ht
    simp only [rpure, h4]
    simp only [List.length_take, List.length_drop] at h4
    have := h t (p + 4) (by omega) (by omega)
    unfold OkAt at this
    cases hr : rec t d (p + 4) with
    | error e => rw [hr] at this; exact this
    | ok x =>
      obtain ⟨v, p2⟩ := x
      rw [hr] at this
      simp only at this ⊢
      exact ⟨by omega, this.2⟩

theorem good_keyed {tb : Tables} {d : B} {q : Nat} {rec : Tag → R DVal} (h : ∀ t, GoodIn d (q + 4) (rec t)) :
    GoodIn d q (keyed tb rec) :=
  (good_readKey tb d q).bind fun _ => (good_tagged h).map _

theorem good_readBody {tb : Tables} {d : B} {q : Nat} {rec : Tag → R DVal} (h : ∀ t, GoodIn d (q + 4) (rec t)) :
    GoodIn d q (readBody tb rec) :=
  (good_readStr d q).bind fun _ => (good_readKey tb d q).bind fun _ => (good_readU d q 4).bind fun n =>
    (good_readCount (good_keyed h) n).map _

theorem good_decWith {tb : Tables} {d : B} {q : Nat} {rec : Tag → R DVal} (h : ∀ t, GoodIn d (q + 4) (rec t)) (t : Tag) :
    GoodIn d q (decWith tb rec t) := by
  have hint : ∀ it, GoodIn d q (decInt it) := fun it => (good_readI32 d q).map _
  have hcls : ∀ ct, GoodIn d q (decClass tb ct) := fun ct =>
    (good_readStr d q).bind fun _ => (good_readKey tb d q).map _
  have hraw : ∀ rt, GoodIn d q (decRaw rt) := fun rt => (good_readLenBlock d q 1).map _
  have hlist : ∀ lt, GoodIn d q (decList rec lt) := fun lt =>
    (good_readU d q 4).bind fun n => (good_readCount (good_tagged h) n).map _
  have hdesc : ∀ dt, GoodIn d q (decDesc tb rec dt) := fun dt => (good_readBody h).map _
  cases t
  case integer => exact hint _
  case identifier => exact hint _
  case index => exact hint _
  case largeInteger => exact (good_readI64 d q).map _
  case boolean => exact (good_readBool d q).map _
  case double => exact (good_readU d q 8).map _
  case unitFloat =>
    exact (good_readN d q 4).bind fun u4 => (good_readU d q 8).bind fun _ => (good_unitOf tb u4 d q).map _
  case unitFloats =>
    exact (good_readN d q 4).bind fun u4 => (good_readU d q 4).bind fun n => (good_unitOf tb u4 d q).bind fun _ =>
      (good_readF64s d q n).map _
  case string => exact (good_readStr d q).map _
  case enumerated => exact (good_readKey tb d q).bind fun _ => (good_readKey tb d q).map _
  case enumeratedReference =>
    exact (good_readStr d q).bind fun _ => (good_readKey tb d q).bind fun _ => (good_readKey tb d q).bind fun _ =>
      (good_readKey tb d q).map _
  case class1 => exact hcls _
  case class2 => exact hcls _
  case class3 => exact hcls _
  case property =>
    exact (good_readStr d q).bind fun _ => (good_readKey tb d q).bind fun _ => (good_readKey tb d q).map _
  case name =>
    exact (good_readStr d q).bind fun _ => (good_readKey tb d q).bind fun _ => (good_readStr d q).map _
  case offset =>
    exact (good_readStr d q).bind fun _ => (good_readKey tb d q).bind fun _ => (good_readU d q 4).map _
  case rawData => exact hraw _
  case alias => exact hraw _
  case path => exact hraw _
  case list => exact hlist _
  case reference => exact hlist _
  case descriptor => exact hdesc _
  case globalObject => exact hdesc _
  case objectArray => exact (good_readU d q 4).bind fun _ => (good_readBody h).map _

/-- with `fuel` levels left the reader is fine from every cursor that leaves fewer than `4 * fuel` bytes -/
theorem good_decBody (tb : Tables) (d : B) (fuel : Nat) : ∀ t, GoodIn d (d.length + 1 - 4 * fuel) (decBody tb fuel t) := by
  induction fuel with
  | zero => intro t p hq hl; omega
  | succ fuel ih =>
    intro t
    unfold decBody
    apply good_decWith
    intro t'
    exact (ih t').mono (by omega)

theorem good_dec (tb : Tables) (d : B) (t : Tag) : GoodIn d 0 (dec tb t) := by
  have h := good_decBody tb d (d.length + 1) t
  rwa [show d.length + 1 - 4 * (d.length + 1) = 0 by omega] at h

end PsdVerif.Descriptor
