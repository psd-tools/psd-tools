/-
C09 save / reopen: the forest read from the store is faithful — which nodes occur in it, what the
reader's classification makes of its records, and the children tables of C08's store bridge.
-/
import PsdVerif.Lemmas.Reopen
import PsdVerif.Lemmas.TreeParse

namespace PsdVerif.Reopen
open PsdVerif PsdVerif.Tree PsdVerif.TreeSt

/-! ### Nodes of the forest = objects listed below the document -/

theorem mem_forestOf {E : RecEnv} {s : State} {d : Id} {n : Node} (h : n ∈ forestOf E s d) :
    ∃ c, c ∈ s.children d ∧ nodeOf E s c = n := by
  simpa [forestOf] using h

/-- every node of the forest is the reading of an object listed below the document -/
theorem occurs_forestOf {E : RecEnv} {s : State} (i : Inv s) {n : Node} {f : List Node} (h : Occurs n f) :
    ∀ d, f = forestOf E s d → ∃ x, Reach s d x ∧ n = nodeOf E s x := by
  induction h with
  | here hm =>
    intro d hf
    subst hf
    obtain ⟨c, hc, e⟩ := mem_forestOf hm
    exact ⟨c, .edge hc, e.symm⟩
  | @inside f c b a ch hm _ ih =>
    intro d hf
    subst hf
    obtain ⟨z, hz, e⟩ := mem_forestOf hm
    have hzl := (i.live d z hz).2
    rw [nodeOf_unfold i hzl] at e
    split at e
    · cases e
      obtain ⟨x, rx, ex⟩ := ih c rfl
      exact ⟨x, .step hz rx, ex⟩
    · cases e

/-- … and every object listed below the document is read as a node of the forest -/
theorem reach_occurs {E : RecEnv} {s : State} (i : Inv s) {d x : Id} (r : Reach s d x) :
    Occurs (nodeOf E s x) (forestOf E s d) := by
  induction r with
  | edge h => exact .here (List.mem_map.mpr ⟨_, h, rfl⟩)
  | @step c x y h r ih =>
    have hxl := (i.live c x h).2
    have hc := i.contOnly x r.children_ne
    have hm : nodeOf E s x ∈ forestOf E s c := List.mem_map.mpr ⟨_, h, rfl⟩
    rw [forestOf_children i hxl hc] at hm
    exact .inside hm ih

/-! ### The reader's classification of the saved records -/

theorem map_flatten_nodes (g : Rec → Rec) (nd : Id → Node) (l : List Id)
    (h : ∀ c ∈ l, (nd c).flatten.map g = (nd c).flatten) : (flatten (l.map nd)).map g = flatten (l.map nd) := by
  induction l with
  | nil => rfl
  | cons c cs ih =>
    simp only [List.map_cons, flatten, List.map_append, h c (by simp), ih (fun y hy => h y (by simp [hy]))]

/-- reading the saved records back (payloads only) and classifying them by their blocks gives the
records `_build_record_tree` emitted -/
theorem reread_flatten {E : RecEnv} {s : State} {d : Id} (i : Inv s) (ok : DocOk E s d) (cl : Classified E s d) :
    ((flatten (forestOf E s d)).map Rec.payload).map (reread E) = flatten (forestOf E s d) := by
  have key : ∀ x, Reach s d x → (nodeOf E s x).flatten.map (fun r => reread E r.payload) = (nodeOf E s x).flatten := by
    apply Inv.below_induction i (fun x => Reach s d x →
      (nodeOf E s x).flatten.map (fun r => reread E r.payload) = (nodeOf E s x).flatten)
    intro x ih rx
    obtain ⟨c, hc, _⟩ := rx.last
    have hxl := (i.live c x hc).2
    rw [nodeOf_unfold i hxl]
    split
    · rename_i hcont
      have hb := ok x rx hcont
      cases hbd : E.bound x with
      | none => rw [hbd] at hb; cases hb
      | some b =>
        have h1 : reread E (Rec.bounding b).payload = .bounding b := cl.bounding x b rx hcont hbd
        have h2 : reread E (Rec.closing x (isArtboard s x)).payload = .closing x (isArtboard s x) :=
          cl.closing x rx hcont
        have h3 := map_flatten_nodes (fun r => reread E r.payload) (nodeOf E s) (s.children x)
          (fun c hc => ih c hc (rx.tail hc))
        simp only [Node.flatten, boundId, hbd, List.map_cons, List.map_append, h1, h2, h3, List.map_nil]
    · rename_i hcont
      have h1 : reread E (Rec.leaf x).payload = .leaf x := cl.leaf x rx (by simpa using hcont)
      simp only [Node.flatten, List.map_cons, h1, List.map_nil]
  rw [List.map_map]
  exact map_flatten_nodes _ (nodeOf E s) (s.children d) (fun c hc => key c (.edge hc))

/-! ### C08's store bridge (`childTable`, `childrenOf`) on the forest read from the store -/

theorem idsOf_map (nd : Id → Node) (l : List Id) : idsOf (l.map nd) = l.map (fun x => (nd x).id) := by
  induction l with
  | nil => rfl
  | cons c cs ih => simp only [List.map_cons, idsOf, ih]

theorem idsOf_forestOf {E : RecEnv} {s : State} (i : Inv s) (d : Id) : idsOf (forestOf E s d) = s.children d := by
  unfold forestOf
  rw [idsOf_map]
  conv => rhs; rw [← List.map_id (s.children d)]
  apply List.map_congr_left
  intro c hc
  exact nodeOf_id i (i.live d c hc).2

theorem groupTables_cons_layer (p : Nat) (ns : List Node) : groupTables (.layer p :: ns) = groupTables ns := by
  rw [groupTables]

theorem groupTables_cons_group (c b : Nat) (a : Bool) (ch ns : List Node) :
    groupTables (.group c b a ch :: ns) = ((some c, idsOf ch) :: groupTables ch) ++ groupTables ns := by
  rw [groupTables]

/-- a group of the forest has its row in the table, and so has every group below it -/
theorem mem_groupTables_of_mem {c b : Nat} {a : Bool} {ch : List Node} {f : List Node}
    (h : Node.group c b a ch ∈ f) :
    (some c, idsOf ch) ∈ groupTables f ∧ ∀ e ∈ groupTables ch, e ∈ groupTables f := by
  induction f with
  | nil => cases h
  | cons n ns ih =>
    rcases List.mem_cons.mp h with e | h'
    · subst e
      rw [groupTables_cons_group]
      refine ⟨by simp, ?_⟩
      intro e he
      simp [he]
    · obtain ⟨h1, h2⟩ := ih h'
      cases n with
      | layer p => rw [groupTables_cons_layer]; exact ⟨h1, h2⟩
      | group c' b' a' ch' =>
        rw [groupTables_cons_group]
        refine ⟨List.mem_append_right _ h1, fun e he => List.mem_append_right _ (h2 e he)⟩

/-- every row of the table is a group listed below the document, with its list of the store -/
theorem groupTables_forestOf {E : RecEnv} {s : State} (i : Inv s) :
    ∀ d e, e ∈ groupTables (forestOf E s d) → ∃ z, Reach s d z ∧ s.cont z = true ∧ e = (some z, s.children z) := by
  apply Inv.below_induction i (fun d => ∀ e, e ∈ groupTables (forestOf E s d) →
    ∃ z, Reach s d z ∧ s.cont z = true ∧ e = (some z, s.children z))
  intro d ih
  have key : ∀ l : List Id, (∀ c ∈ l, c ∈ s.children d) → ∀ e, e ∈ groupTables (l.map (nodeOf E s)) →
      ∃ z, Reach s d z ∧ s.cont z = true ∧ e = (some z, s.children z) := by
    intro l
    induction l with
    | nil => intro _ e he; simp [groupTables] at he
    | cons c cs ihl =>
      intro hl e he
      have hc := hl c (by simp)
      have hcl := (i.live d c hc).2
      rw [List.map_cons, nodeOf_unfold i hcl] at he
      split at he
      · rename_i hcont
        rw [groupTables_cons_group] at he
        rcases List.mem_append.mp he with he | he
        · rcases List.mem_cons.mp he with he | he
          · refine ⟨c, .edge hc, hcont, ?_⟩
            rw [he]
            have := idsOf_forestOf (E := E) i c
            unfold forestOf at this
            rw [this]
          · obtain ⟨z, rz, hz, ez⟩ := ih c hc e he
            exact ⟨z, .step hc rz, hz, ez⟩
        · exact ihl (fun y hy => hl y (by simp [hy])) e he
      · rw [groupTables_cons_layer] at he
        exact ihl (fun y hy => hl y (by simp [hy])) e he
  exact key (s.children d) (fun _ h => h)

theorem reach_mem_groupTables {E : RecEnv} {s : State} (i : Inv s) {d g : Id} (r : Reach s d g)
    (hg : s.cont g = true) : (some g, s.children g) ∈ groupTables (forestOf E s d) := by
  induction r with
  | @edge c x h =>
    have hxl := (i.live c x h).2
    have hm : nodeOf E s x ∈ forestOf E s c := List.mem_map.mpr ⟨_, h, rfl⟩
    rw [forestOf_children i hxl hg] at hm
    have := (mem_groupTables_of_mem hm).1
    rwa [idsOf_forestOf i x] at this
  | @step c x y h r ih =>
    have hxl := (i.live c x h).2
    have hc := i.contOnly x r.children_ne
    have hm : nodeOf E s x ∈ forestOf E s c := List.mem_map.mpr ⟨_, h, rfl⟩
    rw [forestOf_children i hxl hc] at hm
    exact (mem_groupTables_of_mem hm).2 _ (ih hg)

theorem childrenOf_root {E : RecEnv} {s : State} (i : Inv s) (d : Id) :
    childrenOf (forestOf E s d) none = some (s.children d) := by
  simp [childrenOf, childTable, idsOf_forestOf i d]

/-- **The store bridge.** The children table of the forest read from the store gives, for every
group listed below the document, exactly its list in the store. -/
theorem childrenOf_group {E : RecEnv} {s : State} (i : Inv s) {d g : Id} (r : Reach s d g) (hg : s.cont g = true) :
    childrenOf (forestOf E s d) (some g) = some (s.children g) := by
  have hm := reach_mem_groupTables (E := E) i r hg
  unfold childrenOf
  rw [childTable]
  rw [List.find?_cons_of_neg (by simp)]
  cases hf : (groupTables (forestOf E s d)).find? (fun e => e.1 == some g) with
  | none =>
    have := List.find?_eq_none.mp hf _ hm
    simp at this
  | some e =>
    have hp := List.find?_some hf
    have he := List.mem_of_find?_eq_some hf
    obtain ⟨z, _, _, ez⟩ := groupTables_forestOf i d e he
    subst ez
    have : z = g := by simpa using hp
    subst this
    rfl

end PsdVerif.Reopen
