/-
Helper lemmas for C08 (parse/flatten inverse laws). Core Lean only.
-/
import PsdVerif.Model.TreeParse

namespace PsdVerif.Tree

theorem flatten_append (a b : List Node) : flatten (a ++ b) = flatten a ++ flatten b := by
  induction a with
  | nil => simp [flatten]
  | cons n ns ih => simp [flatten, ih, List.append_assoc]

theorem flatten_snoc (a : List Node) (n : Node) : flatten (a ++ [n]) = flatten a ++ n.flatten := by
  simp [flatten_append, flatten]

theorem run_append (s : St) (a b : List Rec) :
    run s (a ++ b) = match run s a with | .ok s' => run s' b | .error e => .error e := by
  induction a generalizing s with
  | nil => simp [run]
  | cons r rs ih =>
    simp only [List.cons_append, run]
    cases step s r with
    | error e => rfl
    | ok s' => exact ih s'

theorem foldl_push_frame (root : List Node) (b : Nat) (k : List Node) (fs : List Frame) (f : List Node) :
    f.foldl St.push ⟨root, ⟨b, k⟩ :: fs⟩ = ⟨root, ⟨b, k ++ f⟩ :: fs⟩ := by
  induction f generalizing k with
  | nil => simp
  | cons n ns ih =>
    simp only [List.foldl_cons, St.push]
    rw [ih (k ++ [n])]
    simp

theorem foldl_push_root (root : List Node) (f : List Node) :
    f.foldl St.push ⟨root, []⟩ = ⟨root ++ f, []⟩ := by
  induction f generalizing root with
  | nil => simp
  | cons n ns ih =>
    simp only [List.foldl_cons, St.push]
    rw [ih (root ++ [n])]
    simp

mutual
theorem run_flatten_node : ∀ (n : Node) (s : St), run s n.flatten = .ok (s.push n)
  | .layer p, s => by simp [Node.flatten, run, step]
  | .group c b a ch, s => by
    simp only [Node.flatten, run, step]
    rw [run_append, run_flatten_list ch]
    simp only [foldl_push_frame, run, step, List.nil_append]
theorem run_flatten_list : ∀ (f : List Node) (s : St), run s (flatten f) = .ok (f.foldl St.push s)
  | [], s => by simp [flatten, run]
  | n :: ns, s => by
    simp only [flatten, List.foldl_cons]
    rw [run_append, run_flatten_node n s]
    exact run_flatten_list ns (s.push n)
end


/-! ### The records consumed so far can be read back from the state -/

def unparseFrames : List Frame → List Rec
  | [] => []
  | f :: fs => unparseFrames fs ++ (.bounding f.bound :: flatten f.kids)

/-- The record sequence a state has consumed. -/
def St.unparse (s : St) : List Rec := flatten s.root ++ unparseFrames s.stack

theorem unparse_push (s : St) (n : Node) : (s.push n).unparse = s.unparse ++ n.flatten := by
  obtain ⟨root, stack⟩ := s
  cases stack with
  | nil => simp [St.push, St.unparse, unparseFrames, flatten_snoc]
  | cons f fs => simp [St.push, St.unparse, unparseFrames, flatten_snoc, List.append_assoc]

theorem step_unparse (s s' : St) (r : Rec) (h : step s r = .ok s') : s'.unparse = s.unparse ++ [r] := by
  cases r with
  | leaf p =>
    simp only [step, Except.ok.injEq] at h
    subst h; simp [unparse_push, Node.flatten]
  | bounding p =>
    simp only [step, Except.ok.injEq] at h
    subst h; simp [St.unparse, unparseFrames, flatten]
  | closing p a =>
    obtain ⟨root, stack⟩ := s
    cases stack with
    | nil => simp [step] at h
    | cons f fs =>
      simp only [step, Except.ok.injEq] at h
      subst h
      rw [unparse_push]
      simp [Node.flatten, St.unparse, unparseFrames, List.append_assoc]

theorem run_unparse (s s' : St) (rs : List Rec) (h : run s rs = .ok s') : s'.unparse = s.unparse ++ rs := by
  induction rs generalizing s with
  | nil => simp only [run, Except.ok.injEq] at h; subst h; simp
  | cons r rs ih =>
    simp only [run] at h
    cases hs : step s r with
    | error e => simp [hs] at h
    | ok s1 =>
      simp only [hs] at h
      rw [ih s1 h, step_unparse s s1 r hs]; simp

theorem push_stack_length (s : St) (n : Node) : (s.push n).stack.length = s.stack.length := by
  obtain ⟨root, stack⟩ := s
  cases stack <;> simp [St.push]

theorem run_depth (s : St) (rs : List Rec) :
    match run s rs with
    | .ok s' => depthRun s.stack.length rs = some s'.stack.length
    | .error e => e = .assertionError ∧ depthRun s.stack.length rs = none := by
  induction rs generalizing s with
  | nil => simp [run, depthRun]
  | cons r rs ih =>
    cases r with
    | leaf p =>
      simp only [run, step, depthRun]
      have := ih (s.push (.layer p))
      rwa [push_stack_length] at this
    | bounding p =>
      simp only [run, step, depthRun]
      exact ih { s with stack := ⟨p, []⟩ :: s.stack }
    | closing p a =>
      obtain ⟨root, stack⟩ := s
      cases stack with
      | nil => simp [run, step, depthRun]
      | cons f fs =>
        simp only [run, step, depthRun, List.length_cons]
        have := ih (St.push ⟨root, fs⟩ (.group p f.bound a f.kids))
        rwa [push_stack_length] at this

/-! ### Well-nested record sequences (stated without reference to trees) -/

inductive WellNested : List Rec → Prop
  | nil : WellNested []
  | leaf (p : Nat) {rs : List Rec} : WellNested rs → WellNested (.leaf p :: rs)
  | group (b c : Nat) (a : Bool) {inner rest : List Rec} :
      WellNested inner → WellNested rest → WellNested (.bounding b :: (inner ++ .closing c a :: rest))

mutual
theorem wellNested_node : ∀ (n : Node) (rest : List Rec), WellNested rest → WellNested (n.flatten ++ rest)
  | .layer p, rest, h => by simpa [Node.flatten] using WellNested.leaf p h
  | .group c b a ch, rest, h => by
    have := WellNested.group b c a (wellNested_flatten ch) h
    simpa [Node.flatten, List.append_assoc] using this
theorem wellNested_flatten : ∀ (f : List Node), WellNested (flatten f)
  | [] => by simpa [flatten] using WellNested.nil
  | n :: ns => by
    simpa [flatten] using wellNested_node n (flatten ns) (wellNested_flatten ns)
end

theorem wellNested_exists_forest (rs : List Rec) (h : WellNested rs) : ∃ f, flatten f = rs := by
  induction h with
  | nil => exact ⟨[], by simp [flatten]⟩
  | leaf p _ ih =>
    obtain ⟨f, hf⟩ := ih
    exact ⟨.layer p :: f, by simp [flatten, Node.flatten, hf]⟩
  | group b c a _ _ ih1 ih2 =>
    obtain ⟨fi, hi⟩ := ih1
    obtain ⟨fr, hr⟩ := ih2
    exact ⟨.group c b a fi :: fr, by simp [flatten, Node.flatten, hi, hr, List.append_assoc]⟩

/-- `n` occurs in the forest `f` (as a child at some depth). -/
inductive Occurs (n : Node) : List Node → Prop
  | here {f : List Node} : n ∈ f → Occurs n f
  | inside {f : List Node} {c b : Nat} {a : Bool} {ch : List Node} :
      Node.group c b a ch ∈ f → Occurs n ch → Occurs n f

theorem flatten_mem_split (n : Node) (f : List Node) (h : n ∈ f) :
    ∃ pre post, flatten f = pre ++ n.flatten ++ post := by
  obtain ⟨l1, l2, rfl⟩ := List.append_of_mem h
  exact ⟨flatten l1, flatten l2, by simp [flatten_append, flatten, List.append_assoc]⟩

theorem occurs_split (n : Node) (f : List Node) (h : Occurs n f) :
    ∃ pre post, flatten f = pre ++ n.flatten ++ post := by
  induction h with
  | here hm => exact flatten_mem_split n _ hm
  | @inside f c b a ch hm _ ih =>
    obtain ⟨p1, q1, h1⟩ := flatten_mem_split _ _ hm
    obtain ⟨p2, q2, h2⟩ := ih
    refine ⟨p1 ++ .bounding b :: p2, q2 ++ .closing c a :: q1, ?_⟩
    rw [h1]; simp [Node.flatten, h2, List.append_assoc]

theorem split_unique {α : Type} (x : α) (p p' q q' : List α) (h1 : x ∉ p) (h2 : x ∉ p')
    (h : p ++ x :: q = p' ++ x :: q') : p = p' ∧ q = q' := by
  induction p generalizing p' with
  | nil =>
    cases p' with
    | nil => simpa using h
    | cons y ys =>
      simp only [List.nil_append, List.cons_append, List.cons.injEq] at h
      exact absurd (by simp [h.1]) h2
  | cons z zs ih =>
    cases p' with
    | nil =>
      simp only [List.nil_append, List.cons_append, List.cons.injEq] at h
      exact absurd (by simp [h.1]) h1
    | cons y ys =>
      simp only [List.cons_append, List.cons.injEq] at h
      have := ih ys (fun hm => h1 (List.mem_cons_of_mem _ hm)) (fun hm => h2 (List.mem_cons_of_mem _ hm)) h.2
      exact ⟨by rw [h.1, this.1], this.2⟩


/-- first key present in a priority list of (key, value) pairs -/
def firstOf (has : String → Bool) : List (String × String) → Option String
  | [] => none
  | (k, v) :: rest => if has k then some v else firstOf has rest

theorem firstAdj_append (has : String → Bool) (a b : List AdjEntry) :
    firstAdj has (a ++ b) = match firstAdj has a with | some h => some h | none => firstAdj has b := by
  induction a with
  | nil => simp [firstAdj]
  | cons e es ih =>
    simp only [List.cons_append, firstAdj]
    split <;> simp_all

theorem firstAdj_map (has : String → Bool) (fl : Bool) (l : List (String × String)) :
    firstAdj has (l.map fun kv => ⟨kv.1, kv.2, fl⟩) = (firstOf has l).map fun k => ⟨k, fl⟩ := by
  induction l with
  | nil => simp [firstAdj, firstOf]
  | cons kv rest ih =>
    obtain ⟨k, v⟩ := kv
    simp only [List.map_cons, firstAdj, firstOf]
    split <;> simp_all

end PsdVerif.Tree
