/-
C02 on the payload layer — the payload classes that hold a descriptor: descriptor blocks as resource / tagged-block payloads,
ColorLookup, VectorStrokeContentSetting, the slices. What the reader returns is writable and in the domain of the round trip
(`DecOK`); for the version-6 slices under C01's (F) clause `chainOK` (a slice without descriptor followed by a slice whose id
is 16: the reader's speculative read cannot tell that shape from a descriptor block).
-/
import PsdVerif.Lemmas.PayloadResave3
import PsdVerif.Lemmas.DescriptorResave

namespace PsdVerif.Payload3
open PsdVerif.Codec PsdVerif.Payload

variable (tb : Descriptor.Tables)

theorem DescriptorResource.decOK (ht : Descriptor.TermsFour tb) : DecOK (DescriptorResource.codec tb) := by
  intro d p b p' hd
  obtain ⟨f, w⟩ := Descriptor.Block.dec_resavable ht d p b p' hd
  exact ⟨w, f⟩

theorem DescriptorPayload.decOK (ht : Descriptor.TermsFour tb) (pad : Nat) : DecOK (DescriptorPayload.codec tb pad) := by
  intro d p b p' hd
  obtain ⟨f, w⟩ := Descriptor.Block.dec_resavable ht d p b p' hd
  exact ⟨w, f⟩

theorem Descriptor2Payload.decOK (ht : Descriptor.TermsFour tb) (pad : Nat) : DecOK (Descriptor2Payload.codec tb pad) := by
  intro d p b p' hd
  obtain ⟨f, w⟩ := Descriptor.Block2.dec_resavable ht d p b p' hd
  exact ⟨w, f⟩

open Descriptor in
theorem ColorLookup.decOK (ht : Descriptor.TermsFour tb) (pad : Nat) : DecOK (ColorLookup.codec tb pad) := by
  intro d p b p' hd
  have hr : Ret (fun b : Block2 => ColorLookup.Fits tb b ∧ b.WF tb)
      ((readU 2) >>- fun ver => (readU 4) >>- fun dv => (readBody tb (decBody tb (d.length + 1))) >>- fun x =>
        if dv = 16 then rpure (⟨(ver : Int), (dv : Int), x.1, x.2.1, x.2.2⟩ : Block2) else rfail .valueError) :=
    (ret_readU 2).bind fun ver hv => (ret_readU 4).bind fun dv hdv =>
      (ret_readBody ht (ret_decBody ht (d.length + 1))).bind fun x hx => by
      split
      · rename_i h16
        obtain ⟨a, b'⟩ := resavable_of_body hx
        have : (256 : Nat) ^ 4 = 4294967296 := by decide
        refine Ret.pure ?_
        simp only [ColorLookup.Fits, Block2.WF, FitsU32, Int.toNat_natCast]
        exact ⟨⟨⟨by omega, hv⟩, ⟨by omega, by omega⟩, a⟩, by omega, b'⟩
      · exact Ret.fail _
  obtain ⟨f, w⟩ := hr d p b p' hd
  exact ⟨w, f⟩

open Descriptor in
theorem VectorStrokeContentSetting.decOK (ht : Descriptor.TermsFour tb) (pad : Nat) :
    DecOK (VectorStrokeContentSetting.codec tb pad) := by
  intro d p b p' hd
  have hr : Ret (fun b : VectorStrokeContentSetting => VectorStrokeContentSetting.Fits tb b ∧
        VectorStrokeContentSetting.WF tb b)
      ((readN 4) >>- fun key => (readU 4) >>- fun ver => (readBody tb (decBody tb (d.length + 1))) >>- fun x =>
        rpure (⟨key, (ver : Int), x.1, x.2.1, x.2.2⟩ : VectorStrokeContentSetting)) :=
    (ret_readN 4).bind fun key hk => (ret_readU 4).bind fun ver hv =>
      (ret_readBody ht (ret_decBody ht (d.length + 1))).bind fun x hx => by
        obtain ⟨a, b'⟩ := resavable_of_body hx
        have : (256 : Nat) ^ 4 = 4294967296 := by decide
        refine Ret.pure ?_
        simp only [VectorStrokeContentSetting.Fits, VectorStrokeContentSetting.WF, FitsU32]
        exact ⟨⟨⟨by omega, by omega⟩, a⟩, hk, b'⟩
  obtain ⟨f, w⟩ := hr d p b p' hd
  exact ⟨w, f⟩

theorem SliceV6.peekData_ok (ht : Descriptor.TermsFour tb) {d : B} {p : Nat} {o : Option Descriptor.Block} {p' : Nat}
    (h : SliceV6.peekData tb d p = .ok (o, p')) :
    optFits (Descriptor.Block.Fits tb) o ∧
      optFits (fun (b : Descriptor.Block) => b.WF tb ∧ b.classID.bytes ≠ SliceV6.zeroKey) o := by
  unfold SliceV6.peekData at h
  split at h
  · split at h
    · cases h
    · rename_i version q hv
      split at h
      · split at h
        · rename_i blk q' hb
          split at h
          · cases h; exact ⟨trivial, trivial⟩
          · rename_i hne
            cases h
            obtain ⟨f, w⟩ := Descriptor.Block.dec_resavable ht d p blk _ hb
            exact ⟨f, w, hne⟩
        · cases h; exact ⟨trivial, trivial⟩
        · cases h; exact ⟨trivial, trivial⟩
        · cases h; exact ⟨trivial, trivial⟩
        · cases h
      · cases h; exact ⟨trivial, trivial⟩
  · cases h; exact ⟨trivial, trivial⟩

theorem SliceV6.assocDec_ok {head : Row} {d : B} {p : Nat} {o : Option Row} {p' : Nat}
    (h : SliceV6.assocDec head d p = .ok (o, p')) :
    (o.isSome ↔ SliceV6.hasAssoc head) ∧ optFits (fmtFits [U 4]) (SliceV6.assocOf head o) := by
  unfold SliceV6.assocDec at h
  split at h
  · rename_i ha
    split at h
    · rename_i r q hr
      cases h
      exact ⟨⟨fun _ => ha, fun _ => rfl⟩, by simp only [SliceV6.assocOf, if_pos ha, optFits]; exact (fmtDec_ok [U 4] rfl hr).1⟩
    · cases h
  · rename_i ha
    cases h
    exact ⟨⟨fun h => Bool.noConfusion h, fun h => absurd h ha⟩, by simp only [SliceV6.assocOf, if_neg ha, optFits]⟩

theorem SliceV6.decOK (ht : Descriptor.TermsFour tb) : DecOK (SliceV6.codec tb) := fun d p =>
  show Rets (SliceV6.dec tb d p) _ from
  (rets_fmtDec rfl).bind fun _ _ head =>
  Rets.bind (fun _ _ e => SliceV6.assocDec_ok e) fun _ _ assoc =>
  Rets.bind (ustr_decOK d _) fun _ _ name =>
  (rets_fmtDec rfl).bind fun _ _ st =>
  (rets_fmtDec rfl).bind fun _ _ bbox =>
  Rets.bind (ustr_decOK d _) fun _ _ url =>
  Rets.bind (ustr_decOK d _) fun _ _ target =>
  Rets.bind (ustr_decOK d _) fun _ _ message =>
  Rets.bind (ustr_decOK d _) fun _ _ altTag =>
  (rets_fmtDec rfl).bind fun _ _ html =>
  Rets.bind (ustr_decOK d _) fun _ _ cellText =>
  (rets_fmtDec rfl).bind fun _ _ align =>
  (rets_fmtDec rfl).bind fun _ _ argb =>
  Rets.bind (fun _ _ e => SliceV6.peekData_ok tb ht e) fun _ _ data =>
  Rets.ok ⟨⟨assoc.1, name.1, url.1, target.1, message.1, altTag.1, cellText.1, html.2, data.2⟩,
    head.1, assoc.2, name.2, st.1, bbox.1, url.2, target.2, message.2, altTag.2, html.1, cellText.2, align.1, argb.1, data.1⟩

/-- the slices of a version-6 resource: the (F) clause of C01 - a slice without descriptor is not followed by a slice whose
id is 16 (the reader's speculative read cannot tell that shape from a descriptor block) -/
def SlicesV6.ResaveOK (x : SlicesV6) : Prop := SlicesV6.chainOK x.items

theorem SlicesV6.decOKIf (ht : Descriptor.TermsFour tb) : DecOKIf (SlicesV6.codec tb) SlicesV6.ResaveOK := fun d p =>
  show Rets (SlicesV6.dec tb d p) _ from
  (rets_fmtDec rfl).bind fun _ _ bbox =>
  Rets.bind (ustr_decOK d _) fun _ _ name =>
  rets_readU.bind fun _ _ count =>
  (rets_readCount fun {d q} => SliceV6.decOK tb ht d q).bind fun _ _ items =>
  Rets.ok fun hl => ⟨⟨name.1, fun s hs => (items.2 s hs).1, hl⟩, bbox.1, name.2, items.1 ▸ count, fun s hs => (items.2 s hs).2⟩

def Slices.ResaveOK (x : Slices) : Prop :=
  match x.data with
  | .v6 s => SlicesV6.ResaveOK s
  | .desc _ => True

theorem Slices.decOKIf (ht : Descriptor.TermsFour tb) : DecOKIf (Slices.codec tb) Slices.ResaveOK := fun d p =>
  show Rets (Slices.dec tb d p) _ from
  rets_readU.bind fun _ _ version => Rets.guard fun hmem => Rets.ite
    (fun h6 => Rets.bind (SlicesV6.decOKIf tb ht d _) fun _ _ s => Rets.ok fun hl => ⟨⟨hmem, h6, (s hl).1⟩, version, (s hl).2⟩)
    (fun h6 => (Descriptor.Block.dec_resavable ht).rets.bind fun _ _ b => Rets.ok fun _ => ⟨⟨hmem, h6, b.2⟩, version, b.1⟩)

end PsdVerif.Payload3
