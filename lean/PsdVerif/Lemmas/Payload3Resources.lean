/-
C01 payload classes — the laws (`RtAnywhere` | `RtAtEnd`, `Count`) of every codec of Model/Payload3Resources.lean.
-/
import PsdVerif.Lemmas.Payload3Base
import PsdVerif.Lemmas.PayloadLinked
import PsdVerif.Model.Payload3Resources

namespace PsdVerif.Payload3
open PsdVerif.Codec PsdVerif.Payload

/-! ## the flat classes -/

theorem AlphaIdentifiers.rt : AlphaIdentifiers.codec.RtAtEnd :=
  whileR_rt 4 1 (rec_rt _ rfl) (rec_tight _) (rec_ge _ 4 (by decide)) (by decide) (by decide)
theorem AlphaIdentifiers.count : AlphaIdentifiers.codec.Count := whileR_count 4 1 (rec_count _)

theorem AlphaNamesPascal.rt : AlphaNamesPascal.codec.RtAtEnd :=
  whileR_rt 1 1 (pascal_rt 1) (pascal_tight 1 1) (pascal_ge 1 1) (by decide) (by decide)
theorem AlphaNamesPascal.count : AlphaNamesPascal.codec.Count := whileR_count 1 1 (pascal_count 1 1)

theorem AlphaNamesUnicode.rt : AlphaNamesUnicode.codec.RtAtEnd :=
  whileR_rt 1 1 ustr_rt ustr_tight ustr_ge (by decide) (by decide)
theorem AlphaNamesUnicode.count : AlphaNamesUnicode.codec.Count := whileR_count 1 1 ustr_count

theorem AlphaChannel.rt : AlphaChannel.codec.RtAnywhere := checked_rt (rec_rt _ rfl)
theorem AlphaChannel.count : AlphaChannel.codec.Count := checked_count (rec_count _)
theorem AlphaChannel.tight : Tight AlphaChannel.codec := checked_tight (rec_tight _)

theorem DisplayInfo.rt : DisplayInfo.codec.RtAtEnd :=
  seq_rt_end (rec_rt _ rfl) (rec_tight _)
    (whileR_rt 13 1 AlphaChannel.rt AlphaChannel.tight (checked_ge (rec_ge _ 13 (by decide))) (by decide) (by decide))
theorem DisplayInfo.count : DisplayInfo.codec.Count := seq_count (rec_count _) (whileR_count 13 1 AlphaChannel.count)

theorem Byte.rt : Byte.codec.RtAnywhere := rec_rt _ rfl
theorem Byte.count : Byte.codec.Count := rec_count _

theorem GridGuidesInfo.rt : GridGuidesInfo.codec.RtAnywhere :=
  seq_rt (rec_rt _ rfl) (rec_tight _) (counted_rt 4 (rec_rt _ rfl) (rec_tight _))
theorem GridGuidesInfo.count : GridGuidesInfo.codec.Count := seq_count (rec_count _) (counted_count 4 (rec_count _))

theorem HalftoneScreen.rt : HalftoneScreen.codec.RtAnywhere := rec_rt _ rfl
theorem HalftoneScreen.count : HalftoneScreen.codec.Count := rec_count _

theorem HalftoneScreens.rt : HalftoneScreens.codec.RtAtEnd :=
  whileR_rt 18 1 HalftoneScreen.rt (rec_tight _) (rec_ge _ 18 (by decide)) (by decide) (by decide)
theorem HalftoneScreens.count : HalftoneScreens.codec.Count := whileR_count 18 1 HalftoneScreen.count

theorem Integer.rt : Integer.codec.RtAnywhere := rec_rt _ rfl
theorem Integer.count : Integer.codec.Count := rec_count _

theorem LayerGroupEnabledIDs.rt : LayerGroupEnabledIDs.codec.RtAtEnd :=
  whileR_rt 1 1 (rec_rt _ rfl) (rec_tight _) (rec_ge _ 1 (by decide)) (by decide) (by decide)
theorem LayerGroupEnabledIDs.count : LayerGroupEnabledIDs.codec.Count := whileR_count 1 1 (rec_count _)

theorem LayerGroupInfo.rt : LayerGroupInfo.codec.RtAtEnd :=
  whileR_rt 2 1 (rec_rt _ rfl) (rec_tight _) (rec_ge _ 2 (by decide)) (by decide) (by decide)
theorem LayerGroupInfo.count : LayerGroupInfo.codec.Count := whileR_count 2 1 (rec_count _)

theorem LayerSelectionIDs.rt : LayerSelectionIDs.codec.RtAnywhere := counted_rt 2 (rec_rt _ rfl) (rec_tight _)
theorem LayerSelectionIDs.count : LayerSelectionIDs.codec.Count := counted_count 2 (rec_count _)

theorem ShortInteger.rt : ShortInteger.codec.RtAnywhere := rec_rt _ rfl
theorem ShortInteger.count : ShortInteger.codec.Count := rec_count _

theorem PascalString.rt : PascalString.codec.RtAtEnd := pascal_rt_end 2
theorem PascalString.count : PascalString.codec.Count := pascal_count 1 2

theorem PixelAspectRatio.rt : PixelAspectRatio.codec.RtAnywhere := rec_rt _ rfl
theorem PixelAspectRatio.count : PixelAspectRatio.codec.Count := rec_count _

theorem PrintFlagsInfo.rt : PrintFlagsInfo.codec.RtAnywhere := rec_rt _ rfl
theorem PrintFlagsInfo.count : PrintFlagsInfo.codec.Count := rec_count _

theorem PrintScale.rt : PrintScale.codec.RtAnywhere := checked_rt (rec_rt _ rfl)
theorem PrintScale.count : PrintScale.codec.Count := checked_count (rec_count _)

theorem ResolutionInfo.rt : ResolutionInfo.codec.RtAnywhere := rec_rt _ rfl
theorem ResolutionInfo.count : ResolutionInfo.codec.Count := rec_count _

theorem TransferFunction.rt : TransferFunction.codec.RtAnywhere := seq_rt (rec_rt _ rfl) (rec_tight _) (rec_rt _ rfl)
theorem TransferFunction.count : TransferFunction.codec.Count := seq_count (rec_count _) (rec_count _)
theorem TransferFunction.tight : Tight TransferFunction.codec := seq_tight (rec_tight _)

theorem TransferFunctions.rt : TransferFunctions.codec.RtAtEnd :=
  whileR_rt 28 1 TransferFunction.rt TransferFunction.tight
    (seq_ge (m := 26) (k := 2) (rec_ge _ 26 (by decide)) (rec_ge _ 2 (by decide))) (by decide) (by decide)
theorem TransferFunctions.count : TransferFunctions.codec.Count := whileR_count 28 1 TransferFunction.count

theorem URLItem.rt : URLItem.codec.RtAnywhere := seq_rt (rec_rt _ rfl) (rec_tight _) ustr_rt
theorem URLItem.count : URLItem.codec.Count := seq_count (rec_count _) ustr_count
theorem URLItem.tight : Tight URLItem.codec := seq_tight ustr_tight

theorem URLList.rt : URLList.codec.RtAnywhere := counted_rt 4 URLItem.rt URLItem.tight
theorem URLList.count : URLList.codec.Count := counted_count 4 URLItem.count

theorem VersionInfo.rt : VersionInfo.codec.RtAnywhere :=
  seq_rt (rec_rt _ rfl) (rec_tight _) (seq_rt ustr_rt ustr_tight (seq_rt ustr_rt ustr_tight (rec_rt _ rfl)))
theorem VersionInfo.count : VersionInfo.codec.Count :=
  seq_count (rec_count _) (seq_count ustr_count (seq_count ustr_count (rec_count _)))

namespace PrintFlags

theorem rt : codec.RtAtEnd := by
  intro x hwf hf d p h hend
  obtain ⟨fl, pf⟩ := x
  obtain ⟨hw1, hw2⟩ := hwf
  obtain ⟨hf1, hf2⟩ := hf
  simp only [codec, encT] at h hend hw1 hw2 hf1 hf2 ⊢
  cases pf with
  | none =>
    simp only [optT, List.append_nil] at h hend ⊢
    obtain ⟨e1, _⟩ := fmt_step' (fs := fmt8) rfl hf1 hw1 h.nil_right
    have r1 : isReadable 1 d (p + (fmtT fmt8 fl).length) = false := isReadable_false (by omega)
    simp only [dec, bind, Except.bind, e1, r1, Bool.false_eq_true, if_false]
  | some r =>
    simp only [optT, optFits] at h hend hw2 hf2 ⊢
    obtain ⟨e1, h1⟩ := fmt_step' (fs := fmt8) rfl hf1 hw1 h
    have hl : (fmtT [Q] r).length = 1 := length_fmtT [Q] r hf2
    have r1 : isReadable 1 d (p + (fmtT fmt8 fl).length) = true := isReadable_of_at h1 (by omega)
    obtain ⟨e2, _⟩ := fmt_step' (fs := [Q]) rfl hf2 hw2 h1.nil_right
    simp only [dec, bind, Except.bind, e1, r1, if_true, e2, List.length_append, Nat.add_assoc]

theorem count : codec.Count := fun _ => rfl

end PrintFlags

namespace Thumbnail

theorem rt : codec.RtAnywhere := by
  intro x _ hf d p h
  obtain ⟨f1, f2, f3⟩ := hf
  simp only [codec, encT, hdrT, List.append_assoc] at h
  obtain ⟨e1, h⟩ := fmt_step' (fs := headFmt) rfl f1 (fmtWF_of_plain _ _ rfl) h
  obtain ⟨e2, h⟩ := readU_step h f2
  obtain ⟨e3, h⟩ := fmt_step' (fs := tailFmt) rfl f3 (fmtWF_of_plain _ _ rfl) h
  have e4 := readSized_at h
  simp only [codec, dec, bind, Except.bind, e1, e2, e3, e4]
  simp only [encT, hdrT, List.length_append, length_beBytes, Nat.add_assoc]

theorem count : codec.Count := by
  intro x
  simp only [codec, encP, encT, wBytes_eq, wSeq_eq]

end Thumbnail

namespace SliceV6
variable (tb : Descriptor.Tables)

theorem optRowP_eq (fs : List FI) (o : Option Row) :
    optP (fun r => wBytes (fmtT fs r)) o = (optT (fmtT fs) o, (optT (fmtT fs) o).length) :=
  optP_eq (fun _ => rfl) o

theorem encP_eq (x : SliceV6) : encP tb x = (encT tb x, (encT tb x).length) := by
  simp only [encP, encT, tailT, optRowP_eq, optP_eq (Descriptor.Block.encW_eq tb 1), ustr_count _]
  simp only [wBytes_eq, wSeq_eq, List.append_assoc]

/-- nothing that could be taken for the version field of a descriptor block follows at `q` -/
def NoPeek (d : B) (q : Nat) (rest : B) : Prop :=
  d.length < q + 4 ∨ ∃ n rest', n ≠ 16 ∧ n < 256 ^ 4 ∧ rest = beBytes 4 n ++ rest'

theorem NoPeek.cast {d : B} {q q' : Nat} {rest : B} (h : NoPeek d q rest) (e : q = q') : NoPeek d q' rest := e ▸ h

theorem peek_none {d : B} {q : Nat} {rest : B} (h : At d q rest) (hn : NoPeek d q rest) : peekData tb d q = .ok (none, q) := by
  rcases hn with hlt | ⟨n, rest', hne, hlt, rfl⟩
  · simp only [peekData, isReadable_false hlt, Bool.false_eq_true, if_false]
  · obtain ⟨e1, _⟩ := readU_step h hlt
    have r4 : isReadable 4 d q = true := isReadable_of_at h (by simp only [List.length_append, length_beBytes]; omega)
    simp only [peekData, r4, if_true, e1, if_neg hne]

theorem peek_some {blk : Descriptor.Block} (hwf : blk.WF tb) (hf : blk.Fits tb) (hne : blk.classID.bytes ≠ zeroKey)
    {d : B} {q : Nat} {rest : B} (h : At d q (blk.encT tb 1 ++ rest)) :
    peekData tb d q = .ok (some blk, q + (blk.encT tb 1).length) ∧ At d (q + (blk.encT tb 1).length) rest := by
  obtain ⟨e2, h'⟩ := LinkedLayer.block_step tb hwf hf h
  refine ⟨?_, h'⟩
  have hv : blk.version = 16 := hwf.1
  have hshape : blk.encT tb 1 ++ rest = beBytes 4 16 ++ ((Descriptor.bodyT tb blk.name blk.classID blk.items ++
      zeros (padAmount (blk.bodyLen tb) 1)) ++ rest) := by
    simp only [Descriptor.Block.encT, Descriptor.u32T, hv, List.append_assoc]; rfl
  rw [hshape] at h
  obtain ⟨e1, _⟩ := readU_step h (by decide)
  have r4 : isReadable 4 d q = true := isReadable_of_at h (by simp only [List.length_append, length_beBytes]; omega)
  simp only [peekData, r4, if_true, e1, e2, if_neg hne]

theorem peek_step {data : Option Descriptor.Block}
    (wd : optFits (fun (b : Descriptor.Block) => b.WF tb ∧ b.classID.bytes ≠ zeroKey) data)
    (f14 : optFits (Descriptor.Block.Fits tb) data) {d : B} {q : Nat} {rest : B}
    (h : At d q (optT (Descriptor.Block.encT tb 1) data ++ rest))
    (hpk : data.isNone → NoPeek d (q + (optT (Descriptor.Block.encT tb 1) data).length) rest) :
    peekData tb d q = .ok (data, q + (optT (Descriptor.Block.encT tb 1) data).length) := by
  cases data with
  | none =>
    simp only [optT, List.nil_append, List.length_nil, Nat.add_zero] at h hpk ⊢
    exact peek_none tb h (hpk rfl)
  | some blk =>
    simp only [optT, optFits] at h wd f14 ⊢
    exact (peek_some tb wd.1 f14 wd.2 h).1

theorem assoc_step {head : Row} {assoc : Option Row} (wa : assoc.isSome ↔ hasAssoc head)
    (f2 : optFits (fmtFits [U 4]) (assocOf head assoc)) {d : B} {p : Nat} {rest : B}
    (h : At d p (optT (fmtT [U 4]) (assocOf head assoc) ++ rest)) :
    assocDec head d p = .ok (assoc, p + (optT (fmtT [U 4]) (assocOf head assoc)).length) ∧
      At d (p + (optT (fmtT [U 4]) (assocOf head assoc)).length) rest := by
  by_cases ho : hasAssoc head
  · simp only [assocOf, if_pos ho] at f2 h ⊢
    have hs : assoc.isSome := wa.2 ho
    cases assoc with
    | none => simp at hs
    | some r =>
      simp only [optFits, optT] at f2 h ⊢
      obtain ⟨e2, h⟩ := fmt_step' (fs := [U 4]) rfl f2 (fmtWF_of_plain _ _ rfl) h
      exact ⟨by simp only [assocDec, if_pos ho, e2], h⟩
  · simp only [assocOf, if_neg ho] at f2 h ⊢
    have hn : assoc = none := by
      cases assoc with
      | none => rfl
      | some r => exact absurd (wa.1 rfl) ho
    subst hn
    simp only [optT, List.nil_append, List.length_nil, Nat.add_zero] at h ⊢
    exact ⟨by simp only [assocDec, if_neg ho], h⟩

/-- the reader returns the slice when what follows cannot be taken for a descriptor block -/
theorem dec_step {x : SliceV6} (hwf : WF tb x) (hf : Fits tb x) {d : B} {p : Nat} {rest : B}
    (h : At d p (encT tb x ++ rest)) (hpk : x.data.isNone → NoPeek d (p + (encT tb x).length) rest) :
    dec tb d p = .ok (x, p + (encT tb x).length) ∧ At d (p + (encT tb x).length) rest := by
  refine ⟨?_, h.right⟩
  obtain ⟨wa, w1, w2, w3, w4, w5, w6, w7, wd⟩ := hwf
  obtain ⟨f1, f2, f3, f4, f5, f6, f7, f8, f9, f10, f11, f12, f13, f14⟩ := hf
  obtain ⟨head, assoc, name, st, bbox, url, target, message, altTag, html, cellText, align, argb, data⟩ := x
  simp only [assocWritten] at wa w1 w2 w3 w4 w5 w6 w7 wd f1 f2 f3 f4 f5 f6 f7 f8 f9 f10 f11 f12 f13 f14 hpk
  simp only [encT, tailT, assocWritten, List.append_assoc] at h hpk ⊢
  obtain ⟨e1, h⟩ := fmt_step' (fs := headFmt) rfl f1 (fmtWF_of_plain _ _ rfl) h
  obtain ⟨e2, h⟩ := assoc_step wa f2 h
  obtain ⟨e3, h⟩ := ustr_step w1 f3 h
  obtain ⟨e4, h⟩ := fmt_step' (fs := [U 4]) rfl f4 (fmtWF_of_plain _ _ rfl) h
  obtain ⟨e5, h⟩ := fmt_step' (fs := bboxFmt) rfl f5 (fmtWF_of_plain _ _ rfl) h
  obtain ⟨e6, h⟩ := ustr_step w2 f6 h
  obtain ⟨e7, h⟩ := ustr_step w3 f7 h
  obtain ⟨e8, h⟩ := ustr_step w4 f8 h
  obtain ⟨e9, h⟩ := ustr_step w5 f9 h
  obtain ⟨e10, h⟩ := fmt_step' (fs := [Q]) rfl f10 w7 h
  obtain ⟨e11, h⟩ := ustr_step w6 f11 h
  obtain ⟨e12, h⟩ := fmt_step' (fs := [U 4, U 4]) rfl f12 (fmtWF_of_plain _ _ rfl) h
  obtain ⟨e13, h⟩ := fmt_step' (fs := argbFmt) rfl f13 (fmtWF_of_plain _ _ rfl) h
  have e14 := peek_step tb wd f14 h (fun hn => (hpk hn).cast (by simp only [List.length_append, Nat.add_assoc]))
  simp only [dec, bind, Except.bind, e1, e2, e3, e4, e5, e6, e7, e8, e9, e10, e11, e12, e13, e14]
  simp only [List.length_append, Nat.add_assoc]

/-- a slice on its own stream -/
theorem rt : (SliceV6.codec tb).RtAtEnd := by
  intro x hwf hf d p h hend
  exact (dec_step tb hwf hf h.nil_right (fun _ => Or.inl (by simp only [SliceV6.codec] at hend; omega))).1

theorem count : (SliceV6.codec tb).Count := encP_eq tb

/-- the first four bytes of a written slice are its id -/
theorem encT_head {y : SliceV6} (hf : Fits tb y) :
    ∃ tail, encT tb y = beBytes 4 (sliceId y).toNat ++ tail ∧ (sliceId y).toNat < 256 ^ 4 ∧ 0 ≤ sliceId y := by
  obtain ⟨f1, _⟩ := hf
  unfold encT sliceId
  generalize tailT tb y = t
  generalize y.head = head at f1 ⊢
  match head, f1 with
  | [.int a, .int b, .int c], f1 =>
    simp only [headFmt, U, fmtFits, FT.Fits] at f1
    refine ⟨(beBytes 4 b.toNat ++ (beBytes 4 c.toNat ++ [])) ++ t, ?_, f1.1.2, f1.1.1⟩
    simp only [headFmt, U, fmtT, FT.encT, Row.int, List.getD, List.getElem?_cons_zero, Option.getD_some,
      FV.toInt, List.append_assoc]

end SliceV6

namespace SlicesV6
variable (tb : Descriptor.Tables)

theorem items_at (items : List SliceV6) (hwf : ∀ s ∈ items, SliceV6.WF tb s) (hf : listFits (SliceV6.Fits tb) items)
    (hch : chainOK items) {d : B} {p : Nat} (h : At d p (listT (SliceV6.encT tb) items))
    (hend : p + (listT (SliceV6.encT tb) items).length = d.length) :
    readCount (SliceV6.dec tb) items.length d p = .ok (items, p + (listT (SliceV6.encT tb) items).length) := by
  induction items generalizing p with
  | nil => simp [readCount, listT]
  | cons x xs ih =>
    simp only [listT] at h hend ⊢
    have hpk : x.data.isNone → SliceV6.NoPeek d (p + (SliceV6.encT tb x).length) (listT (SliceV6.encT tb) xs) := by
      intro hnone
      cases xs with
      | nil =>
        simp only [listT, List.length_append, List.length_nil, Nat.add_zero] at hend
        exact Or.inl (by omega)
      | cons y ys =>
        obtain ⟨tail, hy, hlt, hnn⟩ := SliceV6.encT_head tb (hf y (by simp))
        have hne : SliceV6.sliceId y ≠ 16 := (show _ ∧ _ from hch).1 hnone
        refine Or.inr ⟨(SliceV6.sliceId y).toNat, tail ++ listT (SliceV6.encT tb) ys, by omega, hlt, ?_⟩
        simp only [listT, hy, List.append_assoc]
    obtain ⟨e1, h'⟩ := SliceV6.dec_step tb (hwf x (by simp)) (hf x (by simp)) h hpk
    have hch' : chainOK xs := by
      cases xs with
      | nil => trivial
      | cons y ys => exact (show _ ∧ _ from hch).2
    have e2 := ih (fun s hs => hwf s (by simp [hs])) (fun s hs => hf s (by simp [hs])) hch' h'
      (by simp only [List.length_append] at hend; omega)
    simp only [List.length_cons, readCount, e1, e2, List.length_append, Nat.add_assoc]

theorem encP_eq (x : SlicesV6) : encP tb x = (encT tb x, (encT tb x).length) := by
  simp only [encP, encT]
  rw [wList_eq _ (SliceV6.encT tb) x.items (fun s _ => SliceV6.encP_eq tb s)]
  simp only [ustr_count _, wBytes_eq, wSeq_eq, List.append_assoc]

theorem dec_at_end {x : SlicesV6} (hwf : WF tb x) (hf : Fits tb x) {d : B} {p : Nat} (h : At d p (encT tb x))
    (hend : p + (encT tb x).length = d.length) : dec tb d p = .ok (x, p + (encT tb x).length) := by
  obtain ⟨w1, w2, w3⟩ := hwf
  obtain ⟨f1, f2, f3, f4⟩ := hf
  simp only [encT] at h hend ⊢
  obtain ⟨e1, h⟩ := fmt_step' (fs := SliceV6.bboxFmt) rfl f1 (fmtWF_of_plain _ _ rfl) h
  obtain ⟨e2, h⟩ := ustr_step w1 f2 h
  obtain ⟨e3, h⟩ := readU_step h f3
  have e4 := items_at tb x.items w2 f4 w3 h (by simp only [List.length_append, length_beBytes] at hend; omega)
  simp only [dec, bind, Except.bind, e1, e2, e3, e4]
  simp only [List.length_append, length_beBytes, Nat.add_assoc]

theorem rt : (codec tb).RtAtEnd := fun _ hwf hf _ _ h hend => dec_at_end tb hwf hf h hend
theorem count : (codec tb).Count := encP_eq tb

end SlicesV6

namespace Slices
variable (tb : Descriptor.Tables)

theorem rt : (codec tb).RtAtEnd := by
  intro x hwf hf d p h hend
  obtain ⟨version, data⟩ := x
  obtain ⟨hv, hshape⟩ := hwf
  obtain ⟨fv, fd⟩ := hf
  simp only [codec, encT] at h hend hv fv fd ⊢
  obtain ⟨e1, h1⟩ := readU_step h fv
  cases data with
  | v6 s =>
    simp only [dataT, dataFits, length_beBytes, List.length_append] at h1 hend hshape fd ⊢
    obtain ⟨rfl, hs⟩ := hshape
    have e2 := SlicesV6.dec_at_end tb hs fd h1 (by omega)
    simp only [dec, bind, Except.bind, e1, if_pos hv, if_true, e2, consumed, Nat.add_assoc]
  | desc b =>
    simp only [dataT, dataFits] at h1 hshape fd ⊢
    obtain ⟨hne, hb⟩ := hshape
    have e2 := Descriptor.Block.dec_at (pad := 1) hb fd h1
    simp only [dec, bind, Except.bind, e1, if_pos hv, if_neg hne, e2, consumed, Nat.add_assoc]

theorem dataP_eq (x : SlicesData) : dataP tb x = (dataT tb x, (dataT tb x).length) := by
  cases x with
  | v6 s => exact SlicesV6.encP_eq tb s
  | desc b => exact Descriptor.Block.encW_eq tb 1 b

theorem count : (codec tb).Count := by
  intro x
  simp only [codec, encP, encT, dataP_eq, wBytes_eq, wSeq_eq]

end Slices

/-! ## descriptor blocks as payloads -/

theorem DescriptorResource.rt (tb : Descriptor.Tables) : (DescriptorResource.codec tb).RtAnywhere :=
  fun _ hwf hf _ _ h => Descriptor.Block.dec_at hwf hf h
theorem DescriptorResource.count (tb : Descriptor.Tables) : (DescriptorResource.codec tb).Count :=
  fun b => Descriptor.Block.encW_eq tb 1 b

theorem DescriptorPayload.rt (tb : Descriptor.Tables) (pad : Nat) : (DescriptorPayload.codec tb pad).RtAnywhere :=
  fun _ hwf hf _ _ h => Descriptor.Block.dec_at hwf hf h
theorem DescriptorPayload.count (tb : Descriptor.Tables) (pad : Nat) : (DescriptorPayload.codec tb pad).Count :=
  fun b => Descriptor.Block.encW_eq tb pad b

theorem Descriptor2Payload.rt (tb : Descriptor.Tables) (pad : Nat) : (Descriptor2Payload.codec tb pad).RtAnywhere :=
  fun _ hwf hf _ _ h => Descriptor.Block2.dec_at hwf hf h
theorem Descriptor2Payload.count (tb : Descriptor.Tables) (pad : Nat) : (Descriptor2Payload.codec tb pad).Count :=
  fun b => Descriptor.Block2.encW_eq tb pad b

end PsdVerif.Payload3
