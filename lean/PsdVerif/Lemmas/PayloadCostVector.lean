/-
C06 — the counting twins of Model/PayloadCostVector.lean (path records, `Path`, `VectorMaskSetting`) erase to the readers
of Model/Payload3Vector.lean and obey the cost judgement with the constants recorded in their `CC.hand`.

The record reader is a recursion through a count-driven loop (`Subpath.read` reads `length` records through the same
dispatch). The generic rule `readCountC_cost` would add the body's constants to the coefficient once per nesting level;
instead the records are shown to satisfy the judgement with slack of Lemmas/PayloadCost2.lean (`Slack 1 2 4 26`): a record that was read cost at most
`2 · 26 − 1`, so that it also pays the tick of the loop iteration that read it. A loop over such records then costs
`2 · (bytes consumed)` with NO additive constant (`readCountC_slack`), whatever the count, and the induction on the fuel
closes with the same constants at every depth. Fuel: every record consumes its selector before it recurses, so
`len(data) − cursor + 1` is enough at every level; `Err.other` is excluded by the judgement.
-/
import PsdVerif.Model.PayloadCostVector
import PsdVerif.Lemmas.PayloadCostSimple

namespace PsdVerif.PayloadCost
open PsdVerif PsdVerif.Codec PsdVerif.PsdCost PsdVerif.Payload PsdVerif.Payload3 PsdVerif.Safe PsdVerif.SafeCost

/-! ## path records -/

theorem PItem.decFuelC_fst : ∀ (fuel : Nat) (d : B) (p : Nat), (PItem.decFuelC fuel d p).1 = PItem.decFuel fuel d p := by
  intro fuel
  induction fuel with
  | zero => intro d p; rfl
  | succ fuel ih =>
    intro d p
    unfold PItem.decFuelC PItem.decFuel
    refine erase_seq (readUC_fst ..) fun sel p => ?_
    dsimp only
    cases kindOf sel with
    | none => rfl
    | some kd =>
      cases kd with
      | fill =>
        dsimp only
        refine erase_seq (readSkipC_fst ..) fun _ p => ?_
        rfl
      | initial =>
        dsimp only
        refine erase_seq (fmtDecC_fst ..) fun r p => ?_
        rfl
      | clipboard =>
        dsimp only
        refine erase_seq (fmtDecC_fst ..) fun r p => ?_
        rfl
      | knot =>
        dsimp only
        refine erase_ok tick_fst ?_
        refine erase_ok tick_fst ?_
        refine erase_seq (fmtDecC_fst ..) fun r p => ?_
        rfl
      | subpath =>
        dsimp only
        refine erase_seq (readUC_fst ..) fun n p => ?_
        refine erase_seq (fmtDecC_fst ..) fun head p => ?_
        refine erase_seq (readCountC_fst (ih) n d p) fun items p => ?_
        rfl

theorem PItem.decC_fst (d : B) (p : Nat) : (PItem.decC d p).1 = PItem.dec d p := PItem.decFuelC_fst _ d p

/-- the rest of a record after its selector: 24 bytes, at most three steps -/
theorem tail24 {β : Type} {d : B} {p : Nat} {x : CE (β × Nat)} (h : Cost 1 3 24 d p x) : Slack 0 2 4 24 d p x :=
  Slack.of_cost h (by intro n hn; omega) (by decide) (by decide)

/-- every record, at every depth: its 26 bytes pay for its reads and for the iteration that read it; the fuel
`remaining + 1` is never exhausted; no declared count appears -/
theorem PItem.decFuelC_slack (d : B) : ∀ (fuel p : Nat), p ≤ d.length → d.length - p + 1 ≤ fuel →
    Slack 1 2 4 26 d p (PItem.decFuelC fuel d p) := by
  intro fuel
  induction fuel with
  | zero => intro p hp hf; omega
  | succ fuel ih =>
    intro p hp hf
    unfold PItem.decFuelC
    refine Slack.bind (k₁ := 2) (k₂ := 24) (readUC_cost 2) ?_ (by intro n hn; omega) (by decide) (by decide) (by decide)
    intro sel p₁ h1 hp₁
    have q1 := ((readUC_cost 2 (d := d) (p := p)).of_ok h1).1
    dsimp only
    cases kindOf sel with
    | none => exact Slack.error (by decide)
    | some kd =>
      cases kd with
      | fill =>
        refine tail24 ?_
        exact (Cost.map (g := fun _ => PItem.fill) (readSkipC_cost 24)).mono (by decide) (by decide) (by decide)
      | initial =>
        refine tail24 ?_
        exact (Cost.map (g := PItem.initial) (fmtDecC_cost initFmt)).mono (by decide) (by decide) (by decide)
      | clipboard =>
        refine tail24 ?_
        exact (Cost.map (g := PItem.clipboard) (fmtDecC_cost clipFmt)).mono (by decide) (by decide) (by decide)
      | knot =>
        refine tail24 (Cost.mono (a' := 1) (b' := 1 + 1 + 1) (k' := fmtSize knotFmt) ?_ (by decide) (by decide) (by decide))
        apply Cost.tick
        apply Cost.tick
        exact Cost.map (g := PItem.knot sel) (fmtDecC_cost knotFmt)
      | subpath =>
        refine Slack.bind (k₁ := 2) (k₂ := 22) (readUC_cost 2) ?_ (by intro n hn; omega) (by decide) (by decide) (by decide)
        intro n p₂ h2 hp₂
        have q2 := ((readUC_cost 2 (d := d) (p := p₁)).of_ok h2).1
        refine Slack.bind (k₁ := 22) (k₂ := 0) ((fmtDecC_cost subFmt).mono (Nat.le_refl 1) (Nat.le_refl 1) (by decide : 22 ≤ fmtSize subFmt))
          ?_ (by intro n hn; omega) (by decide) (by decide) (by decide)
        intro head p₃ h3 hp₃
        have q3 := ((fmtDecC_cost subFmt (d := d) (p := p₂)).of_ok h3).1
        refine Slack.map (g := PItem.subpath sel head) ?_
        exact readCountC_slack n p₃ hp₃ (fun q hq hq' => ih q hq' (by omega))

theorem PItem.decC_cost : CostR 2 4 26 PItem.decC := fun d p hp =>
  (PItem.decFuelC_slack d (d.length + 1) p hp (by omega)).cost

/-- the fuel of `PItem.dec` is never exhausted -/
theorem PItem.dec_ne_other (d : B) (p : Nat) (hp : p ≤ d.length) : PItem.dec d p ≠ .error .other := by
  rw [← PItem.decC_fst]
  exact (PItem.decC_cost d p hp).ne_other

theorem PItem.cc_c : PItem.cc.c = PItem.codec := rfl
theorem PItem.cc_sound : PItem.cc.Sound := CC.hand_sound PItem.decC_fst PItem.decC_cost

/-! ## Path -/

theorem Path.decC_fst (pad : Nat) (d : B) (p : Nat) : (Path.decC d p).1 = (Path.codec pad).dec d p :=
  readWhileC_fst (isReadableC_fst 26) (optItemC_fst PItem.decC_fst) d p

theorem Path.decC_cost : CostR 34 60 0 Path.decC := fun d p hp =>
  (readWhileC_cost 26 (fun q hq => optItemC_cost (PItem.decC_cost d q hq)) (by decide) p hp).mono
    (by decide) (by decide) (by decide)

theorem Path.cc_c (pad : Nat) : (Path.cc pad).c = Path.codec pad := rfl
theorem Path.cc_sound (pad : Nat) : (Path.cc pad).Sound := CC.hand_sound (Path.decC_fst pad) Path.decC_cost

/-! ## VectorMaskSetting -/

theorem VectorMaskSetting.decC_fst (d : B) (p : Nat) : (VectorMaskSetting.decC d p).1 = VectorMaskSetting.dec d p := by
  unfold VectorMaskSetting.decC VectorMaskSetting.dec
  refine erase_seq (fmtDecC_fst ..) fun h p => ?_
  refine erase_ite (fun _ => ?_) fun _ => rfl
  refine erase_seq (Path.decC_fst 4 d p) fun path p => ?_
  rfl

theorem VectorMaskSetting.decC_cost : CostR 34 61 8 VectorMaskSetting.decC := by
  intro d p hp
  apply Cost.mono
  case h =>
    unfold VectorMaskSetting.decC
    cbind (fmtDecC_cost VectorMaskSetting.headFmt)
    celse
    cbind (Path.decC_cost d _ (by assumption))
    cdone
  cside

theorem VectorMaskSetting.cc_c : VectorMaskSetting.cc.c = VectorMaskSetting.codec := rfl
theorem VectorMaskSetting.cc_sound : VectorMaskSetting.cc.Sound :=
  CC.hand_sound VectorMaskSetting.decC_fst VectorMaskSetting.decC_cost

/-! ## the unit's table -/

/-- `Path`, the record classes of `vector.TYPES` (all read through the dispatch `PItem.decC`), `VectorMaskSetting` -/
def vectorTable : List (String × Sh) := [
  ("Path", (Path.cc 4).sh),
  ("ClosedPath", PItem.cc.sh), ("OpenPath", PItem.cc.sh),
  ("ClosedKnotLinked", PItem.cc.sh), ("ClosedKnotUnlinked", PItem.cc.sh),
  ("OpenKnotLinked", PItem.cc.sh), ("OpenKnotUnlinked", PItem.cc.sh),
  ("PathFillRule", PItem.cc.sh), ("ClipboardRecord", PItem.cc.sh), ("InitialFillRule", PItem.cc.sh),
  ("VectorMaskSetting", VectorMaskSetting.cc.sh)]

theorem vector_body_progress : vectorTable.all (fun e => e.2.bodyProgress) = true := by decide

end PsdVerif.PayloadCost
