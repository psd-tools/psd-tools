/-
C06 — the typed counting reader (Model/OpenCost.lean) REFINES the skeleton reader: `PSD.readT` returns exactly what
`PSD.read` returns, or it ends in an exception other than `Err.other` (in the proofs: one that a payload hook raised; the
statement `Sim` does not record where it came from). In particular
the typed reader never runs out of fuel (`Err.other`), because the skeleton never does (Lemmas/Safe3.lean) and a
payload never does (hypothesis on the hooks, discharged per class by the `Cost` judgement).

`Sim t u`: the outcomes agree, or `t` is an exception other than `Err.other`.
-/
import PsdVerif.Model.OpenCost
import PsdVerif.Lemmas.SafeCost4
import PsdVerif.Lemmas.Safe3

namespace PsdVerif.OpenCost
open PsdVerif PsdVerif.Codec PsdVerif.Psd PsdVerif.PsdCost PsdVerif.Safe PsdVerif.SafeCost

def Sim {α : Type} (t u : Except Err α) : Prop := t = u ∨ ∃ e, t = .error e ∧ e ≠ .other

theorem Sim.rfl' {α : Type} (t : Except Err α) : Sim t t := Or.inl rfl

theorem Sim.of_eq {α : Type} {t u : Except Err α} (h : t = u) : Sim t u := Or.inl h

theorem Sim.of_ok {α : Type} {t u : Except Err α} {v : α} (h : Sim t u) (ht : t = .ok v) : u = .ok v := by
  rcases h with h | ⟨e, he, _⟩
  · rw [← h, ht]
  · rw [ht] at he; cases he

theorem Sim.ne_other {α : Type} {t u : Except Err α} (h : Sim t u) (hu : u ≠ .error .other) : t ≠ .error .other := by
  rcases h with h | ⟨e, he, hne⟩
  · rw [h]; exact hu
  · rw [he]; intro h'; cases h'; exact hne rfl

def HookOk (x : CE Unit) : Prop := x.1 ≠ .error .other

theorem Sim.bind {α β : Type} {m₁ m₂ : CE β} {f₁ f₂ : β → CE α} (hm : Sim m₁.1 m₂.1)
    (hf : ∀ x, m₁.1 = .ok x → Sim (f₁ x).1 (f₂ x).1) : Sim (m₁ >>= f₁).1 (m₂ >>= f₂).1 := by
  rw [bind_fst, bind_fst]
  rcases hm with h | ⟨e, he, hne⟩
  · rw [← h]
    cases h1 : m₁.1 with
    | error e => exact Or.inl rfl
    | ok x => exact hf x h1
  · rw [he]
    exact Or.inr ⟨e, rfl, hne⟩

theorem Sim.bind_same {α β : Type} {m : CE β} {f₁ f₂ : β → CE α}
    (hf : ∀ x, m.1 = .ok x → Sim (f₁ x).1 (f₂ x).1) : Sim (m >>= f₁).1 (m >>= f₂).1 :=
  Sim.bind (Sim.rfl' _) hf

/-- a payload run on the typed side only -/
theorem Sim.hook {α : Type} {h : CE Unit} {f : Unit → CE α} {u : Except Err α} (hh : HookOk h)
    (hf : Sim (f ()).1 u) : Sim (h >>= f).1 u := by
  rw [bind_fst]
  cases h1 : h.1 with
  | error e => exact Or.inr ⟨e, rfl, fun he => hh (by rw [h1, he])⟩
  | ok x => exact hf

theorem sim_readCountC {α : Type} {i₁ i₂ : RC α} (hi : ∀ d p, Sim (i₁ d p).1 (i₂ d p).1) (n : Nat) (d : B) (p : Nat) :
    Sim (readCountC i₁ n d p).1 (readCountC i₂ n d p).1 := by
  induction n generalizing p with
  | zero => exact Sim.rfl' _
  | succ n ih =>
    unfold readCountC
    refine Sim.bind_same fun _ _ => ?_
    refine Sim.bind (hi d p) fun ⟨a, p1⟩ _ => ?_
    refine Sim.bind (ih p1) fun ⟨as, p2⟩ _ => ?_
    exact Sim.rfl' _

theorem sim_readWhileFuelC {α : Type} {cond : B → Nat → CE Bool} {i₁ i₂ : RC (Option α)}
    (hi : ∀ d p, Sim (i₁ d p).1 (i₂ d p).1) (fuel : Nat) (d : B) (p : Nat) :
    Sim (readWhileFuelC cond i₁ fuel d p).1 (readWhileFuelC cond i₂ fuel d p).1 := by
  induction fuel generalizing p with
  | zero => exact Sim.rfl' _
  | succ fuel ih =>
    unfold readWhileFuelC
    refine Sim.bind_same fun _ _ => ?_
    refine Sim.bind_same fun c _ => ?_
    split
    · refine Sim.bind (hi d p) fun ⟨o, p1⟩ _ => ?_
      cases o with
      | none => exact Sim.rfl' _
      | some a =>
        dsimp only
        refine Sim.bind (ih p1) fun ⟨as, p2⟩ _ => ?_
        exact Sim.rfl' _
    · exact Sim.rfl' _

theorem sim_readWhileC {α : Type} {cond : B → Nat → CE Bool} {i₁ i₂ : RC (Option α)}
    (hi : ∀ d p, Sim (i₁ d p).1 (i₂ d p).1) (d : B) (p : Nat) :
    Sim (readWhileC cond i₁ d p).1 (readWhileC cond i₂ d p).1 := sim_readWhileFuelC hi _ d p

theorem sim_optItemC {α : Type} {i₁ i₂ : RC α} (hi : ∀ d p, Sim (i₁ d p).1 (i₂ d p).1) (d : B) (p : Nat) :
    Sim (optItemC i₁ d p).1 (optItemC i₂ d p).1 := by
  unfold optItemC
  exact Sim.bind (hi d p) fun _ _ => Sim.rfl' _

/-! ### the typed readers against the readers of Model/PsdCost.lean -/

section
variable {pl : BlockHook} (hpl : ∀ v key data, HookOk (pl v key data))
include hpl

theorem sim_tagged (v pad : Nat) (d : B) (p : Nat) :
    Sim (TaggedBlock.decT pl v pad d p).1 (PsdCost.TaggedBlock.decC v pad d p).1 := by
  unfold TaggedBlock.decT PsdCost.TaggedBlock.decC
  refine Sim.bind_same fun ⟨sig, p1⟩ _ => ?_
  dsimp only
  split
  · refine Sim.bind_same fun ⟨key, p2⟩ _ => ?_
    refine Sim.bind_same fun ⟨data, p3⟩ _ => ?_
    exact Sim.hook (hpl v key data) (Sim.rfl' _)
  · exact Sim.rfl' _

theorem sim_taggedBlocks (v pad : Nat) (e : Option Nat) (d : B) (p : Nat) :
    Sim (taggedBlocksDecT pl v pad e d p).1 (taggedBlocksDecC v pad e d p).1 := by
  unfold taggedBlocksDecT taggedBlocksDecC
  exact Sim.bind (sim_readWhileC (sim_tagged hpl v pad) d p) fun _ _ => Sim.rfl' _

theorem sim_extra (v : Nat) (d : B) (p : Nat) :
    Sim (LayerRecord.extraDecT pl v d p).1 (PsdCost.LayerRecord.extraDecC v d p).1 := by
  unfold LayerRecord.extraDecT PsdCost.LayerRecord.extraDecC
  refine Sim.bind_same fun ⟨mask, p⟩ _ => ?_
  refine Sim.bind_same fun ⟨ranges, p⟩ _ => ?_
  refine Sim.bind_same fun ⟨name, p⟩ _ => ?_
  exact Sim.bind (sim_taggedBlocks hpl v 1 none d p) fun _ _ => Sim.rfl' _

theorem sim_layerRecord (v : Nat) (d : B) (p : Nat) :
    Sim (LayerRecord.decT pl v d p).1 (PsdCost.LayerRecord.decC v d p).1 := by
  unfold LayerRecord.decT PsdCost.LayerRecord.decC
  refine Sim.bind_same fun ⟨top, p⟩ _ => ?_
  refine Sim.bind_same fun ⟨left, p⟩ _ => ?_
  refine Sim.bind_same fun ⟨bottom, p⟩ _ => ?_
  refine Sim.bind_same fun ⟨right, p⟩ _ => ?_
  refine Sim.bind_same fun ⟨n, p⟩ _ => ?_
  refine Sim.bind_same fun ⟨cis, p⟩ _ => ?_
  refine Sim.bind_same fun ⟨sig, p⟩ _ => ?_
  refine Sim.bind_same fun ⟨bm, p⟩ _ => ?_
  refine Sim.bind_same fun ⟨opacity, p⟩ _ => ?_
  refine Sim.bind_same fun ⟨clipping, p⟩ _ => ?_
  refine Sim.bind_same fun ⟨fl, p⟩ _ => ?_
  refine Sim.bind_same fun ⟨data, p⟩ _ => ?_
  refine Sim.bind_same fun _ _ => ?_
  exact Sim.bind (sim_extra hpl v data 0) fun _ _ => Sim.rfl' _

theorem sim_layerInfoBody (v : Nat) (d : B) (p : Nat) :
    Sim (LayerInfo.bodyDecT pl v d p).1 (PsdCost.LayerInfo.bodyDecC v d p).1 := by
  unfold LayerInfo.bodyDecT PsdCost.LayerInfo.bodyDecC
  refine Sim.bind_same fun ⟨count, p⟩ _ => ?_
  refine Sim.bind (sim_readCountC (sim_layerRecord hpl v) _ d p) fun ⟨records, p⟩ _ => ?_
  exact Sim.rfl' _

theorem sim_layerInfo (v : Nat) (d : B) (p : Nat) :
    Sim (LayerInfo.decT pl v d p).1 (PsdCost.LayerInfo.decC v d p).1 := by
  unfold LayerInfo.decT PsdCost.LayerInfo.decC
  refine Sim.bind_same fun ⟨length, p⟩ _ => ?_
  dsimp only
  refine Sim.bind ?_ fun _ _ => Sim.rfl' _
  split
  · exact Sim.rfl' _
  · exact Sim.bind (sim_layerInfoBody hpl v d p) fun _ _ => Sim.rfl' _

theorem sim_layerAndMaskBody (v e : Nat) (d : B) (p : Nat) :
    Sim (LayerAndMask.bodyDecT pl v e d p).1 (PsdCost.LayerAndMask.bodyDecC v e d p).1 := by
  unfold LayerAndMask.bodyDecT PsdCost.LayerAndMask.bodyDecC
  refine Sim.bind (sim_layerInfo hpl v d p) fun ⟨li, p⟩ _ => ?_
  dsimp only
  split
  · refine Sim.bind_same fun ⟨glm, p⟩ _ => ?_
    exact Sim.bind (sim_taggedBlocks hpl v 4 (some e) d p) fun _ _ => Sim.rfl' _
  · exact Sim.rfl' _

theorem sim_layerAndMask (v : Nat) (d : B) (p : Nat) :
    Sim (LayerAndMask.decT pl v d p).1 (PsdCost.LayerAndMask.decC v d p).1 := by
  unfold LayerAndMask.decT PsdCost.LayerAndMask.decC
  refine Sim.bind_same fun ⟨length, p⟩ _ => ?_
  dsimp only
  refine Sim.bind ?_ fun _ _ => Sim.rfl' _
  split
  · exact Sim.rfl' _
  · exact sim_layerAndMaskBody hpl v _ d p

end

section
variable {rs : ResHook} (hrs : ∀ key data, HookOk (rs key data))
include hrs

theorem sim_resource (d : B) (p : Nat) : Sim (Resource.decT rs d p).1 (PsdCost.Resource.decC d p).1 := by
  unfold Resource.decT PsdCost.Resource.decC
  refine Sim.bind_same fun ⟨sig, p⟩ _ => ?_
  refine Sim.bind_same fun ⟨key, p⟩ _ => ?_
  refine Sim.bind_same fun ⟨name, p⟩ _ => ?_
  refine Sim.bind_same fun ⟨data, p⟩ _ => ?_
  exact Sim.hook (hrs key data) (Sim.rfl' _)

theorem sim_resources (d : B) (p : Nat) : Sim (resourcesDecT rs d p).1 (resourcesDecC d p).1 := by
  unfold resourcesDecT resourcesDecC
  refine Sim.bind_same fun ⟨data, p⟩ _ => ?_
  refine Sim.bind_same fun _ _ => ?_
  exact Sim.bind (sim_readWhileC (sim_optItemC (sim_resource hrs)) data 0) fun _ _ => Sim.rfl' _

end

theorem sim_psd {pl : BlockHook} {rs : ResHook} (hpl : ∀ v key data, HookOk (pl v key data))
    (hrs : ∀ key data, HookOk (rs key data)) (d : B) (p : Nat) : Sim (PSD.readT pl rs d p).1 (PSD.read d p) := by
  rw [← psd_fst]
  unfold PSD.readT PsdCost.PSD.readC
  refine Sim.bind_same fun ⟨header, p⟩ _ => ?_
  refine Sim.bind_same fun ⟨cmd, p⟩ _ => ?_
  refine Sim.bind (sim_resources hrs d p) fun ⟨res, p⟩ _ => ?_
  refine Sim.bind (sim_layerAndMask hpl header.version d p) fun ⟨lm, p⟩ _ => ?_
  exact Sim.rfl' _

/-! ### `X.frombytes(data)`: `with io.BytesIO(data) as f: X.read(f)`, the value dropped -/

/-- the copy of the block, then what `X.read` costs -/
theorem run_w {α : Type} (data : B) (x : CE (α × Nat)) :
    (do enterBlock data; let (_, _) ← x; CE.ok () : CE Unit).2.w = 1 + data.length + x.2.w := by
  rw [bind_ok' (enterBlock_fst data)]
  cases h : x.1 with
  | error e => rw [bind_err' h]; exact (w_add ..).trans (by rw [enterBlock_w])
  | ok y => rw [bind_ok' h]; exact (w_add ..).trans (by rw [enterBlock_w, w_add]; rfl)

theorem run_ne_other {α : Type} (data : B) {x : CE (α × Nat)} (hx : x.1 ≠ .error .other) :
    (do enterBlock data; let (_, _) ← x; CE.ok () : CE Unit).1 ≠ .error .other := by
  rw [bind_ok' (enterBlock_fst data)]
  cases h : x.1 with
  | error e => rw [bind_err' h]; intro h'; cases h'; exact hx h
  | ok y => rw [bind_ok' h]; intro h'; cases h'

/-! ### the hooks of `plOf` never report `Err.other` -/

/-- the registered payload classes never run out of fuel -/
def Hooks.Ok (h : Hooks) : Prop :=
  (∀ v key f data, h.blk v key = some f → HookOk (f data)) ∧ (∀ key f data, h.res key = some f → HookOk (f data))

theorem runOpt_ok {o : Option (B → CE Unit)} (ho : ∀ f data, o = some f → HookOk (f data)) (data : B) :
    HookOk (runOpt o data) := by
  unfold runOpt
  cases o with
  | none => intro h; cases h
  | some f => exact ho f data rfl

theorem plOf_ok {h : Hooks} (hh : h.Ok) (D : Nat) (v : Nat) (key data : B) : HookOk (plOf h D v key data) := by
  induction D generalizing v key data with
  | zero =>
    unfold plOf
    split
    · intro h'; cases h'
    · exact runOpt_ok (fun f data hf => hh.1 v key f data hf) data
  | succ D ih =>
    unfold plOf
    split
    · have hs := sim_layerInfoBody (pl := plOf h D) (fun v key data => ih v key data) v data 0
      have hne : (PsdCost.LayerInfo.bodyDecC v data 0).1 ≠ .error .other := by
        rw [layerInfoBody_fst]
        exact (layerInfoBody_good v data 0).errIn.ne_other
      exact run_ne_other data (hs.ne_other hne)
    · exact runOpt_ok (fun f data hf => hh.1 v key f data hf) data

theorem rsOf_ok {h : Hooks} (hh : h.Ok) (key : Nat) (data : B) : HookOk (rsOf h key data) :=
  runOpt_ok (fun f data hf => hh.2 key f data hf) data

/-- `PSDImage.open` on the model: the skeleton's document when no payload raises; never `Err.other` -/
theorem open_sim {h : Hooks} (hh : h.Ok) (D : Nat) (b : B) : Sim (open_ h D b).1 (PSD.read b 0) :=
  sim_psd (plOf_ok hh D) (rsOf_ok hh) b 0

theorem open_never_other {h : Hooks} (hh : h.Ok) (D : Nat) (b : B) : (open_ h D b).1 ≠ .error .other :=
  (open_sim hh D b).ne_other ((psd_errIn b 0).ne_other)

end PsdVerif.OpenCost
