/-
C06 — the counting twins of Model/PayloadCostPatterns.lean erase to the readers of Model/PayloadPatterns.lean and obey
the cost judgement with the constants recorded in their `CC.hand`. The nested runs (`with io.BytesIO(data) as f`) are
accounted with `Cost.bindBlock` / `Inner` of Lemmas/PayloadCostEffects.lean.
-/
import PsdVerif.Model.PayloadCostPatterns
import PsdVerif.Lemmas.PayloadCostEffects

namespace PsdVerif.PayloadCost
open PsdVerif PsdVerif.Codec PsdVerif.PsdCost PsdVerif.Payload PsdVerif.Payload3 PsdVerif.Safe PsdVerif.SafeCost

/-! ## VirtualMemoryArray -/

theorem VMA.decC_fst (d : B) (p : Nat) : (VMA.decC d p).1 = VMA.dec d p := by
  unfold VMA.decC VMA.dec
  refine erase_seq (readUC_fst ..) fun iw p => ?_
  refine erase_ite (fun _ => rfl) fun _ => ?_
  refine erase_seq (readUC_fst ..) fun length p => ?_
  refine erase_ite (fun _ => rfl) fun _ => ?_
  refine erase_seq (readUC_fst ..) fun depth p => ?_
  refine erase_seq (readCountC_fst (readUC_fst 4) ..) fun rect p => ?_
  refine erase_seq (readUC_fst ..) fun pd p => ?_
  refine erase_seq (readUC_fst ..) fun comp p => ?_
  refine erase_seq (readPyC_fst ..) fun data p => ?_
  exact erase_ite (fun _ => rfl) fun _ => rfl

/-- a virtual memory array consumes its `is_written` word: ≥ 4 bytes -/
theorem VMA.decC_cost : CostR 1 14 4 VMA.decC := by
  intro d p hp
  apply Cost.mono
  case h =>
    unfold VMA.decC
    cbind (readUC_cost 4)
    apply Cost.ite <;> intro _
    · cdone
    · cbind (readUC_cost 4)
      apply Cost.ite <;> intro _
      · cdone
      · cbind (readUC_cost 4)
        cbind (readCountC_cost_fixed (fun q _ => readUC_cost 4) 4 _ (by assumption))
        cbind (readUC_cost 2)
        cbind (readUC_cost 1)
        cbind (readPyC_cost _)
        celse
        cdone
  cside

theorem VMA.cc_c : VMA.cc.c = VMA.codec := rfl
theorem VMA.cc_sound : VMA.cc.Sound := CC.hand_sound VMA.decC_fst VMA.decC_cost

/-! ## VirtualMemoryArrayList -/

theorem VMAL.decC_fst (d : B) (p : Nat) : (VMAL.decC d p).1 = VMAL.dec d p := by
  simp only [VMAL.decC, VMAL.dec, fst_bind, ok_fst, error_fst, ite_fst, except_ok_bind, readUC_fst, readLenBlockC_fst,
    enterBlock_fst, readCountC_fst (readUC_fst 4), readCountC_fst VMA.decC_fst]

theorem VMAL.decC_cost : CostR 18 30 8 VMAL.decC := by
  intro d p hp
  apply Cost.mono
  case h =>
    unfold VMAL.decC
    cbind (readUC_cost 4)
    celse
    apply Cost.bindBlock ‹_›; intro _ _ _ _
    apply Cost.ofInner (by assumption)
    apply Inner.enter
    cstep Inner.bind (readCountC_cost_fixed (fun q _ => readUC_cost 4) 4 _ (Nat.zero_le _))
    cstep Inner.bind (readUC_cost 4)
    cstep Inner.bind (readCountC_cost (fun q hq => VMA.decC_cost _ q hq) (by decide : 1 ≤ 4) _ _ (by assumption))
    exact Inner.ok _ rfl
  cside

theorem VMAL.cc_c : VMAL.cc.c = VMAL.codec := rfl
theorem VMAL.cc_sound : VMAL.cc.Sound := CC.hand_sound VMAL.decC_fst VMAL.decC_cost

/-! ## Pattern -/

theorem Pattern.decC_fst (d : B) (p : Nat) : (Pattern.decC d p).1 = Pattern.dec d p := by
  unfold Pattern.decC Pattern.dec
  refine erase_seq (readUC_fst ..) fun version p => ?_
  refine erase_ite (fun _ => ?_) fun _ => rfl
  refine erase_seq (readUC_fst ..) fun mode p => ?_
  refine erase_ite (fun _ => ?_) fun _ => rfl
  refine erase_seq (readCountC_fst readI16C_fst ..) fun point p => ?_
  refine erase_seq (readUStrC_fst ..) fun name p => ?_
  refine erase_seq (readPascalC_fst ..) fun pid p => ?_
  refine erase_ite (fun _ => ?_) fun _ => rfl
  refine erase_seq (erase_ite (fun _ => ?_) fun _ => rfl) fun table p => ?_
  · refine erase_seq (readCountC_fst (readCountC_fst (readUC_fst 1) 3) ..) fun rows p => ?_
    refine erase_seq (readSkipC_fst ..) fun _ p => ?_
    rfl
  · refine erase_seq (VMAL.decC_fst ..) fun data p => ?_
    rfl

theorem Pattern.decC_cost : CostR 18 1835 25 Pattern.decC := by
  intro d p hp
  apply Cost.mono
  case h =>
    unfold Pattern.decC
    cbind (readUC_cost 4)
    celse
    cbind (readUC_cost 4)
    celse
    cbind (readCountC_cost_fixed (fun q _ => readI16C_cost) 2 _ (by assumption))
    cbind (readUStrC_cost 1)
    cbind (readPascalC_cost 1)
    celse
    apply Cost.bind
    · apply Cost.ite <;> intro _
      · cbind (readCountC_cost_fixed (fun q hq => readCountC_cost_fixed (fun q _ => readUC_cost 1) 3 q hq) 256 _ (by assumption))
        cbind (readSkipC_cost 4)
        cdone
      · exact Cost.ok _ (by assumption)
    · intro _ _ _ _
      dsimp only
      cbind (VMAL.decC_cost d _ (by assumption))
      cdone
  cside

theorem Pattern.cc_c : Pattern.cc.c = Pattern.codec := rfl
theorem Pattern.cc_sound : Pattern.cc.Sound := CC.hand_sound Pattern.decC_fst Pattern.decC_cost

/-! ## Patterns -/

theorem Patterns.itemDecC_fst (d : B) (p : Nat) :
    (Patterns.itemDecC d p).1 = (do
      let (data, p) ← readLenBlock 0 4 4 d p
      let (x, _) ← Pattern.dec data 0
      .ok (some x, p) : Except Err (Option Pattern × Nat)) := by
  simp only [Patterns.itemDecC, fst_bind, ok_fst, except_ok_bind, readLenBlockC_fst, enterBlock_fst, Pattern.decC_fst]

/-- an item consumes the length of its block: ≥ 4 bytes -/
theorem Patterns.itemDecC_cost : CostR 20 1840 4 Patterns.itemDecC := by
  intro d p hp
  apply Cost.mono
  case h =>
    unfold Patterns.itemDecC
    apply Cost.bindBlock ‹_›; intro _ _ _ _
    apply Cost.ofInner (by assumption)
    apply Inner.enter
    cstep Inner.bind (Pattern.decC_cost _ 0 (Nat.zero_le _))
    exact Inner.ok _ rfl
  cside

theorem Patterns.decC_fst (d : B) (p : Nat) : (Patterns.decC d p).1 = Patterns.codec.dec d p := by
  unfold Patterns.decC Patterns.codec
  dsimp only
  exact readWhileC_fst (isReadableC_fst 4) Patterns.itemDecC_fst d p

theorem Patterns.decC_cost : CostR 1866 1852 0 Patterns.decC := by
  intro d p hp
  unfold Patterns.decC
  exact (readWhileC_cost 4 (fun q hq => Patterns.itemDecC_cost d q hq) (by decide) p hp).mono
    (by decide) (by decide) (by decide)

theorem Patterns.cc_c : Patterns.cc.c = Patterns.codec := rfl
theorem Patterns.cc_sound : Patterns.cc.Sound := CC.hand_sound Patterns.decC_fst Patterns.decC_cost

/-! ## the unit -/

def patternsTable : List (String × Sh) :=
  [("VirtualMemoryArray", VMA.cc.sh), ("VirtualMemoryArrayList", VMAL.cc.sh), ("Pattern", Pattern.cc.sh),
   ("Patterns", Patterns.cc.sh)]

theorem patterns_body_progress : patternsTable.all (fun e => e.2.bodyProgress) = true := by decide

end PsdVerif.PayloadCost
