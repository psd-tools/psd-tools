/-
C01 (typed documents) — Model/TypedBlocks.lean, continued from Lemmas/TypedBlocks1.lean: the typed layer record and the typed layer info on what their
writers wrote (the record: `recRead_step` of Lemmas/CodecPsd2.lean with the typed block list; the layer info: the argument of
`LayerInfoBlock.dec_at`, Lemmas/PayloadLayerInfo1.lean, with the typed record reader), the law of `payKit` from the law of the
kit below it, and the law at every level.
-/
import PsdVerif.Lemmas.TypedBlocks1

namespace PsdVerif.Typed
open PsdVerif.Codec PsdVerif.Psd PsdVerif.Payload

/-! ### lists -/

theorem channelListDec_congr : ∀ (a b : List LayerRecord), a.map LayerRecord.channelInfo = b.map LayerRecord.channelInfo →
    channelImageDec a = channelImageDec b := by
  intro a
  induction a with
  | nil => intro b h; cases b with
    | nil => rfl
    | cons _ _ => simp at h
  | cons x a ih =>
    intro b h
    cases b with
    | nil => simp at h
    | cons y b =>
      simp only [List.map_cons, List.cons.injEq] at h
      funext d p
      have := ih b h.2
      unfold channelImageDec at this ⊢
      simp only [readFor, h.1, this]

/-! ## the typed layer record -/

namespace Rec
variable {P : Type} {K : Kit P}

theorem flat_refresh (hK : K.Law) (v : Nat) (r : Rec P) : (r.refresh K).flat K v = r.flat K v := by
  simp only [flat, refresh, map_flat_refresh hK]

theorem extraDec_eq_extraRead (K : Kit P) (v : Nat) : extraDec K v = extraRead (blksDec K v 1) := rfl

theorem dec_eq_recRead (K : Kit P) (v : Nat) :
    dec K v = recRead (extraDec K v) (fun mk tbs => (mk [], (⟨mk [], tbs⟩ : Rec P))) v := rfl

/-- `LayerRecord.read` with the typed block reader on what `LayerRecord.write` wrote: the record with its blocks as their
writers left them -/
theorem dec_step (hK : K.Law) {v : Nat} {r : Rec P} (hwf : (r.flat K v).WF v) (hty : r.Typed K v) {d : B} {p : Nat} {rest : B}
    (hat : At d p ((r.flat K v).encT v ++ rest)) :
    dec K v d p = .ok (r.refresh K, p + ((r.flat K v).encT v).length) ∧ At d (p + ((r.flat K v).encT v).length) rest := by
  obtain ⟨base, blocks⟩ := r
  obtain ⟨hR, hty⟩ := hty
  obtain ⟨hvalid, hfits, hci, hm, hr, ht⟩ := hwf
  obtain ⟨top, left, bottom, right, cis, sig, bm, opacity, clipping, flags, mask, ranges, name, tbs⟩ := base
  simp only at hR hty
  subst hR
  have hx : ∃ q, extraDec K v ((Rec.flat K v ⟨⟨top, left, bottom, right, cis, sig, bm, opacity, clipping, flags, mask, ranges,
      name, []⟩, blocks⟩).extraT v) 0 = .ok ((mask, ranges, name, blocks.map (Blk.refresh K)), q) := by
    simp only [LayerRecord.extraT, LayerRecord.extraUnpaddedT, flat, ← blksT_flat, extraDec_eq_extraRead]
    exact extraRead_at hm hfits.mask hr hfits.name
      (fun h hs => blksDec_at hK (Or.inl rfl) ht hty none h (fun e he => by cases he) hs)
      (Nat.lt_trans (padAmount_lt _ 2 (by decide)) (by decide))
  rw [dec_eq_recRead]
  exact recRead_step hvalid hfits hci hx hvalid hat

end Rec

/-! ## the typed layer info -/

namespace Info
variable {P : Type} {K : Kit P}

theorem refreshRecords_map_flat (K : Kit P) (v : Nat) : ∀ (recs : List (Rec P)) (css : List (List ChannelData)),
    refreshRecords (recs.map (Rec.flat K v)) css = (refreshRecsCI recs css).map (Rec.flat K v) := by
  intro recs
  induction recs with
  | nil => intro css; cases css <;> rfl
  | cons r recs ih =>
    intro css
    cases css with
    | nil => rfl
    | cons cs css =>
      simp only [List.map_cons, refreshRecords, refreshRecsCI, ih css]
      rfl

theorem refreshRecsCI_map_refresh (K : Kit P) : ∀ (recs : List (Rec P)) (css : List (List ChannelData)),
    refreshRecsCI (recs.map (Rec.refresh K)) css = (refreshRecsCI recs css).map (Rec.refresh K) := by
  intro recs
  induction recs with
  | nil => intro css; cases css <;> rfl
  | cons r recs ih =>
    intro css
    cases css with
    | nil => rfl
    | cons cs css =>
      simp only [List.map_cons, refreshRecsCI, ih css]
      rfl

theorem typed_of_mem_refreshRecsCI (K : Kit P) (v : Nat) : ∀ (recs : List (Rec P)) (css : List (List ChannelData)),
    (∀ r ∈ recs, r.Typed K v) → ∀ r ∈ refreshRecsCI recs css, r.Typed K v := by
  intro recs
  induction recs with
  | nil => intro css _ r hr; cases css <;> simp [refreshRecsCI] at hr
  | cons r0 recs ih =>
    intro css h r hr
    cases css with
    | nil => exact h r hr
    | cons cs css =>
      simp only [refreshRecsCI, List.mem_cons] at hr
      rcases hr with rfl | hr
      · exact h r0 (by simp)
      · exact ih css (fun x hx => h x (by simp [hx])) r hr

theorem map_flat_map_refresh (hK : K.Law) (v : Nat) (recs : List (Rec P)) :
    (recs.map (Rec.refresh K)).map (Rec.flat K v) = recs.map (Rec.flat K v) := by
  simp only [List.map_map]
  apply List.map_congr_left
  intro r _
  exact Rec.flat_refresh hK v r

theorem flat_deep (hK : K.Law) (v : Nat) (li : Info P) : (deep K li).flat K v = li.flat K v := by
  obtain ⟨n, rs, css⟩ := li
  cases rs with
  | none => rfl
  | some rs => simp only [deep, flat, Option.map_some, map_flat_map_refresh hK]

/-- `refreshRecsCI` leaves an empty side alone: `blockRefresh` without its case split on empty lists -/
theorem blockRefresh_some (K : Kit P) (n : Int) (rs : List (Rec P)) (css : List (List ChannelData)) :
    blockRefresh K ⟨n, some rs, some css⟩ = ⟨n, some ((refreshRecsCI rs css).map (Rec.refresh K)), some css⟩ := by
  rw [← refreshRecsCI_map_refresh]
  cases rs <;> cases css <;> rfl

/-- the skeleton view of the object after `LayerInfoBlock.write` is the skeleton's object after `write` -/
theorem flat_blockRefresh (hK : K.Law) (v : Nat) (li : Info P) :
    (li.blockRefresh K).flat K v = Payload.blockRefresh (li.flat K v) := by
  obtain ⟨n, rs, css⟩ := li
  cases rs with
  | none => rfl
  | some rs =>
    cases css with
    | none =>
      cases rs with
      | nil => rfl
      | cons r rs =>
        simp only [blockRefresh, deep, flat, Option.map_some, map_flat_map_refresh hK, Payload.blockRefresh, List.map_cons,
          Rec.flat_refresh hK]
    | some css =>
      have hs : Payload.blockRefresh ⟨n, some (rs.map (Rec.flat K v)), some css⟩ =
          ⟨n, some (refreshRecords (rs.map (Rec.flat K v)) css), some css⟩ := by cases rs <;> cases css <;> rfl
      rw [blockRefresh_some]
      simp only [flat, Option.map_some, hs, map_flat_map_refresh hK, refreshRecords_map_flat]

/-- the same for the main layer info -/
theorem flat_refresh (hK : K.Law) (v : Nat) (li : Info P) : (li.refresh K).flat K v = (li.flat K v).refresh := by
  by_cases h0 : li.layerCount = 0
  · have h0' : (li.flat K v).layerCount = 0 := h0
    simp only [refresh, LayerInfo.refresh, if_pos h0, if_pos h0']
  · have h0' : ¬ (li.flat K v).layerCount = 0 := h0
    have hb := flat_blockRefresh hK v li
    simp only [refresh, LayerInfo.refresh, if_neg h0, if_neg h0']
    exact hb

theorem payloadFits_refreshRecsCI (K : Kit P) (v : Nat) : ∀ (recs : List (Rec P)) (css : List (List ChannelData)),
    (∀ r ∈ refreshRecsCI recs css, Rec.payloadFits K v r) ↔ ∀ r ∈ recs, Rec.payloadFits K v r := by
  intro recs
  induction recs with
  | nil => intro css; cases css <;> exact Iff.rfl
  | cons r recs ih =>
    intro css
    cases css with
    | nil => exact Iff.rfl
    | cons cs css =>
      simp only [refreshRecsCI, List.forall_mem_cons, ih css]
      exact Iff.rfl

theorem payloadFits_map_refresh (hK : K.Law) (v : Nat) (recs : List (Rec P)) :
    (∀ r ∈ recs.map (Rec.refresh K), Rec.payloadFits K v r) ↔ ∀ r ∈ recs, Rec.payloadFits K v r := by
  simp only [List.forall_mem_map, Rec.payloadFits, Rec.refresh, Blk.refresh, hK.fits_refresh]

/-- the payload widths of the nested blocks do not change when the object is refreshed -/
theorem payloadFits_blockRefresh (hK : K.Law) (v : Nat) (li : Info P) :
    (li.blockRefresh K).payloadFits K v ↔ li.payloadFits K v := by
  obtain ⟨n, rs, css⟩ := li
  cases rs with
  | none => exact Iff.rfl
  | some rs =>
    cases css with
    | none => cases rs <;> exact payloadFits_map_refresh hK v _
    | some css =>
      rw [blockRefresh_some]
      exact (payloadFits_map_refresh hK v _).trans (payloadFits_refreshRecsCI K v rs css)

theorem payloadFits_refresh (hK : K.Law) (v : Nat) (li : Info P) :
    (li.refresh K).payloadFits K v ↔ li.payloadFits K v := by
  by_cases h0 : li.layerCount = 0
  · simp only [refresh, if_pos h0]
  · have := payloadFits_blockRefresh hK v li
    simp only [refresh, if_neg h0]
    exact this

/-- `LayerInfo._read_body` with the typed record reader on what `LayerInfoBlock.write` (= `_write_body`) wrote, anywhere in
a stream: the object as the writers left it; the cursor stops where the body ends -/
theorem bodyDec_at (hK : K.Law) {v pad : Nat} {li : Info P} (hwf : LayerInfoBlock.WF v (li.flat K v)) (hty : li.Typed K v)
    (hf : LayerInfoBlock.Fits v (li.flat K v)) {d : B} {p : Nat} (hat : At d p (LayerInfoBlock.encT v pad (li.flat K v))) :
    bodyDec K v d p = .ok (li.blockRefresh K, p + LayerInfoBlock.bodyLen v (li.flat K v)) := by
  obtain ⟨n, rs, css⟩ := li
  unfold LayerInfoBlock.WF at hwf
  cases rs with
  | none => simp [flat] at hwf
  | some recs =>
    cases css with
    | none => simp [flat] at hwf
    | some css =>
      simp only [flat, Option.map_some] at hwf hf hat ⊢
      obtain ⟨hcount, hshape, hrecs, hch⟩ := hwf
      obtain ⟨g1, _, _⟩ := hf
      simp only at g1
      simp only [Typed, optAll] at hty
      have href := Payload.blockRefresh_of_shapes n (recs.map (Rec.flat K v)) css hshape
      rw [blockRefresh_some]
      unfold LayerInfoBlock.encT LayerInfoBlock.bodyLen at *
      rw [href] at hat ⊢
      rw [refreshRecords_map_flat] at hat hrecs ⊢
      generalize hR : refreshRecsCI recs css = R at *
      have hRlen : R.length = n.natAbs := by
        have := length_refreshRecords (recs.map (Rec.flat K v)) css
        rw [refreshRecords_map_flat, hR] at this
        simp only [List.length_map] at this hcount
        omega
      have hRty : ∀ r ∈ R, r.Typed K v := by
        rw [← hR]; exact typed_of_mem_refreshRecsCI K v recs css hty
      have hun : LayerInfo.bodyUnpaddedT v ⟨n, some (R.map (Rec.flat K v)), some css⟩ =
          i16T n ++ (listT (fun r => (Rec.flat K v r).encT v) R ++ channelImageT css) := by
        simp only [LayerInfo.bodyUnpaddedT, optListT_listT, optListT_channelImageT, List.append_assoc, listT_map]
      simp only [LayerInfo.bodyT, hun, List.append_assoc] at hat
      obtain ⟨e2, hat⟩ := readI16_step hat g1
      have e3 := readCount_map_at (Rec.dec K v) (fun r => (Rec.flat K v r).encT v) (Rec.refresh K) R
        (fun r hr d p h => (Rec.dec_step hK (hrecs _ (List.mem_map_of_mem hr)) (hRty r hr) h.nil_right).1) hat.left
      have hat := hat.right
      rw [hRlen] at e3
      have e4 := channelImageDec_at (recs.map (Rec.flat K v)) css hshape hch hat.left
      rw [refreshRecords_map_flat, hR] at e4
      have hcong : channelImageDec ((R.map (Rec.refresh K)).map Rec.base) = channelImageDec (R.map (Rec.flat K v)) := by
        apply channelListDec_congr
        simp only [List.map_map]
        rfl
      simp only [bodyDec, bind, Except.bind, e2, e3, hcong, e4, hun, List.length_append, length_i16T, Except.ok.injEq,
        Prod.mk.injEq, true_and]
      omega

end Info

/-! ## the kit of `Pay P` from the kit of `P` -/

section pay
variable {P : Type} {K : Kit P} (tb : Descriptor.Tables)

theorem payKit_law (hK : K.Law) : (payKit tb K).Law where
  rt := by
    intro version pad key x hwf hf
    cases x with
    | raw b =>
      simp only [payKit, Pay.WF] at hwf
      simp only [payKit, Pay.dec, hwf, Pay.encT, Pay.refresh]
    | cls c v =>
      simp only [payKit, Pay.WF] at hwf
      simp only [payKit, Pay.Fits] at hf
      have e := TClass.rt tb pad c v hwf.2 hf ((c.codec tb pad).encT v) 0 (At.self _) (by omega)
      rw [TClass.dec_pad] at e
      simp only [payKit, Pay.dec, hwf.1, Pay.encT, Pay.refresh, e]
    | info li =>
      simp only [payKit, Pay.WF] at hwf
      simp only [payKit, Pay.Fits] at hf
      have e := Info.bodyDec_at hK (pad := innerPad pad) hwf.2.1 hwf.2.2 hf.1 (At.self _)
      simp only [payKit, Pay.dec, hwf.1, Pay.encT, Pay.refresh, e]
  encT_refresh := by
    intro version pad x
    cases x with
    | raw b => rfl
    | cls c v => rfl
    | info li =>
      simp only [payKit, Pay.encT, Pay.refresh, Info.flat_blockRefresh hK, LayerInfoBlock.encT_refresh]
  fits_refresh := by
    intro version pad x
    cases x with
    | raw b => exact Iff.rfl
    | cls c v => exact Iff.rfl
    | info li =>
      simp only [payKit, Pay.Fits, Pay.refresh, Info.flat_blockRefresh hK, LayerInfoBlock.Fits_refresh]
      apply and_congr_right
      intro _
      exact Info.payloadFits_blockRefresh hK version li
  count := by
    intro version pad x
    cases x with
    | raw b => rfl
    | cls c v => exact TClass.count tb pad c v
    | info li => exact LayerInfoBlock.encP_eq version (innerPad pad) (li.flat K version)

end pay

/-! ## every level -/

theorem kitBelow_law (tb : Descriptor.Tables) : ∀ n, (kitBelow tb n).Law
  | 0 => emptyKit_law
  | n + 1 => payKit_law tb (kitBelow_law tb n)

theorem kitN_law (tb : Descriptor.Tables) (n : Nat) : (kitN tb n).Law := payKit_law tb (kitBelow_law tb n)

/-! ## the main layer info: `LayerInfo.read` (length prefix, count-0 shortcut) around the typed body reader -/

namespace Info
variable {P : Type} {K : Kit P}

theorem skeleton_refresh_of_count {li : LayerInfo} (h0 : ¬ li.layerCount = 0) : li.refresh = Payload.blockRefresh li := by
  unfold LayerInfo.refresh Payload.blockRefresh
  rw [if_neg h0]
  obtain ⟨n, rs, css⟩ := li
  rcases rs with _ | (_ | ⟨r, rs⟩) <;> rcases css with _ | (_ | ⟨c, cs⟩) <;> rfl

theorem refresh_of_count {li : Info P} (h0 : ¬ li.layerCount = 0) : li.refresh K = li.blockRefresh K := by
  unfold refresh blockRefresh
  rw [if_neg h0]

theorem blockRefresh_layerCount (li : Info P) : (li.blockRefresh K).layerCount = li.layerCount := by
  unfold blockRefresh; split <;> rfl

/-- `LayerInfo.read` with the typed record reader on what `LayerInfo.write` wrote -/
theorem dec_step (hK : K.Law) {v pad : Nat} {li : Info P} (hwf : (li.flat K v).WF v pad) (hty : li.Typed K v)
    {d : B} {p : Nat} {rest : B} (hat : At d p ((li.flat K v).encT v pad ++ rest)) :
    dec K v d p = .ok (li.refresh K, p + ((li.flat K v).encT v pad).length) ∧
      At d (p + ((li.flat K v).encT v pad).length) rest := by
  refine ⟨?_, hat.right⟩
  have hat := hat.left
  have hw := secW_pos v
  by_cases h0 : li.layerCount = 0
  · have h0' : (li.flat K v).layerCount = 0 := h0
    unfold LayerInfo.WF at hwf
    unfold LayerInfo.encT at hat ⊢
    simp only [h0', if_true] at hwf hat ⊢
    have hpos : (0 : Nat) < 256 ^ secW v := Nat.pow_pos (by decide)
    have e1 := readU_at hat hpos
    have hno : ¬ overflows (p + secW v) d :=
      not_overflows_of_le (by have := hat.bound; simp only [length_beBytes] at this; omega)
    obtain ⟨n, rs, css⟩ := li
    simp only [flat] at hwf
    simp only at h0
    subst h0
    obtain ⟨hr, hc⟩ := hwf
    cases rs with
    | some _ => simp at hr
    | none =>
      subst hc
      simp only [dec, bind, Except.bind, e1, if_true, refresh, length_beBytes, Nat.add_zero, Nat.le_refl, if_neg hno]
  · have h0' : ¬ (li.flat K v).layerCount = 0 := h0
    have hsk := skeleton_refresh_of_count h0'
    unfold LayerInfo.WF at hwf
    unfold LayerInfo.encT at hat ⊢
    simp only [if_neg h0'] at hwf hat ⊢
    rw [hsk] at hat ⊢
    have hbw : LayerInfoBlock.WF v (li.flat K v) ∧ LayerInfoBlock.Fits v (li.flat K v) ∧
        FitsU (secW v) ((Payload.blockRefresh (li.flat K v)).bodyT v pad).length := by
      generalize li.flat K v = s at hwf hsk ⊢
      obtain ⟨n, rs, css⟩ := s
      cases rs with
      | none => simp at hwf
      | some rs =>
        cases css with
        | none => simp at hwf
        | some css =>
          simp only at hwf
          obtain ⟨hcount, hshape, hrecs, hch, hfits⟩ := hwf
          rw [hsk] at hfits
          obtain ⟨g1, g2, g3, g4⟩ := hfits
          refine ⟨⟨hcount, hshape, hrecs, hch⟩, ⟨?_, g2, ?_⟩, g4⟩
          · simpa [Payload.blockRefresh_layerCount] using g1
          · simpa [Payload.blockRefresh_channels] using g3
    obtain ⟨hbwf, hbf, g4⟩ := hbw
    have hbody : (Payload.blockRefresh (li.flat K v)).bodyT v pad = LayerInfoBlock.encT v pad (li.flat K v) := rfl
    rw [hbody] at hat g4 ⊢
    generalize hB : LayerInfoBlock.encT v pad (li.flat K v) = body at *
    have hlen := LayerInfoBlock.length_encT v pad (li.flat K v)
    rw [hB] at hlen
    have hbl : 2 ≤ LayerInfoBlock.bodyLen v (li.flat K v) := by
      unfold LayerInfoBlock.bodyLen LayerInfo.bodyUnpaddedT
      simp only [List.length_append, length_i16T]; omega
    have hne : ¬ body.length = 0 := by omega
    unfold lenBlockT at hat
    simp only [zeros, List.replicate_zero, List.nil_append, List.append_assoc] at hat
    obtain ⟨e1, hat⟩ := readU_step hat g4
    have hat := hat.left
    have hno : ¬ overflows (p + secW v + body.length) d :=
      not_overflows_of_le (by have := hat.bound; omega)
    have e2 := bodyDec_at hK (pad := pad) hbwf hty hbf (hB ▸ hat)
    have hnc : normCount0 (li.blockRefresh K) = li.blockRefresh K := by
      unfold normCount0
      rw [if_neg (by rw [blockRefresh_layerCount]; exact h0)]
    have hle : p + secW v + LayerInfoBlock.bodyLen v (li.flat K v) ≤ p + secW v + body.length := by omega
    simp only [dec, bind, Except.bind, e1, if_neg hne, e2, hnc, if_pos hle, if_neg hno, refresh_of_count h0]
    simp only [length_lenBlockT, padAmount_one, Except.ok.injEq, Prod.mk.injEq, true_and]
    omega

end Info

end PsdVerif.Typed
