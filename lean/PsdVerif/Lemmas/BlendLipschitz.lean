/-
C12, hue / saturation: the published `SetLum(·, L)` is Lipschitz in its colour argument
(`specSetLum_lipschitz`), so the `tol δ` error of the first stage (`_set_sat`) stays bounded
through the second stage (`setLum_setSat_near_spec`).  `ClipColor` on colours of luminosity `L` is a
radial scaling towards `(L, L, L)` by the largest factor `ρ ≤ 1` that keeps the colour in `[0,1]³`
(`rho_zero_maximal`).
-/
import PsdVerif.Lemmas.BlendNonSep

namespace PsdVerif.Blend

/-- scale factors `ρ' ≤ ρ`, the first maximal (`ρ' d' = s`), the second admissible (`ρ d ≤ s`), for extents
`d, d'` that differ by at most `σ`: they differ little on everything within `κ d'` -/
theorem scale_gap {ρ ρ' d d' s σ κ w : Rat} (r0 : 0 ≤ ρ) (r1 : ρ ≤ 1) (hle : ρ' ≤ ρ) (hκ : 0 ≤ κ)
    (hσ : 0 ≤ σ) (F : ρ * d ≤ s) (F' : ρ' * d' = s) (hd : d' - d ≤ σ) (hw : w ≤ κ * d') :
    (ρ - ρ') * w ≤ κ * σ := by
  have h1 : ρ * (d' - d) ≤ ρ * σ := mul_le_mul_of_nonneg_left hd r0
  have h2 : ρ * σ ≤ 1 * σ := mul_le_mul_of_nonneg_right r1 hσ
  calc (ρ - ρ') * w ≤ (ρ - ρ') * (κ * d') := mul_le_mul_of_nonneg_left hw (sub_nonneg.mpr hle)
    _ = κ * ((ρ - ρ') * d') := by ring
    _ ≤ κ * σ := mul_le_mul_of_nonneg_left (by linarith) hκ

/-- Two colours of the same luminosity `L`, componentwise `σ`-close (`v, v'` a pair of components, `n, n'` the
least, `x, x'` the greatest), scaled towards `L` by factors `ρ' ≤ ρ`, where `ρ` keeps its colour in `[0,1]`
(`F2`, `F3`) and `ρ'` is the largest factor that does (`F4'`): the results are `(1+κ)σ`-close. -/
theorem radial_step_half {L σ κ ρ ρ' n n' x x' v v' : Rat} (hκ : 0 < κ)
    (hρ : unit ρ) (hle : ρ' ≤ ρ)
    (F2 : ρ * (L - n) ≤ L) (F3 : ρ * (x - L) ≤ 1 - L)
    (F4' : ρ' = 1 ∨ ρ' * (L - n') = L ∨ ρ' * (x' - L) = 1 - L)
    (hn : |n - n'| ≤ σ) (hx : |x - x'| ≤ σ) (hv : |v - v'| ≤ σ)
    (b1' : |v' - L| ≤ κ * (L - n')) (b2' : |v' - L| ≤ κ * (x' - L)) :
    |ρ * (v - L) - ρ' * (v' - L)| ≤ (1 + κ) * σ := by
  obtain ⟨r0, r1⟩ := hρ
  have hσ : 0 ≤ σ := le_trans (abs_nonneg _) hv
  have key : (ρ - ρ') * |v' - L| ≤ κ * σ := by
    rcases F4' with h | h | h
    · rw [h, le_antisymm r1 (h ▸ hle), sub_self, zero_mul]; exact mul_nonneg hκ.le hσ
    · exact scale_gap r0 r1 hle hκ.le hσ F2 h (by linarith [(abs_le.mp hn).2]) b1'
    · exact scale_gap r0 r1 hle hκ.le hσ F3 h (by linarith [(abs_le.mp hx).1]) b2'
  calc |ρ * (v - L) - ρ' * (v' - L)| = |ρ * (v - v') + (ρ - ρ') * (v' - L)| := by congr 1; ring
    _ ≤ |ρ * (v - v')| + |(ρ - ρ') * (v' - L)| := abs_add_le _ _
    _ = ρ * |v - v'| + (ρ - ρ') * |v' - L| := by
        rw [abs_mul, abs_mul, abs_of_nonneg r0, abs_of_nonneg (sub_nonneg.mpr hle)]
    _ ≤ 1 * σ + κ * σ := add_le_add (mul_le_mul r1 hv (abs_nonneg _) zero_le_one) key
    _ = (1 + κ) * σ := by ring

/-- `radial_step_half` without the order of the factors: both are maximal -/
theorem radial_step {L σ κ ρ ρ' n n' x x' v v' : Rat} (hκ : 0 < κ)
    (hρ : unit ρ) (hρ' : unit ρ')
    (F2 : ρ * (L - n) ≤ L) (F3 : ρ * (x - L) ≤ 1 - L)
    (F2' : ρ' * (L - n') ≤ L) (F3' : ρ' * (x' - L) ≤ 1 - L)
    (F4 : ρ = 1 ∨ ρ * (L - n) = L ∨ ρ * (x - L) = 1 - L)
    (F4' : ρ' = 1 ∨ ρ' * (L - n') = L ∨ ρ' * (x' - L) = 1 - L)
    (hn : |n - n'| ≤ σ) (hx : |x - x'| ≤ σ) (hv : |v - v'| ≤ σ)
    (b1 : |v - L| ≤ κ * (L - n)) (b2 : |v - L| ≤ κ * (x - L))
    (b1' : |v' - L| ≤ κ * (L - n')) (b2' : |v' - L| ≤ κ * (x' - L)) :
    |ρ * (v - L) - ρ' * (v' - L)| ≤ (1 + κ) * σ := by
  rcases le_total ρ' ρ with h | h
  · exact radial_step_half hκ hρ h F2 F3 F4' hn hx hv b1' b2'
  · rw [abs_sub_comm]
    rw [abs_sub_comm] at hn hx hv
    exact radial_step_half hκ hρ' h F2' F3' F4 hn hx hv b1 b2

/-- a monotone functional of the components that commutes with shifts (`min3`, `max3`, `lum`) moves by at
most `t` between colours that are `t`-close -/
theorem near_of_mono_shift {F : RGB → Rat}
    (mono : ∀ a b : RGB, a.r ≤ b.r → a.g ≤ b.g → a.b ≤ b.b → F a ≤ F b)
    (shift : ∀ (c : RGB) (d : Rat), F (c.map (fun v => v + d)) = F c + d)
    {t : Rat} {a b : RGB} (h : RGB.near t a b) : |F a - F b| ≤ t := by
  obtain ⟨h1, h2⟩ := abs_le.mp h.1
  obtain ⟨h3, h4⟩ := abs_le.mp h.2.1
  obtain ⟨h5, h6⟩ := abs_le.mp h.2.2
  have ub := mono a (b.map (fun v => v + t)) (by unfold RGB.map; linarith) (by unfold RGB.map; linarith)
    (by unfold RGB.map; linarith)
  have lb := mono b (a.map (fun v => v + t)) (by unfold RGB.map; linarith) (by unfold RGB.map; linarith)
    (by unfold RGB.map; linarith)
  rw [shift] at ub lb
  exact abs_le.mpr ⟨by linarith, by linarith⟩

theorem min3_near {t : Rat} {a b : RGB} (h : RGB.near t a b) : |a.min3 - b.min3| ≤ t :=
  near_of_mono_shift (fun a b h1 h2 h3 => by rw [min3_eq, min3_eq]; exact min_le_min (min_le_min h1 h2) h3)
    min3_shift h
theorem max3_near {t : Rat} {a b : RGB} (h : RGB.near t a b) : |a.max3 - b.max3| ≤ t :=
  near_of_mono_shift (fun a b h1 h2 h3 => by rw [max3_eq, max3_eq]; exact max_le_max (max_le_max h1 h2) h3)
    max3_shift h
theorem lum_near {t : Rat} {a b : RGB} (h : RGB.near t a b) : |lum a - lum b| ≤ t :=
  near_of_mono_shift (fun a b h1 h2 h3 => by unfold lum; linarith) lum_shift h

/-- the published `ClipColor` is Lipschitz on colours of one luminosity `L ∈ [0,1]` and spread ≤ 1 -/
theorem specClip_lipschitz (a b : RGB) (L σ : Rat) (hL : unit L) (ha : lum a = L) (hb : lum b = L)
    (wa : a.max3 - a.min3 ≤ 1) (wb : b.max3 - b.min3 ≤ 1) (h : RGB.near σ a b) :
    RGB.near ((1 + 100 / 11) * σ) (Spec.clipColor a) (Spec.clipColor b) := by
  have hla : unit (lum a) := ha ▸ hL
  have hlb : unit (lum b) := hb ▸ hL
  obtain ⟨ra, F2, F3, F4⟩ := rho_zero_maximal a hla wa
  obtain ⟨rb, F2', F3', F4'⟩ := rho_zero_maximal b hlb wb
  rw [specClipColor_eq, specClipColor_eq, clipStep_eq 0 a hla wa, clipStep_eq 0 b hlb wb]
  have key : ∀ v w : Rat, a.min3 ≤ v → v ≤ a.max3 → b.min3 ≤ w → w ≤ b.max3 → |v - w| ≤ σ →
      |lum a + rho 0 a * (v - lum a) - (lum b + rho 0 b * (w - lum b))| ≤ (1 + 100 / 11) * σ := by
    intro v w v1 v2 w1 w2 hvw
    obtain ⟨b1, b2⟩ := comp_lum_bounds a v1 v2
    obtain ⟨b1', b2'⟩ := comp_lum_bounds b w1 w2
    rw [ha] at b1 b2 F2 F3 F4 ⊢; rw [hb] at b1' b2' F2' F3' F4' ⊢
    rw [add_sub_add_left_eq_sub]
    exact radial_step (by norm_num) ra rb F2 F3 F2' F3' F4 F4' (min3_near h) (max3_near h) hvw b1 b2 b1' b2'
  obtain ⟨n1, n2, n3⟩ := min3_le a
  obtain ⟨x1, x2, x3⟩ := le_max3 a
  obtain ⟨m1, m2, m3⟩ := min3_le b
  obtain ⟨y1, y2, y3⟩ := le_max3 b
  exact ⟨key _ _ n1 x1 m1 y1 h.1, key _ _ n2 x2 m2 y2 h.2.1, key _ _ n3 x3 m3 y3 h.2.2⟩

theorem specSetLum_lipschitz (X Y : RGB) (L τ : Rat) (hL : unit L)
    (wX : X.max3 - X.min3 ≤ 1) (wY : Y.max3 - Y.min3 ≤ 1) (h : RGB.near τ X Y) :
    RGB.near ((1 + 100 / 11) * (2 * τ)) (Spec.setLum X L) (Spec.setLum Y L) := by
  unfold Spec.setLum; simp only [← lum_eq_spec]
  have hl : |L - lum X - (L - lum Y)| ≤ τ := by
    rw [sub_sub_sub_cancel_left, abs_sub_comm]; exact lum_near h
  -- the shifts that bring both colours to luminosity `L` differ by at most `τ`, so the shifted colours by `2 τ`
  have key : ∀ x y : Rat, |x - y| ≤ τ → |x + (L - lum X) - (y + (L - lum Y))| ≤ 2 * τ :=
    fun x y hxy => by
      rw [add_sub_add_comm, two_mul]; exact (abs_add_le _ _).trans (add_le_add hxy hl)
  apply specClip_lipschitz _ _ L (2 * τ) hL
  · rw [lum_shift, add_sub_cancel]
  · rw [lum_shift, add_sub_cancel]
  · rwa [max3_shift, min3_shift, add_sub_add_right_eq_sub]
  · rwa [max3_shift, min3_shift, add_sub_add_right_eq_sub]
  · exact ⟨key _ _ h.1, key _ _ h.2.1, key _ _ h.2.2⟩

/-- `_set_sat` then `_set_lum` against the published `SetLum(SetSat(C, s), L)`: `10 ε` for `_clip_color` plus
the first stage's `tol δ` carried through the published `SetLum` -/
theorem setLum_setSat_near_spec (δ : Rat) (hδ : 0 < δ) (c : RGB) {s L : Rat} (hs : unit s) (hL : unit L)
    (hoff : offDiscSat δ c) :
    RGB.near (10 * eps + (1 + 100 / 11) * (2 * tol δ)) (setLum (setSat c s) L)
      (Spec.setLum (Spec.setSat c s) L) :=
  have hX := width_le_one (setSat_unit c hs)
  RGB.near_trans (setLum_near_spec _ _ hL hX)
    (specSetLum_lipschitz _ _ _ _ hL hX (width_le_one (specSetSat_unit c hs))
      (setSat_near_spec δ hδ c hs hoff))

end PsdVerif.Blend
