/-
C06 — the counting twins of Model/PayloadCostDesc.lean (the payload readers that call the descriptor reader) erase to
the readers of the payload models and obey the cost judgement with the constants recorded in their `CC.hand`.

`SliceV6` / `SlicesV6` / `Slices` do NOT obey it (`SliceV6.decC_not_cost`: a slice that succeeds is not paid by the bytes it
consumed, because its speculative descriptor read may scan everything that is left and then be undone). What holds:
`SliceV6.decC_left` (≤ 4 · bytes LEFT + 42, ≥ 69 bytes consumed on success), `SlicesV6.decC_left` and `Slices.decC_left`
(QUADRATIC in the bytes left, whatever the count). They are not in `descTable` (see `descNotLinear`).
-/
import PsdVerif.Model.PayloadCostDesc
import PsdVerif.Lemmas.DescriptorCost
import PsdVerif.Lemmas.PayloadCostEffects
import PsdVerif.Lemmas.Payload3Resources

namespace PsdVerif.PayloadCost
open PsdVerif PsdVerif.Codec PsdVerif.PsdCost PsdVerif.Payload PsdVerif.Payload3 PsdVerif.Safe PsdVerif.SafeCost

/-! ## tagged_blocks.py: MetadataSettings / MetadataSetting -/

theorem MetadataSetting.typedDataC_fst (tb : Descriptor.Tables) (key data : B) :
    (MetadataSetting.typedDataC tb key data).1 = MetadataSetting.typedData tb key data := by
  unfold MetadataSetting.typedDataC MetadataSetting.typedData
  split
  · refine erase_ok (enterBlock_fst data) ?_
    rw [bind_fst, readUC_fst]
    cases readU 4 data 0 with
    | error e => rfl
    | ok y => obtain ⟨n, q⟩ := y; rfl
  · split
    · refine erase_ok (enterBlock_fst data) ?_
      rw [bind_fst, DescriptorCost.Block.decC_fst]
      cases Descriptor.Block.dec tb data 0 with
      | error e => rfl
      | ok y => obtain ⟨blk, q⟩ := y; rfl
    · rfl

/-- the typed data costs at most five units per byte of the block (it is copied, then parsed as a descriptor) -/
theorem MetadataSetting.typedDataC_w (tb : Descriptor.Tables) (key data : B) :
    (MetadataSetting.typedDataC tb key data).2.w ≤ 5 * data.length + 8 ∧
    (MetadataSetting.typedDataC tb key data).1 ≠ .error .other := by
  unfold MetadataSetting.typedDataC
  split
  · have h := frombytes_inner (fun _ _ _ => readUC_cost 4) MetaData.int data
    exact ⟨Nat.le_trans h.w_le (by omega), h.2.2⟩
  · split
    · have h := frombytes_inner (DescriptorCost.Block.decC_cost tb) MetaData.desc data
      exact ⟨Nat.le_trans h.w_le (by omega), h.2.2⟩
    · exact ⟨Nat.zero_le _, by intro h; cases h⟩

theorem MetadataSetting.decC_fst (tb : Descriptor.Tables) (d : B) (p : Nat) :
    (MetadataSetting.decC tb d p).1 = MetadataSetting.dec tb d p := by
  simp only [MetadataSetting.decC, MetadataSetting.dec, fst_bind, ok_fst, error_fst, ite_fst, readNC_fst,
    readBoolC_fst, readSkipC_fst, readLenBlockC_fst, MetadataSetting.typedDataC_fst]

theorem MetadataSetting.decC_cost (tb : Descriptor.Tables) : CostR 6 16 16 (MetadataSetting.decC tb) := by
  intro d p hp
  apply Cost.mono
  case h =>
    unfold MetadataSetting.decC
    cbind (readNC_cost 4)
    celse
    apply Cost.bind (readNC_cost 4)
    intro key p2 _ _
    dsimp only
    cbind readBoolC_cost
    cbind (readSkipC_cost 3)
    apply Cost.bind_credit (c := 5) (a₂ := 0) (b₂ := 8) (k₂ := 0) (readLenBlockC_cost 0 4 1)
    intro data p5 h5 hp5
    dsimp only
    have hl := readLenBlockC_ok h5
    have hw := MetadataSetting.typedDataC_w tb key data
    exact (Cost.step (a := 0) (b := 0) (k := 0) hw.1 hw.2 fun x _ => Cost.ok _ hp5).mono
      (Nat.le_refl _) (by omega) (Nat.le_refl _)
  cside

theorem MetadataSetting.cc_c (tb : Descriptor.Tables) : (MetadataSetting.cc tb).c = MetadataSetting.codec tb := rfl
theorem MetadataSetting.cc_sound (tb : Descriptor.Tables) : (MetadataSetting.cc tb).Sound :=
  CC.hand_sound (MetadataSetting.decC_fst tb) (MetadataSetting.decC_cost tb)

theorem MetadataSettings.decC_fst (tb : Descriptor.Tables) (d : B) (p : Nat) :
    (MetadataSettings.decC tb d p).1 = (MetadataSettings.codec tb).dec d p := by
  unfold MetadataSettings.decC MetadataSettings.codec
  dsimp only
  refine erase_seq (readUC_fst ..) fun n p => ?_
  exact readCountC_fst (MetadataSetting.decC_fst tb) n d p

/-- an item that succeeds consumed ≥ 16 bytes: the bound does not mention the count -/
theorem MetadataSettings.decC_cost (tb : Descriptor.Tables) : CostR 23 18 4 (MetadataSettings.decC tb) := by
  intro d p hp
  apply Cost.mono
  case h =>
    unfold MetadataSettings.decC
    cbind (readUC_cost 4)
    exact readCountC_cost (fun q hq => MetadataSetting.decC_cost tb d q hq) (by decide) _ _ (by assumption)
  cside

theorem MetadataSettings.cc_c (tb : Descriptor.Tables) : (MetadataSettings.cc tb).c = MetadataSettings.codec tb := rfl
theorem MetadataSettings.cc_sound (tb : Descriptor.Tables) : (MetadataSettings.cc tb).Sound :=
  CC.hand_sound (MetadataSettings.decC_fst tb) (MetadataSettings.decC_cost tb)

/-! ## tagged_blocks.py: the classes that wrap descriptor blocks -/

theorem SmartObjectLayerData.decC_fst (tb : Descriptor.Tables) (d : B) (p : Nat) :
    (SmartObjectLayerData.decC tb d p).1 = SmartObjectLayerData.dec tb d p := by
  simp only [SmartObjectLayerData.decC, SmartObjectLayerData.dec, fst_bind, ok_fst, error_fst, ite_fst, readNC_fst,
    readUC_fst, DescriptorCost.Block.decC_fst]

theorem SmartObjectLayerData.decC_cost (tb : Descriptor.Tables) : CostR 4 9 24 (SmartObjectLayerData.decC tb) := by
  intro d p hp
  apply Cost.mono
  case h =>
    unfold SmartObjectLayerData.decC
    cbind (readNC_cost 4)
    cbind (readUC_cost 4)
    cbind (DescriptorCost.Block.decC_cost tb d _ (by assumption))
    celse
    cdone
  cside

theorem SmartObjectLayerData.cc_c (tb : Descriptor.Tables) (pad : Nat) :
    (SmartObjectLayerData.cc tb pad).c = SmartObjectLayerData.codec tb pad := rfl
theorem SmartObjectLayerData.cc_sound (tb : Descriptor.Tables) (pad : Nat) : (SmartObjectLayerData.cc tb pad).Sound :=
  CC.hand_sound (SmartObjectLayerData.decC_fst tb) (SmartObjectLayerData.decC_cost tb)

theorem PlacedLayerData.decC_fst (tb : Descriptor.Tables) (d : B) (p : Nat) :
    (PlacedLayerData.decC tb d p).1 = PlacedLayerData.dec tb d p := by
  unfold PlacedLayerData.decC PlacedLayerData.dec
  refine erase_seq (readNC_fst ..) fun kind p => ?_
  refine erase_seq (readUC_fst ..) fun version p => ?_
  refine erase_seq (readPascalC_fst ..) fun uuid p => ?_
  refine erase_seq (readUC_fst ..) fun page p => ?_
  refine erase_seq (readUC_fst ..) fun total p => ?_
  refine erase_seq (readUC_fst ..) fun aa p => ?_
  refine erase_seq (readUC_fst ..) fun lt p => ?_
  refine erase_seq (readCountC_fst readF64C_fst ..) fun tr p => ?_
  refine erase_seq (DescriptorCost.Block2.decC_fst ..) fun warp p => ?_
  exact erase_ite (fun _ => rfl) fun _ => rfl

theorem PlacedLayerData.decC_cost (tb : Descriptor.Tables) : CostR 4 33 109 (PlacedLayerData.decC tb) := by
  intro d p hp
  apply Cost.mono
  case h =>
    unfold PlacedLayerData.decC
    cbind (readNC_cost 4)
    cbind (readUC_cost 4)
    cbind (readPascalC_cost 1)
    cbind (readUC_cost 4)
    cbind (readUC_cost 4)
    cbind (readUC_cost 4)
    cbind (readUC_cost 4)
    cbind (readCountC_cost_fixed (fun q hq => readF64C_cost) 8 _ (by assumption))
    cbind (DescriptorCost.Block2.decC_cost tb d _ (by assumption))
    celse
    cdone
  cside

theorem PlacedLayerData.cc_c (tb : Descriptor.Tables) (pad : Nat) :
    (PlacedLayerData.cc tb pad).c = PlacedLayerData.codec tb pad := rfl
theorem PlacedLayerData.cc_sound (tb : Descriptor.Tables) (pad : Nat) : (PlacedLayerData.cc tb pad).Sound :=
  CC.hand_sound (PlacedLayerData.decC_fst tb) (PlacedLayerData.decC_cost tb)

theorem TypeToolObjectSetting.decC_fst (tb : Descriptor.Tables) (d : B) (p : Nat) :
    (TypeToolObjectSetting.decC tb d p).1 = TypeToolObjectSetting.dec tb d p := by
  unfold TypeToolObjectSetting.decC TypeToolObjectSetting.dec
  refine erase_seq (readUC_fst ..) fun version p => ?_
  refine erase_seq (readCountC_fst readF64C_fst ..) fun tr p => ?_
  refine erase_seq (readUC_fst ..) fun tv p => ?_
  refine erase_seq (DescriptorCost.Block.decC_fst ..) fun text p => ?_
  refine erase_seq (readUC_fst ..) fun wv p => ?_
  refine erase_seq (DescriptorCost.Block.decC_fst ..) fun warp p => ?_
  refine erase_seq (readI32C_fst ..) fun l p => ?_
  refine erase_seq (readI32C_fst ..) fun t p => ?_
  refine erase_seq (readI32C_fst ..) fun r p => ?_
  refine erase_seq (readI32C_fst ..) fun b p => ?_
  exact erase_ite (fun _ => rfl) fun _ => rfl

theorem TypeToolObjectSetting.decC_cost (tb : Descriptor.Tables) : CostR 4 33 102 (TypeToolObjectSetting.decC tb) := by
  intro d p hp
  apply Cost.mono
  case h =>
    unfold TypeToolObjectSetting.decC
    cbind (readUC_cost 2)
    cbind (readCountC_cost_fixed (fun q hq => readF64C_cost) 6 _ (by assumption))
    cbind (readUC_cost 2)
    cbind (DescriptorCost.Block.decC_cost tb d _ (by assumption))
    cbind (readUC_cost 2)
    cbind (DescriptorCost.Block.decC_cost tb d _ (by assumption))
    cbind readI32C_cost
    cbind readI32C_cost
    cbind readI32C_cost
    cbind readI32C_cost
    celse
    cdone
  cside

theorem TypeToolObjectSetting.cc_c (tb : Descriptor.Tables) (pad : Nat) :
    (TypeToolObjectSetting.cc tb pad).c = TypeToolObjectSetting.codec tb pad := rfl
theorem TypeToolObjectSetting.cc_sound (tb : Descriptor.Tables) (pad : Nat) : (TypeToolObjectSetting.cc tb pad).Sound :=
  CC.hand_sound (TypeToolObjectSetting.decC_fst tb) (TypeToolObjectSetting.decC_cost tb)

/-! ## linked_layer.py -/

theorem LinkedLayer.readTsC_fst (d : B) (p : Nat) : (LinkedLayer.readTsC d p).1 = LinkedLayer.readTs d p := by
  simp only [LinkedLayer.readTsC, LinkedLayer.readTs, fst_bind, ok_fst, readUC_fst, readCountC_fst (readUC_fst 1),
    readF64C_fst]

theorem LinkedLayer.readTsC_cost : CostR 1 10 16 LinkedLayer.readTsC := by
  intro d p hp
  apply Cost.mono
  case h =>
    unfold LinkedLayer.readTsC
    cbind (readUC_cost 4)
    cbind (readCountC_cost_fixed (fun q hq => readUC_cost 1) 4 _ (by assumption))
    cbind readF64C_cost
    cdone
  cside

theorem LinkedLayer.kindDecC_fst (tb : Descriptor.Tables) (kind : B) (version datasize : Nat) (d : B) (p : Nat) :
    (LinkedLayer.kindDecC tb kind version datasize d p).1 = LinkedLayer.kindDec tb kind version datasize d p := by
  unfold LinkedLayer.kindDecC LinkedLayer.kindDec
  refine erase_seq (erase_ite (fun _ => ?_) fun _ => erase_ite (fun _ => ?_) fun _ => rfl) fun k p' => ?_
  · refine erase_seq (DescriptorCost.Block.decC_fst ..) fun lf p => ?_
    refine erase_seq (erase_ite (fun _ => optItemC_fst LinkedLayer.readTsC_fst d _) fun _ => rfl) fun ts p => ?_
    refine erase_seq (readUC_fst ..) fun fsz p => ?_
    refine erase_seq (erase_ite (fun _ => optItemC_fst (readSizedC_fst datasize) d _) fun _ => rfl) fun dt p => ?_
    rfl
  · refine erase_seq (readSkipC_fst ..) fun _ p => ?_
    rfl
  · refine erase_ite (fun _ => ?_) fun _ => rfl
    refine erase_seq (readSizedC_fst ..) fun dt p => ?_
    exact erase_ite (fun _ => rfl) fun _ => rfl

theorem LinkedLayer.kindDecC_cost (tb : Descriptor.Tables) (kind : B) (version datasize : Nat) :
    CostR 4 20 0 (LinkedLayer.kindDecC tb kind version datasize) := by
  intro d p hp
  apply Cost.mono
  case h =>
    unfold LinkedLayer.kindDecC
    apply Cost.bind
    · cite
      · cbind (DescriptorCost.Block.decC_cost tb d _ (by assumption))
        apply Cost.bind
        · cite
          · exact optItemC_cost (LinkedLayer.readTsC_cost d _ (by assumption))
          · cdone
        intro _ _ _ _
        dsimp only
        cbind (readUC_cost 8)
        apply Cost.bind
        · cite
          · exact optItemC_cost (readSizedC_cost datasize)
          · cdone
        intro _ _ _ _
        dsimp only
        cdone
      · cite
        · cbind (readSkipC_cost 8)
          cdone
        · cdone
    · intro k p' _ _
      dsimp only
      cite
      · cbind (readSizedC_cost datasize)
        celse
        cdone
      · cdone
  cside

theorem LinkedLayer.tailDecC_fst (version : Nat) (d : B) (p : Nat) :
    (LinkedLayer.tailDecC version d p).1 = LinkedLayer.tailDec version d p := by
  simp only [LinkedLayer.tailDecC, LinkedLayer.tailDec, fst_bind, ok_fst, ite_fst, optItemC_fst (readUStrC_fst 1),
    optItemC_fst readF64C_fst, optItemC_fst (readUC_fst 1)]

theorem LinkedLayer.tailDecC_cost (version : Nat) : CostR 1 5 0 (LinkedLayer.tailDecC version) := by
  intro d p hp
  apply Cost.mono
  case h =>
    unfold LinkedLayer.tailDecC
    apply Cost.bind
    · cite
      · exact optItemC_cost (readUStrC_cost 1)
      · cdone
    intro _ _ _ _
    dsimp only
    apply Cost.bind
    · cite
      · exact optItemC_cost readF64C_cost
      · cdone
    intro _ _ _ _
    dsimp only
    apply Cost.bind
    · cite
      · exact optItemC_cost (readUC_cost 1)
      · cdone
    intro _ _ _ _
    dsimp only
    cdone
  cside

theorem LinkedLayer.decC_fst (tb : Descriptor.Tables) (d : B) (p : Nat) :
    (LinkedLayer.decC tb d p).1 = LinkedLayer.dec tb d p := by
  unfold LinkedLayer.decC LinkedLayer.dec
  refine erase_seq (readNC_fst ..) fun kind p => ?_
  refine erase_ite (fun _ => ?_) fun _ => rfl
  refine erase_seq (readUC_fst ..) fun version p => ?_
  refine erase_ite (fun _ => ?_) fun _ => rfl
  refine erase_seq (readPascalC_fst ..) fun uuid p => ?_
  refine erase_seq (readUStrC_fst ..) fun filename p => ?_
  refine erase_seq (readNC_fst ..) fun filetype p => ?_
  refine erase_seq (readNC_fst ..) fun creator p => ?_
  refine erase_seq (readUC_fst ..) fun datasize p => ?_
  refine erase_seq (readUC_fst ..) fun flag p => ?_
  refine erase_seq (erase_ite (fun _ => optItemC_fst (DescriptorCost.Block.decC_fst tb) d _) fun _ => rfl)
    fun openFile p => ?_
  refine erase_seq (LinkedLayer.kindDecC_fst ..) fun k p => ?_
  refine erase_bind (LinkedLayer.tailDecC_fst ..) fun ⟨⟨cid, mt, ls⟩, p⟩ => ?_
  refine erase_seq (erase_ite (fun _ => optItemC_fst (readSizedC_fst datasize) d _) fun _ => rfl) fun data p => ?_
  rfl

theorem LinkedLayer.decC_cost (tb : Descriptor.Tables) : CostR 4 45 30 (LinkedLayer.decC tb) := by
  intro d p hp
  apply Cost.mono
  case h =>
    unfold LinkedLayer.decC
    cbind (readNC_cost 4)
    celse
    cbind (readUC_cost 4)
    celse
    cbind (readPascalC_cost 1)
    cbind (readUStrC_cost 1)
    cbind (readNC_cost 4)
    cbind (readNC_cost 4)
    cbind (readUC_cost 8)
    cbind (readUC_cost 1)
    apply Cost.bind
    · cite
      · exact optItemC_cost (DescriptorCost.Block.decC_cost tb d _ (by assumption))
      · cdone
    intro _ _ _ _
    dsimp only
    cbind (LinkedLayer.kindDecC_cost tb _ _ _ d _ (by assumption))
    cbind (LinkedLayer.tailDecC_cost _ d _ (by assumption))
    apply Cost.bind
    · cite
      · exact optItemC_cost (readSizedC_cost _)
      · cdone
    intro _ _ _ _
    dsimp only
    cdone
  cside

theorem LinkedLayer.cc_c (tb : Descriptor.Tables) (pad : Nat) : (LinkedLayer.cc tb pad).c = LinkedLayer.codec tb pad := rfl
theorem LinkedLayer.cc_sound (tb : Descriptor.Tables) (pad : Nat) : (LinkedLayer.cc tb pad).Sound :=
  CC.hand_sound (LinkedLayer.decC_fst tb) (LinkedLayer.decC_cost tb)

theorem LinkedLayers.itemC_cost (tb : Descriptor.Tables) : CostR 6 50 8 (LinkedLayers.itemC tb) := by
  intro d p hp
  apply Cost.mono
  case h =>
    unfold LinkedLayers.itemC
    apply Cost.bind_credit (c := 5) (a₂ := 0) (b₂ := 46) (k₂ := 0) (readLenBlockC_cost 0 8 4)
    intro data p1 h1 hp1
    dsimp only
    have hl := readLenBlockC_ok h1
    exact (Cost.enter (a := 0) (b := 0) (k := 0) (LinkedLayer.decC_cost tb data 0 (Nat.zero_le _))
      fun y _ => Cost.ok _ hp1).mono (Nat.le_refl _) (by omega) (Nat.le_refl _)
  cside

theorem LinkedLayers.decC_fst (tb : Descriptor.Tables) (d : B) (p : Nat) :
    (LinkedLayers.decC tb d p).1 = (LinkedLayers.codec tb).dec d p := by
  unfold LinkedLayers.decC LinkedLayers.codec
  dsimp only
  refine readWhileC_fst (isReadableC_fst 8) (fun d p => ?_) d p
  unfold LinkedLayers.itemC
  refine erase_seq (readLenBlockC_fst ..) fun data p => ?_
  refine erase_ok (enterBlock_fst data) ?_
  refine erase_seq (LinkedLayer.decC_fst tb data 0) fun x _ => ?_
  rfl

/-- `while is_readable(fp, 8)`: an item that succeeds consumed the 8 bytes of its length -/
theorem LinkedLayers.decC_cost (tb : Descriptor.Tables) : CostR 66 70 0 (LinkedLayers.decC tb) := by
  intro d p hp
  exact (readWhileC_cost 8 (fun q hq => LinkedLayers.itemC_cost tb d q hq) (by decide) p hp).mono
    (by decide) (by decide) (by decide)

theorem LinkedLayers.cc_c (tb : Descriptor.Tables) : (LinkedLayers.cc tb).c = LinkedLayers.codec tb := rfl
theorem LinkedLayers.cc_sound (tb : Descriptor.Tables) : (LinkedLayers.cc tb).Sound :=
  CC.hand_sound (LinkedLayers.decC_fst tb) (LinkedLayers.decC_cost tb)

/-! ## adjustment_layers.py: ColorLookup; vector.py: VectorStrokeContentSetting -/

open PsdVerif.DescriptorCost in
theorem ColorLookup.decC_fst (tb : Descriptor.Tables) (d : B) (p : Nat) :
    (ColorLookup.decC tb d p).1 = ColorLookup.dec tb d p := by
  unfold ColorLookup.decC ColorLookup.dec
  refine Er.bind (er_readUC 2) (fun ver => Er.bind (er_readUC 4) fun dv =>
    Er.bind (er_readBodyC tb (er_decBodyC tb _)) fun x => ?_) d p
  split
  · exact Er.pure _
  · exact Er.fail _

open PsdVerif.DescriptorCost in
theorem ColorLookup.decC_cost (tb : Descriptor.Tables) : CostR 4 8 18 (ColorLookup.decC tb) := by
  intro d p hp
  apply Cost.mono
  case h =>
    unfold ColorLookup.decC
    cstep Cost.rbind (readUC_cost 2)
    cstep Cost.rbind (readUC_cost 4)
    cstep Cost.rbind (readBodyC_cost tb (fun t q hq => decBodyC_inv tb _ t q hq) _ (by assumption))
    split
    · exact Cost.rpure _ (by assumption)
    · exact Cost.rfail 0 (by decide)
  all_goals decide

theorem ColorLookup.cc_c (tb : Descriptor.Tables) (pad : Nat) : (ColorLookup.cc tb pad).c = ColorLookup.codec tb pad := rfl
theorem ColorLookup.cc_sound (tb : Descriptor.Tables) (pad : Nat) : (ColorLookup.cc tb pad).Sound :=
  CC.hand_sound (ColorLookup.decC_fst tb) (ColorLookup.decC_cost tb)

open PsdVerif.DescriptorCost in
theorem VectorStrokeContentSetting.decC_fst (tb : Descriptor.Tables) (d : B) (p : Nat) :
    (VectorStrokeContentSetting.decC tb d p).1 = VectorStrokeContentSetting.dec tb d p := by
  unfold VectorStrokeContentSetting.decC VectorStrokeContentSetting.dec
  exact Er.bind (er_readNC 4) (fun key => Er.bind (er_readUC 4) fun ver =>
    Er.bind (er_readBodyC tb (er_decBodyC tb _)) fun x => Er.pure _) d p

open PsdVerif.DescriptorCost in
theorem VectorStrokeContentSetting.decC_cost (tb : Descriptor.Tables) : CostR 4 8 20 (VectorStrokeContentSetting.decC tb) := by
  intro d p hp
  apply Cost.mono
  case h =>
    unfold VectorStrokeContentSetting.decC
    cstep Cost.rbind (readNC_cost 4)
    cstep Cost.rbind (readUC_cost 4)
    cstep Cost.rbind (readBodyC_cost tb (fun t q hq => decBodyC_inv tb _ t q hq) _ (by assumption))
    exact Cost.rpure _ (by assumption)
  all_goals decide

theorem VectorStrokeContentSetting.cc_c (tb : Descriptor.Tables) (pad : Nat) :
    (VectorStrokeContentSetting.cc tb pad).c = VectorStrokeContentSetting.codec tb pad := rfl
theorem VectorStrokeContentSetting.cc_sound (tb : Descriptor.Tables) (pad : Nat) : (VectorStrokeContentSetting.cc tb pad).Sound :=
  CC.hand_sound (VectorStrokeContentSetting.decC_fst tb) (VectorStrokeContentSetting.decC_cost tb)

/-! ## image_resources.py: the descriptor blocks as payloads -/

theorem DescriptorResource.cc_c (tb : Descriptor.Tables) : (DescriptorResource.cc tb).c = DescriptorResource.codec tb := rfl
theorem DescriptorResource.cc_sound (tb : Descriptor.Tables) : (DescriptorResource.cc tb).Sound :=
  CC.hand_sound (DescriptorCost.Block.decC_fst tb) (DescriptorCost.Block.decC_cost tb)

theorem Descriptor2Payload.cc_c (tb : Descriptor.Tables) (pad : Nat) :
    (Descriptor2Payload.cc tb pad).c = Descriptor2Payload.codec tb pad := rfl
theorem Descriptor2Payload.cc_sound (tb : Descriptor.Tables) (pad : Nat) : (Descriptor2Payload.cc tb pad).Sound :=
  CC.hand_sound (DescriptorCost.Block2.decC_fst tb) (DescriptorCost.Block2.decC_cost tb)

theorem DescriptorPayload.cc_c (tb : Descriptor.Tables) (pad : Nat) :
    (DescriptorPayload.cc tb pad).c = DescriptorPayload.codec tb pad := rfl
theorem DescriptorPayload.cc_sound (tb : Descriptor.Tables) (pad : Nat) : (DescriptorPayload.cc tb pad).Sound :=
  CC.hand_sound (DescriptorCost.Block.decC_fst tb) (DescriptorCost.Block.decC_cost tb)

/-! ## image_resources.py: Slices / SlicesV6 / SliceV6

`SliceV6.read` ends with a SPECULATIVE `DescriptorBlock.read` that is undone (`fp.seek(current_position)`) when it raises
`ValueError` / `IOError` or returns a block whose classID is four zero bytes. An attempt that is undone consumed nothing,
yet it may have read everything that was left in the stream (`read_unicode_string`: `fp.read(2 * count)` with a `count`
taken from the data). So a slice that SUCCEEDS is not paid by the bytes it consumed: the judgement `Cost` fails for
`SliceV6`, and what holds is `Weak`: ticks + bytes ≤ a · (bytes LEFT) + b whatever the outcome. `SlicesV6` then runs
`for _ in range(count): SliceV6.read(fp)`: every slice consumes ≥ 69 bytes, and every slice may scan the rest of the
stream: the bound is QUADRATIC in the bytes left (`Quad`), not linear. -/

/-- whatever the outcome, ticks + bytes ≤ `n`; a success consumed ≥ `k` bytes inside the stream, a failure is not "out of
fuel". `Weak` and `Quad` below are this judgement with `n` linear resp. quadratic in the bytes left. -/
def Left {β : Type} (n k : Nat) (d : B) (p : Nat) (x : CE (β × Nat)) : Prop :=
  x.2.w ≤ n ∧ match x.1 with
    | .ok (_, p') => p + k ≤ p' ∧ p' ≤ d.length
    | .error e => e ≠ .other

theorem Left.of_ok {β : Type} {n k : Nat} {d : B} {p : Nat} {x : CE (β × Nat)} {v : β} {p' : Nat}
    (h : Left n k d p x) (hx : x.1 = .ok (v, p')) : p + k ≤ p' ∧ p' ≤ d.length := by
  have := h.2; rw [hx] at this; exact this

theorem Left.ne_other {β : Type} {n k : Nat} {d : B} {p : Nat} {x : CE (β × Nat)} (h : Left n k d p x) :
    x.1 ≠ .error .other := fun hx => by have := h.2; rw [hx] at this; exact this rfl

theorem Left.intro {β : Type} {n k : Nat} {d : B} {p : Nat} {x : CE (β × Nat)} (hw : x.2.w ≤ n)
    (hok : ∀ v p', x.1 = .ok (v, p') → p + k ≤ p' ∧ p' ≤ d.length) (herr : x.1 ≠ .error .other) : Left n k d p x := by
  refine ⟨hw, ?_⟩
  cases hx : x.1 with
  | error e => exact fun he => herr (by rw [hx, he])
  | ok y => exact hok y.1 y.2 hx

theorem Left.mono {β : Type} {n n' k k' : Nat} {d : B} {p : Nat} {x : CE (β × Nat)} (h : Left n' k' d p x)
    (hn : n' ≤ n) (hk : k ≤ k') : Left n k d p x :=
  Left.intro (Nat.le_trans h.1 hn) (fun _ _ hx => ⟨Nat.le_trans (Nat.add_le_add_left hk _) (h.of_ok hx).1, (h.of_ok hx).2⟩)
    h.ne_other

/-- a step of bounded cost that does not move the cursor (a tick, a peek, a condition) -/
theorem Left.step {α γ : Type} {n k c : Nat} {d : B} {p : Nat} {m : CE γ} {f : γ → CE (α × Nat)}
    (hm : m.2.w ≤ c) (hne : m.1 ≠ .error .other) (hf : ∀ y, m.1 = .ok y → Left n k d p (f y)) :
    Left (c + n) k d p (m >>= f) := by
  cases hm1 : m.1 with
  | error e =>
    rw [bind_err' hm1]
    exact Left.intro (Nat.le_trans hm (Nat.le_add_right ..)) (fun _ _ hx => by cases hx)
      (fun h => hne (by rw [hm1, Except.error.inj h]))
  | ok y =>
    have h2 := hf y hm1
    rw [bind_ok' hm1]
    refine ⟨?_, h2.2⟩
    show (m.2 + (f y).2).w ≤ _
    rw [w_add]
    exact Nat.add_le_add hm h2.1

/-- sequencing: the first step costs `w₁ p₁` when it ends at `p₁`, and `n` bounds it when it fails -/
theorem Left.seq {α β : Type} {n k k₁ k₂ : Nat} {N : Nat → Nat} {d : B} {p : Nat} {m : CE (β × Nat)}
    {f : β × Nat → CE (α × Nat)} (herr : ∀ e, m.1 = .error e → e ≠ .other ∧ m.2.w ≤ n)
    (hok : ∀ v p₁, m.1 = .ok (v, p₁) → p + k₁ ≤ p₁ ∧ p₁ ≤ d.length ∧ m.2.w + N p₁ ≤ n)
    (hf : ∀ v p₁, m.1 = .ok (v, p₁) → p₁ ≤ d.length → Left (N p₁) k₂ d p₁ (f (v, p₁))) (hk : k ≤ k₁ + k₂) :
    Left n k d p (m >>= f) := by
  cases hm1 : m.1 with
  | error e =>
    rw [bind_err' hm1]
    exact Left.intro (herr e hm1).2 (fun _ _ hx => by cases hx) (fun h => (herr e hm1).1 (by cases h; rfl))
  | ok y =>
    obtain ⟨v, p₁⟩ := y
    have h1 := hok v p₁ hm1
    have h2 := hf v p₁ hm1 h1.2.1
    rw [bind_ok' hm1]
    refine Left.intro ?_ (fun v' p' hx => ⟨adv_add h1.1 (h2.of_ok hx).1 hk, (h2.of_ok hx).2⟩) h2.ne_other
    show (m.2 + (f (v, p₁)).2).w ≤ _
    rw [w_add]
    exact Nat.le_trans (Nat.add_le_add_left h2.1 _) h1.2.2

/-- the last statement builds the value: no read, same cursor -/
theorem Left.bind_pure {α β : Type} {n k : Nat} {d : B} {p : Nat} {m : CE (β × Nat)} {f : β × Nat → CE (α × Nat)}
    (hm : Left n k d p m) (hf : ∀ v p₁, (f (v, p₁)).2.w = 0 ∧ ∃ v', (f (v, p₁)).1 = .ok (v', p₁)) :
    Left n k d p (m >>= f) := by
  refine (Left.seq (N := fun _ => 0) (k₂ := 0) (fun _ he => ⟨fun h => hm.ne_other (by rw [he, h]), hm.1⟩)
    (fun _ _ h => ⟨(hm.of_ok h).1, (hm.of_ok h).2, hm.1⟩) (fun v p₁ _ hp₁ => ?_) (Nat.le_refl _))
  obtain ⟨hw, v', hv⟩ := hf v p₁
  exact Left.intro (Nat.le_of_eq hw) (fun v'' p' hx => by rw [hv] at hx; cases hx; exact ⟨Nat.le_refl _, hp₁⟩)
    (by rw [hv]; intro h; cases h)

/-- paid by the bytes that were LEFT, also when the run succeeds (which then consumed ≥ `k` bytes) -/
def Weak {β : Type} (a b k : Nat) (d : B) (p : Nat) (x : CE (β × Nat)) : Prop :=
  Left (a * (d.length - p) + b) k d p x

theorem Weak.of_cost {β : Type} {a b k : Nat} {d : B} {p : Nat} {x : CE (β × Nat)} (h : Cost a b k d p x) :
    Weak a b k d p x :=
  Left.intro h.w_le (fun _ _ hx => ⟨(h.of_ok hx).1, (h.of_ok hx).2.1⟩) h.ne_other

theorem Weak.mono {β : Type} {a a' b b' k k' : Nat} {d : B} {p : Nat} {x : CE (β × Nat)}
    (h : Weak a' b' k' d p x) (ha : a' ≤ a) (hb : b' ≤ b) (hk : k ≤ k') : Weak a b k d p x :=
  Left.mono h (Nat.add_le_add (Nat.mul_le_mul_right _ ha) hb) hk

/-- a prefix that obeys `Cost`, then a continuation that obeys `Weak`: whatever the continuation does, it is paid by the
bytes left at `p₁`; the prefix by those before `p₁` -/
theorem Weak.bind {α β : Type} {a₁ a₂ b₁ b₂ k₁ k₂ : Nat} {d : B} {p : Nat} {m : CE (β × Nat)}
    {f : β × Nat → CE (α × Nat)} (hm : Cost a₁ b₁ k₁ d p m)
    (hf : ∀ v p₁, m.1 = .ok (v, p₁) → p₁ ≤ d.length → Weak a₂ b₂ k₂ d p₁ (f (v, p₁))) :
    Weak (max a₁ a₂) (b₁ + b₂) (k₁ + k₂) d p (m >>= f) :=
  Left.seq (N := fun p₁ => a₂ * (d.length - p₁) + b₂)
    (fun _ he => (hm.mono (Nat.le_max_left a₁ a₂) (Nat.le_add_right b₁ b₂) (Nat.le_refl _)).of_error he)
    (fun _ _ h => ⟨(hm.of_ok h).1, (hm.of_ok h).2.1,
      pay_seq (hm.of_ok h).2.2 (Nat.add_le_add_right (Nat.mul_le_mul_right _ (Nat.le_max_left ..)) _) (Nat.le_refl _)
        (Nat.le_max_right ..) (Nat.sub_add_sub_cancel (hm.of_ok h).2.1 (Nat.le_of_add_right_le (hm.of_ok h).1))⟩)
    hf (Nat.le_refl _)

theorem Weak.step {α γ : Type} {a b k n : Nat} {d : B} {p : Nat} {m : CE γ} {f : γ → CE (α × Nat)}
    (hm : m.2.w ≤ n) (hne : m.1 ≠ .error .other) (hf : ∀ y, m.1 = .ok y → Weak a b k d p (f y)) :
    Weak a (n + b) k d p (m >>= f) :=
  Left.mono (Left.step hm hne hf) (by omega) (Nat.le_refl _)


/-! ### SliceV6 -/

theorem SliceV6.peekDataC_fst (tb : Descriptor.Tables) (d : B) (p : Nat) :
    (SliceV6.peekDataC tb d p).1 = SliceV6.peekData tb d p := by
  unfold SliceV6.peekDataC SliceV6.peekData
  refine erase_ok (isReadableC_fst 4 d p) ?_
  split
  · rw [bind_fst, readUC_fst]
    cases readU 4 d p with
    | error e => rfl
    | ok y =>
      obtain ⟨version, q⟩ := y
      dsimp only
      by_cases hv : version = 16
      · rw [if_pos hv]
        split
        · unfold SliceV6.tryBlockC
          dsimp only
          rw [DescriptorCost.Block.decC_fst]
          cases Descriptor.Block.dec tb d p with
          | ok z => obtain ⟨blk, p'⟩ := z; rfl
          | error e => cases e <;> rfl
        · contradiction
      · rw [if_neg hv]
        split
        · contradiction
        · rfl
  · rfl

/-- the attempt: at most `4 · (bytes left) + 7`, whether its result is kept or undone -/
theorem SliceV6.tryBlockC_weak (tb : Descriptor.Tables) {d : B} {p : Nat} (hp : p ≤ d.length) :
    Weak 4 7 0 d p (SliceV6.tryBlockC tb d p) := by
  have ha := DescriptorCost.Block.decC_cost tb d p hp
  unfold SliceV6.tryBlockC
  refine Left.intro ha.w_le (fun v p' hx => ?_) (fun hx => ?_)
  · dsimp only at hx
    split at hx
    · rename_i blk p'' hb
      have h1 := ha.of_ok hb
      split at hx <;> cases hx <;> omega
    all_goals first | (cases hx; omega) | cases hx
  · dsimp only at hx
    split at hx
    · split at hx <;> cases hx
    · cases hx
    · cases hx
    · cases hx
    · rename_i e' hb
      cases hx
      exact (ha.of_error hb).1 rfl

/-- the speculative read: at most `4 · (bytes left) + 17`, whether its result is kept or undone -/
theorem SliceV6.peekDataC_weak (tb : Descriptor.Tables) {d : B} {p : Nat} (hp : p ≤ d.length) :
    Weak 4 17 0 d p (SliceV6.peekDataC tb d p) := by
  unfold SliceV6.peekDataC
  refine Weak.step (n := 5) (a := 4) (b := 12) (by rw [isReadableC_w']; omega) (by intro h; cases h) fun r _ => ?_
  split
  · refine Weak.step (n := 5) (a := 4) (b := 7) (readUC_w_le 4 d p) (readUC_cost 4).ne_other fun y _ => ?_
    obtain ⟨version, q⟩ := y
    dsimp only
    split
    · exact SliceV6.tryBlockC_weak tb hp
    · exact (Weak.of_cost (Cost.ok _ hp)).mono (by decide) (by decide) (by decide)
  · exact (Weak.of_cost (Cost.ok _ hp)).mono (by decide) (by decide) (by decide)

theorem SliceV6.assocDecC_fst (head : Row) (d : B) (p : Nat) : (SliceV6.assocDecC head d p).1 = SliceV6.assocDec head d p := by
  unfold SliceV6.assocDecC SliceV6.assocDec
  split
  · rw [bind_fst, fmtDecC_fst]
    cases fmtDec [U 4] d p with
    | error e => rfl
    | ok y => obtain ⟨r, p'⟩ := y; rfl
  · rfl

theorem SliceV6.assocDecC_cost (head : Row) : CostR 1 1 0 (SliceV6.assocDecC head) := by
  intro d p hp
  apply Cost.mono
  case h =>
    unfold SliceV6.assocDecC
    cite
    · cbind (fmtDecC_cost [U 4])
      cdone
    · cdone
  cside

theorem SliceV6.decC_fst (tb : Descriptor.Tables) (d : B) (p : Nat) : (SliceV6.decC tb d p).1 = SliceV6.dec tb d p := by
  unfold SliceV6.decC SliceV6.dec
  refine erase_seq (fmtDecC_fst ..) fun head p => ?_
  refine erase_seq (SliceV6.assocDecC_fst ..) fun assoc p => ?_
  refine erase_seq (readUStrC_fst 1 ..) fun name p => ?_
  refine erase_seq (fmtDecC_fst ..) fun st p => ?_
  refine erase_seq (fmtDecC_fst ..) fun bbox p => ?_
  refine erase_seq (readUStrC_fst 1 ..) fun url p => ?_
  refine erase_seq (readUStrC_fst 1 ..) fun target p => ?_
  refine erase_seq (readUStrC_fst 1 ..) fun message p => ?_
  refine erase_seq (readUStrC_fst 1 ..) fun altTag p => ?_
  refine erase_seq (fmtDecC_fst ..) fun html p => ?_
  refine erase_seq (readUStrC_fst 1 ..) fun cellText p => ?_
  refine erase_seq (fmtDecC_fst ..) fun align p => ?_
  refine erase_seq (fmtDecC_fst ..) fun argb p => ?_
  refine erase_seq (SliceV6.peekDataC_fst ..) fun data p => ?_
  rfl

/-- one slice: `4 · (bytes LEFT) + 42`; when it succeeds it consumed ≥ 69 bytes -/
theorem SliceV6.decC_weak (tb : Descriptor.Tables) {d : B} {p : Nat} (hp : p ≤ d.length) :
    Weak 4 42 69 d p (SliceV6.decC tb d p) := by
  apply Weak.mono
  case h =>
    unfold SliceV6.decC
    cstep Weak.bind (fmtDecC_cost SliceV6.headFmt)
    cstep Weak.bind (SliceV6.assocDecC_cost _ d _ (by assumption))
    cstep Weak.bind (readUStrC_cost 1)
    cstep Weak.bind (fmtDecC_cost [U 4])
    cstep Weak.bind (fmtDecC_cost SliceV6.bboxFmt)
    cstep Weak.bind (readUStrC_cost 1)
    cstep Weak.bind (readUStrC_cost 1)
    cstep Weak.bind (readUStrC_cost 1)
    cstep Weak.bind (readUStrC_cost 1)
    cstep Weak.bind (fmtDecC_cost [Q])
    cstep Weak.bind (readUStrC_cost 1)
    cstep Weak.bind (fmtDecC_cost [U 4, U 4])
    cstep Weak.bind (fmtDecC_cost SliceV6.argbFmt)
    exact Left.bind_pure (SliceV6.peekDataC_weak tb (by assumption)) (fun _ _ => ⟨rfl, _, rfl⟩)
  all_goals decide

/-- the statement in plain words: whatever the outcome, at most `4 · (bytes left) + 42`, and no loop ran out of fuel -/
theorem SliceV6.decC_left (tb : Descriptor.Tables) (d : B) (p : Nat) (hp : p ≤ d.length) :
    (SliceV6.decC tb d p).2.w ≤ 4 * (d.length - p) + 42 ∧ (SliceV6.decC tb d p).1 ≠ .error .other :=
  ⟨(SliceV6.decC_weak tb hp).1, Left.ne_other (SliceV6.decC_weak tb hp)⟩

/-! ### the judgement `Cost` fails for SliceV6: a witness

A slice without a descriptor followed by the `bait` — eight bytes that read as the head of a descriptor block whose
name is 2³¹ − 1 UTF-16 units long (and equally as the id 16 and the group id of a next slice), then `2m + 1` more bytes:
the speculative read copies all of them, fails to decode an odd number of bytes (`UnicodeDecodeError`, a `ValueError`)
and is undone. The slice consumed its own bytes only; it cost more than `2m + 1`. -/

/-- `00 00 00 10` (the version 16 of a descriptor block — or the id of the next slice), `7F FF FF FF` (the length of the
block's name in UTF-16 units — or the group id of the next slice), then an odd number of bytes -/
def SliceV6.bait (m : Nat) : B := [0, 0, 0, 16, 127, 255, 255, 255] ++ List.replicate (2 * m + 1) 0

theorem unitsOfBytes_odd (m : Nat) : Unicode.unitsOfBytes (List.replicate (2 * m + 1) 0) = none := by
  induction m with
  | zero => rfl
  | succ m ih =>
    have : 2 * (m + 1) + 1 = (2 * m + 1) + 1 + 1 := by omega
    rw [this, List.replicate_succ, List.replicate_succ]
    unfold Unicode.unitsOfBytes
    rw [ih]

theorem SliceV6.bait_len (m : Nat) : (SliceV6.bait m).length = 2 * m + 9 := by
  unfold SliceV6.bait
  simp only [List.length_append, List.length_replicate, List.length_cons, List.length_nil]
  omega

theorem SliceV6.bait_readU (pre : B) (m : Nat) : readU 4 (pre ++ SliceV6.bait m) pre.length = .ok (16, pre.length + 4) := by
  have hl := SliceV6.bait_len m
  unfold readU readN
  rw [if_pos (by rw [List.length_append]; omega), List.drop_left]
  rfl

theorem SliceV6.bait_readU32 (pre : B) (m : Nat) :
    Unicode.readU32 (pre ++ SliceV6.bait m) (pre.length + 4) = .ok (2147483647, pre.length + 4 + 4) := by
  unfold Unicode.readU32 Unicode.slice
  rw [List.drop_length_add_append]
  rfl

theorem SliceV6.bait_raw (pre : B) (m : Nat) (hm : 2 * m + 1 ≤ 4294967294) :
    Unicode.slice (pre ++ SliceV6.bait m) (pre.length + 4 + 4) (2 * 2147483647) = List.replicate (2 * m + 1) 0 := by
  unfold Unicode.slice
  rw [Nat.add_assoc, List.drop_length_add_append]
  show List.take _ (List.replicate (2 * m + 1) 0) = _
  rw [List.take_of_length_le]
  rw [List.length_replicate]; omega

theorem SliceV6.bait_readStr (pre : B) (m : Nat) (hm : 2 * m + 1 ≤ 4294967294) :
    Descriptor.readStr (pre ++ SliceV6.bait m) (pre.length + 4) = .error .unicodeError := by
  unfold Descriptor.readStr Unicode.readUnicodeString
  rw [SliceV6.bait_readU32]
  dsimp only
  rw [SliceV6.bait_raw pre m hm, unitsOfBytes_odd]
  rfl

theorem SliceV6.bait_block (tb : Descriptor.Tables) (pre : B) (m : Nat) (hm : 2 * m + 1 ≤ 4294967294) :
    Descriptor.Block.dec tb (pre ++ SliceV6.bait m) pre.length = .error .unicodeError := by
  unfold Descriptor.Block.dec Descriptor.rbind
  rw [SliceV6.bait_readU]
  dsimp only
  unfold Descriptor.readBody Descriptor.rbind
  rw [SliceV6.bait_readStr pre m hm]

/-- the attempt on the bait is undone — it consumed nothing — and it cost more than the `2m + 1` bytes it copied -/
theorem SliceV6.tryBlockC_bait (tb : Descriptor.Tables) (pre : B) (m : Nat) (hm : 2 * m + 1 ≤ 4294967294) :
    (SliceV6.tryBlockC tb (pre ++ SliceV6.bait m) pre.length).1 = .ok (none, pre.length) ∧
    2 * m + 8 ≤ (SliceV6.tryBlockC tb (pre ++ SliceV6.bait m) pre.length).2.w := by
  constructor
  · unfold SliceV6.tryBlockC
    dsimp only
    rw [DescriptorCost.Block.decC_fst, SliceV6.bait_block tb pre m hm]
  · show 2 * m + 8 ≤ (DescriptorCost.Block.decC tb (pre ++ SliceV6.bait m) pre.length).2.w
    unfold DescriptorCost.Block.decC DescriptorCost.rbindC
    have h1 : (readUC 4 (pre ++ SliceV6.bait m) pre.length).1 = .ok (16, pre.length + 4) := by
      rw [readUC_fst]; exact SliceV6.bait_readU pre m
    rw [bind_ok' h1]
    dsimp only
    unfold DescriptorCost.readBodyC DescriptorCost.rbindC
    have h2 : (DescriptorCost.readStrC (pre ++ SliceV6.bait m) (pre.length + 4)).1 = .error .unicodeError := by
      rw [DescriptorCost.er_readStrC]; exact SliceV6.bait_readStr pre m hm
    rw [bind_err' h2]
    show 2 * m + 8 ≤ ((readUC 4 (pre ++ SliceV6.bait m) pre.length).2 + (readUStrC 1 (pre ++ SliceV6.bait m) (pre.length + 4)).2).w
    rw [w_add]
    have hw : (readUStrC 1 (pre ++ SliceV6.bait m) (pre.length + 4)).2.w =
        3 + (4 + (Unicode.slice (pre ++ SliceV6.bait m) (pre.length + 4 + 4) (2 * 2147483647)).length +
          (Unicode.slice (pre ++ SliceV6.bait m)
            (pre.length + 4 + 4 + (Unicode.slice (pre ++ SliceV6.bait m) (pre.length + 4 + 4) (2 * 2147483647)).length)
            (Unicode.padLen (4 + 2 * 2147483647) 1)).length) := by
      unfold readUStrC
      rw [SliceV6.bait_readU32]
      rfl
    rw [hw, SliceV6.bait_raw pre m hm, List.length_replicate]
    omega

theorem le_w_bind_ok {α β : Type} {m : CE β} {f : β → CE α} {a : β} {n : Nat} (h : m.1 = .ok a) (hn : n ≤ (f a).2.w) :
    n ≤ (m >>= f).2.w := by
  rw [bind_ok' h]
  show n ≤ (m.2 + (f a).2).w
  rw [w_add]
  omega

theorem SliceV6.peekDataC_bait (tb : Descriptor.Tables) (pre : B) (m : Nat) (hm : 2 * m + 1 ≤ 4294967294) :
    (SliceV6.peekDataC tb (pre ++ SliceV6.bait m) pre.length).1 = .ok (none, pre.length) ∧
    2 * m + 8 ≤ (SliceV6.peekDataC tb (pre ++ SliceV6.bait m) pre.length).2.w := by
  have hl := SliceV6.bait_len m
  have hr : isReadable 4 (pre ++ SliceV6.bait m) pre.length = true := by
    unfold isReadable
    rw [List.length_append]
    exact decide_eq_true (by omega)
  have h0 : (isReadableC 4 (pre ++ SliceV6.bait m) pre.length).1 = .ok true := by rw [isReadableC_fst, hr]
  have h1 : (readUC 4 (pre ++ SliceV6.bait m) pre.length).1 = .ok (16, pre.length + 4) := by
    rw [readUC_fst]; exact SliceV6.bait_readU pre m
  have ht := SliceV6.tryBlockC_bait tb pre m hm
  unfold SliceV6.peekDataC
  constructor
  · rw [bind_ok' h0]
    dsimp only
    rw [if_pos rfl, bind_ok' h1]
    dsimp only
    rw [if_pos rfl]
    exact ht.1
  · refine le_w_bind_ok h0 ?_
    dsimp only
    rw [if_pos rfl]
    refine le_w_bind_ok h1 ?_
    dsimp only
    rw [if_pos rfl]
    exact ht.2

theorem le_w_bind_left {α β : Type} {m : CE β} {f : β → CE α} {a : β} {n : Nat} (h : m.1 = .ok a) (hn : n ≤ m.2.w) :
    n ≤ (m >>= f).2.w := by
  rw [bind_ok' h]
  show n ≤ (m.2 + (f a).2).w
  rw [w_add]
  omega

/-- a slice without a descriptor, followed by the bait: the slice is read, it consumed exactly its own bytes, and it
cost more than the `2m + 1` bytes that follow the bait's header -/
theorem SliceV6.decC_bait_at (tb : Descriptor.Tables) {x : SliceV6} (hwf : SliceV6.WF tb x) (hf : SliceV6.Fits tb x)
    (hx : x.data = none) (m : Nat) (hm : 2 * m + 1 ≤ 4294967294) {d : B} {p : Nat}
    (h : At d p (SliceV6.encT tb x ++ SliceV6.bait m))
    (hend : d.length = p + (SliceV6.encT tb x).length + (2 * m + 9)) :
    (SliceV6.decC tb d p).1 = .ok (x, p + (SliceV6.encT tb x).length) ∧ 2 * m + 8 ≤ (SliceV6.decC tb d p).2.w := by
  obtain ⟨wa, w1, w2, w3, w4, w5, w6, w7, wd⟩ := hwf
  obtain ⟨f1, f2, f3, f4, f5, f6, f7, f8, f9, f10, f11, f12, f13, f14⟩ := hf
  obtain ⟨head, assoc, name, st, bbox, url, target, message, altTag, html, cellText, align, argb, data⟩ := x
  simp only at hx
  subst hx
  simp only [SliceV6.assocWritten] at wa f2
  have hnone : optT (Descriptor.Block.encT tb 1) (none : Option Descriptor.Block) = [] := rfl
  simp only [SliceV6.encT, SliceV6.tailT, SliceV6.assocWritten, hnone, List.append_assoc, List.append_nil] at h hend ⊢
  obtain ⟨e1, h⟩ := fmt_step' (fs := SliceV6.headFmt) rfl f1 (fmtWF_of_plain _ _ rfl) h
  obtain ⟨e2, h⟩ := SliceV6.assoc_step wa f2 h
  obtain ⟨e3, h⟩ := ustr_step w1 f3 h
  obtain ⟨e4, h⟩ := fmt_step' (fs := [U 4]) rfl f4 (fmtWF_of_plain _ _ rfl) h
  obtain ⟨e5, h⟩ := fmt_step' (fs := SliceV6.bboxFmt) rfl f5 (fmtWF_of_plain _ _ rfl) h
  obtain ⟨e6, h⟩ := ustr_step w2 f6 h
  obtain ⟨e7, h⟩ := ustr_step w3 f7 h
  obtain ⟨e8, h⟩ := ustr_step w4 f8 h
  obtain ⟨e9, h⟩ := ustr_step w5 f9 h
  obtain ⟨e10, h⟩ := fmt_step' (fs := [Q]) rfl f10 w7 h
  obtain ⟨e11, h⟩ := ustr_step w6 f11 h
  obtain ⟨e12, h⟩ := fmt_step' (fs := [U 4, U 4]) rfl f12 (fmtWF_of_plain _ _ rfl) h
  obtain ⟨e13, h⟩ := fmt_step' (fs := SliceV6.argbFmt) rfl f13 (fmtWF_of_plain _ _ rfl) h
  obtain ⟨pre, post, rfl, hq⟩ := h
  have hl := SliceV6.bait_len m
  have hpost : post = [] := by
    apply List.eq_nil_of_length_eq_zero
    simp only [List.length_append] at hend hq
    omega
  subst hpost
  simp only [List.append_nil] at e1 e2 e3 e4 e5 e6 e7 e8 e9 e10 e11 e12 e13 ⊢
  have hk := SliceV6.peekDataC_bait tb pre m hm
  rw [hq] at hk
  have e14 := hk.1
  rw [SliceV6.peekDataC_fst] at e14
  constructor
  · rw [SliceV6.decC_fst]
    simp only [SliceV6.dec, bind, Except.bind, e1, e2, e3, e4, e5, e6, e7, e8, e9, e10, e11, e12, e13, e14]
    simp only [List.length_append, Nat.add_assoc]
  · unfold SliceV6.decC
    refine le_w_bind_ok (by rw [fmtDecC_fst]; exact e1) ?_
    refine le_w_bind_ok (by rw [SliceV6.assocDecC_fst]; exact e2) ?_
    refine le_w_bind_ok (by rw [readUStrC_fst]; exact e3) ?_
    refine le_w_bind_ok (by rw [fmtDecC_fst]; exact e4) ?_
    refine le_w_bind_ok (by rw [fmtDecC_fst]; exact e5) ?_
    refine le_w_bind_ok (by rw [readUStrC_fst]; exact e6) ?_
    refine le_w_bind_ok (by rw [readUStrC_fst]; exact e7) ?_
    refine le_w_bind_ok (by rw [readUStrC_fst]; exact e8) ?_
    refine le_w_bind_ok (by rw [readUStrC_fst]; exact e9) ?_
    refine le_w_bind_ok (by rw [fmtDecC_fst]; exact e10) ?_
    refine le_w_bind_ok (by rw [readUStrC_fst]; exact e11) ?_
    refine le_w_bind_ok (by rw [fmtDecC_fst]; exact e12) ?_
    refine le_w_bind_ok (by rw [fmtDecC_fst]; exact e13) ?_
    exact le_w_bind_left hk.1 hk.2

/-- a slice of 69 zero bytes -/
def SliceV6.blank : SliceV6 :=
  ⟨[.int 0, .int 0, .int 0], none, [], [.int 0], [.int 0, .int 0, .int 0, .int 0], [], [], [], [], [.int 0], [],
    [.int 0, .int 0], [.int 0, .int 0, .int 0, .int 0], none⟩

theorem SliceV6.blank_wf (tb : Descriptor.Tables) : SliceV6.WF tb SliceV6.blank :=
  ⟨by decide, by decide, by decide, by decide, by decide, by decide, by decide, by decide, trivial⟩

theorem SliceV6.blank_fits (tb : Descriptor.Tables) : SliceV6.Fits tb SliceV6.blank :=
  ⟨by decide, by decide, by decide, by decide, by decide, by decide, by decide, by decide, by decide, by decide,
    by decide, by decide, by decide, trivial⟩

theorem SliceV6.blank_len (tb : Descriptor.Tables) : (SliceV6.encT tb SliceV6.blank).length = 69 := rfl

/-- the 69 + 9 + 2m bytes `blank ++ bait m`: `SliceV6.read` returns the blank slice at cursor 69 and costs ≥ 2m + 8 -/
theorem SliceV6.decC_blank_bait (tb : Descriptor.Tables) (m : Nat) (hm : 2 * m + 1 ≤ 4294967294) :
    (SliceV6.decC tb (SliceV6.encT tb SliceV6.blank ++ SliceV6.bait m) 0).1 = .ok (SliceV6.blank, 69) ∧
    2 * m + 8 ≤ (SliceV6.decC tb (SliceV6.encT tb SliceV6.blank ++ SliceV6.bait m) 0).2.w := by
  have h := SliceV6.decC_bait_at tb (SliceV6.blank_wf tb) (SliceV6.blank_fits tb) rfl m hm
    (d := SliceV6.encT tb SliceV6.blank ++ SliceV6.bait m) (p := 0) (At.self _)
    (by rw [List.length_append, SliceV6.bait_len]; omega)
  rw [SliceV6.blank_len] at h
  exact h

/-- so `SliceV6` does not obey `Cost`, whatever the coefficient and the constant (below the 2³² a length field can hold):
a slice that succeeds is NOT paid by the bytes it consumed -/
theorem SliceV6.decC_not_cost (tb : Descriptor.Tables) (a b k : Nat) (hb : a * 69 + b < 4294967294) :
    ¬ CostR a b k (SliceV6.decC tb) := by
  intro h
  have hw := SliceV6.decC_blank_bait tb ((a * 69 + b) / 2) (by omega)
  have hc := (h _ 0 (Nat.zero_le _)).of_ok hw.1
  have h2 := hc.2.2
  have e : a * (69 - 0) = a * 69 := rfl
  rw [e] at h2
  omega


/-! ### SlicesV6 / Slices: quadratic -/

/-- ticks + bytes ≤ (bytes left + 1) · (a · (bytes left) + b), whatever the outcome -/
def Quad {β : Type} (a b : Nat) (d : B) (p : Nat) (x : CE (β × Nat)) : Prop :=
  Left ((d.length - p + 1) * (a * (d.length - p) + b)) 0 d p x

/-- the bound grows with both constants and with the bytes left -/
theorem quad_mono {a a' b b' r r' : Nat} (ha : a ≤ a') (hb : b ≤ b') (hr : r ≤ r') :
    (r + 1) * (a * r + b) ≤ (r' + 1) * (a' * r' + b') :=
  Nat.mul_le_mul (by omega) (Nat.add_le_add (Nat.mul_le_mul ha hr) hb)

theorem Quad.mono {β : Type} {a a' b b' : Nat} {d : B} {p : Nat} {x : CE (β × Nat)}
    (h : Quad a' b' d p x) (ha : a' ≤ a) (hb : b' ≤ b) : Quad a b d p x :=
  Left.mono h (quad_mono ha hb (Nat.le_refl _)) (Nat.le_refl _)

theorem Quad.of_weak {β : Type} {a b k : Nat} {d : B} {p : Nat} {x : CE (β × Nat)} (h : Weak a b k d p x) :
    Quad a b d p x :=
  Left.mono h (Nat.le_mul_of_pos_left _ (Nat.succ_pos _)) (Nat.zero_le _)

theorem Quad.of_cost {β : Type} {a b k : Nat} {d : B} {p : Nat} {x : CE (β × Nat)} (h : Cost a b k d p x) :
    Quad a b d p x := Quad.of_weak (Weak.of_cost h)

/-- one iteration on `r` bytes left, then a rest that fits in the first `r` of the `r + 1` rows -/
theorem quad_step {a b r w₁ w₂ : Nat} (h₁ : w₁ ≤ a * r + b) (h₂ : w₂ ≤ r * (a * r + (b + 1))) :
    1 + (w₁ + w₂) ≤ (r + 1) * (a * r + (b + 1)) := by
  rw [Nat.succ_mul]; omega

/-- a linear prefix in front of a quadratic rest: `(r + 1) · (a₁ + b₁)` more -/
theorem quad_pre {a₁ b₁ a₂ b₂ r w₁ w₂ : Nat} (h₁ : w₁ ≤ a₁ * r + b₁) (h₂ : w₂ ≤ (r + 1) * (a₂ * r + b₂)) :
    w₁ + w₂ ≤ (r + 1) * (a₂ * r + (b₂ + (a₁ + b₁))) := by
  rw [← Nat.add_assoc, Nat.mul_add (r + 1) (a₂ * r + b₂) (a₁ + b₁), Nat.succ_mul r (a₁ + b₁), Nat.mul_add r a₁ b₁,
    Nat.mul_comm r a₁]
  omega

/-- one iteration of a loop over items that obey `Weak` and consume ≥ 1 byte when they succeed: the rest of the loop
runs on at most `r − 1` bytes -/
theorem Quad.iter {α β : Type} {a b k : Nat} {d : B} {p : Nat} {m : CE (β × Nat)} {f : β × Nat → CE (α × Nat)}
    (hm : Weak a b k d p m) (hk : 1 ≤ k)
    (hf : ∀ v p₁, m.1 = .ok (v, p₁) → p₁ ≤ d.length → Quad a (b + 1) d p₁ (f (v, p₁))) :
    Quad a (b + 1) d p (PsdCost.tick >>= fun _ => m >>= f) := by
  refine Left.mono (k' := 0) (Left.step (c := 1) (n := (d.length - p + 1) * (a * (d.length - p) + (b + 1)) - 1)
    (Nat.le_of_eq tick_w) (by intro h; cases h) fun _ _ => ?_) ?_ (Nat.le_refl _)
  · have hq : ∀ w₁ w₂, w₁ ≤ a * (d.length - p) + b → w₂ ≤ (d.length - p) * (a * (d.length - p) + (b + 1)) →
        w₁ + w₂ ≤ (d.length - p + 1) * (a * (d.length - p) + (b + 1)) - 1 := fun w₁ w₂ h₁ h₂ => by
      have := quad_step h₁ h₂; omega
    refine Left.seq (N := fun p₁ => (d.length - p₁ + 1) * (a * (d.length - p₁) + (b + 1))) (k₁ := 0) (k₂ := 0)
      (fun _ he => ⟨fun h => hm.ne_other (by rw [he, h]), hq _ 0 hm.1 (Nat.zero_le _)⟩)
      (fun v p₁ h => ?_) hf (Nat.zero_le _)
    have i1 := hm.of_ok h
    have hr : d.length - p₁ + 1 ≤ d.length - p := by omega
    exact ⟨Nat.le_trans (Nat.le_add_right ..) i1.1, i1.2, hq _ _ hm.1 (Nat.mul_le_mul hr
      (Nat.add_le_add_right (Nat.mul_le_mul_left a (Nat.le_trans (Nat.le_succ _) hr)) _))⟩
  · have : 1 ≤ (d.length - p + 1) * (a * (d.length - p) + (b + 1)) := Nat.mul_pos (Nat.succ_pos _) (by omega)
    omega

/-- a prefix that obeys `Cost`, then a continuation that obeys `Quad` -/
theorem Quad.bind {α β : Type} {a₁ a₂ b₁ b₂ k₁ : Nat} {d : B} {p : Nat} {m : CE (β × Nat)}
    {f : β × Nat → CE (α × Nat)} (hm : Cost a₁ b₁ k₁ d p m)
    (hf : ∀ v p₁, m.1 = .ok (v, p₁) → p₁ ≤ d.length → Quad a₂ b₂ d p₁ (f (v, p₁))) :
    Quad a₂ (b₂ + (a₁ + b₁)) d p (m >>= f) :=
  Left.seq (N := fun p₁ => (d.length - p₁ + 1) * (a₂ * (d.length - p₁) + b₂)) (k₂ := 0)
    (fun _ he => ⟨(hm.of_error he).1, quad_pre (w₂ := 0) hm.w_le (Nat.zero_le _)⟩)
    (fun _ _ h => ⟨(hm.of_ok h).1, (hm.of_ok h).2.1, quad_pre hm.w_le
      (quad_mono (Nat.le_refl _) (Nat.le_refl _) (Nat.sub_le_sub_left (Nat.le_of_add_right_le (hm.of_ok h).1) _))⟩)
    hf (Nat.zero_le _)

/-- `for _ in range(n)` over items that obey `Weak` and consume ≥ 1 byte when they succeed: at most `bytes left`
iterations succeed, each costs at most `a · (bytes left) + b + 1` -/
theorem readCountC_quad {α : Type} {item : RC α} {a b k : Nat} {d : B}
    (hi : ∀ p, p ≤ d.length → Weak a b k d p (item d p)) (hk : 1 ≤ k) (n : Nat) (p : Nat) (hp : p ≤ d.length) :
    Quad a (b + 1) d p (readCountC item n d p) := by
  induction n generalizing p with
  | zero => exact Left.intro (Nat.zero_le _) (fun _ _ hx => by cases hx; exact ⟨Nat.le_refl _, hp⟩) (by intro h; cases h)
  | succ n ih =>
    unfold readCountC
    exact Quad.iter (hi p hp) hk fun a1 p₁ _ hp₁ => Left.bind_pure (ih p₁ hp₁) (fun _ _ => ⟨rfl, _, rfl⟩)


theorem SlicesV6.decC_fst (tb : Descriptor.Tables) (d : B) (p : Nat) : (SlicesV6.decC tb d p).1 = SlicesV6.dec tb d p := by
  unfold SlicesV6.decC SlicesV6.dec
  refine erase_seq (fmtDecC_fst ..) fun bbox p => ?_
  refine erase_seq (readUStrC_fst 1 ..) fun name p => ?_
  refine erase_seq (readUC_fst ..) fun count p => ?_
  refine erase_seq (readCountC_fst (SliceV6.decC_fst tb) ..) fun items p => ?_
  rfl

/-- `for _ in range(count): SliceV6.read(fp)`: quadratic in the bytes left, whatever the count -/
theorem SlicesV6.decC_quad (tb : Descriptor.Tables) {d : B} {p : Nat} (hp : p ≤ d.length) :
    Quad 4 51 d p (SlicesV6.decC tb d p) := by
  apply Quad.mono
  case h =>
    unfold SlicesV6.decC
    cstep Quad.bind (fmtDecC_cost SliceV6.bboxFmt)
    cstep Quad.bind (readUStrC_cost 1)
    cstep Quad.bind (readUC_cost 4)
    exact Left.bind_pure (readCountC_quad (fun q hq => SliceV6.decC_weak tb hq) (by decide) _ _ (by assumption))
      (fun _ _ => ⟨rfl, _, rfl⟩)
  all_goals decide

theorem SlicesV6.decC_left (tb : Descriptor.Tables) (d : B) (p : Nat) (hp : p ≤ d.length) :
    (SlicesV6.decC tb d p).2.w ≤ (d.length - p + 1) * (4 * (d.length - p) + 51) ∧
    (SlicesV6.decC tb d p).1 ≠ .error .other :=
  ⟨(SlicesV6.decC_quad tb hp).1, Left.ne_other (SlicesV6.decC_quad tb hp)⟩

theorem Slices.decC_fst (tb : Descriptor.Tables) (d : B) (p : Nat) : (Slices.decC tb d p).1 = Slices.dec tb d p := by
  simp only [Slices.decC, Slices.dec, fst_bind, ok_fst, error_fst, ite_fst, readUC_fst, SlicesV6.decC_fst,
    DescriptorCost.Block.decC_fst]

theorem Slices.decC_quad (tb : Descriptor.Tables) {d : B} {p : Nat} (_hp : p ≤ d.length) :
    Quad 4 53 d p (Slices.decC tb d p) := by
  apply Quad.mono
  case h =>
    unfold Slices.decC
    cstep Quad.bind (readUC_cost 4)
    dsimp only
    split
    · split
      · exact Left.bind_pure (SlicesV6.decC_quad tb (by assumption)) (fun _ _ => ⟨rfl, _, rfl⟩)
      · exact Quad.mono (Left.bind_pure (Quad.of_cost (DescriptorCost.Block.decC_cost tb d _ (by assumption)))
          (fun _ _ => ⟨rfl, _, rfl⟩)) (Nat.le_refl _) (by decide)
    · exact (Quad.of_cost (Cost.error 0 (by decide))).mono (by decide) (by decide)
  all_goals decide

theorem Slices.decC_left (tb : Descriptor.Tables) (d : B) (p : Nat) (hp : p ≤ d.length) :
    (Slices.decC tb d p).2.w ≤ (d.length - p + 1) * (4 * (d.length - p) + 53) ∧
    (Slices.decC tb d p).1 ≠ .error .other :=
  ⟨(Slices.decC_quad tb hp).1, Left.ne_other (Slices.decC_quad tb hp)⟩

/-! ## the table of the unit -/

/-- the classes of this unit that obey `Cost` with the constants proved above (a shape does not depend on the tables
`tb`: `descTable_cc` ties every row to the `cc` of its class) -/
def descTable : List (String × Sh) := [
  ("MetadataSetting", .hand "MetadataSetting" 6 16 16 [⟨"count", 4⟩]),
  ("MetadataSettings", .hand "MetadataSettings" 23 18 4 [⟨"count", 16⟩, ⟨"count", 4⟩]),
  ("SmartObjectLayerData", .hand "SmartObjectLayerData" 4 9 24 [⟨"count", 4⟩]),
  ("PlacedLayerData", .hand "PlacedLayerData" 4 33 109 [⟨"fixed", 8⟩, ⟨"count", 4⟩]),
  ("TypeToolObjectSetting", .hand "TypeToolObjectSetting" 4 33 102 [⟨"fixed", 8⟩, ⟨"count", 4⟩, ⟨"count", 4⟩]),
  ("LinkedLayer", .hand "LinkedLayer" 4 45 30 [⟨"count", 4⟩, ⟨"count", 4⟩, ⟨"fixed", 1⟩]),
  ("LinkedLayers", .hand "LinkedLayers" 66 70 0 [⟨"while", 8⟩, ⟨"count", 4⟩, ⟨"count", 4⟩, ⟨"fixed", 1⟩]),
  ("ColorLookup", .hand "ColorLookup" 4 8 18 [⟨"count", 4⟩]),
  ("VectorStrokeContentSetting", .hand "VectorStrokeContentSetting" 4 8 20 [⟨"count", 4⟩]),
  ("DescriptorBlock", .hand "DescriptorBlock" 4 7 16 [⟨"count", 4⟩]),
  ("DescriptorBlock2", .hand "DescriptorBlock2" 4 8 20 [⟨"count", 4⟩])]

theorem descTable_cc (tb : Descriptor.Tables) (pad : Nat) : descTable = [
    ("MetadataSetting", (MetadataSetting.cc tb).sh),
    ("MetadataSettings", (MetadataSettings.cc tb).sh),
    ("SmartObjectLayerData", (SmartObjectLayerData.cc tb pad).sh),
    ("PlacedLayerData", (PlacedLayerData.cc tb pad).sh),
    ("TypeToolObjectSetting", (TypeToolObjectSetting.cc tb pad).sh),
    ("LinkedLayer", (LinkedLayer.cc tb pad).sh),
    ("LinkedLayers", (LinkedLayers.cc tb).sh),
    ("ColorLookup", (ColorLookup.cc tb pad).sh),
    ("VectorStrokeContentSetting", (VectorStrokeContentSetting.cc tb pad).sh),
    ("DescriptorBlock", (DescriptorResource.cc tb).sh),
    ("DescriptorBlock2", (Descriptor2Payload.cc tb pad).sh)] := rfl

theorem DescriptorPayload.cc_sh (tb : Descriptor.Tables) (pad : Nat) :
    (DescriptorPayload.cc tb pad).sh = (DescriptorResource.cc tb).sh := by
  unfold DescriptorPayload.cc DescriptorResource.cc CC.hand
  rfl

theorem desc_body_progress : descTable.all (fun e => e.2.bodyProgress) = true := by decide

/-- the classes of this unit that do NOT obey `Cost` (an undone speculative read is paid by nothing): for them
`SliceV6.decC_left` (linear in the bytes LEFT), `SlicesV6.decC_left` and `Slices.decC_left` (QUADRATIC) are what holds -/
def descNotLinear : List String := ["SliceV6", "SlicesV6", "Slices"]

end PsdVerif.PayloadCost
