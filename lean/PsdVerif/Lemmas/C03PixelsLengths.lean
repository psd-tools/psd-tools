/-
C03 (pixel clauses) — `_update_channel_length` pointwise: after the refresh every channel info declares
2 + the size of its stored channel data.
-/
import PsdVerif.Lemmas.WalkerFile

namespace PsdVerif.C03Pixels
open PsdVerif PsdVerif.Psd

/-- channel by channel: the channel info declares 2 (compression code) + the size of the stored data -/
def ChannelsMatch : List ChannelInfo → List ChannelData → Prop
  | [], [] => True
  | ci :: cis, c :: cs => ci.length = 2 + c.data.length ∧ ChannelsMatch cis cs
  | _, _ => False

def LengthsMatch : List LayerRecord → List (List ChannelData) → Prop
  | [], [] => True
  | r :: rs, cs :: css => ChannelsMatch r.channelInfo cs ∧ LengthsMatch rs css
  | _, _ => False

/-- a relation on two lists that holds pair by pair (and fails on lists of different lengths), in index form -/
theorem index_of_pairwise {α β : Type} {R : α → β → Prop} {M : List α → List β → Prop}
    (hc : ∀ a as b bs, M (a :: as) (b :: bs) → R a b ∧ M as bs) (hl : ∀ b bs, ¬ M [] (b :: bs))
    (hr : ∀ a as, ¬ M (a :: as) []) {l₁ : List α} {l₂ : List β} (h : M l₁ l₂) :
    l₁.length = l₂.length ∧ ∀ (i : Nat) (a : α) (b : β), l₁[i]? = some a → l₂[i]? = some b → R a b := by
  induction l₁ generalizing l₂ with
  | nil =>
    cases l₂ with
    | nil => exact ⟨rfl, by intro i a b h1; simp at h1⟩
    | cons b bs => exact absurd h (hl b bs)
  | cons a as ih =>
    cases l₂ with
    | nil => exact absurd h (hr a as)
    | cons b bs =>
      obtain ⟨h0, h'⟩ := hc a as b bs h
      obtain ⟨i1, i2⟩ := ih h'
      refine ⟨by simp [i1], ?_⟩
      intro i a' b' h1 h2
      cases i with
      | zero =>
        simp only [List.getElem?_cons_zero, Option.some.injEq] at h1 h2
        subst h1; subst h2; exact h0
      | succ i =>
        simp only [List.getElem?_cons_succ] at h1 h2
        exact i2 i a' b' h1 h2

theorem ChannelsMatch.index {cis : List ChannelInfo} {cs : List ChannelData} (h : ChannelsMatch cis cs) :
    cis.length = cs.length ∧
      ∀ (j : Nat) (ci : ChannelInfo) (c : ChannelData), cis[j]? = some ci → cs[j]? = some c →
        ci.length = 2 + c.data.length :=
  index_of_pairwise (fun _ _ _ _ h => h) (fun _ _ h => h) (fun _ _ h => h) h

theorem LengthsMatch.index {rs : List LayerRecord} {css : List (List ChannelData)} (h : LengthsMatch rs css) :
    rs.length = css.length ∧
      ∀ (i : Nat) (r : LayerRecord) (cs : List ChannelData), rs[i]? = some r → css[i]? = some cs →
        r.channelInfo.length = cs.length ∧
        ∀ (j : Nat) (ci : ChannelInfo) (c : ChannelData), r.channelInfo[j]? = some ci → cs[j]? = some c →
          ci.length = 2 + c.data.length := by
  obtain ⟨h1, h2⟩ := index_of_pairwise (R := fun r cs => ChannelsMatch r.channelInfo cs)
    (fun _ _ _ _ h => h) (fun _ _ h => h) (fun _ _ h => h) h
  exact ⟨h1, fun i r cs hr hc => (h2 i r cs hr hc).index⟩

theorem refreshCI_matches (cis : List ChannelInfo) (cs : List ChannelData) (h : cis.length = cs.length) :
    ChannelsMatch (refreshCI cis cs) cs := by
  induction cis generalizing cs with
  | nil =>
    cases cs with
    | nil => trivial
    | cons c cs => simp at h
  | cons ci cis ih =>
    cases cs with
    | nil => simp at h
    | cons c cs =>
      simp only [refreshCI, ChannelsMatch, true_and]
      exact ih cs (by simpa using h)

theorem refreshRecords_match (rs : List LayerRecord) (css : List (List ChannelData)) (hs : shapesAgree rs css) :
    LengthsMatch (refreshRecords rs css) css := by
  induction rs generalizing css with
  | nil =>
    cases css with
    | nil => trivial
    | cons c css => simp [shapesAgree] at hs
  | cons r rs ih =>
    cases css with
    | nil => simp [shapesAgree] at hs
    | cons cs css =>
      simp only [shapesAgree] at hs
      simp only [refreshRecords, LengthsMatch]
      exact ⟨refreshCI_matches _ _ hs.1, ih css hs.2⟩

/-- the refresh touches nothing but the lengths -/
theorem refreshCI_ids (cis : List ChannelInfo) (cs : List ChannelData) :
    (refreshCI cis cs).map ChannelInfo.id = cis.map ChannelInfo.id := by
  induction cis generalizing cs with
  | nil => cases cs <;> rfl
  | cons ci cis ih =>
    cases cs with
    | nil => rfl
    | cons c cs => simp [refreshCI, ih]

/-- a well-formed layer info that declares layers, after `write()`: the records and the channel lists -/
theorem refresh_of_wf {v pad : Nat} {li : LayerInfo} (hwf : li.WF v pad) (h0 : li.layerCount ≠ 0) :
    ∃ rs css, li.records = some rs ∧ li.channels = some css ∧ shapesAgree rs css ∧
      li.refresh = ⟨li.layerCount, some (refreshRecords rs css), some css⟩ := by
  unfold LayerInfo.WF at hwf
  simp only [h0, if_false] at hwf
  obtain ⟨n, rs, css⟩ := li
  cases rs with
  | none => simp at hwf
  | some rs =>
    cases css with
    | none => simp at hwf
    | some css =>
      simp only at hwf h0
      obtain ⟨hcount, hshape, _⟩ := hwf
      refine ⟨rs, css, rfl, rfl, hshape, ?_⟩
      cases rs with
      | nil => simp at hcount; exact absurd hcount h0
      | cons r rs =>
        cases css with
        | nil => simp [shapesAgree] at hshape
        | cons c css => simp [LayerInfo.refresh, h0]

end PsdVerif.C03Pixels
