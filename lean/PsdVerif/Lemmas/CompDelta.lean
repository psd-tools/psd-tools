/-
Helper lemmas for C04: the delta coder. The decoder visits the positions of the
encoder in reverse order and each decoder step undoes the encoder step at the same
position, so the round trip is a generic "fold, then fold the inverses backwards".
Core Lean only.
-/
import PsdVerif.Model.Compression

namespace PsdVerif.Compression

/-- Fold of partial steps `E` over `P`, then of steps `D` over `P.reverse`, is the identity
on states satisfying an invariant, when each `D p` undoes `E p`. -/
theorem foldlM_inverse {σ : Type} (E D : σ → Nat → Except Err σ) (Good : σ → Prop) (okp : Nat → Prop)
    (hstep : ∀ a p, Good a → okp p → ∃ a', E a p = .ok a' ∧ Good a' ∧ D a' p = .ok a) :
    ∀ (P : List Nat) (a : σ), Good a → (∀ p ∈ P, okp p) →
      ∃ b, P.foldlM E a = .ok b ∧ Good b ∧ P.reverse.foldlM D b = .ok a := by
  intro P
  induction P with
  | nil => intro a ha _; exact ⟨a, rfl, ha, rfl⟩
  | cons p ps ih =>
    intro a ha hp
    obtain ⟨a', h1, h2, h3⟩ := hstep a p ha (hp p (by simp))
    obtain ⟨b, hb1, hb2, hb3⟩ := ih a' h2 (fun q hq => hp q (by simp [hq]))
    refine ⟨b, ?_, hb2, ?_⟩
    · simp only [List.foldlM_cons, h1]
      exact hb1
    · simp only [List.reverse_cons, List.foldlM_append, hb3]
      simp only [List.foldlM_cons, List.foldlM_nil]
      show (D a' p >>= fun x => pure x) = _
      rw [h3]; rfl

/-- What the delta loops keep: `n` items, all below the modulus `m`. -/
def DeltaGood (m n : Nat) (a : Array Nat) : Prop := a.size = n ∧ ∀ i (h : i < a.size), a[i] < m

theorem delta_step (m n : Nat) (a : Array Nat) (p : Nat) (hg : DeltaGood m n a) (hp : p + 1 < n) :
    ∃ a', encStep m a p = .ok a' ∧ DeltaGood m n a' ∧ decStep m a' p = .ok a := by
  obtain ⟨hs, hlt⟩ := hg
  have h1 : p + 1 < a.size := by omega
  have h0 : p < a.size := by omega
  have hm : 0 < m := by have := hlt p h0; omega
  refine ⟨a.setIfInBounds (p + 1) ((a[p + 1] + (m - a[p] % m)) % m), ?_, ?_, ?_⟩
  · simp [encStep, Array.getElem?_eq_getElem h1, Array.getElem?_eq_getElem h0]
  · constructor
    · simp [hs]
    · intro i hi
      simp only [Array.size_setIfInBounds] at hi
      rw [Array.getElem_setIfInBounds]
      split
      · exact Nat.mod_lt _ hm
      · exact hlt i hi
  · have hq := hlt (p + 1) h1
    have hpv := hlt p h0
    have e1 : (a.setIfInBounds (p + 1) ((a[p + 1] + (m - a[p] % m)) % m))[p + 1]? =
        some ((a[p + 1] + (m - a[p] % m)) % m) := by
      simp [h1]
    have e0 : (a.setIfInBounds (p + 1) ((a[p + 1] + (m - a[p] % m)) % m))[p]? = some a[p] := by
      rw [Array.getElem?_setIfInBounds_ne (by omega)]
      exact Array.getElem?_eq_getElem h0
    simp only [decStep, e1, e0]
    refine congrArg Except.ok ?_
    -- the arithmetic core: adding `a[p]` back undoes the subtraction modulo `m`
    have hv : ((a[p + 1] + (m - a[p] % m)) % m + a[p]) % m = a[p + 1] := by
      rw [Nat.mod_eq_of_lt hpv]
      rw [Nat.mod_add_mod]
      have : a[p + 1] + (m - a[p]) + a[p] = a[p + 1] + m := by omega
      rw [this, Nat.add_mod_right, Nat.mod_eq_of_lt hq]
    rw [hv]
    apply Array.ext_getElem?
    intro i
    by_cases hi : p + 1 = i
    · subst hi
      simp [h1]
    · rw [Array.getElem?_setIfInBounds_ne hi, Array.getElem?_setIfInBounds_ne hi]

theorem encPositions_lt (w h : Nat) : ∀ p ∈ encPositions w h, p + 1 < w * h := by
  intro p hp
  simp only [encPositions, List.mem_flatMap, List.mem_reverse, List.mem_range, List.mem_map] at hp
  obtain ⟨y, hy, x, hx, rfl⟩ := hp
  have : (y + 1) * w ≤ h * w := Nat.mul_le_mul_right w (by omega)
  rw [Nat.mul_comm w h]
  rw [Nat.add_mul] at this
  omega

theorem decPositions_eq (w h : Nat) : decPositions w h = (encPositions w h).reverse := by
  simp only [encPositions, decPositions, List.reverse_flatMap, List.reverse_reverse]
  congr 1
  funext y
  simp [List.map_reverse]

theorem deltaLoop_roundtrip (m w h : Nat) (a : Array Nat) (hg : DeltaGood m (w * h) a) :
    ∃ b, deltaEncode m w h a = .ok b ∧ DeltaGood m (w * h) b ∧ deltaDecode m w h b = .ok a := by
  have := foldlM_inverse (encStep m) (decStep m) (DeltaGood m (w * h)) (fun p => p + 1 < w * h)
    (fun a p hga hp => delta_step m (w * h) a p hga hp) (encPositions w h) a hg (encPositions_lt w h)
  simpa only [deltaEncode, deltaDecode, decPositions_eq] using this

end PsdVerif.Compression
