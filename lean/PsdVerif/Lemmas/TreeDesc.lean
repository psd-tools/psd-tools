/-
Layer-tree model: what `descendants()` enumerates (soundness / completeness w.r.t. `Reach`,
single occurrence under the invariant).
-/
import PsdVerif.Lemmas.TreeBasic

namespace PsdVerif.TreeSt

theorem reach_cont {s : State} (hc : ∀ c, s.children c ≠ [] → s.cont c = true) {c x : Id}
    (r : Reach s c x) : s.cont c = true := hc _ r.children_ne

theorem reach_iff_head {s : State} {g x : Id} :
    Reach s g x ↔ ∃ c, c ∈ s.children g ∧ (x = c ∨ Reach s c x) := by
  constructor
  · intro r
    cases r with
    | edge h => exact ⟨x, h, .inl rfl⟩
    | step h r' => exact ⟨_, h, .inr r'⟩
  · rintro ⟨c, hc, h⟩
    cases h with
    | inl e => subst e; exact .edge hc
    | inr r => exact .step hc r

theorem mem_descList_iff {s : State} (hc : ∀ c, s.children c ≠ [] → s.cont c = true)
    (r : Id → Except Err (List Id)) (hr : ∀ c ds, r c = .ok ds → ∀ x, x ∈ ds ↔ Reach s c x)
    (l ds : List Id) (h : descList r s l = .ok ds) (x : Id) :
    x ∈ ds ↔ ∃ c, c ∈ l ∧ (x = c ∨ Reach s c x) := by
  induction l generalizing ds with
  | nil =>
    simp only [descList] at h
    cases h
    simp
  | cons c cs ih =>
    simp only [descList] at h
    split at h
    · cases h
    · rename_i a ha
      split at h
      · cases h
      · rename_i b hb
        cases h
        have iha : x ∈ a ↔ Reach s c x := by
          by_cases hcont : s.cont c = true
          · rw [if_pos hcont] at ha
            exact hr c a ha x
          · rw [if_neg hcont] at ha
            cases ha
            constructor
            · intro h; cases h
            · intro r'; exact absurd (reach_cont hc r') hcont
        have ihb := ih b hb
        rw [List.cons_append, List.mem_cons, List.mem_append, iha, ihb]
        constructor
        · intro h
          rcases h with e | r' | ⟨c', hc', h'⟩
          · exact ⟨c, List.mem_cons_self .., .inl e⟩
          · exact ⟨c, List.mem_cons_self .., .inr r'⟩
          · exact ⟨c', List.mem_cons_of_mem _ hc', h'⟩
        · intro h
          obtain ⟨c', hc', h'⟩ := h
          rcases List.mem_cons.mp hc' with e | hc''
          · rw [e] at h'
            rcases h' with e' | r'
            · exact .inl e'
            · exact .inr (.inl r')
          · exact .inr (.inr ⟨c', hc'', h'⟩)

/-- `descendants()` yields exactly the layers listed below `g` -/
theorem mem_descF_iff {s : State} (hc : ∀ c, s.children c ≠ [] → s.cont c = true) (f : Nat) (g : Id)
    (ds : List Id) (h : descF s f g = .ok ds) (x : Id) : x ∈ ds ↔ Reach s g x := by
  induction f generalizing g ds x with
  | zero => simp [descF] at h
  | succ f ih =>
    simp only [descF] at h
    rw [mem_descList_iff hc (descF s f) (fun c ds' h' x' => ih c ds' h' x') _ _ h x, reach_iff_head]

theorem mem_desc_iff {s : State} (hc : ∀ c, s.children c ≠ [] → s.cont c = true) {g : Id} {ds : List Id}
    (h : desc s g = .ok ds) (x : Id) : x ∈ ds ↔ Reach s g x := mem_descF_iff hc _ g ds h x

/-- tail-style paths, to reason about the last membership -/
inductive ReachT (s : State) : Id → Id → Prop where
  | edge {c x : Id} : x ∈ s.children c → ReachT s c x
  | snoc {a c x : Id} : ReachT s a c → x ∈ s.children c → ReachT s a x

theorem ReachT.cons {s : State} {a c y : Id} (h : c ∈ s.children a) (r : ReachT s c y) : ReachT s a y := by
  induction r with
  | edge hx => exact .snoc (.edge h) hx
  | snoc _ hx ih => exact .snoc ih hx

theorem reach_iff_reachT {s : State} {a b : Id} : Reach s a b ↔ ReachT s a b := by
  constructor
  · intro r
    induction r with
    | edge h => exact .edge h
    | step h _ ih => exact ReachT.cons h ih
  · intro r
    induction r with
    | edge h => exact .edge h
    | snoc _ hx ih => exact ih.tail hx

/-- under the invariant the ancestors of a layer form a chain -/
theorem Inv.chain {s : State} (i : Inv s) {a z : Id} (ra : Reach s a z) :
    ∀ b, Reach s b z → a = b ∨ Reach s a b ∨ Reach s b a := by
  have ra' := reach_iff_reachT.mp ra
  clear ra
  induction ra' with
  | edge hz =>
    intro b rb
    cases reach_iff_reachT.mp rb with
    | edge hz' => exact .inl (i.unique hz hz')
    | snoc r' hz' =>
      have := i.unique hz hz'
      subst this
      exact .inr (.inr (reach_iff_reachT.mpr r'))
  | snoc r hz ih =>
    intro b rb
    cases reach_iff_reachT.mp rb with
    | edge hz' =>
      have := i.unique hz hz'
      subst this
      exact .inr (.inl (reach_iff_reachT.mpr r))
    | snoc r' hz' =>
      have := i.unique hz hz'
      subst this
      exact ih b (reach_iff_reachT.mpr r')

theorem Inv.no_reach_sibling {s : State} (i : Inv s) {g c c' : Id} (hc : c ∈ s.children g)
    (hc' : c' ∈ s.children g) : ¬ Reach s c c' := by
  intro r
  obtain ⟨d, hd, h⟩ := r.last
  have := i.unique hd hc'
  subst this
  cases h with
  | inl e => subst e; exact i.no_cycle d (.edge hc)
  | inr r' => exact i.no_cycle d (.step hc r')

theorem nodup_descList {s : State} (i : Inv s) (g : Id) (r : Id → Except Err (List Id))
    (hr : ∀ c ds, r c = .ok ds → ds.Nodup ∧ ∀ x, x ∈ ds ↔ Reach s c x)
    (l ds : List Id) (hl : ∀ c, c ∈ l → c ∈ s.children g) (hnd : l.Nodup)
    (h : descList r s l = .ok ds) : ds.Nodup := by
  induction l generalizing ds with
  | nil =>
    simp only [descList] at h
    cases h
    exact List.nodup_nil
  | cons c cs ih =>
    have hmem := fun ds' h' => mem_descList_iff i.contOnly r (fun c ds h => (hr c ds h).2) cs ds' h'
    simp only [descList] at h
    split at h
    · cases h
    · rename_i a ha
      split at h
      · cases h
      · rename_i b hb
        cases h
        have hcg : c ∈ s.children g := hl c (List.mem_cons_self ..)
        have hnd' := List.nodup_cons.mp hnd
        have hb' := ih b (fun c' h' => hl c' (List.mem_cons_of_mem _ h')) hnd'.2 hb
        have iha : a.Nodup ∧ ∀ x, x ∈ a ↔ Reach s c x := by
          by_cases hcont : s.cont c = true
          · rw [if_pos hcont] at ha
            exact hr c a ha
          · rw [if_neg hcont] at ha
            cases ha
            refine ⟨List.nodup_nil, fun x => ⟨fun h => (by cases h), fun r' => absurd (reach_cont i.contOnly r') hcont⟩⟩
        -- members of `b` are later siblings or below them
        have hbmem : ∀ x, x ∈ b → ∃ c', c' ∈ cs ∧ (x = c' ∨ Reach s c' x) := fun x hx => (hmem b hb x).mp hx
        rw [List.cons_append, List.nodup_cons]
        refine ⟨?_, ?_⟩
        · intro hmem'
          rcases List.mem_append.mp hmem' with h1 | h1
          · exact i.no_cycle c ((iha.2 c).mp h1)
          · obtain ⟨c', hc', h2⟩ := hbmem c h1
            have hc'g := hl c' (List.mem_cons_of_mem _ hc')
            cases h2 with
            | inl e => subst e; exact hnd'.1 hc'
            | inr r' => exact i.no_reach_sibling hc'g hcg r'
        · rw [List.nodup_append]
          refine ⟨iha.1, hb', ?_⟩
          intro x hxa y hyb e
          subst e
          have rc := (iha.2 x).mp hxa
          obtain ⟨c', hc', h2⟩ := hbmem x hyb
          have hc'g := hl c' (List.mem_cons_of_mem _ hc')
          have hne : c ≠ c' := by intro e; subst e; exact hnd'.1 hc'
          cases h2 with
          | inl e => subst e; exact i.no_reach_sibling hcg hc'g rc
          | inr r' =>
            rcases i.chain rc c' r' with e | r'' | r''
            · exact hne e
            · exact i.no_reach_sibling hcg hc'g r''
            · exact i.no_reach_sibling hc'g hcg r''

/-- (I4) under the invariant `descendants()` yields every layer below `g` exactly once -/
theorem descF_nodup {s : State} (i : Inv s) (f : Nat) (g : Id) (ds : List Id) (h : descF s f g = .ok ds) :
    ds.Nodup ∧ ∀ x, x ∈ ds ↔ Reach s g x := by
  refine ⟨?_, mem_descF_iff i.contOnly f g ds h⟩
  induction f generalizing g ds with
  | zero => simp [descF] at h
  | succ f ih =>
    simp only [descF] at h
    exact nodup_descList i g (descF s f)
      (fun c ds' h' => ⟨ih c ds' h', mem_descF_iff i.contOnly f c ds' h'⟩) _ _ (fun _ h => h) (i.nodup g) h

end PsdVerif.TreeSt
