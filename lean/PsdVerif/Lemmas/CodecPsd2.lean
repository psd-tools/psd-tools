/-
Round-trip and count laws of the skeleton parts inside a layer record: flags, mask data,
blending ranges, channel info, the record itself. The record reader and the reader of its extra data are proved with the
reader of the block list left open (`extraRead_at`, `recRead_step`): the skeleton's record here and the typed record of
Lemmas/TypedBlocks2.lean are the two instances.
-/
import PsdVerif.Lemmas.CodecPsd1

namespace PsdVerif.Psd
open PsdVerif PsdVerif.Codec

/-! ## flags -/

theorem bit_le (b : Bool) (k : Nat) : bit b k ≤ k := by unfold bit; split <;> omega

/-- the 256 flag bytes, one by one -/
theorem Flags8.ofNat_toNat (f : Flags8) : Flags8.ofNat f.toNat = f := by
  obtain ⟨a, b, c, d, e, g, h, i⟩ := f
  revert a b c d e g h i
  decide +kernel

theorem Flags8.toNat_lt (f : Flags8) : f.toNat < 256 ^ 1 := by
  have := bit_le f.b0 1; have := bit_le f.b1 2; have := bit_le f.b2 4; have := bit_le f.b3 8
  have := bit_le f.b4 16; have := bit_le f.b5 32; have := bit_le f.b6 64; have := bit_le f.b7 128
  unfold Flags8.toNat
  omega

theorem LayerFlags.ofNat_toNat (f : LayerFlags) : LayerFlags.ofNat f.toNat = f := by
  simp only [LayerFlags.ofNat, LayerFlags.toNat, Flags8.ofNat_toNat, Bool.not_not]

theorem LayerFlags.toNat_lt (f : LayerFlags) : f.toNat < 256 ^ 1 := Flags8.toNat_lt _

/-! ## mask parameters -/

theorem length_optT (w : Nat) (o : Option Nat) : (optT w o).length = if o.isSome then w else 0 := by
  cases o <;> simp [optT, length_beBytes]

theorem readOpt_step {d : B} {p w : Nat} {o : Option Nat} {rest : B} (h : At d p (optT w o ++ rest))
    (hf : optFits w o) :
    readOpt o.isSome w d p = .ok (o, p + (optT w o).length) ∧ At d (p + (optT w o).length) rest := by
  cases o with
  | none => simpa [readOpt, optT] using h
  | some n =>
    simp only [optT, optFits] at h hf ⊢
    obtain ⟨e, h'⟩ := readU_step h hf
    simp only [readOpt, Option.isSome_some, if_true, e, length_beBytes]
    exact ⟨trivial, h'⟩

theorem MaskParameters.mask_lt (m : MaskParameters) : m.mask < 256 ^ 1 := by
  have := bit_le m.userMaskDensity.isSome 1; have := bit_le m.userMaskFeather.isSome 2
  have := bit_le m.vectorMaskDensity.isSome 4; have := bit_le m.vectorMaskFeather.isSome 8
  unfold MaskParameters.mask
  omega

theorem MaskParameters.mask_bits (m : MaskParameters) :
    decide (m.mask % 2 = 1) = m.userMaskDensity.isSome ∧ decide (m.mask / 2 % 2 = 1) = m.userMaskFeather.isSome ∧
    decide (m.mask / 4 % 2 = 1) = m.vectorMaskDensity.isSome ∧ decide (m.mask / 8 % 2 = 1) = m.vectorMaskFeather.isSome := by
  unfold MaskParameters.mask
  generalize m.userMaskDensity.isSome = a, m.userMaskFeather.isSome = b, m.vectorMaskDensity.isSome = c,
    m.vectorMaskFeather.isSome = d
  revert a b c d
  decide

theorem MaskParameters.length_encT (m : MaskParameters) :
    m.encT.length = 1 + (optT 1 m.userMaskDensity).length + (optT 8 m.userMaskFeather).length +
      (optT 1 m.vectorMaskDensity).length + (optT 8 m.vectorMaskFeather).length := by
  simp only [MaskParameters.encT, List.length_append, length_beBytes]

theorem MaskParameters.dec_step {m : MaskParameters} (hf : m.Fits) {d : B} {p : Nat} {rest : B}
    (hat : At d p (m.encT ++ rest)) :
    MaskParameters.dec d p = .ok (m, p + m.encT.length) ∧ At d (p + m.encT.length) rest := by
  obtain ⟨f1, f2, f3, f4⟩ := hf
  obtain ⟨b1, b2, b3, b4⟩ := m.mask_bits
  rw [MaskParameters.length_encT]
  simp only [MaskParameters.encT, List.append_assoc] at hat
  obtain ⟨e0, hat⟩ := readU_step hat m.mask_lt
  obtain ⟨e1, hat⟩ := readOpt_step hat f1
  obtain ⟨e2, hat⟩ := readOpt_step hat f2
  obtain ⟨e3, hat⟩ := readOpt_step hat f3
  obtain ⟨e4, hat⟩ := readOpt_step hat f4
  refine ⟨?_, by simpa only [Nat.add_assoc] using hat⟩
  simp only [MaskParameters.dec, bind, Except.bind, e0, b1, b2, b3, b4, e1, e2, e3, e4]
  simp only [Nat.add_assoc]

theorem MaskParameters.encP_eq (m : MaskParameters) : m.encP = (m.encT, m.encT.length) := by
  simp only [MaskParameters.encP, MaskParameters.encT, wBytes_eq, wNil, W.seq, List.nil_append,
    Nat.zero_add, List.length_append, List.append_assoc, Nat.add_assoc]

/-! ## mask data -/

theorem MaskReal.length_encT (r : MaskReal) : r.encT.length = 18 := by
  simp [MaskReal.encT, length_beBytes, length_i32T]

theorem MaskReal.dec_step {r : MaskReal} (hf : r.Fits) {d : B} {p : Nat} {rest : B} (hat : At d p (r.encT ++ rest)) :
    MaskReal.dec d p = .ok (r, p + r.encT.length) ∧ At d (p + r.encT.length) rest := by
  obtain ⟨f1, f2, f3, f4, f5⟩ := hf
  rw [MaskReal.length_encT]
  simp only [MaskReal.encT, List.append_assoc] at hat
  obtain ⟨e0, hat⟩ := readU_step hat r.flags.toNat_lt
  obtain ⟨e1, hat⟩ := readU_step hat f1
  obtain ⟨e2, hat⟩ := readI32_step hat f2
  obtain ⟨e3, hat⟩ := readI32_step hat f3
  obtain ⟨e4, hat⟩ := readI32_step hat f4
  obtain ⟨e5, hat⟩ := readI32_step hat f5
  refine ⟨?_, hat⟩
  simp only [MaskReal.dec, bind, Except.bind, e0, e1, e2, e3, e4, e5, Flags8.ofNat_toNat]

theorem MaskData.length_fixedT (m : MaskData) : m.fixedT.length = 18 := by
  simp [MaskData.fixedT, length_beBytes, length_i32T]

theorem MaskData.length_bodyT_mod (m : MaskData) : m.bodyT.length % 4 = 0 := by
  simp only [MaskData.bodyT, List.length_append, length_zeros]
  exact add_padAmount_mod _ 4 (by decide)

theorem MaskData.length_bodyT_ge (m : MaskData) : 18 ≤ m.bodyT.length := by
  simp only [MaskData.bodyT, MaskData.unpaddedT, List.length_append, MaskData.length_fixedT]; omega

/-- the reader's test `length >= 36` selects the real fields exactly when they were written -/
theorem MaskData.real_gate {m : MaskData} (hwf : m.WF) : decide (m.bodyT.length ≥ 36) = m.real.isSome := by
  obtain ⟨_, _, h3⟩ := hwf
  have hmod := m.length_bodyT_mod
  have hlt := padAmount_lt m.unpaddedT.length 4 (by decide)
  simp only [MaskData.bodyT, List.length_append, length_zeros] at hmod ⊢
  cases hr : m.real with
  | none =>
    have := h3 hr
    simp only [Option.isSome_none, decide_eq_false_iff_not]; omega
  | some r =>
    have : 36 ≤ m.unpaddedT.length := by
      simp only [MaskData.unpaddedT, MaskData.realT, hr, List.length_append, MaskData.length_fixedT,
        MaskReal.length_encT]; omega
    simp only [Option.isSome_some, decide_eq_true_eq]; omega

theorem paramsDec_step {applied : Bool} {ps : Option MaskParameters} (hpar : applied = true ↔ ps.isSome)
    (hf : maskParamsFits applied ps) {d : B} {q : Nat} {rest : B} (hq : At d q (maskParamsT applied ps ++ rest)) :
    (if applied = true then optItem MaskParameters.dec d q else .ok (none, q)) =
      .ok (ps, q + (maskParamsT applied ps).length) := by
  cases applied with
  | false =>
    have : ps = none := by
      cases ps with
      | none => rfl
      | some x => have := hpar.mpr rfl; cases this
    subst this
    simp [maskParamsT]
  | true =>
    obtain ⟨x, rfl⟩ := Option.isSome_iff_exists.mp (hpar.mp rfl)
    simp only [maskParamsT, maskParamsFits] at hq hf ⊢
    obtain ⟨e7, _⟩ := MaskParameters.dec_step hf hq
    simp [optItem, e7]

theorem MaskData.bodyDec_step {m : MaskData} (hf : m.Fits)
    (hpar : m.flags.parametersApplied = true ↔ m.parameters.isSome)
    {L : Nat} (hgate : decide (L ≥ 36) = m.real.isSome) {d : B} {p : Nat} {rest : B}
    (hat : At d p (m.unpaddedT ++ rest)) :
    MaskData.bodyDec L d p = .ok (m, p + m.unpaddedT.length) := by
  obtain ⟨t, l, b, r, bg, fl, params, real⟩ := m
  obtain ⟨f1, f2, f3, f4, f5, f6, f7⟩ := hf
  simp only at f1 f2 f3 f4 f5 f6 f7 hpar hgate
  simp only [MaskData.unpaddedT, MaskData.fixedT, MaskData.realT, MaskData.paramsT, List.append_assoc,
    List.length_append, length_i32T, length_beBytes] at hat ⊢
  obtain ⟨e1, hat⟩ := readI32_step hat f1
  obtain ⟨e2, hat⟩ := readI32_step hat f2
  obtain ⟨e3, hat⟩ := readI32_step hat f3
  obtain ⟨e4, hat⟩ := readI32_step hat f4
  obtain ⟨e5, hat⟩ := readU_step hat f5
  obtain ⟨e6, hat⟩ := readU_step hat (Flags8.toNat_lt fl)
  simp only [MaskData.bodyDec, bind, Except.bind, e1, e2, e3, e4, e5, e6, Flags8.ofNat_toNat]
  cases real with
  | none =>
    simp only [Option.isSome_none, decide_eq_false_iff_not] at hgate
    simp only [List.nil_append, if_neg hgate, List.length_nil, Nat.zero_add] at hat ⊢
    rw [paramsDec_step hpar f7 hat]
    simp only [Nat.add_assoc]
  | some rl =>
    simp only [Option.isSome_some, decide_eq_true_eq] at hgate
    simp only [if_pos hgate, realFits] at hat f6 ⊢
    obtain ⟨e7, hat⟩ := MaskReal.dec_step f6 hat
    have e7' : optItem MaskReal.dec d (p + 4 + 4 + 4 + 4 + 1 + 1) =
        .ok (some rl, p + 4 + 4 + 4 + 4 + 1 + 1 + rl.encT.length) := by simp [optItem, e7]
    simp only [e7']
    rw [paramsDec_step hpar f7 hat]
    simp only [Nat.add_assoc]

theorem MaskData.bodyDec_at {m : MaskData} (hwf : m.WF) :
    ∃ q, MaskData.bodyDec m.bodyT.length m.bodyT 0 = .ok (m, q) :=
  ⟨_, MaskData.bodyDec_step hwf.1 hwf.2.1 (MaskData.real_gate hwf) (At.self _)⟩

theorem length_maskT_ge (m : Option MaskData) : 4 ≤ (maskT m).length := by
  cases m with
  | none => simp [maskT, length_beBytes]
  | some m => simp only [maskT, MaskData.encT, length_lenBlockT]; omega

theorem maskDec_step {m : Option MaskData} (hwf : maskWF m) (hf : maskFits m) {d : B} {p : Nat} {rest : B}
    (hat : At d p (maskT m ++ rest)) :
    maskDec d p = .ok (m, p + (maskT m).length) ∧ At d (p + (maskT m).length) rest := by
  refine ⟨?_, hat.right⟩
  have hat := hat.left
  cases m with
  | none =>
    have hat' : At d p (lenBlockT 0 4 1 []) := by
      simpa [maskT, lenBlockT, zeros, padAmount_one] using hat
    have e := readLenBlock_at hat' (by decide) (by decide)
    simp only [maskDec, bind, Except.bind, e]
    simp [maskT, lenBlockT, zeros, padAmount_one, length_beBytes]
  | some m =>
    simp only [maskT, MaskData.encT, maskWF, maskFits] at hat hwf hf ⊢
    have e := readLenBlock_at hat hf.2 (by decide)
    obtain ⟨q, e2⟩ := MaskData.bodyDec_at hwf
    have hne : ¬ m.bodyT.length = 0 := by have := m.length_bodyT_ge; omega
    simp only [maskDec, bind, Except.bind, e, if_neg hne, e2]

theorem MaskData.bodyP_eq (m : MaskData) : m.bodyP = (m.bodyT, m.bodyT.length) := by
  obtain ⟨t, l, b, r, bg, fl, params, real⟩ := m
  cases real <;> cases hfl : MaskFlags.parametersApplied fl <;> cases params <;>
    simp only [MaskData.bodyP, MaskData.bodyT, MaskData.unpaddedT, MaskData.fixedT, MaskData.realT,
      MaskData.paramsT, maskParamsT, MaskReal.encT, hfl, MaskParameters.encP_eq, wBytes_eq, wSeq_eq, wPad_eq,
      List.append_assoc, List.append_nil]

theorem maskP_eq (m : Option MaskData) : maskP m = (maskT m, (maskT m).length) := by
  cases m with
  | none => rfl
  | some m => simp only [maskP, maskT, MaskData.encP, MaskData.encT, MaskData.bodyP_eq, wLenBlock_eq]

/-! ## blending ranges -/

theorem Range4.length_encT (r : Range4) : r.encT.length = 8 := by simp [Range4.encT, length_beBytes]

theorem Range4.dec_step {r : Range4} (hf : r.Fits) {d : B} {p : Nat} {rest : B} (hat : At d p (r.encT ++ rest)) :
    Range4.dec d p = .ok (r, p + r.encT.length) ∧ At d (p + r.encT.length) rest := by
  obtain ⟨f1, f2, f3, f4⟩ := hf
  rw [Range4.length_encT]
  simp only [Range4.encT, List.append_assoc] at hat
  obtain ⟨e1, hat⟩ := readU_step hat f1
  obtain ⟨e2, hat⟩ := readU_step hat f2
  obtain ⟨e3, hat⟩ := readU_step hat f3
  obtain ⟨e4, hat⟩ := readU_step hat f4
  exact ⟨by simp only [Range4.dec, bind, Except.bind, e1, e2, e3, e4], hat⟩

theorem Range4.encP_eq (r : Range4) : r.encP = (r.encT, r.encT.length) := by
  simp only [Range4.encP, Range4.encT, wBytes_eq, wSeq_eq, List.append_assoc]

theorem BlendingRanges.bodyP_eq (r : BlendingRanges) : r.bodyP = (r.bodyT, r.bodyT.length) := by
  obtain ⟨c, cs⟩ := r
  cases c <;> cases cs <;>
    simp [BlendingRanges.bodyP, BlendingRanges.bodyT, Range4.encP_eq, wNil, W.seq,
      wList_eq Range4.encP Range4.encT _ (fun r _ => r.encP_eq)]

theorem BlendingRanges.encP_eq (r : BlendingRanges) : r.encP = (r.encT, r.encT.length) := by
  simp only [BlendingRanges.encP, BlendingRanges.encT, BlendingRanges.bodyP_eq, wLenBlock_eq]

theorem BlendingRanges.dec_step {r : BlendingRanges} (hwf : r.WF) {d : B} {p : Nat} {rest : B}
    (hat : At d p (r.encT ++ rest)) :
    BlendingRanges.dec d p = .ok (r, p + r.encT.length) ∧ At d (p + r.encT.length) rest := by
  refine ⟨?_, hat.right⟩
  have hat := hat.left
  obtain ⟨⟨f1, f2, f3⟩, hshape⟩ := hwf
  unfold BlendingRanges.encT at hat ⊢
  have e := readLenBlock_at hat f3 (by decide)
  obtain ⟨c, cs⟩ := r
  simp only at hshape f1 f2
  rcases hshape with ⟨rfl, rfl⟩ | ⟨hc, hcs⟩
  · simp only [BlendingRanges.dec, bind, Except.bind, e]
    simp [BlendingRanges.bodyT]
  · obtain ⟨c, rfl⟩ := Option.isSome_iff_exists.mp hc
    obtain ⟨cs, rfl⟩ := Option.isSome_iff_exists.mp hcs
    simp only at f1 f2
    have hself : At (BlendingRanges.bodyT ⟨some c, some cs⟩) 0 (c.encT ++ listT Range4.encT cs) := At.self _
    have hlen : (BlendingRanges.bodyT ⟨some c, some cs⟩).length = 8 + (listT Range4.encT cs).length := by
      simp only [BlendingRanges.bodyT, List.length_append, Range4.length_encT]
    generalize BlendingRanges.bodyT ⟨some c, some cs⟩ = D at *
    obtain ⟨e1, h2⟩ := Range4.dec_step f1 hself
    have e2 : readWhile (isReadable 8) (optItem Range4.dec) D (0 + c.encT.length) =
        .ok (cs, 0 + c.encT.length + (listT Range4.encT cs).length) :=
      readWhile_isReadable_opt (by decide) (fun x hx _ _ hq => (Range4.dec_step (f2 x hx) hq.nil_right).1)
        (fun x _ => Nat.le_of_eq (Range4.length_encT x).symm) h2 (by rw [Range4.length_encT]; omega)
    simp only [BlendingRanges.dec, bind, Except.bind, e, if_neg (show ¬ D.length = 0 by omega), e1, e2]

/-! ## channel info -/

theorem ChannelInfo.length_encT (v : Nat) (c : ChannelInfo) : (c.encT v).length = 2 + secW v := by
  simp [ChannelInfo.encT, length_i16T, length_beBytes]

theorem ChannelInfo.dec_at {v : Nat} {c : ChannelInfo} (hwf : c.WF v) {d : B} {p : Nat} (hat : At d p (c.encT v)) :
    ChannelInfo.dec v d p = .ok (c, p + (c.encT v).length) := by
  obtain ⟨hid, f1, f2⟩ := hwf
  rw [ChannelInfo.length_encT]
  simp only [ChannelInfo.encT] at hat
  obtain ⟨e1, hat⟩ := readI16_step hat f1
  have e2 := readU_at hat f2
  simp only [ChannelInfo.dec, bind, Except.bind, e1, e2, if_pos hid, Nat.add_assoc]

theorem ChannelInfo.encP_eq (v : Nat) (c : ChannelInfo) : c.encP v = (c.encT v, (c.encT v).length) := rfl

/-! ## the extra data of a layer record, with the reader of the block list left open -/

theorem LayerRecord.Fits.mask {v : Nat} {r : LayerRecord} (h : r.Fits v) : maskFits r.maskData := h.2.2.2.2.2.2.2.2.1
theorem LayerRecord.Fits.name {v : Nat} {r : LayerRecord} (h : r.Fits v) : r.name.length < 256 := h.2.2.2.2.2.2.2.2.2.2.1

/-- `LayerRecord._read_extra` with the reader of the block list left open: `LayerRecord.extraDec` with the skeleton's block
list (`LayerRecord.extraDec_eq_extraRead`), `Typed.Rec.extraDec` with the typed one (Lemmas/TypedBlocks2.lean) -/
def extraRead {T : Type} (bdec : Option Nat → R (List T)) : R (Option MaskData × BlendingRanges × B × List T) := fun d p => do
  let (mask, p) ← maskDec d p
  let (ranges, p) ← BlendingRanges.dec d p
  let (name, p) ← readPascal 4 d p
  let (tbs, p) ← bdec none d p
  .ok ((mask, ranges, name, tbs), p)

theorem LayerRecord.extraDec_eq_extraRead (v : Nat) : LayerRecord.extraDec v = extraRead (taggedBlocksDec v 1) := rfl

/-- on the stream of the extra block: fewer than 8 bytes of filler follow the block list, so the list reader stops there -/
theorem extraRead_at {T : Type} {bdec : Option Nat → R (List T)} {m : Option MaskData} {rg : BlendingRanges} {nm bT : B}
    {ts : List T} (hm : maskWF m) (hmf : maskFits m) (hr : rg.WF) (hn : nm.length < 256)
    (hb : ∀ {d : B} {p : Nat}, At d p bT → taggedCond none d (p + bT.length) = false → bdec none d p = .ok (ts, p + bT.length))
    {k : Nat} (hk : k < 8) :
    ∃ q, extraRead bdec (maskT m ++ rg.encT ++ pascalT 4 nm ++ bT ++ zeros k) 0 = .ok ((m, rg, nm, ts), q) := by
  have hat : At (maskT m ++ rg.encT ++ pascalT 4 nm ++ bT ++ zeros k) 0 (maskT m ++ rg.encT ++ pascalT 4 nm ++ bT) :=
    (At.self _).left
  have hlen : (maskT m ++ rg.encT ++ pascalT 4 nm ++ bT ++ zeros k).length =
      (maskT m).length + rg.encT.length + (pascalT 4 nm).length + bT.length + k := by
    simp only [List.length_append, length_zeros]
  generalize maskT m ++ rg.encT ++ pascalT 4 nm ++ bT ++ zeros k = d at hat hlen ⊢
  simp only [List.append_assoc] at hat
  obtain ⟨e1, hat⟩ := maskDec_step hm hmf hat
  obtain ⟨e2, hat⟩ := BlendingRanges.dec_step hr hat
  obtain ⟨e3, hat⟩ := readPascal_step hat hn
  have e4 := hb hat (by unfold taggedCond; rw [isReadable_false (by omega)]; rfl)
  simp only [extraRead, bind, Except.bind, e1, e2, e3, e4]
  exact ⟨_, rfl⟩

theorem LayerRecord.length_encT (v : Nat) (r : LayerRecord) :
    (r.encT v).length = 4 + 4 + 4 + 4 + 2 + (listT (ChannelInfo.encT v) r.channelInfo).length + 4 + 4 + 1 + 1 + 1 +
      (lenBlockT 1 4 1 (r.extraT v)).length := by
  simp only [LayerRecord.encT, LayerRecord.fixedT, List.length_append, length_i32T, length_beBytes, length_pack4s]

theorem LayerRecord.length_ge (v : Nat) (r : LayerRecord) : 34 ≤ (r.encT v).length := by
  rw [LayerRecord.length_encT, length_lenBlockT]; omega

/-! ## the layer record, with the reader of its extra data left open -/

/-- `LayerRecord.read`; `fin` builds the result from the record read so far (as a function of its block list) and what the
reader of the extra data returned for the blocks, and says which record the validators see. `LayerRecord.dec` is the instance
that puts the blocks into the record (`LayerRecord.dec_eq_recRead`), `Typed.Rec.dec` the one that keeps them beside it
(Lemmas/TypedBlocks2.lean) -/
def recRead {T α : Type} (xdec : R (Option MaskData × BlendingRanges × B × T))
    (fin : (List TaggedBlock → LayerRecord) → T → LayerRecord × α)
    (version : Nat) : R α := fun d p => do
  let (top, p) ← readI32 d p
  let (left, p) ← readI32 d p
  let (bottom, p) ← readI32 d p
  let (right, p) ← readI32 d p
  let (n, p) ← readU 2 d p
  let (cis, p) ← readCount (ChannelInfo.dec version) n d p
  let (sig, p) ← readN 4 d p
  let (bm, p) ← readN 4 d p
  let (opacity, p) ← readU 1 d p
  let (clipping, p) ← readU 1 d p
  let (fl, p) ← readU 1 d p
  let (data, p) ← readLenBlock 1 4 1 d p
  let ((mask, ranges, name, tbs), _) ← xdec data 0
  let ra := fin (fun ts => ⟨top, left, bottom, right, cis, sig, bm, opacity, clipping, LayerFlags.ofNat fl, mask, ranges, name, ts⟩) tbs
  if ra.1.Valid then .ok (ra.2, p) else .error .valueError

theorem recRead_step {T α : Type} {xdec : R (Option MaskData × BlendingRanges × B × T)}
    {fin : (List TaggedBlock → LayerRecord) → T → LayerRecord × α} {v : Nat} {b : LayerRecord} {t : T}
    (hvalid : b.Valid) (hfits : b.Fits v) (hci : ∀ c ∈ b.channelInfo, c.id ∈ G.channelIds)
    (hx : ∃ q, xdec (b.extraT v) 0 = .ok ((b.maskData, b.blendingRanges, b.name, t), q))
    (hfin : (fin (fun ts => { b with taggedBlocks := ts }) t).1.Valid) {d : B} {p : Nat} {rest : B}
    (hat : At d p (b.encT v ++ rest)) :
    recRead xdec fin v d p = .ok ((fin (fun ts => { b with taggedBlocks := ts }) t).2, p + (b.encT v).length) ∧
      At d (p + (b.encT v).length) rest := by
  refine ⟨?_, hat.right⟩
  have hat := hat.left
  obtain ⟨top, left, bottom, right, cis, sig, bm, opacity, clipping, flags, mask, ranges, name, tbs⟩ := b
  obtain ⟨f1, f2, f3, f4, f5, f6, f7, f8, f9, f10, f11, f12, f13⟩ := hfits
  obtain ⟨v1, v2, v3, v4⟩ := hvalid
  obtain ⟨q, e13⟩ := hx
  simp only at f1 f2 f3 f4 f5 f6 f7 f8 f9 f10 f11 f12 f13 v1 v2 v3 v4 hci e13 hfin
  have hl : ∀ s ∈ G.recordSignatures, s.length = 4 := by decide
  have hb : ∀ s ∈ G.blendModes, s.length = 4 := by decide
  have hs : pack4s sig = sig := pack4s_of_length (hl _ v1)
  have hbm : pack4s bm = bm := pack4s_of_length (hb _ v2)
  rw [LayerRecord.length_encT]
  simp only [LayerRecord.encT, LayerRecord.fixedT, List.append_assoc, hs, hbm] at hat
  obtain ⟨e1, hat⟩ := readI32_step hat f1
  obtain ⟨e2, hat⟩ := readI32_step hat f2
  obtain ⟨e3, hat⟩ := readI32_step hat f3
  obtain ⟨e4, hat⟩ := readI32_step hat f4
  obtain ⟨e5, hat⟩ := readU_step hat f5
  obtain ⟨e6, hat⟩ := readCount_step (ChannelInfo.dec v) (ChannelInfo.encT v) cis
    (fun c hc d p h => ChannelInfo.dec_at ⟨hci c hc, f6 c hc⟩ h) hat
  obtain ⟨e7, hat⟩ := readN_step hat (hl _ v1)
  obtain ⟨e8, hat⟩ := readN_step hat (hb _ v2)
  obtain ⟨e9, hat⟩ := readU_step hat f7
  obtain ⟨e10, hat⟩ := readU_step hat f8
  obtain ⟨e11, hat⟩ := readU_step hat flags.toNat_lt
  have e12 := readLenBlock_at hat f13 (by decide)
  simp only [recRead, bind, Except.bind, e1, e2, e3, e4, e5, e6, e7, e8, e9, e10, e11, e12, e13, LayerFlags.ofNat_toNat]
  rw [if_pos hfin]
  simp only [Except.ok.injEq, Prod.mk.injEq, true_and]
  omega

theorem LayerRecord.dec_eq_recRead (v : Nat) :
    LayerRecord.dec v = recRead (LayerRecord.extraDec v) (fun mk tbs => (mk tbs, mk tbs)) v := rfl

theorem LayerRecord.dec_step {v : Nat} {r : LayerRecord} (hwf : r.WF v) {d : B} {p : Nat} {rest : B}
    (hat : At d p (r.encT v ++ rest)) :
    LayerRecord.dec v d p = .ok (r, p + (r.encT v).length) ∧ At d (p + (r.encT v).length) rest := by
  obtain ⟨hvalid, hfits, hci, hm, hr, ht⟩ := hwf
  have hx : ∃ q, LayerRecord.extraDec v (r.extraT v) 0 = .ok ((r.maskData, r.blendingRanges, r.name, r.taggedBlocks), q) := by
    rw [LayerRecord.extraDec_eq_extraRead]
    exact extraRead_at hm hfits.mask hr hfits.name
      (fun h hs => taggedBlocksDec_at (Or.inl rfl) ht none h (fun e he => by cases he) hs)
      (Nat.lt_trans (padAmount_lt _ 2 (by decide)) (by decide))
  rw [LayerRecord.dec_eq_recRead]
  exact recRead_step hvalid hfits hci hx hvalid hat

theorem LayerRecord.extraP_eq (v : Nat) (r : LayerRecord) : r.extraP v = (r.extraT v, (r.extraT v).length) := by
  simp only [LayerRecord.extraP, LayerRecord.extraT, LayerRecord.extraUnpaddedT, maskP_eq, BlendingRanges.encP_eq,
    wPascal_eq, taggedBlocksP_eq, wPad_eq, wNil, W.seq, List.nil_append, Nat.zero_add,
    List.length_append, List.append_assoc, Nat.add_assoc]

theorem LayerRecord.encP_eq (v : Nat) (r : LayerRecord) : r.encP v = (r.encT v, (r.encT v).length) := by
  simp only [LayerRecord.encP, LayerRecord.encT, LayerRecord.extraP_eq, wLenBlock_eq, wBytes_eq,
    wList_eq (ChannelInfo.encP v) (ChannelInfo.encT v) _ (fun c _ => c.encP_eq v), wSeq_eq, List.append_assoc]

end PsdVerif.Psd
