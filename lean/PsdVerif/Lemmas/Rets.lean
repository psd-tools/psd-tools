/-
Inverting a reader. The readers of the models are `do` blocks over `Except Err`; what one of them can return is found
either by taking the block apart line by line (`bind_ok`, `ok_of_ite`, `map_ok`) or, where no equation of a read is needed
afterwards, by following it with `Rets`.

`Rets m P` speaks of ANY stream: whatever bytes the run `m` saw, a value it returns satisfies `P`. (The laws of
Lemmas/Codec.lean - `X_at`, `Reads` - go the other way: on the bytes the WRITER produced the reader returns the value that
was written.) It says nothing about the cursor or about failures; its relatives that do:
* `Descriptor.Ret P r` (Lemmas/DescriptorResave.lean): `Rets (r d p) P` for every `d`, `p`, composed along `>>-`;
* `Descriptor.OkAt` / `GoodIn` (Lemmas/Descriptor4.lean), `Safe.Good` / `ErrIn` (Lemmas/Safe1.lean): where the cursor
  ends and which exceptions can be raised.
-/
import PsdVerif.Model.Codec

namespace PsdVerif.Codec

theorem bind_ok {α β : Type} {f : Except Err α} {g : α → Except Err β} {b : β}
    (h : (f >>= g) = .ok b) : ∃ a, f = .ok a ∧ g a = .ok b := by
  cases f with
  | error e => cases h
  | ok a => exact ⟨a, rfl, h⟩

theorem map_ok {α β : Type} {x : Except Err α} {f : α → β} {b : β} (h : x.map f = .ok b) : ∃ a, x = .ok a ∧ f a = b := by
  cases x with
  | error e => cases h
  | ok a => cases h; exact ⟨a, rfl, rfl⟩

/-- a guard (`assert`, a validator, an enum conversion) in front of the rest of a reader -/
theorem ok_of_ite {ε α : Type} {c : Prop} [Decidable c] {x : Except ε α} {e : ε} {a : α}
    (h : (if c then x else .error e) = .ok a) : c ∧ x = .ok a := by
  split at h
  · exact ⟨‹c›, h⟩
  · cases h

/-! ### what a run of a reader can return

`Rets m P`: every value the run `m` can return satisfies `P`. The closure lemmas follow the shape of a `do` block, so that
what a reader guarantees is read off its text line by line: `.bind` for `let (x, p) ← …` (the hypothesis about `x` is handed
on), `.skip` for a step that constrains nothing, `.guard` for `if c then … else .error e`, `.ok` for the result. -/

def Rets {α : Type} (m : Except Err (α × Nat)) (P : α → Prop) : Prop := ∀ a q, m = .ok (a, q) → P a

theorem Rets.bind {α β : Type} {m : Except Err (α × Nat)} {f : α × Nat → Except Err (β × Nat)} {P : α → Prop}
    {Q : β → Prop} (hm : Rets m P) (hf : ∀ a q, P a → Rets (f (a, q)) Q) : Rets (m >>= f) Q := by
  intro b q h
  obtain ⟨⟨a, q1⟩, e, h⟩ := bind_ok h
  exact hf a q1 (hm a q1 e) b q h

theorem Rets.skip {α β : Type} {m : Except Err (α × Nat)} {f : α × Nat → Except Err (β × Nat)} {Q : β → Prop}
    (hf : ∀ a q, Rets (f (a, q)) Q) : Rets (m >>= f) Q :=
  Rets.bind (P := fun _ => True) (fun _ _ _ => trivial) fun a q _ => hf a q

theorem Rets.ok {α : Type} {P : α → Prop} {a : α} {q : Nat} (h : P a) : Rets (.ok (a, q)) P := by
  intro b q' e
  cases e
  exact h

theorem Rets.error {α : Type} {e : Err} {P : α → Prop} : Rets (.error e) P := fun _ _ h => nomatch h

theorem Rets.mono {α : Type} {m : Except Err (α × Nat)} {P Q : α → Prop} (h : Rets m P) (hpq : ∀ a, P a → Q a) : Rets m Q :=
  fun a q e => hpq a (h a q e)

theorem Rets.guard {α : Type} {c : Prop} [Decidable c] {x : Except Err (α × Nat)} {e : Err} {P : α → Prop}
    (h : c → Rets x P) : Rets (if c then x else .error e) P :=
  fun a q he => h (ok_of_ite he).1 a q (ok_of_ite he).2

theorem Rets.ite {α : Type} {c : Prop} [Decidable c] {x y : Except Err (α × Nat)} {P : α → Prop}
    (hx : c → Rets x P) (hy : ¬ c → Rets y P) : Rets (if c then x else y) P := by
  split
  · exact hx ‹_›
  · exact hy ‹_›

end PsdVerif.Codec
