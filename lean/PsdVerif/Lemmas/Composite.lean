/-
Algebra of the compositor model (C11, C13): union, clip, safe division; the state invariant and admissible
sources; one `_apply_source` step multiplied out and the group-result invariant; runs of sources that read the
current colour and alpha, and the pass-through-group exit; well-formed layer data.
-/
import PsdVerif.Model.Composite
import Mathlib.Tactic.Linarith
import Mathlib.Tactic.Ring
import Mathlib.Tactic.FieldSimp
import Mathlib.Algebra.Order.Field.Basic

namespace PsdVerif.Composite

def Unit01 (v : Rat) : Prop := 0 ≤ v ∧ v ≤ 1

def ColorOk (c : Color) : Prop := ∀ ch, Unit01 (c ch)

theorem unit01_zero : Unit01 0 := ⟨le_refl _, by norm_num⟩
theorem unit01_one : Unit01 1 := ⟨by norm_num, le_refl _⟩

theorem unit01_mul {a b : Rat} (ha : Unit01 a) (hb : Unit01 b) : Unit01 (a * b) :=
  ⟨mul_nonneg ha.1 hb.1, by have := mul_le_mul ha.2 hb.2 hb.1 (by norm_num : (0:Rat) ≤ 1); linarith⟩

theorem union_comm (a b : Rat) : union a b = union b a := by unfold union; ring
theorem union_assoc (a b c : Rat) : union (union a b) c = union a (union b c) := by unfold union; ring
@[simp] theorem union_zero (a : Rat) : union a 0 = a := by unfold union; ring
@[simp] theorem zero_union (a : Rat) : union 0 a = a := by unfold union; ring

theorem union_eq (b s : Rat) : union b s = (1 - s) * b + s := by unfold union; ring

theorem clip_unit (v : Rat) : Unit01 (clip v) := by
  unfold clip Unit01
  split
  · exact ⟨le_refl _, by norm_num⟩
  · split
    · exact ⟨by norm_num, le_refl _⟩
    · constructor <;> linarith

theorem clip_id {v : Rat} (h : Unit01 v) : clip v = v := by
  obtain ⟨h0, h1⟩ := h
  unfold clip
  rw [if_neg (by linarith), if_neg (by linarith)]

theorem divide_self_mul {a b : Rat} (hb : b ≠ 0) : divide a b * b = a := by
  unfold divide; rw [if_neg hb]; field_simp

theorem divide_unit {n d : Rat} (h0 : 0 ≤ n) (h1 : n ≤ d) : Unit01 (divide n d) := by
  unfold divide
  by_cases hd : d = 0
  · rw [if_pos hd]; exact ⟨by norm_num, le_refl _⟩
  · rw [if_neg hd]
    have hdpos : 0 < d := lt_of_le_of_ne (le_trans h0 h1) (Ne.symm hd)
    exact ⟨div_nonneg h0 hdpos.le, (div_le_one hdpos).2 h1⟩

theorem clip_divide_mul {n d : Rat} (h0 : 0 ≤ n) (h1 : n ≤ d) : clip (divide n d) * d = n := by
  rw [clip_id (divide_unit h0 h1)]
  by_cases hd : d = 0
  · subst hd; have : n = 0 := le_antisymm h1 h0; simp [this]
  · exact divide_self_mul hd

/-- a straight colour survives premultiplication by a non-zero alpha, `_divide` and `_clip` -/
theorem clip_divide_self {c a : Rat} (hc : Unit01 c) (ha : a ≠ 0) : clip (divide (c * a) a) = c := by
  unfold divide
  rw [if_neg ha, mul_div_cancel_right₀ _ ha]
  exact clip_id hc

theorem mul_unit_le {a c : Rat} (ha : 0 ≤ a) (hc : Unit01 c) : 0 ≤ a * c ∧ a * c ≤ a :=
  ⟨mul_nonneg ha hc.1, mul_le_of_le_one_right ha hc.2⟩

theorem mix_unit {a s b : Rat} (ha : Unit01 a) (hs : Unit01 s) (hb : Unit01 b) : Unit01 ((1 - a) * s + a * b) := by
  have h1 := mul_unit_le (sub_nonneg.2 ha.2) hs
  have h2 := mul_unit_le ha.1 hb
  exact ⟨add_nonneg h1.1 h2.1, by linarith only [h1.2, h2.2]⟩

theorem union_unit {b s : Rat} (hb : Unit01 b) (hs : Unit01 s) : Unit01 (union b s) := by
  have h := mix_unit hs hb unit01_one
  rwa [mul_one, ← union_eq] at h

/-- The one inequality behind the range of a step: a combination `w₁·x₁ + w₂·x₂ + w₃·m` with non-negative weights
lies between `0` and the same combination of upper bounds. The weights are always `1−fs`, `fs−αs`, `αs`. -/
theorem comb3_bounds {w₁ w₂ w₃ x₁ x₂ m X₁ X₂ : Rat} (h₁ : 0 ≤ w₁) (h₂ : 0 ≤ w₂) (h₃ : 0 ≤ w₃)
    (hx₁ : 0 ≤ x₁ ∧ x₁ ≤ X₁) (hx₂ : 0 ≤ x₂ ∧ x₂ ≤ X₂) (hm : Unit01 m) :
    0 ≤ w₁ * x₁ + w₂ * x₂ + w₃ * m ∧ w₁ * x₁ + w₂ * x₂ + w₃ * m ≤ w₁ * X₁ + w₂ * X₂ + w₃ :=
  ⟨add_nonneg (add_nonneg (mul_nonneg h₁ hx₁.1) (mul_nonneg h₂ hx₂.1)) (mul_nonneg h₃ hm.1),
    add_le_add (add_le_add (mul_le_mul_of_nonneg_left hx₁.2 h₁) (mul_le_mul_of_nonneg_left hx₂.2 h₂))
      (mul_le_of_le_one_right h₃ hm.2)⟩

/-- What every reachable compositor state satisfies. `ag_le` (`αg ≤ fg`) is part of it because a group hands
`(fg, αg)` to its parent as the shape and alpha of a source, and a source needs `alpha ≤ shape` (`SrcOk`). -/
structure Inv (st : PState) : Prop where
  a0 : Unit01 st.a0
  sg : Unit01 st.sg
  ag : Unit01 st.ag
  ag_le : st.ag ≤ st.sg
  a_eq : st.a = union st.a0 st.ag
  c : ColorOk st.c
  c0 : ColorOk st.c0

theorem Inv.a (h : Inv st) : Unit01 st.a := by rw [h.a_eq]; exact union_unit h.a0 h.ag

/-- `α = α₀ + αg·(1−α₀) ≥ α₀`: over a backdrop that is not transparent the accumulated alpha is not zero -/
theorem a_ne_zero_of_a0 {st : PState} (h : Inv st) (h0 : st.a0 ≠ 0) : st.a ≠ 0 := by
  rw [h.a_eq]
  unfold union
  have hpos : 0 < st.a0 := lt_of_le_of_ne h.a0.1 (Ne.symm h0)
  have := mul_nonneg h.ag.1 (sub_nonneg.2 h.a0.2)
  intro he
  linarith only [this, hpos, he]

theorem inv_init {color : Color} {alpha : Rat} (hc : ColorOk color) (ha : Unit01 alpha) (iso : Bool) :
    Inv (PState.init color alpha iso) := by
  unfold PState.init
  cases iso <;> simp only [Bool.false_eq_true, if_false, if_true]
  · exact ⟨ha, ⟨le_refl _, by norm_num⟩, ⟨le_refl _, by norm_num⟩, le_refl _, by simp, hc, hc⟩
  · exact ⟨⟨le_refl _, by norm_num⟩, ⟨le_refl _, by norm_num⟩, ⟨le_refl _, by norm_num⟩, le_refl _, by simp, hc, hc⟩

theorem init_a0_false (c : Color) (a : Rat) : (PState.init c a false).a0 = a := by
  simp [PState.init]

/-- a source the compositor may be given: `0 ≤ alpha ≤ shape ≤ 1`, colour in range -/
structure SrcOk (color : Color) (shape alpha : Rat) : Prop where
  a0 : 0 ≤ alpha
  as : alpha ≤ shape
  s1 : shape ≤ 1
  c : ColorOk color

theorem SrcOk.shape_unit {color : Color} {shape alpha : Rat} (h : SrcOk color shape alpha) : Unit01 shape :=
  ⟨le_trans h.a0 h.as, h.s1⟩

theorem SrcOk.alpha_unit {color : Color} {shape alpha : Rat} (h : SrcOk color shape alpha) : Unit01 alpha :=
  ⟨h.a0, le_trans h.as h.s1⟩

/-- an object without transparency of its own beyond its shape: alpha = shape -/
theorem SrcOk.opaque {color : Color} {shape : Rat} (hc : ColorOk color) (hs : Unit01 shape) : SrcOk color shape shape :=
  ⟨hs.1, le_refl _, hs.2, hc⟩

/-- a soft mask `m ∈ [0,1]` scales shape and alpha -/
theorem SrcOk.scale {color : Color} {shape alpha m : Rat} (h : SrcOk color shape alpha) (hm : Unit01 m) :
    SrcOk color (shape * m) (alpha * m) :=
  ⟨mul_nonneg h.a0 hm.1, mul_le_mul_of_nonneg_right h.as hm.1, (unit01_mul h.shape_unit hm).2, h.c⟩

/-- an opacity `q ∈ [0,1]` scales alpha only -/
theorem SrcOk.fade {color : Color} {shape alpha q : Rat} (h : SrcOk color shape alpha) (hq : Unit01 q) :
    SrcOk color shape (alpha * q) :=
  ⟨mul_nonneg h.a0 hq.1, le_trans (mul_le_of_le_one_right h.a0 hq.2) h.as, h.s1, h.c⟩

/-- a blend function that keeps the unit interval (C12's range theorems) -/
def BlendOk (bl : Color → Color → Color) : Prop :=
  ∀ cb cs, ColorOk cb → ColorOk cs → ColorOk (bl cb cs)

/-- one step keeps the state invariant; the source colour does not matter (the new colour is clipped).
The new group alpha is `(1−fs)·αg + (fs−αs)·Y + αs` with `Y = αg`, or `α₀` for a knockout source: between `0` and
`(1−fs)·fg + (fs−αs) + αs = Union(fg, fs)`. -/
theorem applySource_inv_of {bl : Color → Color → Color} {st : PState} {color : Color} {shape alpha : Rat}
    (h : Inv st) (ha0 : 0 ≤ alpha) (has : alpha ≤ shape) (hs1 : shape ≤ 1) (ko : Bool) :
    Inv (applySource bl st color shape alpha ko) := by
  have hY : Unit01 (if ko then st.a0 else st.ag) := by
    cases ko
    · exact h.ag
    · exact h.a0
  have hag : (applySource bl st color shape alpha ko).ag
      = (1 - shape) * st.ag + (shape - alpha) * (if ko then st.a0 else st.ag) + alpha * 1 := by
    cases ko <;> simp only [applySource, union, Bool.false_eq_true, if_false, if_true] <;> ring
  obtain ⟨k0, k1⟩ := comb3_bounds (sub_nonneg.2 hs1) (sub_nonneg.2 has) ha0 ⟨h.ag.1, h.ag_le⟩ hY unit01_one
  have hsg := union_unit h.sg ⟨le_trans ha0 has, hs1⟩
  have hle : (applySource bl st color shape alpha ko).ag ≤ union st.sg shape := by
    rw [hag, union_eq]; linarith only [k1]
  exact ⟨h.a0, hsg, ⟨hag ▸ k0, le_trans hle hsg.2⟩, hle, rfl, fun ch => clip_unit _, h.c0⟩

theorem applySource_inv {bl : Color → Color → Color} {st : PState} {color : Color} {shape alpha : Rat}
    (h : Inv st) (hs : SrcOk color shape alpha) (ko : Bool) :
    Inv (applySource bl st color shape alpha ko) :=
  applySource_inv_of h hs.a0 hs.as hs.s1 ko

@[simp] theorem applySource_sg (bl : Color → Color → Color) (st : PState) (color : Color) (shape alpha : Rat) (ko : Bool) :
    (applySource bl st color shape alpha ko).sg = union st.sg shape := rfl
@[simp] theorem applySource_ag (bl : Color → Color → Color) (st : PState) (color : Color) (shape alpha : Rat) :
    (applySource bl st color shape alpha false).ag = union st.ag alpha := by
  unfold applySource; simp
@[simp] theorem applySource_ag_knockout (bl : Color → Color → Color) (st : PState) (color : Color) (shape alpha : Rat) :
    (applySource bl st color shape alpha true).ag = (1 - shape) * st.ag + (shape - alpha) * st.a0 + alpha := by
  unfold applySource; simp
@[simp] theorem applySource_a0 (bl : Color → Color → Color) (st : PState) (color : Color) (shape alpha : Rat) (ko : Bool) :
    (applySource bl st color shape alpha ko).a0 = st.a0 := rfl
@[simp] theorem applySource_c0 (bl : Color → Color → Color) (st : PState) (color : Color) (shape alpha : Rat) (ko : Bool) :
    (applySource bl st color shape alpha ko).c0 = st.c0 := rfl

theorem applySource_a (bl : Color → Color → Color) (st : PState) (color : Color) (shape alpha : Rat) (h : Inv st) :
    (applySource bl st color shape alpha false).a = union st.a alpha := by
  unfold applySource
  simp only [Bool.false_eq_true, if_false]
  rw [h.a_eq, union_assoc]

/-- the backdrop a source is blended with and a group starts from: what has been accumulated, or for a knockout
element the group's initial backdrop -/
def backdrop (st : PState) (knockout : Bool) : Color × Rat :=
  (if knockout then st.c0 else st.c, if knockout then st.a0 else st.a)

theorem Inv.backdrop {st : PState} (h : Inv st) (knockout : Bool) :
    ColorOk (backdrop st knockout).1 ∧ Unit01 (backdrop st knockout).2 := by
  cases knockout
  · exact ⟨h.c, h.a⟩
  · exact ⟨h.c0, h.a0⟩

/-- The colour numerator of a step over the backdrop `(Cb, αb)`:
`(1−fs)·α·C + (fs−αs)·αb·Cb + αs·((1−αb)·Cs + αb·B(Cb, Cs))`. Without knockout the backdrop is `(C, α)`, the shape
terms cancel, `(1−fs) + (fs−αs) = 1−αs`, and this is the basic compositing formula of PDF 1.7 §11.3.6 in
premultiplied form. -/
def stepNum (bl : Color → Color → Color) (st : PState) (Cs : Color) (fs αs : Rat) (ko : Bool) (ch : Nat) : Rat :=
  (1 - fs) * (st.a * st.c ch) + (fs - αs) * ((backdrop st ko).2 * (backdrop st ko).1 ch)
    + αs * ((1 - (backdrop st ko).2) * Cs ch + (backdrop st ko).2 * bl (backdrop st ko).1 Cs ch)

theorem applySource_c (bl : Color → Color → Color) (st : PState) (Cs : Color) (fs αs : Rat) (ko : Bool) (ch : Nat) :
    (applySource bl st Cs fs αs ko).c ch
      = clip (divide (stepNum bl st Cs fs αs ko ch) (applySource bl st Cs fs αs ko).a) := by
  cases ko <;> (simp only [applySource, stepNum, backdrop, Bool.false_eq_true, if_false, if_true]; congr 2; ring)

/-- the weights of `stepNum` add up to at most the new alpha -/
theorem stepNum_bounds {bl : Color → Color → Color} {st : PState} {Cs : Color} {fs αs : Rat}
    (h : Inv st) (hs : SrcOk Cs fs αs) (hb : BlendOk bl) (ko : Bool) (ch : Nat) :
    0 ≤ stepNum bl st Cs fs αs ko ch ∧ stepNum bl st Cs fs αs ko ch ≤ (applySource bl st Cs fs αs ko).a := by
  obtain ⟨hcb, hab⟩ := h.backdrop ko
  obtain ⟨n0, n1⟩ := comb3_bounds (sub_nonneg.2 hs.s1) (sub_nonneg.2 hs.as) hs.a0 (mul_unit_le h.a.1 (h.c ch))
    (mul_unit_le hab.1 (hcb ch)) (mix_unit hab (hs.c ch) (hb _ _ hcb hs.c ch))
  refine ⟨n0, le_trans n1 ?_⟩
  cases ko
  · rw [applySource_a _ _ _ _ _ h, union_eq]
    exact le_of_eq (by simp only [backdrop, Bool.false_eq_true, if_false]; ring)
  · -- the slack is the excess of the coded knockout alpha over the sum of the weights (`knockout_alpha_excess`)
    have : 0 ≤ st.a0 * (fs - αs) * (1 - st.a0) :=
      mul_nonneg (mul_nonneg h.a0.1 (sub_nonneg.2 hs.as)) (sub_nonneg.2 h.a0.2)
    simp only [applySource, backdrop, if_true, h.a_eq, union] at this ⊢
    linarith only [this]

/-- **One step, multiplied out**: new colour × new alpha = `stepNum`; `_clip` and the `0/0` fallback of `_divide`
are inactive. -/
theorem applySource_mul {bl : Color → Color → Color} {st : PState} {Cs : Color} {fs αs : Rat}
    (h : Inv st) (hs : SrcOk Cs fs αs) (hb : BlendOk bl) (ko : Bool) (ch : Nat) :
    (applySource bl st Cs fs αs ko).c ch * (applySource bl st Cs fs αs ko).a = stepNum bl st Cs fs αs ko ch := by
  obtain ⟨n0, n1⟩ := stepNum_bounds h hs hb ko ch
  rw [applySource_c]
  exact clip_divide_mul n0 n1

/-- premultiplied colour of the group's own contribution: `α·C − (1−αg)·α₀·C₀` (PDF 1.7 §11.4.8 times `αg`) -/
def groupNum (st : PState) (ch : Nat) : Rat := st.c ch * st.a - (1 - st.ag) * st.a0 * st.c0 ch

/-- `0 ≤ C·α − (1−αg)·α₀·C₀ ≤ αg` in every channel: the backdrop-removal formula of `Compositor.color`
stays in range, so its `_clip` does nothing. -/
def XInv (st : PState) : Prop := ∀ ch, 0 ≤ groupNum st ch ∧ groupNum st ch ≤ st.ag

theorem xinv_init (color : Color) (alpha : Rat) (iso : Bool) : XInv (PState.init color alpha iso) := by
  intro ch
  unfold groupNum PState.init
  cases iso <;> simp only [Bool.false_eq_true, if_false, if_true]
  · constructor <;> linarith [mul_comm (color ch) alpha]
  · constructor <;> linarith

/-- one step (knockout or not) keeps the group-result invariant:
not knockout `G' = (1−fs)·G + (fs−αs)·G + αs·m`, knockout `G' = (1−fs)·G + (fs−αs)·α₀²·C₀ + αs·m₀`, with `m, m₀ ∈ [0,1]`. -/
theorem applySource_xinv {bl : Color → Color → Color} {st : PState} {color : Color} {shape alpha : Rat}
    (h : Inv st) (hx : XInv st) (hs : SrcOk color shape alpha) (hb : BlendOk bl) (ko : Bool) :
    XInv (applySource bl st color shape alpha ko) := by
  intro ch
  have e1 : 0 ≤ 1 - shape := sub_nonneg.2 hs.s1
  have e2 : 0 ≤ shape - alpha := sub_nonneg.2 hs.as
  unfold groupNum
  rw [applySource_mul h hs hb ko ch]
  cases ko
  · have key : stepNum bl st color shape alpha false ch - (1 - union st.ag alpha) * st.a0 * st.c0 ch
        = (1 - shape) * groupNum st ch + (shape - alpha) * groupNum st ch
          + alpha * ((1 - st.a) * color ch + st.a * bl st.c color ch) := by
      simp only [stepNum, backdrop, groupNum, union, Bool.false_eq_true, if_false]; ring
    simp only [applySource_ag, applySource_a0, applySource_c0]
    rw [key, union_eq]
    obtain ⟨k0, k1⟩ := comb3_bounds e1 e2 hs.a0 (hx ch) (hx ch) (mix_unit h.a (hs.c ch) (hb _ _ h.c hs.c ch))
    exact ⟨k0, le_trans k1 (le_of_eq (by ring))⟩
  · have key : stepNum bl st color shape alpha true ch
          - (1 - ((1 - shape) * st.ag + (shape - alpha) * st.a0 + alpha)) * st.a0 * st.c0 ch
        = (1 - shape) * groupNum st ch + (shape - alpha) * (st.a0 * (st.a0 * st.c0 ch))
          + alpha * ((1 - st.a0) * color ch + st.a0 * bl st.c0 color ch) := by
      simp only [stepNum, backdrop, groupNum, if_true]; ring
    simp only [applySource_ag_knockout, applySource_a0, applySource_c0]
    rw [key]
    exact comb3_bounds e1 e2 hs.a0 (hx ch) (mul_unit_le h.a0.1 (unit01_mul h.a0 (h.c0 ch)))
      (mix_unit h.a0 (hs.c ch) (hb _ _ h.c0 hs.c ch))

/-- **What `Compositor.color` returns, multiplied out**: group colour × group alpha
`= α·C − (1−αg)·α₀·C₀`, the premultiplied form of PDF 1.7 §11.4.8
`C = Cn + (Cn − C0)·(α0/αgn − α0)`; neither `_clip` nor the `0/0 → 1` fallback alters it. -/
theorem finishColor_mul {st : PState} (h : Inv st) (hx : XInv st) (ch : Nat) :
    finishColor st ch * st.ag = groupNum st ch := by
  obtain ⟨x0, x1⟩ := hx ch
  by_cases hag : st.ag = 0
  · rw [hag] at x1 ⊢
    have : groupNum st ch = 0 := le_antisymm x1 x0
    rw [this, mul_zero]
  · unfold finishColor
    have e : st.c ch + (st.c ch - st.c0 ch) * (divide st.a0 st.ag - st.a0) = divide (groupNum st ch) st.ag := by
      unfold divide groupNum; rw [if_neg hag, if_neg hag, h.a_eq]; unfold union; field_simp; ring
    rw [e]
    exact clip_divide_mul x0 x1

/-- a group that painted nothing hands its backdrop colour back -/
theorem finishColor_of_ag_zero {st : PState} (h : Inv st) (hx : XInv st) (hag : st.ag = 0) (ha0 : st.a0 ≠ 0) (ch : Nat) :
    finishColor st ch = st.c0 ch := by
  obtain ⟨x0, x1⟩ := hx ch
  unfold groupNum at x0 x1
  rw [hag, h.a_eq, hag, union_zero] at x0 x1
  have hc : st.c ch = st.c0 ch := mul_right_cancel₀ ha0 (by linarith only [x0, x1])
  unfold finishColor
  rw [hc, sub_self, zero_mul, add_zero]
  exact clip_id (h.c0 ch)

/-- a source with its blend function, as a layer seen as a generator yields it (`Gen`, `runGens`) -/
structure Src where
  color : Color
  shape : Rat
  alpha : Rat
  bl : Color → Color → Color

def Src.Ok (s : Src) : Prop := SrcOk s.color s.shape s.alpha ∧ BlendOk s.bl

/-- A layer seen as a source generator: what it contributes may depend on the
compositor's current colour and alpha (a nested non-knockout group reads them as
its backdrop), on nothing else. -/
abbrev Gen := Color → Rat → Src

def Gen.Ok (g : Gen) : Prop := ∀ c a, ColorOk c → Unit01 a → (g c a).Ok

def stepGen (st : PState) (g : Gen) : PState :=
  let s := g st.c st.a
  applySource s.bl st s.color s.shape s.alpha false

def runGens (st : PState) : List Gen → PState
  | [] => st
  | g :: gs => runGens (stepGen st g) gs

theorem stepGen_inv {st : PState} {g : Gen} (h : Inv st) (hg : g.Ok) : Inv (stepGen st g) :=
  applySource_inv h (hg st.c st.a h.c h.a).1 false

theorem runGens_inv {st : PState} {gs : List Gen} (h : Inv st) (hg : ∀ g ∈ gs, Gen.Ok g) : Inv (runGens st gs) := by
  induction gs generalizing st with
  | nil => exact h
  | cons g gs ih =>
    exact ih (stepGen_inv h (hg g (List.mem_cons_self ..))) (fun g' hg' => hg g' (List.mem_cons_of_mem _ hg'))

/-- coupling between the inline run `t` and the run `u` inside a pass-through group
entered from state `st` -/
structure Coupled (st t u : PState) : Prop where
  c : t.c = u.c
  a : t.a = u.a
  ag : t.ag = union st.ag u.ag
  sg : t.sg = union st.sg u.sg
  a0 : t.a0 = st.a0
  c0 : t.c0 = st.c0
  ua0 : u.a0 = st.a
  uc0 : u.c0 = st.c
  it : Inv t
  iu : Inv u
  x : XInv u

theorem coupled_init {st : PState} (h : Inv st) : Coupled st st (PState.init st.c st.a false) := by
  refine ⟨rfl, ?_, ?_, ?_, rfl, rfl, ?_, rfl, h, inv_init h.c h.a false, xinv_init _ _ _⟩ <;> simp [PState.init]

theorem coupled_step {st t u : PState} (g : Gen) (hg : g.Ok) (h : Coupled st t u) :
    Coupled st (stepGen t g) (stepGen u g) := by
  have hsrc := hg t.c t.a h.it.c h.it.a
  have e : g u.c u.a = g t.c t.a := by rw [h.c, h.a]
  unfold stepGen
  simp only [e]
  generalize g t.c t.a = s at hsrc
  obtain ⟨hs, hb⟩ := hsrc
  have ha : (applySource s.bl t s.color s.shape s.alpha false).a = (applySource s.bl u s.color s.shape s.alpha false).a := by
    rw [applySource_a _ _ _ _ _ h.it, applySource_a _ _ _ _ _ h.iu, h.a]
  have hc : ∀ ch, (applySource s.bl t s.color s.shape s.alpha false).c ch
      = (applySource s.bl u s.color s.shape s.alpha false).c ch := by
    intro ch
    rw [applySource_c, applySource_c, ha]
    simp only [stepNum, backdrop, Bool.false_eq_true, if_false, h.c, h.a]
  refine ⟨funext hc, ha, ?_, ?_, ?_, ?_, ?_, ?_, applySource_inv h.it hs false, applySource_inv h.iu hs false,
    applySource_xinv h.iu h.x hs hb false⟩
  · simp [h.ag, union_assoc]
  · simp [h.sg, union_assoc]
  · simp [h.a0]
  · simp [h.c0]
  · simp [h.ua0]
  · simp [h.uc0]

theorem coupled_run {st t u : PState} (gs : List Gen) (hg : ∀ g ∈ gs, Gen.Ok g) (h : Coupled st t u) :
    Coupled st (runGens t gs) (runGens u gs) := by
  induction gs generalizing t u with
  | nil => exact h
  | cons g gs ih =>
    exact ih (fun g' hg' => hg g' (List.mem_cons_of_mem _ hg')) (coupled_step g (hg g (List.mem_cons_self ..)) h)

def blNormal : Color → Color → Color := fun _ cs => cs

/-- two compositor states that cannot be told apart: same shape/alpha bookkeeping and the
same colour wherever the accumulated alpha is not zero -/
structure Same (s t : PState) : Prop where
  sg : s.sg = t.sg
  ag : s.ag = t.ag
  a : s.a = t.a
  a0 : s.a0 = t.a0
  c0 : s.c0 = t.c0
  c : t.a ≠ 0 → ∀ ch, s.c ch = t.c ch

theorem Same.refl (s : PState) : Same s s := ⟨rfl, rfl, rfl, rfl, rfl, fun _ _ => rfl⟩

/-- **Leaving a pass-through group.** Compositing the group's result (backdrop removed)
onto the state the group was entered from, with normal blending, full opacity and no
mask, gives the inline state: same shape, alpha, and the same colour wherever the
result alpha is not zero. -/
theorem passthrough_exit {st t u : PState} (h : Coupled st t u) (hst : Inv st) :
    Same (applySource blNormal st (finishColor u) u.sg u.ag false) t := by
  have hua : u.a = union st.a u.ag := by rw [h.iu.a_eq, h.ua0]
  have hga : (applySource blNormal st (finishColor u) u.sg u.ag false).a = u.a := by
    rw [applySource_a _ _ _ _ _ hst, hua]
  refine ⟨by simp [h.sg], by simp [h.ag], hga.trans h.a.symm, by simp [h.a0], by simp [h.c0], ?_⟩
  intro hta ch
  show (applySource blNormal st (finishColor u) u.sg u.ag false).c ch = t.c ch
  have hua0 : u.a ≠ 0 := by rw [← h.a]; exact hta
  -- the numerator is the group's own contribution plus what shows through of the backdrop: `C_n·α_n`
  have hfc := finishColor_mul h.iu h.x ch
  unfold groupNum at hfc
  rw [h.ua0, h.uc0] at hfc
  have hnum : stepNum blNormal st (finishColor u) u.sg u.ag false ch = u.c ch * u.a := by
    simp only [stepNum, backdrop, blNormal, Bool.false_eq_true, if_false]
    linarith only [hfc]
  rw [applySource_c, hga, hnum, h.c]
  exact clip_divide_self (h.iu.c ch) hua0

/-- a source with zero alpha (zero opacity, any shape) leaves alpha and colour alone; only the
accumulated *shape* grows -/
theorem applySource_zero_alpha (bl : Color → Color → Color) (st : PState) (hst : Inv st) (color : Color) (shape : Rat) :
    let r := applySource bl st color shape 0 false
    r.ag = st.ag ∧ r.a = st.a ∧ (st.a ≠ 0 → ∀ ch, r.c ch = st.c ch) := by
  intro r
  have ha : (applySource bl st color shape 0 false).a = st.a := by rw [applySource_a _ _ _ _ _ hst]; simp
  refine ⟨by simp [r], ha, ?_⟩
  intro hne ch
  show (applySource bl st color shape 0 false).c ch = st.c ch
  have hnum : stepNum bl st color shape 0 false ch = st.c ch * st.a := by
    simp only [stepNum, backdrop, Bool.false_eq_true, if_false]; ring
  rw [applySource_c, ha, hnum]
  exact clip_divide_self (hst.c ch) hne

/-- a source with zero shape (hence zero alpha) changes nothing observable -/
theorem applySource_zero (bl : Color → Color → Color) (st : PState) (hst : Inv st) (color : Color) :
    Same (applySource bl st color 0 0 false) st := by
  obtain ⟨h1, h2, h3⟩ := applySource_zero_alpha bl st hst color 0
  exact ⟨by simp, h1, h2, rfl, rfl, h3⟩

structure PropsOk (pr : Props) : Prop where
  opacity : Unit01 pr.opacity
  fill : Unit01 pr.fill
  maskValue : Unit01 pr.maskValue
  maskBackground : Unit01 pr.maskBackground
  maskDensity : Unit01 pr.maskDensity

mutual
/-- well-formed layer data at the pixel: every stored value is in the unit interval -/
def nodeOk : Node → Prop
  | .leaf pr _ color shape clips => PropsOk pr ∧ ColorOk color ∧ Unit01 shape ∧ listOk clips
  | .group pr _ children clips => PropsOk pr ∧ listOk children ∧ listOk clips
def listOk : List Node → Prop
  | [] => True
  | n :: ns => nodeOk n ∧ listOk ns
end

def BOk (B : Mode → Color → Color → Color) : Prop := ∀ m, BlendOk (B m)

/-- what a (non-skipped, non-knockout) layer contributes, as a function of the compositor's
current colour and alpha only -/
def nodeGen (B : Mode → Color → Color → Color) (V : Rect) (x y : Int) : Node → Gen
  | .leaf pr hasPixels color shape clips => fun _ _ =>
    let color0 : Color := if hasPixels then pasteAt V pr.bbox x y color white else white
    let shape0 : Rat := if hasPixels then pasteAt V pr.bbox x y shape 0 else 0
    let color1 := if clips.isEmpty then color0 else (applyClips B V x y (PState.init color0 shape0 false) clips).c
    { color := color1,
      shape := shape0 * (maskFactors pr V x y).1 * pr.fill,
      alpha := shape0 * ((maskFactors pr V x y).1 * (maskFactors pr V x y).2 * pr.opacity) * pr.fill,
      bl := B pr.mode }
  | .group pr passThrough children clips => fun c a =>
    let V' := intersect V pr.bbox
    let inside := V'.contains x y
    let sub := applyList B V' x y (PState.init c a (!passThrough)) children
    let color0 : Color := if inside then finishColor sub else white
    let shape0 : Rat := if inside then sub.sg else 0
    let alpha0 : Rat := if inside then sub.ag else 0
    let color1 := if clips.isEmpty then color0 else (applyClips B V x y (PState.init color0 alpha0 false) clips).c
    { color := color1,
      shape := shape0 * (maskFactors pr V x y).1 * pr.fill,
      alpha := alpha0 * ((maskFactors pr V x y).1 * (maskFactors pr V x y).2 * pr.opacity) * pr.fill,
      bl := B pr.mode }

theorem white_ok : ColorOk white := fun _ => ⟨by norm_num [white], by norm_num [white]⟩

/-- a property of both branches holds of the conditional -/
theorem ite_ok {α : Type} {P : α → Prop} {c : Prop} [Decidable c] {a b : α} (ha : P a) (hb : P b) :
    P (if c then a else b) := by
  split
  · exact ha
  · exact hb

theorem pasteAt_ok {α : Type} {P : α → Prop} {V b : Rect} {x y : Int} {s bg : α} (hs : P s) (hb : P bg) :
    P (pasteAt V b x y s bg) := by
  unfold pasteAt
  exact ite_ok hb (ite_ok hs hb)

theorem maskFactors_unit {pr : Props} (h : PropsOk pr) (V : Rect) (x y : Int) :
    Unit01 (maskFactors pr V x y).1 ∧ Unit01 (maskFactors pr V x y).2 := by
  unfold maskFactors
  exact ite_ok (P := fun m : Rat × Rat => Unit01 m.1 ∧ Unit01 m.2) ⟨pasteAt_ok h.maskValue h.maskBackground, h.maskDensity⟩
    ⟨unit01_one, unit01_one⟩

theorem finishApply_src {pr : Props} (h : PropsOk pr) (V : Rect) (x y : Int) {color : Color} {shape alpha : Rat}
    (ho : SrcOk color shape alpha) :
    SrcOk color (shape * (maskFactors pr V x y).1 * pr.fill)
      (alpha * ((maskFactors pr V x y).1 * (maskFactors pr V x y).2 * pr.opacity) * pr.fill) := by
  obtain ⟨m1, m2⟩ := maskFactors_unit h V x y
  rw [← mul_assoc, ← mul_assoc]
  exact (((ho.scale m1).fade m2).fade h.opacity).scale h.fill

end PsdVerif.Composite
