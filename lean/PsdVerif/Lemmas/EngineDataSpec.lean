/-
C18 — what the theorems about text engine data speak of, beside the model (`Model/EngineData.lean`): when
a plain token ends (`Sep`, `Plain`), the token stream of a byte string (`Toks`), the tokens a tree is
written as (`tokensOf`), well-formed trees (`wfPairs`) and what is needed of a written scalar (`ScalarOK`).
-/
import PsdVerif.Model.EngineData

namespace PsdVerif.EngineData

/-- "Nothing, or a divider, follows": the condition under which a plain token ends. -/
def Sep (m : BL) : Prop := m = [] ∨ ∃ b t, m = b :: t ∧ isDiv b = true

/-- A plain token: non-empty, no divider byte inside, does not start with `(`. -/
structure Plain (tok : BL) : Prop where
  ne : tok ≠ []
  nodiv : ∀ b ∈ tok, isDiv b = false
  head : tok.head? ≠ some 0x28

/-- Iterating the tokenizer over `d` yields exactly these tokens and then stops. -/
inductive Toks : BL → List (BL × Tok) → Prop
  | nil {d : BL} : nextTok d = .ok none → Toks d []
  | cons {d tok : BL} {ty : Tok} {rest : BL} {ts : List (BL × Tok)} :
      nextTok d = .ok (some (tok, ty, rest)) → Toks rest ts → Toks d ((tok, ty) :: ts)

/-- Property names: non-empty, over `[A-Za-z0-9_]`. -/
def wfName (k : BL) : Bool := !k.isEmpty && k.all isWord

def tyOf : Scalar → Tok
  | .str _ => .string | .bool _ => .boolean | .int _ => .number
  | .flt _ => .numberDec | .prop _ => .property | .tag _ => .tag

def tLL : BL × Tok := ([0x3C, 0x3C], .dictStart)
def tGG : BL × Tok := ([0x3E, 0x3E], .dictEnd)
def tLB : BL × Tok := ([0x5B], .arrayStart)
def tRB : BL × Tok := ([0x5D], .arrayEnd)

mutual
/-- The tokens a value is written as (the same in both layouts). -/
def tokVal : Val → List (BL × Tok)
  | .dict items => tLL :: (tokPairs items ++ [tGG])
  | .list elems => tLB :: (tokElems elems ++ [tRB])
  | .sc s => [(wScalar s, tyOf s)]
def tokPairs : List (BL × Val) → List (BL × Tok)
  | [] => []
  | (k, v) :: t => (0x2F :: k, .property) :: (tokVal v ++ tokPairs t)
def tokElems : List Val → List (BL × Tok)
  | [] => []
  | v :: t => tokVal v ++ tokElems t
end

def tokensOf : Layout → Tree → List (BL × Tok)
  | .indented, t => tLL :: (tokPairs t ++ [tGG])
  | .compact, t => tokPairs t

/-- Decimals in the normal form the format keeps: 1 to 8 fractional digits, no trailing
zero beyond the first place. -/
def Dec.wf (d : Dec) : Bool := decide (1 ≤ d.k) && decide (d.k ≤ 8) && (d.k == 1 || d.mant % 10 != 0)

/-- Scalars the property quantifies over: strings of Unicode scalar values, booleans,
integers, finite decimals (`Property` / `Tag` values are modelled but not covered). -/
def wfScalar : Scalar → Bool
  | .str s => s.all isScalar
  | .bool _ => true
  | .int _ => true
  | .flt d => d.wf
  | .prop _ => false
  | .tag _ => false

mutual
def wfVal : Val → Bool
  | .dict items => wfPairs items
  | .list elems => wfElems elems
  | .sc s => wfScalar s
/-- Keys are property names and occur once (a Python dict cannot hold a key twice). -/
def wfPairs : List (BL × Val) → Bool
  | [] => true
  | (k, v) :: t => wfName k && !(t.any (fun p => p.1 == k)) && wfVal v && wfPairs t
def wfElems : List Val → Bool
  | [] => true
  | v :: t => wfVal v && wfElems t
end

/-- What the container proofs need from a written scalar. -/
structure ScalarOK (s : Scalar) : Prop where
  tok : (∃ u, wScalar s = strBytes u) ∨ Plain (wScalar s)
  cls : classify (wScalar s) = some (tyOf s)
  val : valueOfToken (tyOf s) (wScalar s) = some (.ok s)

/-- The scalar fact with a file of its own: proved as `floatOK` (Lemmas/EngineDataFloat.lean). -/
def FloatOK : Prop := ∀ d : Dec, d.wf = true → ScalarOK (.flt d)

end PsdVerif.EngineData
