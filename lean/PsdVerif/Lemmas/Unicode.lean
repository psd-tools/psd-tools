/-
Helper lemmas for C19 (string primitives), in this order: the cursor (`slice`), fixed-width integers and
padding; UTF-16 units and surrogate pairs as the code handles them; `write_unicode_string` /
`read_unicode_string` (layout, round trip in the `pre ++ bs ++ post` form, `sound` law);
`write_pascal_string` / `read_pascal_string`; the codec law for character maps and UTF-8; the code's UTF-16
against the Unicode Standard's (`Spec`); the layer-name path. Core Lean only.
-/
import PsdVerif.Model.Unicode
import PsdVerif.Lemmas.Bytes

namespace PsdVerif.Unicode

/-- `fp.read(n)` at the start of `a`, inside a stream. -/
theorem slice_at (pre a rest : BL) (pos n : Nat) (hp : pos = pre.length) (hn : n = a.length) :
    slice (pre ++ (a ++ rest)) pos n = a := by
  subst hp hn
  rw [slice, List.drop_left, List.take_left]

/-- … one field further on. -/
theorem slice_at2 (pre x a rest : BL) (pos n : Nat) (hp : pos = pre.length + x.length)
    (hn : n = a.length) : slice (pre ++ (x ++ (a ++ rest))) pos n = a := by
  rw [← List.append_assoc]
  exact slice_at (pre ++ x) a rest pos n (by rw [hp, List.length_append]) hn

/-- … two fields further on. -/
theorem slice_at3 (pre x y a rest : BL) (pos n : Nat)
    (hp : pos = pre.length + x.length + y.length) (hn : n = a.length) :
    slice (pre ++ (x ++ (y ++ (a ++ rest)))) pos n = a := by
  rw [← List.append_assoc]
  exact slice_at2 (pre ++ x) y a rest pos n (by rw [hp, List.length_append]) hn

theorem slice_length_le (d : BL) (pos n : Nat) : (slice d pos n).length ≤ n := by
  rw [slice, List.length_take]; exact Nat.min_le_left _ _

theorem slice_end_le (d : BL) (pos n : Nat) (h : pos ≤ d.length) : pos + (slice d pos n).length ≤ d.length := by
  simp only [slice, List.length_take, List.length_drop]; omega

theorem be32_length (n : Nat) : (be32 n).length = 4 := rfl
theorem be16_length (n : Nat) : (be16 n).length = 2 := rfl

theorem readU8_append (pre post : BL) (n : Nat) (h : n < 256) :
    readU8 (pre ++ ([UInt8.ofNat n] ++ post)) pre.length = .ok (n, pre.length + 1) := by
  unfold readU8
  rw [slice_at pre [UInt8.ofNat n] post _ 1 rfl rfl]
  show Except.ok ((UInt8.ofNat n).toNat, _) = _
  rw [UInt8.toNat_ofNat_of_lt' h]

theorem readU32_append (pre post : BL) (n : Nat) (h : n < 4294967296) :
    readU32 (pre ++ (be32 n ++ post)) pre.length = .ok (n, pre.length + 4) := by
  unfold readU32
  rw [slice_at pre (be32 n) post _ 4 rfl rfl]
  simp only [be32, toNat_ofNat, Nat.mod_mod]
  rw [Nat.mod_eq_of_lt (show n / 16777216 < 256 by omega), digit 256 n 65536, digit 256 n 256,
    Nat.div_add_mod']

theorem readU32_spec (d : BL) (pos n p : Nat) (h : readU32 d pos = .ok (n, p)) : n < 4294967296 ∧ p = pos + 4 := by
  unfold readU32 at h
  split at h
  · rename_i a b c e _
    simp only [Except.ok.injEq, Prod.mk.injEq] at h
    have := a.toNat_lt; have := b.toNat_lt; have := c.toNat_lt; have := e.toNat_lt
    omega
  · cases h

theorem padLen_aligned (size pad : Nat) (hp : pad ≠ 0) : (size + padLen size pad) % pad = 0 := by
  unfold padLen
  split
  · simpa
  · rename_i h
    have hlt : size % pad < pad := Nat.mod_lt _ (Nat.pos_of_ne_zero hp)
    have h1 : size + (pad - size % pad) = pad * (size / pad) + pad := by
      have := Nat.div_add_mod size pad
      omega
    rw [h1]; simp

theorem padLen_lt (size pad : Nat) (hp : pad ≠ 0) : padLen size pad < pad := by
  unfold padLen
  split
  · exact Nat.pos_of_ne_zero hp
  · have : 0 < pad := Nat.pos_of_ne_zero hp
    omega

theorem unitsOfBytes_bytesOfUnits (us : List Nat) (h : ∀ u ∈ us, u < 65536) :
    unitsOfBytes (bytesOfUnits us ) = some us := by
  induction us with
  | nil => rfl
  | cons u r ih =>
    have hu : u < 65536 := h u (by simp)
    have ih' := ih (fun v hv => h v (by simp [hv]))
    simp only [bytesOfUnits, List.flatMap_cons, be16, List.cons_append, List.nil_append] at ih' ⊢
    simp only [unitsOfBytes, ih', toNat_ofNat]
    congr 2; omega

theorem unitsOfBytes_spec (raw : BL) (us : List Nat) (h : unitsOfBytes raw = some us) :
    (∀ u ∈ us, u < 65536) ∧ raw.length = 2 * us.length := by
  fun_induction unitsOfBytes raw generalizing us with
  | case1 => simp at h; subst h; simp
  | case2 => simp at h
  | case3 a b r us' hr ih =>
    simp at h; subst h
    obtain ⟨h1, h2⟩ := ih us' hr
    refine ⟨?_, by simp [h2]; omega⟩
    intro u hu
    simp only [List.mem_cons] at hu
    rcases hu with rfl | hu
    · have := a.toNat_lt; have := b.toNat_lt; omega
    · exact h1 u hu
  | case4 a b r hr ih => simp at h

theorem bytesOfUnits_length (us : List Nat) : (bytesOfUnits us).length = 2 * us.length := by
  induction us with
  | nil => rfl
  | cons u r ih => simp only [bytesOfUnits, List.flatMap_cons, List.length_append, be16_length, List.length_cons] at ih ⊢; omega

theorem NoPair_tail {a : Nat} {r : Str} (h : NoPair (a :: r)) : NoPair r := by
  cases r with
  | nil => trivial
  | cons b r => exact h.2

/-- What the code writes for an astral code point is a (high, low) pair that recombines to it. -/
theorem pair_of_astral {c : Nat} (h1 : ¬ c < 0x10000) (h2 : c < 0x110000) :
    (isHigh (0xD800 + (c - 0x10000) / 0x400) ∧ isLow (0xDC00 + (c - 0x10000) % 0x400)) ∧
    0x10000 + (0xD800 + (c - 0x10000) / 0x400 - 0xD800) * 0x400
      + (0xDC00 + (c - 0x10000) % 0x400 - 0xDC00) = c := by
  constructor
  · unfold isHigh isLow; omega
  · rw [Nat.add_sub_cancel_left, Nat.add_sub_cancel_left, Nat.add_assoc, Nat.div_add_mod',
      Nat.add_sub_cancel' (Nat.le_of_not_lt h1)]

/-- A (high, low) pair combines to an astral code point, which is written as that pair. -/
theorem astral_of_pair {u v : Nat} (hu : isHigh u) (hv : isLow v) :
    ¬ (0x10000 + (u - 0xD800) * 0x400 + (v - 0xDC00) < 0x10000) ∧
    0x10000 + (u - 0xD800) * 0x400 + (v - 0xDC00) < 0x110000 ∧
    0xD800 + (0x10000 + (u - 0xD800) * 0x400 + (v - 0xDC00) - 0x10000) / 0x400 = u ∧
    0xDC00 + (0x10000 + (u - 0xD800) * 0x400 + (v - 0xDC00) - 0x10000) % 0x400 = v := by
  unfold isHigh at hu; unfold isLow at hv; omega

theorem encUnits_lt (s : Str) (h : PyStr s) : ∀ u ∈ encUnits s, u < 65536 := by
  induction s with
  | nil => nofun
  | cons c r ih =>
    have ih' := ih (fun v hv => h v (List.mem_cons_of_mem _ hv))
    unfold encUnits
    split
    · rename_i hc
      exact List.forall_mem_cons.mpr ⟨hc, ih'⟩
    · rename_i hc
      obtain ⟨⟨hh, hl⟩, _⟩ := pair_of_astral hc (h c List.mem_cons_self)
      exact List.forall_mem_cons.mpr ⟨Nat.lt_trans hh.2 (by decide),
        List.forall_mem_cons.mpr ⟨Nat.lt_trans hl.2 (by decide), ih'⟩⟩

theorem encUnits_length_le (s : Str) : (encUnits s).length ≤ 2 * s.length := by
  induction s with
  | nil => simp [encUnits]
  | cons c r ih => unfold encUnits; split <;> simp <;> omega

/-- The code's decoder inverts its encoder on every `str` without an adjacent
(high, low) surrogate pair. -/
theorem decUnits_encUnits (s : Str) (h : PyStr s) (hn : NoPair s) : decUnits (encUnits s) = s := by
  induction s with
  | nil => rfl
  | cons c r ih =>
    have ih' := ih (fun v hv => h v (List.mem_cons_of_mem _ hv)) (NoPair_tail hn)
    unfold encUnits
    split
    · cases r with
      | nil => rfl
      | cons c2 r2 =>
        unfold encUnits at ih' ⊢
        split
        · rename_i h2
          rw [if_pos h2] at ih'
          rw [decUnits, if_neg hn.1, ih']
        · rename_i h2
          -- the unit after `c` is a high surrogate, not a low one
          have hlow := (pair_of_astral h2 (h c2 (by simp))).1.1.2
          rw [if_neg h2] at ih'
          rw [decUnits, if_neg (fun hp => absurd hlow (Nat.not_lt.mpr hp.2.1)), ih']
    · rename_i hc
      obtain ⟨hp, hv⟩ := pair_of_astral hc (h c List.mem_cons_self)
      rw [decUnits, if_pos hp, ih', hv]

/-- Re-encoding what was decoded gives the same units: files re-save identically,
unpaired surrogates included. -/
theorem encUnits_decUnits (us : List Nat) (h : ∀ u ∈ us, u < 65536) : encUnits (decUnits us) = us := by
  fun_induction decUnits us with
  | case1 => rfl
  | case2 u => rw [encUnits, if_pos (h u List.mem_cons_self)]; rfl
  | case3 u v r hp ih =>
    obtain ⟨h1, _, h2, h3⟩ := astral_of_pair hp.1 hp.2
    rw [encUnits, if_neg h1, ih (fun w hw => h w (by simp [hw])), h2, h3]
  | case4 u v r hp ih =>
    rw [encUnits, if_pos (h u List.mem_cons_self), ih (fun w hw => h w (List.mem_cons_of_mem _ hw))]

theorem decUnits_pyStr (us : List Nat) (h : ∀ u ∈ us, u < 65536) : PyStr (decUnits us) := by
  fun_induction decUnits us with
  | case1 => nofun
  | case2 u => exact List.forall_mem_cons.mpr ⟨Nat.lt_trans (h u List.mem_cons_self) (by decide), nofun⟩
  | case3 u v r hp ih =>
    exact List.forall_mem_cons.mpr ⟨(astral_of_pair hp.1 hp.2).2.1, ih (fun w hw => h w (by simp [hw]))⟩
  | case4 u v r hp ih =>
    exact List.forall_mem_cons.mpr ⟨Nat.lt_trans (h u List.mem_cons_self) (by decide),
      ih (fun w hw => h w (List.mem_cons_of_mem _ hw))⟩

/-- The bytes `write_unicode_string` emits for the units `us`: count, units, zero padding. -/
def unitsLayout (us : List Nat) (pad : Nat) : BL :=
  be32 us.length ++ bytesOfUnits us ++ List.replicate (padLen (4 + 2 * us.length) pad) 0

theorem writeUnits_eq (us : List Nat) (pad : Nat) (bs : BL) :
    writeUnits us pad = .ok bs ↔ us.length < 4294967296 ∧ pad ≠ 0 ∧ bs = unitsLayout us pad := by
  unfold writeUnits writeU32 writePadding unitsLayout
  by_cases h1 : us.length < 4294967296 <;> by_cases h2 : pad = 0 <;>
    simp [h1, h2, be32_length, bytesOfUnits_length, eq_comm]

theorem writeUnits_err (us : List Nat) (pad : Nat) (e : Err) :
    writeUnits us pad = .error e ↔
      (¬ us.length < 4294967296 ∧ e = .structError) ∨ (us.length < 4294967296 ∧ pad = 0 ∧ e = .other) := by
  unfold writeUnits writeU32 writePadding
  by_cases h1 : us.length < 4294967296 <;> by_cases h2 : pad = 0 <;> simp [h1, h2, eq_comm]

/-- What a successful `write_unicode_string` says about its arguments and its output. -/
theorem writeUnicodeString_inv {s : Str} {pad : Nat} {bs : BL} (hw : writeUnicodeString s pad = .ok bs) :
    PyStr s ∧ (encUnits s).length < 4294967296 ∧ pad ≠ 0 ∧ bs = unitsLayout (encUnits s) pad := by
  unfold writeUnicodeString at hw
  split at hw
  · rename_i hs
    exact ⟨hs, (writeUnits_eq _ _ _).mp hw⟩
  · cases hw

theorem writeUnicodeString_ok (s : Str) (pad : Nat) (hs : PyStr s) (hp : pad ≠ 0) (hlen : (encUnits s).length < 4294967296) :
    writeUnicodeString s pad = .ok (unitsLayout (encUnits s) pad) := by
  unfold writeUnicodeString
  rw [if_pos hs]
  exact (writeUnits_eq _ _ _).mpr ⟨hlen, hp, rfl⟩

theorem writeUnicodeString_decUnits (us : List Nat) (pad : Nat) (h : ∀ u ∈ us, u < 65536) :
    writeUnicodeString (decUnits us) pad = writeUnits us pad := by
  unfold writeUnicodeString
  rw [if_pos (decUnits_pyStr us h), encUnits_decUnits us h]

theorem unitsLayout_length (us : List Nat) (pad : Nat) :
    (unitsLayout us pad).length = 4 + 2 * us.length + padLen (4 + 2 * us.length) pad := by
  rw [unitsLayout, List.length_append, List.length_append, be32_length, bytesOfUnits_length,
    List.length_replicate]

theorem unitsLayout_stream (us : List Nat) (pad : Nat) (pre post : BL) :
    pre ++ unitsLayout us pad ++ post = pre ++ (be32 us.length ++ (bytesOfUnits us ++
      (List.replicate (padLen (4 + 2 * us.length) pad) 0 ++ post))) := by
  simp only [unitsLayout, List.append_assoc]

/-- The reader on a written unit string, up to the padding step (reader padding `pr` may
differ from the writer's `pw`). -/
theorem readUnicodeString_layout_gen (us : List Nat) (pw pr : Nat) (pre post : BL)
    (hlen : us.length < 4294967296) (hu : ∀ u ∈ us, u < 65536) :
    readUnicodeString (pre ++ unitsLayout us pw ++ post) pre.length pr
      = match readPadding (pre ++ unitsLayout us pw ++ post) (pre.length + 4 + 2 * us.length) (4 + 2 * us.length) pr with
        | .error e => .error e
        | .ok p3 => .ok (decUnits us, p3) := by
  unfold readUnicodeString
  rw [unitsLayout_stream, readU32_append pre _ _ hlen]
  simp only [slice_at2 pre (be32 _) (bytesOfUnits us) _ (pre.length + 4) (2 * us.length) rfl
      (bytesOfUnits_length us).symm, unitsOfBytes_bytesOfUnits us hu, bytesOfUnits_length]
  rfl

theorem readUnicodeString_layout (us : List Nat) (pad : Nat) (pre post : BL)
    (hlen : us.length < 4294967296) (hp : pad ≠ 0) (hu : ∀ u ∈ us, u < 65536) :
    readUnicodeString (pre ++ unitsLayout us pad ++ post) pre.length pad
      = .ok (decUnits us, pre.length + (unitsLayout us pad).length) := by
  rw [readUnicodeString_layout_gen us pad pad pre post hlen hu, unitsLayout_stream, readPadding, if_neg hp,
    slice_at3 pre (be32 _) (bytesOfUnits us) (List.replicate _ 0) post _ _
      (by rw [be32_length, bytesOfUnits_length]) (List.length_replicate ..).symm,
    List.length_replicate, unitsLayout_length]
  simp only [Nat.add_assoc]

/-- `rt` law of the unicode string codec (DESIGN section 3), for every `str` without an
adjacent surrogate pair, every padding, anywhere in a stream. -/
theorem readUnicodeString_write (s : Str) (pad : Nat) (bs pre post : BL) (hn : NoPair s)
    (hw : writeUnicodeString s pad = .ok bs) :
    readUnicodeString (pre ++ bs ++ post) pre.length pad = .ok (s, pre.length + bs.length) := by
  obtain ⟨hs, hlen, hp, rfl⟩ := writeUnicodeString_inv hw
  rw [readUnicodeString_layout _ pad pre post hlen hp (encUnits_lt s hs), decUnits_encUnits s hs hn]

/-- The value read does not depend on the reader's padding (blocks written with padding 4
are read back with padding 1 from their own `BytesIO`); the cursor stays inside the stream. -/
theorem readUnicodeString_value (s : Str) (pw pr : Nat) (bs pre post : BL) (hn : NoPair s) (hpr : pr ≠ 0)
    (hw : writeUnicodeString s pw = .ok bs) :
    ∃ p, readUnicodeString (pre ++ bs ++ post) pre.length pr = .ok (s, p) ∧ p ≤ (pre ++ bs ++ post).length := by
  obtain ⟨hs, hlen, _, rfl⟩ := writeUnicodeString_inv hw
  rw [readUnicodeString_layout_gen _ pw pr pre post hlen (encUnits_lt s hs), decUnits_encUnits s hs hn]
  simp only [readPadding, hpr, if_false]
  refine ⟨_, rfl, ?_⟩
  apply slice_end_le
  simp only [List.length_append, unitsLayout_length]
  omega

/-- `sound` law: whatever the reader returns can be written (and the cursor moved forward). -/
theorem readUnicodeString_sound (d : BL) (pos pad : Nat) (s : Str) (p : Nat)
    (h : readUnicodeString d pos pad = .ok (s, p)) :
    (∃ bs, writeUnicodeString s pad = .ok bs) ∧ pos + 4 ≤ p := by
  unfold readUnicodeString at h
  split at h
  · cases h
  · rename_i n p1 h32
    obtain ⟨hn, hp1⟩ := readU32_spec d pos n p1 h32
    simp only at h
    split at h
    · cases h
    · rename_i p3 hpad
      split at h
      · cases h
      · rename_i us hus
        simp only [Except.ok.injEq, Prod.mk.injEq] at h
        obtain ⟨rfl, rfl⟩ := h
        obtain ⟨hlt, hlen⟩ := unitsOfBytes_spec _ us hus
        have hsl := slice_length_le d p1 (2 * n)
        unfold readPadding at hpad
        split at hpad
        · cases hpad
        · rename_i hp0
          simp only [Except.ok.injEq] at hpad
          refine ⟨⟨unitsLayout us pad, ?_⟩, by omega⟩
          rw [writeUnicodeString_decUnits us pad hlt]
          exact (writeUnits_eq us pad _).mpr ⟨by omega, hp0, rfl⟩

/-- The bytes `write_pascal_string` emits for the encoded string `data`: length byte, `data`, zero padding. -/
def pascalLayout (data : BL) (pad : Nat) : BL :=
  UInt8.ofNat data.length :: data ++ List.replicate (padLen (1 + data.length) pad) 0

theorem pascalLayout_length (data : BL) (pad : Nat) :
    (pascalLayout data pad).length = 1 + data.length + padLen (1 + data.length) pad := by
  rw [pascalLayout, List.length_append, List.length_cons, List.length_replicate, Nat.add_comm 1]

/-- The writer succeeds exactly when the string is encodable within 255 bytes (and the
padding is not 0), and then emits the whole encoded string: nothing is truncated. -/
theorem writePascalString_eq (e : Encoding) (s : Str) (pad : Nat) (bs : BL) :
    writePascalString e s pad = .ok bs ↔
      ∃ data, e.encode s = some data ∧ data.length ≤ 255 ∧ pad ≠ 0 ∧ bs = pascalLayout data pad := by
  unfold writePascalString writeU8 writePadding pascalLayout
  cases he : e.encode s with
  | none => simp
  | some data =>
    by_cases h1 : data.length < 256 <;> by_cases h2 : pad = 0 <;>
      simp [h1, h2, eq_comm, Nat.add_comm] <;> omega

theorem writePascalString_err (e : Encoding) (s : Str) (pad : Nat) (er : Err) :
    writePascalString e s pad = .error er ↔
      (e.encode s = none ∧ er = .unicodeError)
      ∨ (∃ data, e.encode s = some data ∧ 255 < data.length ∧ er = .structError)
      ∨ (∃ data, e.encode s = some data ∧ data.length ≤ 255 ∧ pad = 0 ∧ er = .other) := by
  unfold writePascalString writeU8 writePadding
  cases he : e.encode s with
  | none => simp [eq_comm]
  | some data =>
    by_cases h1 : data.length < 256
    · have h3 : ¬ 255 < data.length := by omega
      have h4 : data.length ≤ 255 := by omega
      by_cases h2 : pad = 0 <;> simp [h1, h2, h3, h4, eq_comm]
    · have h3 : 255 < data.length := by omega
      have h4 : ¬ data.length ≤ 255 := by omega
      by_cases h2 : pad = 0 <;> simp [h1, h2, h3, h4, eq_comm]

theorem readPascalString_layout (e : Encoding) (data : BL) (pad : Nat) (pre post : BL)
    (hlen : data.length ≤ 255) (hp : pad ≠ 0) :
    readPascalString e (pre ++ pascalLayout data pad ++ post) pre.length pad
      = match e.decode data with
        | none => .error .unicodeError
        | some s => .ok (s, pre.length + (pascalLayout data pad).length) := by
  have hd : pre ++ pascalLayout data pad ++ post = pre ++ ([UInt8.ofNat data.length] ++ (data ++
      (List.replicate (padLen (1 + data.length) pad) 0 ++ post))) := by
    simp only [pascalLayout, List.append_assoc, List.cons_append, List.nil_append]
  unfold readPascalString
  rw [hd, readU8_append pre _ _ (by omega)]
  simp only [slice_at2 pre [_] data _ (pre.length + 1) data.length rfl rfl, ne_eq, not_true_eq_false,
    if_false]
  rw [readPadding, if_neg hp, show pre.length + 1 + data.length - pre.length = 1 + data.length by omega,
    slice_at3 pre [_] data (List.replicate _ 0) post (pre.length + 1 + data.length) _ rfl
      (List.length_replicate ..).symm,
    List.length_replicate, pascalLayout_length]
  cases e.decode data with
  | none => rfl
  | some s => simp only [Nat.add_assoc]

/-- `rt` law of the Pascal string codec: needs the codec law on this string only. -/
theorem readPascalString_write (e : Encoding) (s : Str) (pad : Nat) (bs pre post : BL)
    (hl : ∀ b, e.encode s = some b → e.decode b = some s)
    (hw : writePascalString e s pad = .ok bs) :
    readPascalString e (pre ++ bs ++ post) pre.length pad = .ok (s, pre.length + bs.length) := by
  obtain ⟨data, he, hlen, hp, rfl⟩ := (writePascalString_eq e s pad bs).mp hw
  rw [readPascalString_layout e data pad pre post hlen hp, hl data he]

/-- A character encodes to its first index `i` in the table, `(UInt8.ofNat i).toNat = i` below 256, and
`table[idxOf c] = c`. -/
theorem charmap_lawful (table : List Nat) : (charmap table).Lawful := by
  intro s
  induction s with
  | nil =>
    intro b hb
    simp [charmap] at hb
    subst hb
    simp [charmap]
  | cons c r ih =>
    intro b hb
    simp only [charmap, List.mapM_cons, bind, Option.bind_eq_some_iff] at hb
    obtain ⟨x, hx, bs, hbs, hb⟩ := hb
    simp at hb
    subst hb
    have ih' := ih bs (by simpa [charmap] using hbs)
    simp only [charmap] at ih' ⊢
    split at hx
    · rename_i hi
      simp at hx
      subst hx
      have hmod : (UInt8.ofNat (List.idxOf c table)).toNat = List.idxOf c table := by
        rw [toNat_ofNat]; omega
      simp [List.mapM_cons, hmod, ih']
      have hg : table[List.idxOf c table]? = some c := by
        rw [List.getElem?_eq_getElem hi.1]
        simp [List.getElem_idxOf]
      simp [hg]
    · cases hx

/-- A continuation byte `10xxxxxx` carries the six bits `x % 64`. -/
theorem cont_ofNat (x : Nat) :
    isCont (UInt8.ofNat (0x80 + x % 64)) ∧ (UInt8.ofNat (0x80 + x % 64)).toNat - 0x80 = x % 64 := by
  have := Nat.mod_lt x (show 0 < 64 by decide)
  unfold isCont
  rw [UInt8.toNat_ofNat_of_lt' (show 0x80 + x % 64 < 256 by omega)]
  omega

/-- A lead byte `b + q` with `q` below `n`. -/
theorem lead_ofNat {b q n : Nat} (hq : q < n) (hn : b + n ≤ 256) :
    (UInt8.ofNat (b + q)).toNat = b + q ∧ b + q < b + n :=
  ⟨UInt8.toNat_ofNat_of_lt' (Nat.lt_of_lt_of_le (Nat.add_lt_add_left hq b) hn), Nat.add_lt_add_left hq b⟩

theorem not_add_lt {k b : Nat} (h : k ≤ b) (q : Nat) : ¬ b + q < k :=
  Nat.not_lt.mpr (Nat.le_add_right_of_le h)

theorem utf8Dec_encChar (c : Nat) (a rest : BL) (h : utf8EncChar c = some a) :
    utf8Dec (a ++ rest) = (utf8Dec rest).map (c :: ·) := by
  -- per length: the lead byte's range selects the decoder's branch, the continuation bytes
  -- give back the base-64 digits of `c`, and `digit` recombines them
  unfold utf8EncChar at h
  by_cases h1 : c < 0x80
  · rw [if_pos h1] at h
    cases h
    have t := UInt8.toNat_ofNat_of_lt' (Nat.lt_trans h1 (by decide : 0x80 < 256))
    rw [List.singleton_append, utf8Dec.eq_def]
    simp only [t, if_pos h1]
  rw [if_neg h1] at h
  by_cases h2 : c < 0x800
  · rw [if_pos h2] at h
    cases h
    obtain ⟨t, c3⟩ := lead_ofNat (b := 0xC0) (n := 32) (Nat.div_lt_of_lt_mul (show c < 64 * 32 from h2)) (by decide)
    show utf8Dec (_ :: _ :: rest) = _
    rw [utf8Dec.eq_2, t, if_neg (not_add_lt (by decide) _), if_neg (by omega), if_pos c3,
      if_pos (cont_ofNat c).1, (cont_ofNat c).2, Nat.add_sub_cancel_left, Nat.div_add_mod']
  rw [if_neg h2] at h
  by_cases h3 : 0xD800 ≤ c ∧ c < 0xE000
  · rw [if_pos h3] at h
    cases h
  rw [if_neg h3] at h
  by_cases h4 : c < 0x10000
  · rw [if_pos h4] at h
    cases h
    obtain ⟨t, c4⟩ := lead_ofNat (b := 0xE0) (n := 16) (Nat.div_lt_of_lt_mul (show c < 4096 * 16 from h4)) (by decide)
    show utf8Dec (_ :: _ :: _ :: rest) = _
    rw [utf8Dec.eq_2, t, if_neg (not_add_lt (by decide) _), if_neg (not_add_lt (by decide) _),
      if_neg (not_add_lt (by decide) _), if_pos c4]
    show (if _ then _ else _) = _
    rw [(cont_ofNat c).2, (cont_ofNat (c / 64)).2, Nat.add_sub_cancel_left, digit 64 c 64,
      Nat.div_add_mod', if_pos ⟨(cont_ofNat (c / 64)).1, (cont_ofNat c).1, Nat.le_of_not_lt h2, h3⟩]
  rw [if_neg h4] at h
  by_cases h5 : c < 0x110000
  · rw [if_pos h5] at h
    cases h
    obtain ⟨t, c5⟩ := lead_ofNat (b := 0xF0) (n := 5)
      (Nat.div_lt_of_lt_mul (Nat.lt_trans h5 (by decide : 0x110000 < 262144 * 5))) (by decide)
    show utf8Dec (_ :: _ :: _ :: _ :: rest) = _
    rw [utf8Dec.eq_2, t, if_neg (not_add_lt (by decide) _), if_neg (not_add_lt (by decide) _),
      if_neg (not_add_lt (by decide) _), if_neg (not_add_lt (by decide) _), if_pos c5]
    show (if _ then _ else _) = _
    rw [(cont_ofNat c).2, (cont_ofNat (c / 64)).2, (cont_ofNat (c / 4096)).2,
      Nat.add_sub_cancel_left, digit 64 c 4096, digit 64 c 64, Nat.div_add_mod',
      if_pos ⟨(cont_ofNat (c / 4096)).1, (cont_ofNat (c / 64)).1, (cont_ofNat c).1,
        Nat.le_of_not_lt h4, h5⟩]
  rw [if_neg h5] at h
  cases h

theorem utf8_lawful : utf8.Lawful := by
  intro s
  induction s with
  | nil => intro b hb; simp [utf8, utf8Enc] at hb; subst hb; simp [utf8, utf8Dec]
  | cons c r ih =>
    intro b hb
    simp only [utf8] at hb ih ⊢
    unfold utf8Enc at hb
    split at hb
    · rename_i a b' ha hb'
      simp only [Option.some.injEq] at hb; subst hb
      rw [utf8Dec_encChar c a b' ha, ih b' hb']; rfl
    · cases hb

section SpecLemmas
open Spec

/-- The standard's bit-field description of a surrogate pair is the code's arithmetic one. -/
theorem utf16_pair_eq {c : Nat} (h1 : ¬ c < 0x10000) :
    0xD800 + (c / 65536 - 1) * 64 + c / 1024 % 64 = 0xD800 + (c - 0x10000) / 0x400 ∧
    0xDC00 + c % 1024 = 0xDC00 + (c - 0x10000) % 0x400 := by
  obtain ⟨x, rfl⟩ : ∃ x, c = x + 0x10000 :=
    ⟨c - 0x10000, (Nat.sub_add_cancel (Nat.le_of_not_lt h1)).symm⟩
  rw [Nat.add_sub_cancel, Nat.add_div_right x (by decide), Nat.add_sub_cancel,
    Nat.add_mul_div_right x 64 (by decide : 0 < 1024), Nat.add_mod_right,
    Nat.add_mul_mod_self_right x 64 1024, Nat.add_assoc, digit 64 x 1024]
  exact ⟨rfl, rfl⟩

/-- … and so is its recombination. -/
theorem utf16_join_eq (y : Nat) : (y / 64 + 1) * 65536 + y % 64 * 1024 = 0x10000 + y * 0x400 := by
  omega

/-- The code's encoder is the standard's on every string (surrogates pass through both). -/
theorem encUnits_eq_utf16Enc (s : Str) : encUnits s = utf16Enc s := by
  induction s with
  | nil => rfl
  | cons c r ih =>
    rw [encUnits, utf16Enc, utf16EncChar, ih]
    split
    · rfl
    · rename_i h1
      obtain ⟨e1, e2⟩ := utf16_pair_eq h1
      show _ = [_, _] ++ _
      rw [e1, e2]; rfl

theorem decUnits_of_utf16Dec (us : List Nat) (s : Str) (h : utf16Dec us = some s) : decUnits us = s := by
  fun_induction utf16Dec us generalizing s with
  | case1 => cases h; rfl
  | case2 u r hu ih =>
    obtain ⟨s', hr, rfl⟩ := Option.map_eq_some_iff.mp h
    cases ih s' hr
    cases r with
    | nil => rfl
    | cons v r' =>
      rw [decUnits, if_neg (fun hp => by have := hp.1; unfold isHigh at this; omega)]
  | case3 u hnf hh v r' hl wwww hi6 lo10 ih =>
    obtain ⟨s', hr, rfl⟩ := Option.map_eq_some_iff.mp h
    cases ih s' hr
    rw [decUnits, if_pos ⟨hh, hl⟩]
    refine congrArg (· :: decUnits r') ?_
    show _ = (wwww + 1) * 65536 + hi6 * 1024 + lo10
    rw [utf16_join_eq]
  | case4 => cases h
  | case5 => cases h
  | case6 => cases h

theorem scalar_pyStr (s : Str) (h : ∀ c ∈ s, Scalar c) : PyStr s := by
  intro c hc
  have := h c hc
  unfold Scalar at this
  omega

theorem scalar_noPair (s : Str) (h : ∀ c ∈ s, Scalar c) : NoPair s := by
  induction s with
  | nil => trivial
  | cons a r ih =>
    cases r with
    | nil => trivial
    | cons b r' =>
      refine ⟨?_, ih (fun v hv => h v (List.mem_cons_of_mem _ hv))⟩
      have := h a List.mem_cons_self
      unfold Scalar at this
      unfold isHigh
      omega

theorem utf16Dec_utf16Enc (s : Str) (h : ∀ c ∈ s, Scalar c) : utf16Dec (utf16Enc s) = some s := by
  induction s with
  | nil => rfl
  | cons c r ih =>
    have hc : Scalar c := h c List.mem_cons_self
    have ih' := ih (fun v hv => h v (List.mem_cons_of_mem _ hv))
    -- step the code's encoder, which equals the standard's, so that `pair_of_astral` applies
    rw [← encUnits_eq_utf16Enc, encUnits, encUnits_eq_utf16Enc r]
    unfold Scalar at hc
    split
    · rw [utf16Dec.eq_def]
      show (if c < 0xD800 ∨ _ then _ else _) = _
      rw [if_pos (by omega), ih']; rfl
    · rename_i h1
      obtain ⟨⟨hh, hl⟩, hv⟩ := pair_of_astral h1 (by omega)
      rw [utf16Dec, if_neg (by unfold isHigh at hh; omega), if_pos (show 0xD800 ≤ _ ∧ _ < 0xDC00 from hh),
        if_pos (show 0xDC00 ≤ _ ∧ _ < 0xE000 from hl), ih']
      simp only [Option.map_some, utf16_join_eq, hv]

end SpecLemmas

/-- What `_legacy_name` returns is always writable when `'?'` is. -/
theorem legacyName_encodable (e : Encoding) (r : NameRec) (v : Str) (hl : r.luni = some v)
    (hq : ∃ b, e.encode [0x3F] = some b ∧ b.length ≤ 255) :
    ∃ b, e.encode (legacyName e r) = some b ∧ b.length ≤ 255 := by
  unfold legacyName
  rw [hl]
  simp only
  cases hb : e.encode r.legacy with
  | none => simpa using hq
  | some b =>
    simp only
    split
    · exact hq
    · exact ⟨b, hb, by omega⟩

/-- Any record that carries the unicode block — however it was made, whatever its legacy field —
is written in every codec that can write `'?'`, and read back with the block's name. The bound is 2³¹
because a name has at most twice as many UTF-16 units as characters (`encUnits_length_le`) and the unit
count is written as a u32. -/
theorem nameRec_roundtrip (e : Encoding)
    (hd : ∀ s b, e.encode s = some b → ∃ s', e.decode b = some s')
    (hq : ∃ b, e.encode [0x3F] = some b ∧ b.length ≤ 255)
    (r1 : NameRec) (value : Str) (hl1 : r1.luni = some value)
    (hs : PyStr value) (hn : NoPair value) (hlen : value.length < 2147483648) :
    ∃ lb ub, writeName e r1 = .ok (lb, some ub) ∧
      ∀ pre post, ∃ r2, readName e (pre ++ lb ++ post) pre.length (some ub) = .ok (r2, pre.length + lb.length)
        ∧ r2.luni = some value ∧ getName r2 = value := by
  obtain ⟨b, hb, hbl⟩ := legacyName_encodable e r1 value hl1 hq
  obtain ⟨leg, hleg⟩ := hd _ b hb
  have hwp : writePascalString e (legacyName e r1) 4 = .ok (pascalLayout b 4) :=
    (writePascalString_eq _ _ _ _).mpr ⟨b, hb, hbl, by decide, rfl⟩
  have hul : (encUnits value).length < 4294967296 := by
    have := encUnits_length_le value; omega
  have hwu := writeUnicodeString_ok value 4 hs (by decide) hul
  refine ⟨pascalLayout b 4, unitsLayout (encUnits value) 4, ?_, ?_⟩
  · unfold writeName
    rw [hwp]; simp only [hl1, hwu]
  · intro pre post
    have hrp := readPascalString_layout e b 4 pre post hbl (by decide)
    rw [hleg] at hrp
    obtain ⟨p, hru, _⟩ := readUnicodeString_value value 4 1 _ [] [] hn (by decide) hwu
    simp only [List.nil_append, List.append_nil, List.length_nil] at hru
    refine ⟨{ legacy := leg, luni := some value }, ?_, rfl, rfl⟩
    unfold readName
    rw [hrp]; simp only [hru]

theorem name_roundtrip (mac e : Encoding)
    (hd : ∀ s b, e.encode s = some b → ∃ s', e.decode b = some s')
    (hq : ∃ b, e.encode [0x3F] = some b ∧ b.length ≤ 255)
    (value : Str) (hs : PyStr value) (hn : NoPair value) (hlen : value.length < 256) (r0 : NameRec) :
    ∃ r1 lb ub, setName mac value r0 = .ok r1 ∧ writeName e r1 = .ok (lb, some ub) ∧
      ∀ pre post, ∃ r2, readName e (pre ++ lb ++ post) pre.length (some ub) = .ok (r2, pre.length + lb.length)
        ∧ r2.luni = some value ∧ getName r2 = value := by
  have hset : setName mac value r0 = .ok { legacy := if (mac.encode value).isSome then value else [0x3F], luni := some value } := by
    unfold setName; rw [if_pos hlen]
  obtain ⟨lb, ub, hw, hr⟩ := nameRec_roundtrip e hd hq
    { legacy := if (mac.encode value).isSome then value else [0x3F], luni := some value } value rfl hs hn (by omega)
  exact ⟨_, lb, ub, hset, hw, hr⟩

/-- Without the unicode block nothing is substituted: an unencodable legacy name is an error. -/
theorem writeName_no_block (e : Encoding) (r : NameRec) (h : r.luni = none) :
    writeName e r = match writePascalString e r.legacy 4 with
      | .error er => .error er
      | .ok lb => .ok (lb, none) := by
  unfold writeName legacyName
  rw [h]
  cases writePascalString e r.legacy 4 <;> rfl

end PsdVerif.Unicode
