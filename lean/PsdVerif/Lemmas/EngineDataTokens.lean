/-
Lemmas for C18: the tokenizer on plain (non-string) tokens, the token-stream relation `Toks`, and that
every token consumes at least one byte.
-/
import PsdVerif.Lemmas.EngineDataString

namespace PsdVerif.EngineData

theorem takeWhile_all {α} (p : α → Bool) (l m : List α) (hl : ∀ x ∈ l, p x = true)
    (hm : m = [] ∨ ∃ b t, m = b :: t ∧ p b = false) : (l ++ m).takeWhile p = l := by
  rw [List.takeWhile_append_of_pos hl]
  rcases hm with rfl | ⟨b, t, rfl, hb⟩
  · simp
  · simp [hb]

theorem dropWhile_all {α} (p : α → Bool) (l m : List α) (hl : ∀ x ∈ l, p x = true)
    (hm : m = [] ∨ ∃ b t, m = b :: t ∧ p b = false) : (l ++ m).dropWhile p = m := by
  rw [List.dropWhile_append_of_pos hl]
  rcases hm with rfl | ⟨b, t, rfl, hb⟩
  · simp
  · simp [hb]

theorem takeWhile_self {α} (p : α → Bool) (l : List α) (h : ∀ x ∈ l, p x = true) : l.takeWhile p = l := by
  simpa using takeWhile_all p l [] h (Or.inl rfl)

theorem dropWhile_self {α} (p : α → Bool) (l : List α) (h : ∀ x ∈ l, p x = true) : l.dropWhile p = [] := by
  simpa using dropWhile_all p l [] h (Or.inl rfl)

theorem length_dropWhile_le {α} (p : α → Bool) (l : List α) : (l.dropWhile p).length ≤ l.length :=
  (List.dropWhile_sublist p).length_le

theorem Sep_nil : Sep [] := Or.inl rfl
theorem Sep_cons (b : UInt8) (t : BL) (h : isDiv b = true) : Sep (b :: t) := Or.inr ⟨b, t, rfl, h⟩

theorem strStart_of_head (a : UInt8) (t : BL) (h : a ≠ 0x28) : strStart (a :: t) = false := by
  cases t with
  | nil => rfl
  | cons b t => cases t with
    | nil => rfl
    | cons c t => simp [strStart, h]

theorem isDiv_ne_lp (b : UInt8) (h : isDiv b = true) : b ≠ 0x28 := by
  rintro rfl; revert h; decide

theorem next_div (b : UInt8) (d : BL) (h : isDiv b = true) : next (b :: d) = next d := by
  simp [next, strStart_of_head b d (isDiv_ne_lp b h), h]

theorem next_ws (w d : BL) (h : ∀ b ∈ w, isDiv b = true) : next (w ++ d) = next d := by
  induction w with
  | nil => rfl
  | cons b w ih =>
    rw [List.cons_append, next_div _ _ (h b (by simp))]
    exact ih (fun x hx => h x (by simp [hx]))

theorem next_dropDiv (d : BL) : next (d.dropWhile isDiv) = next d := by
  induction d with
  | nil => rfl
  | cons b d ih =>
    by_cases h : isDiv b = true
    · simp [List.dropWhile, h, next_div, ih]
    · simp [List.dropWhile, h]

theorem next_plain (tok m : BL) (hp : Plain tok) (hm : Sep m) :
    next (tok ++ m) = .ok (some (tok, m.dropWhile isDiv)) := by
  obtain ⟨hne, hnd, hh⟩ := hp
  cases tok with
  | nil => exact absurd rfl hne
  | cons a tk =>
    have ha : a ≠ 0x28 := by intro h; subst h; simp at hh
    have hda : isDiv a = false := hnd a (by simp)
    have hl : ∀ x ∈ a :: tk, (fun x => !isDiv x) x = true := by
      intro x hx; simp [hnd x hx]
    have hm' : m = [] ∨ ∃ b t, m = b :: t ∧ (fun x => !isDiv x) b = false := by
      rcases hm with h | ⟨b, t, h1, h2⟩
      · exact Or.inl h
      · exact Or.inr ⟨b, t, h1, by simp [h2]⟩
    have e1 := takeWhile_all (fun x => !isDiv x) (a :: tk) m hl hm'
    have e2 := dropWhile_all (fun x => !isDiv x) (a :: tk) m hl hm'
    rw [List.cons_append] at e1 e2 ⊢
    rw [next.eq_2]
    simp only [strStart_of_head a _ ha, hda, e1, e2]
    simp

theorem Toks_congr {d d' : BL} {ts} (h : nextTok d' = nextTok d) (ht : Toks d ts) : Toks d' ts := by
  cases ht with
  | nil h0 => exact .nil (h.trans h0)
  | cons h0 h1 => exact .cons (h.trans h0) h1

theorem nextTok_of_next {d d' : BL} (h : next d' = next d) : nextTok d' = nextTok d := by
  simp [nextTok, h]

theorem Toks_nil : Toks [] [] := .nil (by simp [nextTok, next])

theorem Toks_ws {w d : BL} {ts} (h : ∀ b ∈ w, isDiv b = true) (ht : Toks d ts) : Toks (w ++ d) ts :=
  Toks_congr (nextTok_of_next (next_ws w d h)) ht

theorem Toks_div {b : UInt8} {d : BL} {ts} (h : isDiv b = true) (ht : Toks d ts) : Toks (b :: d) ts :=
  Toks_congr (nextTok_of_next (next_div b d h)) ht

theorem Toks_plain {tok m : BL} {ty : Tok} {ts} (hp : Plain tok) (hc : classify tok = some ty)
    (hm : Sep m) (ht : Toks m ts) : Toks (tok ++ m) ((tok, ty) :: ts) := by
  refine .cons (rest := m.dropWhile isDiv) ?_ (Toks_congr (nextTok_of_next (next_dropDiv m)) ht)
  simp [nextTok, next_plain tok m hp hm, hc]

theorem Toks_str {u m : BL} {ts} (ht : Toks m ts) :
    Toks (strBytes u ++ m) ((strBytes u, .string) :: ts) := by
  refine .cons (rest := m) ?_ ht
  simp [nextTok, next_strBytes, classify_strBytes]

theorem strScan_length (d x r : BL) (h : strScan d = some (x, r)) : r.length < d.length := by
  fun_induction strScan d generalizing x r with
  | case1 => cases h
  | case2 t => cases h; exact Nat.lt_succ_self _
  | case3 => cases h
  | case4 c t' hs _ _ => cases h
  | case5 c t' x' r' hs _ ih =>
    cases h; have := ih _ _ hs; simp only [List.length_cons]; omega
  | case6 b t _ _ hs _ => cases h
  | case7 b t _ _ x' r' hs ih =>
    cases h; have := ih _ _ hs; simp only [List.length_cons]; omega

theorem strToken_length (d x r : BL) (h : strToken d = some (x, r)) : r.length < d.length := by
  unfold strToken at h
  split at h
  · split at h
    · cases h
    · rename_i hs
      cases h
      have := strScan_length _ _ _ hs
      simp only [List.length_cons]; omega
  · cases h

/-- Each token consumes at least one byte. -/
theorem next_length (d tok rest : BL) (h : next d = .ok (some (tok, rest))) : rest.length < d.length := by
  fun_induction next d generalizing tok rest with
  | case1 => cases h
  | case2 => cases h
  | case3 b t _ tok' rest' hs => cases h; exact strToken_length _ _ _ hs
  | case4 b t _ _ ih => have := ih _ _ h; simp only [List.length_cons]; omega
  | case5 b t _ hd =>
    cases h
    have e1 := length_dropWhile_le isDiv ((b :: t).dropWhile (fun x => !isDiv x))
    have e2 := length_dropWhile_le (fun x => !isDiv x) t
    rw [List.dropWhile_cons_of_pos (by simpa using hd)] at e1 ⊢
    simp only [List.length_cons]; omega

theorem nextTok_length (d tok : BL) (ty : Tok) (rest : BL)
    (h0 : nextTok d = .ok (some (tok, ty, rest))) : rest.length < d.length := by
  unfold nextTok at h0
  split at h0
  · cases h0
  · cases h0
  · rename_i hn
    split at h0
    · cases h0
    · cases h0; exact next_length _ _ _ hn

theorem Toks_length {d : BL} {ts} (h : Toks d ts) : ts.length ≤ d.length := by
  induction h with
  | nil _ => simp
  | cons h0 _ ih =>
    have := nextTok_length _ _ _ _ h0
    simp only [List.length_cons]; omega

end PsdVerif.EngineData
