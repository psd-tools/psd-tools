/-
C01 descriptors — `DescriptorBlock` / `DescriptorBlock2` (the reader on a written block, the `written` count),
and the samples of the non-vacuity statements of Props/C01Descriptor.lean with what is evaluated about them.
-/
import PsdVerif.Lemmas.Descriptor2
import PsdVerif.Model.DescriptorTables

namespace PsdVerif.Descriptor
open PsdVerif.Codec

/-! ### writers: success, failure class -/

theorem enc_ok {tb : Tables} {v : DVal} {bs : B} (h : enc tb v = .ok bs) : Fits tb v ∧ bs = encT tb v :=
  fits_of_ite_ok h

theorem Block.enc_ok {tb : Tables} {pad : Nat} {b : Block} {bs : B} (h : b.enc tb pad = .ok bs) :
    b.Fits tb ∧ bs = b.encT tb pad :=
  fits_of_ite_ok h

theorem Block2.enc_ok {tb : Tables} {pad : Nat} {b : Block2} {bs : B} (h : b.enc tb pad = .ok bs) :
    b.Fits tb ∧ bs = b.encT tb pad :=
  fits_of_ite_ok h

/-! ### blocks -/

theorem Block.length_encT (tb : Tables) (pad : Nat) (b : Block) :
    (b.encT tb pad).length = b.bodyLen tb + padAmount (b.bodyLen tb) pad := by
  simp only [Block.encT, Block.bodyLen, List.length_append, length_u32T, length_zeros]; omega

theorem Block2.length_encT (tb : Tables) (pad : Nat) (b : Block2) :
    (b.encT tb pad).length = b.bodyLen tb + padAmount (b.bodyLen tb) pad := by
  simp only [Block2.encT, Block2.bodyLen, List.length_append, length_u32T, length_zeros]; omega

/-- the reader returns the block and stops before the filler `write_padding` appended -/
theorem Block.dec_at {tb : Tables} {pad : Nat} {b : Block} (hwf : b.WF tb) (hf : b.Fits tb) {d : B} {p : Nat}
    (h : At d p (b.encT tb pad)) : Block.dec tb d p = .ok (b, p + b.bodyLen tb) := by
  obtain ⟨ver, nm, cid, items⟩ := b
  obtain ⟨rfl, hnm, hcid, hnd, hitems⟩ := hwf
  obtain ⟨_, fnm, fcid, flen, fitems⟩ := hf
  rw [Block.encT, ← List.append_assoc] at h
  have h1 := needItems_le tb items
  have h2 := h.left.bound
  simp only [bodyT, List.length_append] at h2
  -- `Block.dec` takes its fuel from the stream, so it is a `>>-` chain only once `d` is fixed: the chain is written out
  have hr : Reads ((readU 4) >>- fun ver => (readBody tb (decBody tb (d.length + 1))) >>- fun x =>
      if ver = 16 then rpure (⟨(ver : Int), x.1, x.2.1, x.2.2⟩ : Block) else rfail .valueError)
      (u32T 16 ++ bodyT tb nm cid items) ⟨16, nm, cid, items⟩ :=
    (readU32_reads (n := 16) (by decide)).bind
      ((readBody_reads (decBody_items_reads tb items _ hitems fitems (by omega)) hnm fnm hcid fcid flen hnd).bind_nil
        (.pure _))
  have e := hr d p h.left
  rwa [List.length_append, length_u32T] at e

theorem Block2.dec_at {tb : Tables} {pad : Nat} {b : Block2} (hwf : b.WF tb) (hf : b.Fits tb) {d : B} {p : Nat}
    (h : At d p (b.encT tb pad)) : Block2.dec tb d p = .ok (b, p + b.bodyLen tb) := by
  obtain ⟨ver, dv, nm, cid, items⟩ := b
  obtain ⟨rfl, hnm, hcid, hnd, hitems⟩ := hwf
  obtain ⟨fv, _, fnm, fcid, flen, fitems⟩ := hf
  obtain ⟨ver, rfl⟩ := Int.eq_ofNat_of_zero_le fv.1
  rw [Block2.encT, ← List.append_assoc, ← List.append_assoc] at h
  have h1 := needItems_le tb items
  have h2 := h.left.bound
  simp only [bodyT, List.length_append] at h2
  have hr : Reads ((readU 4) >>- fun ver => (readU 4) >>- fun dv => (readBody tb (decBody tb (d.length + 1))) >>- fun x =>
      if dv = 16 then rpure (⟨(ver : Int), (dv : Int), x.1, x.2.1, x.2.2⟩ : Block2) else rfail .valueError)
      (u32T ver ++ u32T 16 ++ bodyT tb nm cid items) ⟨ver, 16, nm, cid, items⟩ := by
    rw [List.append_assoc]
    exact (readU32_reads (Int.ofNat_lt.mp fv.2)).bind ((readU32_reads (n := 16) (by decide)).bind
      ((readBody_reads (decBody_items_reads tb items _ hitems fitems (by omega)) hnm fnm hcid fcid flen hnd).bind_nil
        (.pure _)))
  have e := hr d p h.left
  rwa [List.length_append, List.length_append, length_u32T, length_u32T] at e

theorem Block.dec_encT {tb : Tables} {pad : Nat} {b : Block} (hwf : b.WF tb) (hf : b.Fits tb) :
    Block.dec tb (b.encT tb pad) 0 = .ok (b, b.bodyLen tb) := by
  simpa only [Nat.zero_add] using Block.dec_at hwf hf (At.self _)

theorem Block2.dec_encT {tb : Tables} {pad : Nat} {b : Block2} (hwf : b.WF tb) (hf : b.Fits tb) :
    Block2.dec tb (b.encT tb pad) 0 = .ok (b, b.bodyLen tb) := by
  simpa only [Nat.zero_add] using Block2.dec_at hwf hf (At.self _)

theorem Block.encW_eq (tb : Tables) (pad : Nat) (b : Block) :
    b.encW tb pad = (b.encT tb pad, (b.encT tb pad).length) := by
  simp only [Block.encW, bodyW_eq, wBytes_eq, wSeq_eq, wPad_eq]
  simp only [Block.encT, Block.bodyLen, List.length_append, length_u32T, List.append_assoc]

theorem Block2.encW_eq (tb : Tables) (pad : Nat) (b : Block2) :
    b.encW tb pad = (b.encT tb pad, (b.encT tb pad).length) := by
  simp only [Block2.encW, bodyW_eq, wBytes_eq, wSeq_eq, wPad_eq]
  simp only [Block2.encT, Block2.bodyLen, List.length_append, length_u32T, List.append_assoc]
  have e : ∀ n : Nat, 4 + (4 + n) = 8 + n := by intro n; omega
  rw [e]

/-! ### observers used by the witness theorems (results hold `DVal`, which has no decidable equality) -/

def errorOf {α : Type} : Except Err α → Option Err
  | .error e => some e
  | .ok _ => none

def stringOf : Except Err (DVal × Nat) → Option Str
  | .ok (.string s, _) => some s
  | _ => none

/-! ### samples -/

namespace Samples

def k (b : List UInt8) : Key := ⟨b, false⟩
def kNm : Key := k [78, 109, 32, 32]                        -- b"Nm  "    known term: length field 0
def kClr : Key := k [67, 108, 114, 32]                      -- b"Clr "    known term
def kNull : Key := k [110, 117, 108, 108]                   -- b"null"    known term
def kRedFloat : Key := k [114, 101, 100, 70, 108, 111, 97, 116]  -- b"redFloat"  length field 8
def kAbcd : Key := k [97, 98, 99, 100]                      -- b"abcd"    4 bytes, not a term: length field 4
def kWxyz : Key := ⟨[119, 120, 121, 122], true⟩             -- _ImplicitKey(b"wxyz"): length field 0
def kLyr : Key := k [76, 121, 114, 32]
def kOrdn : Key := k [79, 114, 100, 110]
def kTrgt : Key := k [84, 114, 103, 116]
def kOpct : Key := k [79, 112, 99, 116]
def kTxt : Key := k [84, 120, 116, 32]
def kX : Key := k [120]                                      -- b"x"
def kLong : Key := k [108, 97, 121, 101, 114, 67, 111, 110, 99, 97, 116]   -- b"layerConcat"

def uPxl : UnitRef := ⟨true, [35, 80, 120, 108]⟩            -- Unit.Pixels  b"#Pxl"
def uAdd : UnitRef := ⟨false, [65, 100, 100, 32]⟩           -- Enum.Add     b"Add "

/-- a reference holding every reference-only class -/
def reference : DVal := .list .reference [
  .property [80] kLyr kOpct,
  .klass .class3 [] kLyr,
  .enumRef [] kLyr kOrdn kTrgt,
  .offset [0x1F600] kLyr 4294967295,
  .int .identifier (-2147483648),
  .int .index 2147483647,
  .name [] kLyr [76, 0x10FFFF, 0xDC00, 0xD800]]

/-- the innermost container of `sample` -/
def inner : DVal := .objArray 3 [79] kNull [
  (kX, .unitFloats uAdd [0, 18446744073709551615, 4607182418800017408]),
  (kClr, .unitFloats uPxl [])]

/-- the container around `inner` -/
def middle : DVal := .desc .globalObject [] kAbcd [
  (kLong, inner),
  (kNm, .list .list []),
  (kTxt, reference)]

/-- a descriptor three container levels deep that uses every one of the 25 classes -/
def sample : DVal := .desc .descriptor [0x41, 0x1F600, 0xD7FF] kNull [
  (kNm, .string [72, 0x1F600]),
  (kRedFloat, .double 4609434218613702656),
  (kAbcd, .int .integer (-5)),
  (kWxyz, .large (-9223372036854775808)),
  (kClr, .bool true),
  (kOpct, .unitFloat uPxl 9221120237041090561),              -- a NaN with a payload: kept bit for bit
  (kOrdn, .enumerated kOrdn kTrgt),
  (kTrgt, .raw .rawData [1, 2, 3]),
  (kX, .raw .alias []),
  (kLong, .raw .path [0]),
  (kLyr, .klass .class1 [84] kLyr),
  (k [49], .klass .class2 [] kAbcd),
  (kTxt, .list .list [middle, .bool false, .desc .descriptor [] kNull []])]

def tagsVal : DVal → List Tag
  | .list t items => t.tag :: tagsList items
  | .desc t _ _ items => t.tag :: tagsItems items
  | .objArray _ _ _ items => .objectArray :: tagsItems items
  | v => [v.tag]
where
  tagsList : List DVal → List Tag
    | [] => []
    | v :: vs => tagsVal v ++ tagsList vs
  tagsItems : Items → List Tag
    | [] => []
    | (_, v) :: r => tagsVal v ++ tagsItems r

def block : Block := ⟨16, [], kNull, [(kTxt, sample), (kNm, .bool true)]⟩
def block2 : Block2 := ⟨1, 16, [66], kAbcd, [(kTxt, sample)]⟩

/-- what the statements about the samples need from the regenerated tables -/
structure Facts : Prop where
  wf : WF realTables sample
  fits : Fits realTables sample
  length : (encT realTables sample).length = 613
  blockWF : block.WF realTables
  block2WF : block2.WF realTables
  blockFits : block.Fits realTables

/-- One evaluation for all of them: each `_TERMS` lookup is a scan of the whole table, and within one evaluation the
kernel does it once per key. -/
theorem evaluated : Facts :=
  have h : WF realTables sample ∧ Fits realTables sample ∧ (encT realTables sample).length = 613 ∧
      block.WF realTables ∧ block2.WF realTables ∧ block.Fits realTables := by decide +kernel
  ⟨h.1, h.2.1, h.2.2.1, h.2.2.2.1, h.2.2.2.2.1, h.2.2.2.2.2⟩

end Samples

/-- `Unit` values start with `#`, `Enum` values do not -/
theorem unit_enum_heads :
    (∀ b ∈ Generated.Descriptor.unitValues, b.head? = some 35) ∧
      (∀ b ∈ Generated.Descriptor.enumValues, b.head? ≠ some 35) := by decide +kernel

end PsdVerif.Descriptor
