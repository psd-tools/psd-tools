/-
Helper lemmas for C04: big-endian row tables and the per-row PackBits codec.
Core Lean only.
-/
import PsdVerif.Model.Compression
import PsdVerif.Lemmas.Bytes
import PsdVerif.Lemmas.RleDec

namespace PsdVerif.Compression
open PsdVerif.Rle

theorem beBytes_length (k n : Nat) : (beBytes k n).length = k := by
  induction k generalizing n with
  | zero => rfl
  | succ k ih => simp [beBytes, ih]

theorem beVal_append_single (xs : BList) (b : UInt8) : beVal (xs ++ [b]) = beVal xs * 256 + b.toNat := by
  simp [beVal, List.foldl_append]

theorem beVal_beBytes (k n : Nat) (h : n < 256 ^ k) : beVal (beBytes k n) = n := by
  induction k generalizing n with
  | zero => simp [beBytes, beVal] at *; omega
  | succ k ih =>
    have h1 : n / 256 < 256 ^ k := by
      apply Nat.div_lt_of_lt_mul
      rw [Nat.pow_succ] at h; omega
    rw [beBytes, beVal_append_single, ih _ h1, toNat_ofNat, Nat.mod_mod]
    exact Nat.div_add_mod' n 256

theorem readVals_table (k : Nat) (cs : List Nat) (rest : BList) (hc : ∀ c ∈ cs, c < 256 ^ k) :
    readVals k cs.length (cs.flatMap (beBytes k) ++ rest) = cs := by
  induction cs with
  | nil => rfl
  | cons c cs ih =>
    simp only [List.flatMap_cons, List.length_cons, readVals, List.append_assoc]
    rw [List.take_left' (beBytes_length k c), List.drop_left' (beBytes_length k c)]
    rw [beVal_beBytes k c (hc c (by simp)), ih (fun x hx => hc x (by simp [hx]))]

theorem decRows_pairs (rs : Nat) (ps : List (BList × BList)) (extra : BList)
    (h : ∀ p ∈ ps, specDec p.1 = some p.2 ∧ p.2.length = rs) :
    decRows rs (ps.map (·.1.length)) ((ps.map (·.1)).flatten ++ extra) = .ok (ps.map (·.2)).flatten := by
  induction ps with
  | nil => rfl
  | cons p ps ih =>
    obtain ⟨h1, h2⟩ := h p (by simp)
    simp only [List.map_cons, List.flatten_cons, List.append_assoc, decRows]
    rw [List.take_left' rfl, List.drop_left' rfl]
    have hd := decPy_complete p.1.toArray p.2 (by simpa using h1)
    rw [h2] at hd
    rw [hd, ih (fun q hq => h q (by simp [hq]))]

theorem tableItem_cases {version k : Nat} (h : tableItem version = .ok k) : k = 2 ∨ k = 4 := by
  unfold tableItem at h
  split at h
  · left; injection h with h; exact h.symm
  · split at h
    · right; injection h with h; exact h.symm
    · simp at h

/-- `decode_rle` on a well-formed stream: a table of `h` row lengths followed by rows that
the *specification* decoder expands to `rowSize` bytes each. -/
theorem decodeRle_pairs (ps : List (BList × BList)) (w h depth version k : Nat)
    (hk : tableItem version = .ok k) (hh : ps.length = h)
    (hp : ∀ p ∈ ps, specDec p.1 = some p.2 ∧ p.2.length = rowSize w depth)
    (hfit : ∀ p ∈ ps, p.1.length < 256 ^ k) :
    decodeRle ((ps.map (·.1)).flatMap (fun e => beBytes k e.length) ++ (ps.map (·.1)).flatten)
      w h depth version = .ok (ps.map (·.2)).flatten := by
  have hk0 := tableItem_cases hk
  have htl : ((ps.map (·.1)).flatMap (fun e => beBytes k e.length)).length = h * k := by
    rw [length_flatMap_const _ k]
    · simp [hh]
    · intro a _; exact beBytes_length k _
  simp only [decodeRle, hk]
  rw [List.take_left' htl, List.drop_left' htl, htl]
  have h1 : h * k % k = 0 := Nat.mul_mod_left h k
  have h2 : h * k / k = h := Nat.mul_div_cancel h (by omega)
  simp only [h1, h2, ne_eq, not_true_eq_false, if_false]
  have e1 : (ps.map (·.1)).flatMap (fun e => beBytes k e.length) =
      (ps.map (·.1.length)).flatMap (beBytes k) := by
    simp [List.flatMap_map]
  have e2 : h = (ps.map (·.1.length)).length := by simp [hh]
  have hr := readVals_table k (ps.map (·.1.length)) []
    (by intro c hc; simp only [List.mem_map] at hc; obtain ⟨p, hp', rfl⟩ := hc; exact hfit p hp')
  rw [List.append_nil] at hr
  rw [e1]
  conv => lhs; arg 2; arg 2; rw [e2]
  rw [hr]
  have := decRows_pairs (rowSize w depth) ps [] hp
  rw [List.append_nil] at this
  exact this

theorem splitPlanes_spec (ps : Nat) (n : Nat) (d : BList) (hd : d.length = ps * n) :
    (splitPlanes ps n d).flatten = d ∧ (∀ r ∈ splitPlanes ps n d, r.length = ps) ∧
      (splitPlanes ps n d).length = n := by
  induction n generalizing d with
  | zero =>
    have : d = [] := List.eq_nil_of_length_eq_zero (by simpa using hd)
    subst this; simp [splitPlanes]
  | succ n ih =>
    have hle : ps ≤ d.length := by rw [hd, Nat.mul_succ]; omega
    have hdrop : (d.drop ps).length = ps * n := by
      rw [List.length_drop, hd, Nat.mul_succ]; omega
    obtain ⟨i1, i2, i3⟩ := ih (d.drop ps) hdrop
    simp only [splitPlanes, List.flatten_cons, i1, List.take_append_drop, List.length_cons, i3]
    refine ⟨trivial, ?_, trivial⟩
    intro r hr
    rcases List.mem_cons.mp hr with rfl | hr
    · rw [List.length_take]; omega
    · exact i2 r hr

/-- `encode_rle` cuts the raster into rows exactly as the containers cut planes (`splitPlanes`), so the facts
about `splitPlanes` serve for rows too. -/
theorem encRows_eq (rs h : Nat) (d : BList) :
    encRows rs h d = (splitPlanes rs h d).map (fun r => encPy r.toArray) := by
  induction h generalizing d with
  | zero => rfl
  | succ h ih => simp [encRows, splitPlanes, ih]

theorem splitPlanes_flatten (ps : Nat) (planes : List BList) (h : ∀ p ∈ planes, p.length = ps) :
    splitPlanes ps planes.length planes.flatten = planes := by
  induction planes with
  | nil => rfl
  | cons p planes ih =>
    have hp := h p (by simp)
    simp only [List.length_cons, List.flatten_cons, splitPlanes]
    rw [List.take_left' hp, List.drop_left' hp, ih (fun q hq => h q (by simp [hq]))]

end PsdVerif.Compression
