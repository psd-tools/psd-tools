/-
C14 — the table-interpreting machine (`Model/FreshState.lean`) keeps well-formed trees with fresh caches
when every segment of the table is covered. The four covered block shapes are shown to compute exactly the
states of the primitives whose freshness was proved in `Lemmas/TreeFreshPrim.lean`.
-/
import PsdVerif.Lemmas.TreeFreshPrim
import PsdVerif.Model.FreshState

namespace PsdVerif.FreshState
open PsdVerif PsdVerif.TreeSt

/-! ### clearing caches never hurts -/

theorem good_of_cleared {s s' : State} (hc : Cleared s s') (h : Good s) : Good s' :=
  ⟨hc.same.inv h.inv, fresh_of_cleared hc h.fresh⟩

theorem good_invalidate (s : State) (x : Id) (h : Good s) : Good (invalidate .toRoot s x) :=
  good_of_cleared (invUp_cleared _ s x) h

theorem resetScope_cleared (sc : Scope) (s : State) (x : Id) : Cleared s (resetScope sc s x) := by
  cases sc with
  | self =>
    simp only [resetScope]; split
    · exact clearCache_cleared s x
    · exact Cleared.refl s
  | children =>
    simp only [resetScope]; split
    · exact clearConts_cleared s _
    · exact Cleared.refl s
  | descendants =>
    simp only [resetScope]; split
    · split
      · exact clearConts_cleared s _
      · exact Cleared.refl s
    · exact Cleared.refl s
  | other => exact Cleared.refl s

theorem good_resetScope (sc : Scope) (s : State) (x : Id) (h : Good s) : Good (resetScope sc s x) :=
  good_of_cleared (resetScope_cleared sc s x) h

theorem good_markDirty (s : State) (x : Id) (h : Good s) : Good (markDirty s x) :=
  good_of_cleared (markDirty_cleared s x) h

theorem good_read (s : State) (x : Id) (h : Good s) : Good (obsBbox s x).1 :=
  ⟨(obsBbox_same s x).inv h.inv, fresh_obsBbox x h.fresh⟩

/-- an effect that only clears (or freshly fills) caches keeps the state good, whether its tests hold or not -/
def Eff.clearing : Eff → Bool
  | .inval _ _ | .reset _ _ _ | .dirty _ _ | .read _ _ _ => true
  | _ => false

theorem good_runEff_clearing (si : SegInst) (s : State) (i : Nat) (e : Eff) (he : e.clearing = true) (h : Good s) :
    Good (runEff .toRoot si s i e) := by
  cases e with
  | inval o gs => simp only [runEff]; split; exact good_invalidate s _ h; exact h
  | reset o sc gs => simp only [runEff]; split; exact good_resetScope sc s _ h; exact h
  | dirty o gs => simp only [runEff]; split; exact good_markDirty s _ h; exact h
  | read o a gs => simp only [runEff]; split; exact good_read s _ h; exact h
  | mutate _ _ _ _ _ => cases he
  | store _ _ _ => cases he
  | other _ => cases he

/-! ### the side conditions of the raw mutations (what C09's theorems provide; cf. `Guard`) -/

/-- what is assumed about one raw mutation, in the state it is made in: members that leave were members; a
new list consists of old members and of detached layers that do not contain the container (`_check_valid_layers`),
without repetition; the recursion limit is not hit; a rectangle is moved on a plain layer only (groups, artboards
and shape layers have no `left` / `top` setter). Nothing is assumed about invalidations. -/
def MutOk (sc : Scope) (inp : Input) (adv s : State) (x : Id) : Prop :=
  match sc, inp with
  | .self, .shrink => x < s.next ∧ (adv.children x).Nodup ∧ ∀ y, y ∈ adv.children x → y ∈ s.children x
  | .self, .relist =>
    s.isGroup x = true ∧ (adv.children x).Nodup ∧
    (∀ y, y ∈ adv.children x → y ∈ s.children x ∨ (Detached s y ∧ s.isLayer y = true ∧ y ≠ x ∧ ¬ Reach s y x)) ∧
    (∃ ds, desc (setChildren s x (adv.children x)) x = .ok ds)
  | .self, .visible => s.isLayer x = true ∧ ∃ ds, desc s x = .ok ds
  | .self, .rect => x < s.next ∧ s.kind x = .leaf
  | _, _ => True

def Guarded (c : Climb) (si : SegInst) : Nat → List Eff → State → Prop
  | _, [], _ => True
  | i, e :: es, s =>
    (match e with
     | .mutate o sc inp _ gs => (gs.all si.cond && si.here o) = true → MutOk sc inp (si.adv i) s (si.obj o)
     | _ => True) ∧ Guarded c si (i + 1) es (runEff c si s i e)

def GuardedHist (t : Table) : State → List SegInst → Prop
  | _, [] => True
  | s, si :: h => Guarded t.climb si 0 (t.seg si.op si.seg) s ∧ GuardedHist t (runSeg t s si) h

theorem sub_all {gs' gs : List String} (h : sub gs' gs = true) (c : String → Bool) (hc : gs.all c = true) :
    gs'.all c = true := by
  simp only [sub, List.all_eq_true, decide_eq_true_eq] at h hc ⊢
  intro g hg
  exact hc g (h g hg)

theorem sub_run {si : SegInst} {o : String} {gs' gs : List String} (h : sub gs' gs = true)
    (hrun : (gs.all si.cond && si.here o) = true) : (gs'.all si.cond && si.here o) = true := by
  have hr := Bool.and_eq_true_iff.mp hrun
  rw [sub_all h _ hr.1, hr.2]
  rfl

/-- members leave: `_layers.remove…`, dirty mark, climb -/
theorem good_block_shrink {s : State} (h : Good s) (k : Id) (l' : List Id) (hk : k < s.next) (hnd : l'.Nodup)
    (hsub : ∀ y, y ∈ l' → y ∈ s.children k) :
    Good (invalidate .toRoot (markDirty (setChildren s k l') k) k) := by
  have := good_shrink CacheCfg.current h k hk l' hnd hsub .none
  simpa [finishRemove, updateRecord, Cfg.current, invalidate] using this

/-- a new list: `_layers.extend…`, `_update_layer_metadata` (document pointers, caches below, parent pointers), dirty
mark, climb -/
theorem good_block_relist {s : State} (h : Good s) (adv : State) (k : Id) (l' : List Id) (hg : s.isGroup k = true)
    (hnd : l'.Nodup)
    (hmem : ∀ y, y ∈ l' → y ∈ s.children k ∨ (Detached s y ∧ s.isLayer y = true ∧ y ≠ k ∧ ¬ Reach s y k))
    (ds : List Id) (hds : desc (setChildren s k l') k = .ok ds) :
    Good (invalidate .toRoot (markDirty (applyMut .children .parent adv
      (resetScope .descendants (applyMut .descendants .psd adv (setChildren s k l') k) k) k) k) k) := by
  obtain ⟨_, hkc⟩ := isGroup_iff.mp hg
  have hcont : ∀ (m : State), m.kind = s.kind → m.cont k = true := by
    intro m hm; unfold State.cont; rw [hm]; exact hkc
  -- the machine's four steps are `metadata`
  have hm : ∃ s2, metadata Cfg.current (setChildren s k l') k = (s2, true) ∧
      applyMut .children .parent adv
        (resetScope .descendants (applyMut .descendants .psd adv (setChildren s k l') k) k) k = s2 := by
    simp only [metadata, applyMut, hds, resetScope]
    cases hD : (setChildren s k l').docOf k with
    | none =>
      simp only [hcont (setChildren s k l') rfl, if_true, hds, Cfg.current]
      exact ⟨_, rfl, rfl⟩
    | some d =>
      have hd2 : desc (setPsdAll (setChildren s k l') ds d) k = .ok ds := by
        exact (desc_frame (s := setChildren s k l') (s' := setPsdAll (setChildren s k l') ds d) rfl rfl rfl k).trans hds
      simp only [hcont (setPsdAll (setChildren s k l') ds d) rfl, if_true, hd2, Cfg.current]
      exact ⟨_, rfl, rfl⟩
  obtain ⟨s2, hmeta, heq⟩ := hm
  rw [heq]
  have hfin : (finishInsert Cfg.current (setChildren s k l') k .none) = (updateRecord Cfg.current s2 k, .none) := by
    simp only [finishInsert, hmeta]
  have hne : (finishInsert Cfg.current (setChildren s k l') k .none).2 ≠ recErr := by
    rw [hfin]; intro e; cases e
  have i2 : Inv s2 := inv_metadata_relist h.inv k l' hg hnd hmem hmeta
  have f := fresh_finishInsert_relist CacheCfg.current h.inv h.fresh k l' .none hg hnd hmem hne
  rw [hfin] at f
  have e : invalidate .toRoot (markDirty s2 k) k = updateRecord Cfg.current s2 k := by
    simp [updateRecord, Cfg.current, invalidate]
  rw [e]
  exact ⟨(updateRecord_same _ s2 k).inv i2, f⟩

/-- the visibility flag: climb, caches below, then the flag -/
theorem good_block_visible {s : State} (h : Good s) (x : Id) (v : Bool) (hl : s.isLayer x = true)
    (ds : List Id) (hds : desc s x = .ok ds) :
    Good { resetScope .descendants (invalidate .toRoot s x) x with
      visible := upd (resetScope .descendants (invalidate .toRoot s x) x).visible x v } := by
  show Good { resetScope .descendants (invUp Cfg.current s x) x with
      visible := upd (resetScope .descendants (invUp Cfg.current s x) x).visible x v }
  have hs1 := invUp_same Cfg.current s x
  have hd1 : desc (invUp Cfg.current s x) x = .ok ds := by rw [desc_congr hs1]; exact hds
  have hb : Cfg.current.invalidateBelow = true := rfl
  have e : (opSetVisible Cfg.current s x v).1 =
      { resetScope .descendants (invUp Cfg.current s x) x with
        visible := upd (resetScope .descendants (invUp Cfg.current s x) x).visible x v } := by
    unfold opSetVisible
    simp only [hl, Bool.not_true, Bool.false_eq_true, if_false, hb, Bool.true_and]
    by_cases hc : (invUp Cfg.current s x).cont x = true
    · simp only [resetScope, hc, if_true, hd1]; rfl
    · simp only [resetScope, hc, if_false, Bool.false_eq_true]
  rw [← e]
  exact ⟨inv_opSetVisible h.inv x v, fresh_opSetVisible CacheCfg.current h.inv h.fresh x v⟩

/-- the rectangle of a layer: climb, then the rectangle -/
theorem good_block_rect {s : State} (h : Good s) (x : Id) (b : BBox) (hx : x < s.next) :
    Good { invalidate .toRoot s x with box := upd (invalidate .toRoot s x).box x b } := by
  refine ⟨?_, fresh_setBox CacheCfg.current h.inv h.fresh x hx b⟩
  exact SameStruct.inv (s := invUp Cfg.current s x) ⟨rfl, rfl, rfl, rfl, rfl⟩ ((invUp_same _ s x).inv h.inv)

/-! ### a covered segment keeps well-formed trees with fresh caches -/

/-- an effect that changes no input: it only clears or fills caches, or it is a mutation whose tests fail -/
def Eff.inert (si : SegInst) : Eff → Bool
  | .mutate o _ _ _ gs => !(gs.all si.cond && si.here o)
  | e => e.clearing

theorem Eff.inert_mutate {si : SegInst} {o : String} {gs : List String} (h : ¬ (gs.all si.cond && si.here o) = true)
    (sc : Scope) (inp : Input) (src : String) : (Eff.mutate o sc inp src gs).inert si = true := by
  show (!(gs.all si.cond && si.here o)) = true
  cases hb : (gs.all si.cond && si.here o) with
  | true => exact absurd hb h
  | false => rfl

theorem good_runEff_inert (si : SegInst) (i : Nat) (e : Eff) (he : e.inert si = true) {s : State} (h : Good s) :
    Good (runEff .toRoot si s i e) := by
  cases e with
  | mutate o sc inp src gs =>
    cases hb : (gs.all si.cond && si.here o) with
    | true => simp only [Eff.inert, hb] at he; cases he
    | false =>
      simp only [runEff, hb, Bool.false_eq_true, if_false]
      exact h
  | inval o gs => exact good_runEff_clearing si s i _ rfl h
  | reset o sc gs => exact good_runEff_clearing si s i _ rfl h
  | dirty o gs => exact good_runEff_clearing si s i _ rfl h
  | read o a gs => exact good_runEff_clearing si s i _ rfl h
  | store _ _ _ => cases he
  | other _ => cases he

theorem obsBbox_leaf (s : State) (x : Id) (hk : s.kind x = .leaf) : (obsBbox s x).1 = s := by
  simp [obsBbox, State.cont, hk, isCont]

theorem invalidate_reset_same (s : State) (x : Id) :
    SameTree s (resetScope .descendants (invalidate .toRoot s x) x) :=
  ((invUp_cleared _ s x).trans (resetScope_cleared .descendants _ x)).same

theorem runEffs_good (si : SegInst) (es : List Eff) : ∀ (i : Nat) (s : State), covered es = true → Good s →
    Guarded .toRoot si i es s → Good (runEffs .toRoot si i es s) := by
  fun_induction covered es with
  | case1 => intro i s _ h _; exact h
  | case2 o src gs o1 g1 o2 g2 rest ih =>
    intro i s hc h hg
    simp only [Bool.and_eq_true, beq_iff_eq] at hc
    obtain ⟨⟨⟨⟨e1, e2⟩, s1⟩, s2⟩, hcr⟩ := hc
    subst o1 o2
    by_cases hrun : (gs.all si.cond && si.here o) = true
    · obtain ⟨hm, _, _, hrest⟩ := hg
      have hm' := hm hrun
      simp only [MutOk] at hm'
      have r1 := sub_run s1 hrun
      have r2 := sub_run s2 hrun
      simp only [runEffs, runEff, hrun, r1, r2, if_true, applyMut] at hrest ⊢
      exact ih _ _ hcr (good_block_shrink h _ _ hm'.1 hm'.2.1 hm'.2.2) hrest
    · have hskip := Eff.inert_mutate hrun .self .shrink src
      exact ih _ _ hcr (good_runEff_inert si _ _ rfl (good_runEff_inert si _ _ rfl (good_runEff_inert si _ _ hskip h)))
        hg.2.2.2
  | case3 o src gs o1 src1 g1 o2 g2 o3 src3 g3 o4 g4 o5 g5 rest ih =>
    intro i s hc h hg
    simp only [Bool.and_eq_true, beq_iff_eq] at hc
    obtain ⟨⟨⟨⟨⟨⟨⟨⟨⟨⟨e1, e2⟩, e3⟩, e4⟩, e5⟩, e6⟩, s2⟩, e7⟩, s4⟩, s5⟩, hcr⟩ := hc
    subst o1 o2 o3 o4 o5 g1 g3
    by_cases hrun : (gs.all si.cond && si.here o) = true
    · have r2 := sub_run s2 hrun
      have r4 := sub_run s4 hrun
      have r5 := sub_run s5 hrun
      obtain ⟨hm, _, _, _, _, _, hrest⟩ := hg
      have hm' := hm hrun
      simp only [MutOk] at hm'
      obtain ⟨hgk, hnd, hmem, ds, hds⟩ := hm'
      have key := good_block_relist h (si.adv (i + 1 + 1 + 1)) (si.obj o) _ hgk hnd hmem ds hds
      have e : runEffs .toRoot si i (Eff.mutate o .self .relist src gs :: Eff.mutate o .descendants .psd src1 gs ::
            Eff.reset o .descendants g2 :: Eff.mutate o .children .parent src3 gs :: Eff.dirty o g4 ::
            Eff.inval o g5 :: rest) s =
          runEffs .toRoot si (i + 1 + 1 + 1 + 1 + 1 + 1) rest
            (invalidate .toRoot (markDirty (applyMut .children .parent (si.adv (i + 1 + 1 + 1))
              (resetScope .descendants (applyMut .descendants .psd (si.adv (i + 1 + 1 + 1))
                (setChildren s (si.obj o) ((si.adv i).children (si.obj o))) (si.obj o)) (si.obj o)) (si.obj o))
              (si.obj o)) (si.obj o)) := by
        simp only [runEffs, runEff, hrun, r2, r4, r5, if_true, applyMut]
      rw [e]
      apply ih _ _ hcr key
      simp only [runEff, hrun, r2, r4, r5, if_true, applyMut] at hrest ⊢
      exact hrest
    · have hskip := Eff.inert_mutate hrun
      exact ih _ _ hcr (good_runEff_inert si _ _ rfl (good_runEff_inert si _ _ rfl (good_runEff_inert si _ _ (hskip _ _ _)
        (good_runEff_inert si _ _ rfl (good_runEff_inert si _ _ (hskip _ _ _) (good_runEff_inert si _ _ (hskip _ _ _) h))))))
        hg.2.2.2.2.2.2
  | case4 o g1 o1 g2 o2 src gs rest ih =>
    intro i s hc h hg
    simp only [Bool.and_eq_true, beq_iff_eq] at hc
    obtain ⟨⟨⟨⟨e1, e2⟩, s1⟩, s2⟩, hcr⟩ := hc
    subst o1 o2
    by_cases hrun : (gs.all si.cond && si.here o) = true
    · have r1 := sub_run s1 hrun
      have r2 := sub_run s2 hrun
      obtain ⟨_, _, hm, hrest⟩ := hg
      simp only [runEffs, runEff, hrun, r1, r2, if_true, applyMut] at hm hrest ⊢
      have hm' := hm trivial
      simp only [MutOk] at hm'
      obtain ⟨hl, ds, hds⟩ := hm'
      have hsame : SameTree s (resetScope .descendants (invalidate .toRoot s (si.obj o)) (si.obj o)) :=
        invalidate_reset_same s (si.obj o)
      have hl0 : s.isLayer (si.obj o) = true := by
        simpa [State.isLayer, State.live, hsame.next, hsame.kind] using hl
      have hds0 : desc s (si.obj o) = .ok ds := by rw [← desc_congr hsame]; exact hds
      exact ih _ _ hcr (good_block_visible h _ _ hl0 ds hds0) hrest
    · have hskip := Eff.inert_mutate hrun .self .visible src
      exact ih _ _ hcr (good_runEff_inert si _ _ hskip (good_runEff_inert si _ _ rfl (good_runEff_inert si _ _ rfl h)))
        hg.2.2.2
  | case5 o g1 o1 attr g2 o2 src gs rest ih =>
    intro i s hc h hg
    simp only [Bool.and_eq_true, beq_iff_eq] at hc
    obtain ⟨⟨⟨⟨e1, e2⟩, s1⟩, e3⟩, hcr⟩ := hc
    subst o1 o2 g2
    by_cases hrun : (gs.all si.cond && si.here o) = true
    · have r1 := sub_run s1 hrun
      obtain ⟨_, _, hm, hrest⟩ := hg
      simp only [runEffs, runEff, hrun, r1, if_true, applyMut] at hm hrest ⊢
      have hm' := hm trivial
      simp only [MutOk] at hm'
      obtain ⟨hx, hk⟩ := hm'
      have hsame : SameTree s (obsBbox (invalidate .toRoot s (si.obj o)) (si.obj o)).1 :=
        (show SameTree s (invalidate .toRoot s (si.obj o)) from invUp_same _ s _).trans (obsBbox_same _ _)
      have hk1 : (invalidate .toRoot s (si.obj o)).kind (si.obj o) = .leaf := by
        rw [(obsBbox_same (invalidate .toRoot s (si.obj o)) (si.obj o)).kind] at hk; exact hk
      have hread : (obsBbox (invalidate .toRoot s (si.obj o)) (si.obj o)).1 = invalidate .toRoot s (si.obj o) :=
        obsBbox_leaf _ _ hk1
      rw [hread] at hrest ⊢
      have hx0 : si.obj o < s.next := by rw [← hsame.next]; exact hx
      exact ih _ _ hcr (good_block_rect h _ _ hx0) hrest
    · have hskip := Eff.inert_mutate hrun .self .rect src
      exact ih _ _ hcr (good_runEff_inert si _ _ hskip (good_runEff_inert si _ _ rfl (good_runEff_inert si _ _ rfl h)))
        hg.2.2.2
  | case6 o g1 o2 src gs rest ih =>
    intro i s hc h hg
    simp only [Bool.and_eq_true, beq_iff_eq] at hc
    obtain ⟨⟨e1, s1⟩, hcr⟩ := hc
    subst o2
    by_cases hrun : (gs.all si.cond && si.here o) = true
    · have r1 := sub_run s1 hrun
      obtain ⟨_, hm, hrest⟩ := hg
      simp only [runEffs, runEff, hrun, r1, if_true, applyMut] at hm hrest ⊢
      have hm' := hm trivial
      simp only [MutOk] at hm'
      have hsame : SameTree s (invalidate .toRoot s (si.obj o)) := invUp_same _ s _
      have hx0 : si.obj o < s.next := by rw [← hsame.next]; exact hm'.1
      exact ih _ _ hcr (good_block_rect h _ _ hx0) hrest
    · have hskip := Eff.inert_mutate hrun .self .rect src
      exact ih _ _ hcr (good_runEff_inert si _ _ hskip (good_runEff_inert si _ _ rfl h)) hg.2.2
  | case7 owner gs rest _ _ _ ih => intro i s hc h hg; exact ih _ _ hc (good_runEff_inert si _ _ rfl h) hg.2
  | case8 owner sc gs rest ih => intro i s hc h hg; exact ih _ _ hc (good_runEff_inert si _ _ rfl h) hg.2
  | case9 owner gs rest ih => intro i s hc h hg; exact ih _ _ hc (good_runEff_inert si _ _ rfl h) hg.2
  | case10 owner attr gs rest ih => intro i s hc h hg; exact ih _ _ hc (good_runEff_inert si _ _ rfl h) hg.2
  | case11 => intro i s hc; cases hc

theorem seg_covered (t : Table) (h : t.rows.all rowOk = true) (op : String) (k : Nat) : covered (t.seg op k) = true := by
  unfold Table.seg
  split
  · rename_i r hr
    have hmem := List.mem_of_find?_eq_some hr
    have hrow := List.all_eq_true.mp h r hmem
    unfold rowOk at hrow
    rw [List.getD_eq_getElem?_getD]
    cases hk : r.segs[k]? with
    | none => simp [covered]
    | some seg => exact List.all_eq_true.mp hrow seg (List.mem_of_getElem? hk)
  · simp [covered]

theorem tableOk_iff (t : Table) : tableOk t = true ↔ t.climb = .toRoot ∧ t.rows.all rowOk = true := by
  simp [tableOk]

theorem runSeg_good (t : Table) (ht : tableOk t = true) (s : State) (si : SegInst) (h : Good s)
    (hg : Guarded t.climb si 0 (t.seg si.op si.seg) s) : Good (runSeg t s si) := by
  obtain ⟨hc, hr⟩ := (tableOk_iff t).mp ht
  unfold runSeg
  rw [hc] at hg ⊢
  exact runEffs_good si _ 0 s (seg_covered t hr _ _) h hg

theorem runSegments_good (t : Table) (ht : tableOk t = true) (h : List SegInst) :
    ∀ s, Good s → GuardedHist t s h → Good (runSegments t s h) := by
  induction h with
  | nil => intro s hs _; exact hs
  | cons si h ih =>
    intro s hs hg
    exact ih _ (runSeg_good t ht s si hs hg.1) hg.2

end PsdVerif.FreshState
