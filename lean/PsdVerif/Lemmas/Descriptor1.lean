/-
C01 descriptors — what each primitive reader of `Model/Descriptor.lean` returns on the bytes its writer emits
(`Codec.Reads`), how `>>-` composes such facts, the `OrderedDict` lemma, lengths.
-/
import PsdVerif.Model.Descriptor
import PsdVerif.Lemmas.Codec
import PsdVerif.Lemmas.Globals
import PsdVerif.Lemmas.Unicode

namespace PsdVerif.Descriptor
open PsdVerif.Codec

/-! ### the reader monad -/

theorem rbind_ok {α β : Type} {r : R α} {f : α → R β} {d : B} {p p1 : Nat} {a : α}
    (h : r d p = .ok (a, p1)) : (r >>- f) d p = f a d p1 := by
  simp only [rbind, h]

theorem rbind_err {α β : Type} {r : R α} {f : α → R β} {d : B} {p : Nat} {e : Err}
    (h : r d p = .error e) : (r >>- f) d p = .error e := by
  simp only [rbind, h]

theorem rpure_eq {α : Type} (a : α) (d : B) (p : Nat) : rpure a d p = .ok (a, p) := rfl

theorem _root_.PsdVerif.Codec.Reads.pure {α : Type} (a : α) : Reads (rpure a) [] a := fun _ _ _ => rfl

theorem _root_.PsdVerif.Codec.Reads.bind {α β : Type} {r : R α} {f : α → R β} {bs cs : B} {a : α} {b : β}
    (hr : Reads r bs a) (hf : Reads (f a) cs b) : Reads (r >>- f) (bs ++ cs) b := by
  intro d p h
  rw [rbind_ok (hr d p h.left), hf _ _ h.right, List.length_append, Nat.add_assoc]

/-- the continuation consumes nothing -/
theorem _root_.PsdVerif.Codec.Reads.bind_nil {α β : Type} {r : R α} {f : α → R β} {bs : B} {a : α} {b : β}
    (hr : Reads r bs a) (hf : Reads (f a) [] b) : Reads (r >>- f) bs b := by
  intro d p h
  have h0 : At d (p + bs.length) [] :=
    ⟨d.take (p + bs.length), d.drop (p + bs.length), by simp, by have := h.bound; simp; omega⟩
  rw [rbind_ok (hr d p h), hf d _ h0]
  rfl

/-- the reader consumes nothing -/
theorem _root_.PsdVerif.Codec.Reads.nil_bind {α β : Type} {r : R α} {f : α → R β} {cs : B} {a : α} {b : β}
    (hr : ∀ d p, r d p = .ok (a, p)) (hf : Reads (f a) cs b) : Reads (r >>- f) cs b := by
  intro d p h
  rw [rbind_ok (hr d p), hf d p h]

theorem _root_.PsdVerif.Codec.Reads.map {α β : Type} {r : R α} {bs : B} {a : α} (hr : Reads r bs a) (g : α → β) :
    Reads (r >>- fun x => rpure (g x)) bs (g a) := by
  intro d p h
  rw [rbind_ok (hr d p h), rpure_eq]

/-! ### OSTypes -/

/-- `Tag.all` is complete, so a fact about every OSType is one kernel evaluation over the list (`∀ t ∈ Tag.all, …`) -/
theorem Tag.mem_all (t : Tag) : t ∈ Tag.all := by cases t <;> decide +kernel

theorem Tag.length_bytes (t : Tag) : t.bytes.length = 4 :=
  (by decide +kernel : ∀ t ∈ Tag.all, t.bytes.length = 4) t t.mem_all

theorem Tag.ofBytes_bytes (t : Tag) : Tag.ofBytes t.bytes = some t :=
  (by decide +kernel : ∀ t ∈ Tag.all, Tag.ofBytes t.bytes = some t) t t.mem_all

theorem readTag_reads (t : Tag) : Reads readTag t.bytes t := by
  intro d p h
  unfold readTag
  rw [rbind_ok (readUpTo_at' h t.length_bytes), Tag.ofBytes_bytes, t.length_bytes]
  rfl

/-! ### keys -/

/-- the length field of a key (`Globals.u32be`, the C20 key codec) is this library's 4-byte integer -/
theorem _root_.PsdVerif.Codec.beBytes4_eq_u32be (n : Nat) : beBytes 4 n = Globals.u32be n := by
  simp only [beBytes, Globals.u32be, List.nil_append, List.cons_append, Nat.div_div_eq_div_mul, Nat.reduceMul]

theorem keyWF_iff (tb : Tables) (k : Key) : KeyWF tb k ↔ Globals.Key.WF tb.terms k := Iff.rfl

theorem length_keyT (tb : Tables) (k : Key) : (keyT tb k).length = 4 + k.bytes.length := by
  simp [keyT, Globals.length_u32be]

theorem writeKey_eq (tb : Tables) (k : Key) :
    Globals.writeKey tb.terms k = if KeyFits tb k then .ok (keyT tb k) else .error .structError := rfl

theorem readKey_reads {tb : Tables} {k : Key} (hwf : KeyWF tb k) (hf : KeyFits tb k) :
    Reads (readKeyR tb) (keyT tb k) k := by
  rintro _ _ ⟨pre, post, rfl, rfl⟩
  obtain ⟨h1, h2, h3⟩ := hwf
  obtain ⟨kb, imp⟩ := k
  simp only at h1 h2 h3
  unfold KeyFits at hf
  unfold readKeyR keyT
  unfold keyLen at hf ⊢
  simp only at hf ⊢
  cases ht : tb.terms kb <;> cases hi : imp <;>
    simp only [ht, hi, Bool.or_self, Bool.or_true, Bool.true_or, Bool.false_eq_true, if_false, if_true] at hf ⊢
  · have hne := h3 hi ht
    rw [Globals.readKey_frame tb.terms kb pre post _ hf (by simp [hne])]
    simp [hne, ht]
  · have hl : kb.length = 4 := (h1 hi).1
    rw [Globals.readKey_frame tb.terms kb pre post 0 (by decide) (by simp [hl])]
    simp [ht]
  · have hl : kb.length = 4 := h2 ht
    rw [Globals.readKey_frame tb.terms kb pre post 0 (by decide) (by simp [hl])]
    simp [ht]
  · have := (h1 hi).2
    rw [ht] at this
    cases this

/-! ### unicode strings -/

theorem length_strT (s : Str) : (strT s).length = 4 + 2 * (Unicode.encUnits s).length := by
  simp [strT, Unicode.be32_length, Unicode.bytesOfUnits_length]

theorem strT_eq_layout (s : Str) : strT s = Unicode.unitsLayout (Unicode.encUnits s) 1 := by
  simp [strT, Unicode.unitsLayout, Unicode.padLen, Nat.mod_one]

/-- the bytes of `strT` are what the model of `write_unicode_string` (C19) writes -/
theorem writeUnicodeString_strT (s : Str) (hf : StrFits s) : Unicode.writeUnicodeString s 1 = .ok (strT s) := by
  unfold Unicode.writeUnicodeString
  rw [if_pos hf.1]
  exact (Unicode.writeUnits_eq _ _ _).mpr ⟨hf.2, by decide, strT_eq_layout s⟩

theorem readStr_reads {s : Str} (hwf : StrWF s) (hf : StrFits s) : Reads readStr (strT s) s := by
  rintro _ _ ⟨pre, post, rfl, rfl⟩
  exact Unicode.readUnicodeString_write s 1 (strT s) pre post hwf (writeUnicodeString_strT s hf)

/-! ### fixed-width scalars -/

theorem natToI64_i64ToNat (z : Int) (h : FitsI64 z) : natToI64 (i64ToNat z) = z := by
  unfold natToI64 i64ToNat FitsI64 at *; omega

theorem i64ToNat_lt (z : Int) : i64ToNat z < 256 ^ 8 := by unfold i64ToNat; omega

theorem length_i64T (z : Int) : (i64T z).length = 8 := length_beBytes _ _
theorem length_u32T (z : Int) : (u32T z).length = 4 := length_beBytes _ _
theorem length_f64T (n : Nat) : (f64T n).length = 8 := length_beBytes _ _
theorem length_boolT (b : Bool) : (boolT b).length = 1 := rfl

theorem readI64_reads {z : Int} (hz : FitsI64 z) : Reads readI64 (i64T z) z := by
  have h := (readU_reads (i64ToNat_lt z)).map natToI64
  rwa [natToI64_i64ToNat z hz] at h

theorem readBool_reads (b : Bool) : Reads readBool (boolT b) b := by
  cases b
  · exact (readU_reads (w := 1) (n := 0) (by decide)).map (· != 0)
  · exact (readU_reads (w := 1) (n := 1) (by decide)).map (· != 0)

theorem readBool_step {d : B} {p : Nat} {b : Bool} {rest : B} (h : At d p (boolT b ++ rest)) :
    readBool d p = .ok (b, p + 1) ∧ At d (p + 1) rest :=
  (readBool_reads b).step h

/-- an `"I"` field holding a Python int -/
theorem readU32_reads {n : Nat} (hn : n < 4294967296) : Reads (readU 4) (u32T n) n := by
  unfold u32T
  rw [Int.toNat_natCast]
  exact readU_reads hn

theorem readF64_reads {bits : Nat} (hb : bits < 18446744073709551616) : Reads (readU 8) (f64T bits) bits :=
  readU_reads (w := 8) hb

theorem readF64_step {d : B} {p bits : Nat} {rest : B} (h : At d p (f64T bits ++ rest))
    (hb : bits < 18446744073709551616) : readU 8 d p = .ok (bits, p + 8) ∧ At d (p + 8) rest :=
  readU_step h hb

/-! ### units -/

theorem unitT_eq {tb : Tables} {u : UnitRef} (h : UnitWF tb u) : unitT u = u.code := pack4s_of_length h.1

theorem unitOf_ok {tb : Tables} {u : UnitRef} (h : UnitWF tb u) (d : B) (p : Nat) :
    unitOf tb u.code d p = .ok (u, p) := by
  obtain ⟨c, b⟩ := u
  obtain ⟨_, h2⟩ := h
  unfold unitOf
  cases c
  · simp only [Bool.false_eq_true, if_false] at h2
    simp only [h2.1, h2.2, Bool.false_eq_true, if_false, if_true]; rfl
  · simp only [if_true] at h2
    simp only [h2, if_true]; rfl

/-! ### `read_fmt("%dd" % count)` -/

theorem readF64s_reads {vs : List Nat} (hb : ∀ b ∈ vs, b < 18446744073709551616) :
    Reads (readF64s vs.length) (listT f64T vs) vs := by
  intro d p h
  unfold readF64s
  rw [if_pos (length_listT_const f64T 8 vs (fun v _ => length_f64T v) ▸ h.bound)]
  exact readCount_at (readU 8) f64T vs (fun v hv => readF64_reads (hb v hv)) h

/-! ### `OrderedDict(items)` -/

theorem dictOf_of_nodup (items : Items) (hn : KeysNodup items) : dictOf items = items := by
  have hins : ∀ acc x, (∀ y ∈ acc, y.1.bytes ≠ x.1.bytes) → dictInsert acc x = acc ++ [x] := by
    intro acc x h
    have : acc.any (fun y => y.1.bytes == x.1.bytes) = false := by simpa [List.any_eq_false] using h
    simp [dictInsert, this]
  simpa [dictOf] using
    foldl_insert_of_nodup (fun kv : Key × DVal => kv.1.bytes) dictInsert hins [] items (by simpa [KeysNodup] using hn)

end PsdVerif.Descriptor
