/-
C14 — cached boxes: vocabulary (attached nodes, `CacheOk`, `Fresh`), observations are pure and
keep the caches fresh, answers computed from fresh caches are the fresh answers.
-/
import PsdVerif.Lemmas.TreeBasic

namespace PsdVerif.TreeSt

/-- `x` is a document or listed below one -/
def Attached (s : State) (x : Id) : Prop := ∃ d, s.kind d = .doc ∧ (x = d ∨ Reach s d x)

/-- the cached box of container `g`, if any, is what a fresh computation gives -/
def CacheOk (s : State) (g : Id) : Prop :=
  ∀ b, s.cache g = some b → if s.kind g = .artboard then b = s.box g else extractBbox s g = .ok b

/-- every cached box of a layer that is in a document is fresh -/
def Fresh (s : State) : Prop := ∀ g, Attached s g → s.cont g = true → CacheOk s g

/-- every cached box at all is fresh (also on detached layers) -/
def FreshAll (s : State) : Prop := ∀ g, s.cont g = true → CacheOk s g

theorem FreshAll.fresh {s : State} (h : FreshAll s) : Fresh s := fun g _ hc => h g hc

theorem Attached.congr {s s' : State} (h : s'.children = s.children) (hk : s'.kind = s.kind) {x : Id}
    (a : Attached s x) : Attached s' x := by
  obtain ⟨d, hd, hx⟩ := a
  refine ⟨d, by rw [hk]; exact hd, ?_⟩
  cases hx with
  | inl e => exact .inl e
  | inr r => exact .inr (r.congr h)

theorem CacheOk.congr {s s' : State} (h : SameTree s s') {g : Id} (hc : s'.cache g = s.cache g) (c : CacheOk s g) :
    CacheOk s' g := by
  intro b hb
  rw [hc] at hb
  have := c b hb
  rw [h.kind, h.box, extractBbox_congr h]
  exact this

/-- **Observations are pure**: they change nothing but caches. -/
theorem observe_obs (s : State) (o : Obs) : SameObs s (observe s o).1 :=
  observe_keeps (fun s' x h => h.trans (obsBbox_obs s' x)) o (SameObs.refl s)

/-- a read fills the cache of `x` with the fresh value, and touches no other cache -/
theorem readCache_cache (s : State) (x g : Id) :
    (readCache s x).1.cache g = s.cache g ∨
      (g = x ∧ s.cache x = none ∧
        ((s.kind x = .artboard ∧ (readCache s x).1.cache x = some (s.box x)) ∨
         (s.kind x ≠ .artboard ∧ ∃ b, extractBbox s x = .ok b ∧ (readCache s x).1.cache x = some b))) := by
  unfold readCache
  split
  · exact .inl rfl
  · rename_i hnone
    split
    · rename_i hk
      by_cases hg : g = x
      · subst hg; exact .inr ⟨rfl, hnone, .inl ⟨hk, by simp [upd]⟩⟩
      · exact .inl (by simp [upd, hg])
    · rename_i hk
      split
      · exact .inl rfl
      · rename_i b hb
        by_cases hg : g = x
        · subst hg; exact .inr ⟨rfl, hnone, .inr ⟨hk, b, hb, by simp [upd]⟩⟩
        · exact .inl (by simp [upd, hg])

theorem cacheOk_readCache {s : State} (x g : Id) (h : CacheOk s g) : CacheOk (readCache s x).1 g := by
  have hs := (readCache_obs s x).tree
  rcases readCache_cache s x g with hc | ⟨hg, _, hv⟩
  · exact h.congr hs hc
  · subst hg
    intro b hb
    rw [hs.kind, hs.box, extractBbox_congr hs]
    rcases hv with ⟨hk, hv⟩ | ⟨hk, b', hb', hv⟩
    · rw [hv] at hb; cases hb; simp [hk]
    · rw [hv] at hb; cases hb; simp [hk, hb']

theorem cacheOk_obsBbox {s : State} (x g : Id) (h : CacheOk s g) : CacheOk (obsBbox s x).1 g := by
  unfold obsBbox
  split
  · exact h
  · have := cacheOk_readCache x g h
    split <;> simp_all

theorem fresh_of_sameTree {s s' : State} (hs : SameTree s s') (hc : ∀ g, CacheOk s g → CacheOk s' g) (f : Fresh s) :
    Fresh s' := by
  intro g ha hcont
  have ha' : Attached s g := ha.congr hs.children.symm hs.kind.symm
  exact hc g (f g ha' (by rw [← hs.cont]; exact hcont))

theorem fresh_obsBbox {s : State} (x : Id) (f : Fresh s) : Fresh (obsBbox s x).1 :=
  fresh_of_sameTree (obsBbox_same s x) (fun g => cacheOk_obsBbox x g) f

theorem cacheOk_observe {s : State} (o : Obs) (g : Id) (h : CacheOk s g) : CacheOk (observe s o).1 g :=
  observe_keeps (P := fun s => CacheOk s g) (fun _ x => cacheOk_obsBbox x g) o h

theorem fresh_observe {s : State} (o : Obs) (f : Fresh s) : Fresh (observe s o).1 :=
  fresh_of_sameTree (observe_same s o) (fun g => cacheOk_observe o g) f

theorem freshAll_observe {s : State} (o : Obs) (f : FreshAll s) : FreshAll (observe s o).1 := by
  intro g hc
  have hs := observe_same s o
  exact cacheOk_observe o g (f g (by rw [← hs.cont]; exact hc))

/-- `x.bbox` computed from the tree alone (no cache) -/
def bboxAnswer (s : State) (x : Id) : Except Err BBox :=
  if !s.cont x then .ok (s.box x)
  else if s.kind x = .artboard then .ok (s.box x)
  else
    match extractBbox s x with
    | .error e => .error e
    | .ok b => .ok (if s.kind x = .doc ∧ b = BBox.zero then s.box x else b)

theorem obsBbox_answer {s : State} (x : Id) (h : CacheOk s x) : (obsBbox s x).2 = bboxAnswer s x := by
  unfold obsBbox bboxAnswer
  by_cases hc : (!s.cont x) = true
  · simp [hc]
  · simp only [hc]
    unfold readCache
    cases hcache : s.cache x with
    | some b =>
      have hb := h b hcache
      simp only
      by_cases hk : s.kind x = .artboard
      · simp only [hk, if_true] at hb ⊢
        subst hb
        simp
      · simp only [hk, if_false] at hb ⊢
        rw [hb]
        simp
    | none =>
      simp only
      by_cases hk : s.kind x = .artboard
      · simp [hk]
      · simp only [hk, if_false]
        cases he : extractBbox s x with
        | error e => rfl
        | ok b => rfl

/-- every box answered for a layer that is in a document is the fresh one -/
theorem Fresh.answer {s : State} (f : Fresh s) {x : Id} (ha : Attached s x) : (obsBbox s x).2 = bboxAnswer s x := by
  by_cases hc : s.cont x = true
  · exact obsBbox_answer x (f x ha hc)
  · unfold obsBbox bboxAnswer
    simp [hc]

end PsdVerif.TreeSt
