/-
Helper lemmas for C05 (PackBits): loop invariants of the encoder model, the encoder output
as a stream of valid chunks, what the specification decoder makes of such a stream, and the
worst-case size. Core Lean only.
-/
import PsdVerif.Model.Rle

namespace PsdVerif.Rle

theorem eqAt_lt {d : Bytes} {a b : Nat} (h : eqAt d a b = true) : a < d.size ∧ b < d.size := by
  unfold eqAt at h
  split at h
  · rename_i x y hx hy
    exact ⟨(Array.getElem?_eq_some_iff.mp hx).1, (Array.getElem?_eq_some_iff.mp hy).1⟩
  · cases h

theorem eqAt_opt {d : Bytes} {a b : Nat} (h : eqAt d a b = true) : d[a]? = d[b]? := by
  unfold eqAt at h
  split at h
  · rename_i x y hx hy
    rw [hx, hy, eq_of_beq h]
  · cases h

theorem eqAt_of_opt {d : Bytes} {a b : Nat} (ha : a < d.size) (hb : b < d.size)
    (h : d[a]? = d[b]?) : eqAt d a b = true := by
  unfold eqAt
  rw [Array.getElem?_eq_getElem ha, Array.getElem?_eq_getElem hb] at h ⊢
  exact beq_iff_eq.mpr (Option.some.inj h)

/-- The bytes at positions `i..j` all equal the byte at `i`: what the run loop has established so far. -/
def AllEq (d : Bytes) (i j : Nat) : Prop := ∀ k, i ≤ k → k ≤ j → d[k]? = d[i]?

theorem AllEq.refl (d : Bytes) (i : Nat) : AllEq d i i := by
  intro k h1 h2
  rw [Nat.le_antisymm h2 h1]

theorem AllEq.step {d : Bytes} {i j : Nat} (h : AllEq d i j) (hij : i ≤ j)
    (he : eqAt d j (j + 1) = true) : AllEq d i (j + 1) := by
  intro k h1 h2
  by_cases hk : k ≤ j
  · exact h k h1 hk
  · rw [Nat.le_antisymm h2 (by omega), ← eqAt_opt he]
    exact h j hij (Nat.le_refl _)

theorem runLoop_pass {d : Bytes} {i j : Nat} (hb : j - i < 127) (he : eqAt d j (j + 1) = true) :
    runLoop d i j = runLoop d i (j + 1) := by
  have hlt := eqAt_lt he
  rw [runLoop, if_pos hlt.1, if_neg (show ¬ j - i ≥ maxLen by unfold maxLen; omega), he,
    if_neg (show ¬ (j + 1 ≥ d.size ∨ (!true) = true) by simp; omega)]

theorem runLoop_spec (d : Bytes) (i j : Nat) (hij : i ≤ j) (hj : j < d.size)
    (hb : j ≤ i + 127) (ha : AllEq d i j) :
    runLoop d i j < d.size ∧ runLoop d i j ≤ i + 127 ∧ AllEq d i (runLoop d i j) := by
  fun_induction runLoop d i j
  · exact ⟨hj, hb, ha⟩
  · exact ⟨hj, hb, ha⟩
  · rename_i j _ h2 h3 ih
    have h5 : eqAt d j (j + 1) = true := by
      cases hh : eqAt d j (j + 1)
      · exact absurd (Or.inr (by rw [hh]; rfl)) h3
      · rfl
    unfold maxLen at h2
    exact ih (by omega) (eqAt_lt h5).2 (by omega) (ha.step hij h5)
  · exact ⟨hj, hb, ha⟩

/-- Bounds of the literal loop, and why it stopped. `i + 125 ≤ r` is the loop's `MAX_LEN - (j - i) <= 2`
with `MAX_LEN = 127`. -/
theorem litLoop_spec (d : Bytes) (i j : Nat) (hij : i ≤ j) (hj : j ≤ d.size) (hb : j ≤ i + 127) :
    ∀ r, litLoop d i j = r → r ≤ d.size ∧ r ≤ i + 127 ∧
      (r = d.size ∨ r = i + 127 ∨
       (eqAt d r (r + 1) = true ∧ (r + 2 = d.size ∨ i + 125 ≤ r)) ∨
       (eqAt d r (r + 1) = true ∧ eqAt d (r + 1) (r + 2) = true)) := by
  have hm : maxLen = 127 := rfl  -- for `omega`, which does not unfold `maxLen`
  fun_induction litLoop d i j
  · rintro _ rfl; omega
  · rename_i ih; exact ih (by omega) (by omega) (by omega)
  · rename_i h
    rintro _ rfl
    exact ⟨hj, hb, .inr (.inr (.inl ⟨h.2.2, by omega⟩))⟩
  · rename_i h
    rintro _ rfl
    exact ⟨hj, hb, .inr (.inr (.inr ⟨h.2.1, h.2.2⟩))⟩
  · rename_i h3 h4 h5 ih
    -- the three failed branch conditions say nothing about the bounds; `omega` would split on them
    clear h3 h4 h5
    exact ih (by omega) (by omega) (by omega)
  · rintro _ rfl; omega

theorem drop_eq_cons (d : Bytes) (i : Nat) (h : i < d.size) :
    d.toList.drop i = d[i] :: d.toList.drop (i + 1) := by
  rw [List.drop_eq_getElem_cons (by simpa using h)]
  simp

theorem drop_run (d : Bytes) (i j : Nat) (hij : i ≤ j) (hj : j < d.size) (ha : AllEq d i j) :
    d.toList.drop i = List.replicate (j - i + 1) (d[i]'(by omega)) ++ d.toList.drop (j + 1) := by
  apply List.ext_getElem?
  intro k
  rw [List.getElem?_append, List.getElem?_drop, List.getElem?_drop]
  simp only [List.length_replicate, List.getElem?_replicate, Array.getElem?_toList]
  split
  · rename_i hk
    rw [ha (i + k) (by omega) (by omega)]
    exact Array.getElem?_eq_getElem (by omega)
  · rename_i hk
    congr 1; omega

theorem drop_extract (d : Bytes) (i j : Nat) (hij : i ≤ j) :
    d.toList.drop i = (d.extract i j).toList ++ d.toList.drop j := by
  rw [Array.toList_extract, List.extract_eq_take_drop, ← Nat.add_sub_cancel' hij, ← List.drop_drop,
    Nat.add_sub_cancel_left, List.take_append_drop]

theorem extract_length (d : Bytes) (i j : Nat) (hj : j ≤ d.size) :
    (d.extract i j).toList.length = j - i := by
  rw [Array.length_toList, Array.size_extract, Nat.min_eq_left hj]

theorem eq_singleton_of_size {d : Bytes} (h : d.size = 1) : ∃ x, d = #[x] :=
  match d, h with
  | ⟨[x]⟩, _ => ⟨x, rfl⟩

/-- One chunk of `encFrom d i` at a position inside the data, with what the loops guarantee about it: a run
`i..j` (first disjunct, `j` the run loop's result) or a literal `i..j-1` (second, `j` the literal loop's). -/
theorem encFrom_step (d : Bytes) (i : Nat) (h : i < d.size) :
    (∃ j, eqAt d i (i + 1) = true ∧ i + 1 ≤ j ∧ j < d.size ∧ j ≤ i + 127 ∧ AllEq d i j ∧
        j = runLoop d i i ∧
        encFrom d i = UInt8.ofNat (256 - (j - i)) :: d[i] :: encFrom d (j + 1)) ∨
    (∃ j, ¬ (eqAt d i (i + 1) = true) ∧ i < j ∧ j ≤ d.size ∧ j ≤ i + 127 ∧ j = litLoop d i i ∧
        encFrom d i = UInt8.ofNat (j - i - 1) :: ((d.extract i j).toList ++ encFrom d j)) := by
  by_cases hc : i + 1 < d.size ∧ eqAt d i (i + 1) = true
  · left
    have hs := runLoop_spec d i i (Nat.le_refl _) h (Nat.le_add_right _ _) (AllEq.refl d i)
    have hp : i + 1 ≤ runLoop d i i := by
      rw [runLoop_pass (by omega) hc.2]; exact le_runLoop d i (i + 1)
    refine ⟨runLoop d i i, hc.2, hp, hs.1, hs.2.1, hs.2.2, rfl, ?_⟩
    rw [encFrom, dif_pos h, dif_pos hc]
  · right
    have hb := litLoop_spec d i i (Nat.le_refl _) (Nat.le_of_lt h) (Nat.le_add_right _ _) _ rfl
    have hp := litLoop_progress d i h hc
    have hne : ¬ (eqAt d i (i + 1) = true) := fun he => hc ⟨(eqAt_lt he).2, he⟩
    refine ⟨litLoop d i i, hne, hp, hb.1, hb.2.1, rfl, ?_⟩
    rw [encFrom, dif_pos h, dif_neg hc]

theorem encFrom_end (d : Bytes) (i : Nat) (h : d.size ≤ i) : encFrom d i = [] := by
  rw [encFrom, dif_neg (Nat.not_lt.mpr h)]

/-- Induction for facts about `encFrom`-like recursions, which jump forward and stop at `s`. -/
theorem induction_from_end {P : Nat → Prop} (s : Nat)
    (step : ∀ i, (∀ k, i < k → P k) → i < s → P i) (stop : ∀ i, s ≤ i → P i) : ∀ i, P i := by
  suffices ∀ n i, s ≤ i + n → P i from fun i => this s i (Nat.le_add_left s i)
  intro n
  induction n with
  | zero => exact stop
  | succ n ih =>
    intro i h
    by_cases hi : i < s
    · exact step i (fun k hk => ih k (by omega)) hi
    · exact stop i (Nat.le_of_not_lt hi)

theorem encFrom_chunks (d : Bytes) : ∀ i, i ≤ d.size →
    ∃ cs : List Chunk, encFrom d i = cs.flatMap Chunk.emit ∧
      cs.flatMap Chunk.content = d.toList.drop i ∧ ∀ c ∈ cs, c.Valid := by
  refine induction_from_end d.size (fun i ih h hi => ?_) (fun i h hi => ?_)
  · rcases encFrom_step d i h with ⟨j, _, h1, h2, h3, h4, _, he⟩ | ⟨j, _, h1, h2, h3, _, he⟩
    · obtain ⟨cs, c1, c2, c3⟩ := ih (j + 1) (Nat.lt_succ_of_lt h1) h2
      refine ⟨.run (j - i + 1) d[i] :: cs, ?_, ?_, List.forall_mem_cons.mpr ⟨⟨by omega, by omega⟩, c3⟩⟩
      · rw [he, c1, show 256 - (j - i) = 257 - (j - i + 1) by omega]; rfl
      · rw [List.flatMap_cons, c2]
        exact (drop_run d i j (Nat.le_of_lt h1) h2 h4).symm
    · obtain ⟨cs, c1, c2, c3⟩ := ih j h1 h2
      have hl := extract_length d i j h2
      refine ⟨.lit (d.extract i j).toList :: cs, ?_, ?_,
        List.forall_mem_cons.mpr ⟨⟨by rw [hl]; omega, by rw [hl]; omega⟩, c3⟩⟩
      · rw [he, c1, List.flatMap_cons, Chunk.emit, hl]; rfl
      · rw [List.flatMap_cons, c2]
        exact (drop_extract d i j (Nat.le_of_lt h1)).symm
  · refine ⟨[], ?_, ?_, nofun⟩
    · rw [encFrom_end d i h]; rfl
    · rw [List.drop_eq_nil_of_le (by simpa using h)]; rfl

theorem encPy_chunks (d : Bytes) :
    ∃ cs : List Chunk, encPy d = cs.flatMap Chunk.emit ∧ cs.flatMap Chunk.content = d.toList ∧
      ∀ c ∈ cs, c.Valid := by
  unfold encPy
  split
  · rename_i h
    cases Array.eq_empty_of_size_eq_zero h
    exact ⟨[], rfl, rfl, nofun⟩
  · split
    · rename_i h
      obtain ⟨x, rfl⟩ := eq_singleton_of_size h
      exact ⟨[.lit [x]], rfl, rfl, List.forall_mem_cons.mpr ⟨⟨Nat.le_refl 1, (by decide : 1 ≤ 127)⟩, nofun⟩⟩
    · exact encFrom_chunks d 0 (Nat.zero_le _)

/-- The defining equation of `specDec` for any tail (the compiled equations split on the tail's shape). -/
theorem specDec_cons (h : UInt8) (t : List UInt8) :
    specDec (h :: t) =
      if h.toNat < 128 then
        if h.toNat + 1 ≤ t.length then
          (specDec (t.drop (h.toNat + 1))).map (t.take (h.toNat + 1) ++ ·)
        else none
      else if h.toNat = 128 then specDec t
      else
        match t with
        | [] => none
        | b :: t' => (specDec t').map (List.replicate (257 - h.toNat) b ++ ·) := by
  cases t
  · rw [specDec.eq_2, specDec.eq_1]
  · rw [specDec]

/-- Apple's decoder expands a stream of valid chunks to their contents, and meets no no-op
header on the way. -/
theorem chunks_stream (cs : List Chunk) (hv : ∀ c ∈ cs, c.Valid) :
    specDec (cs.flatMap Chunk.emit) = some (cs.flatMap Chunk.content) ∧
      ∀ h ∈ headers (cs.flatMap Chunk.emit), h ≠ 128 := by
  induction cs with
  | nil => exact ⟨by simp only [List.flatMap_nil, specDec], by simp only [List.flatMap_nil, headers]; nofun⟩
  | cons c cs ih =>
    obtain ⟨hc, hcs⟩ := List.forall_mem_cons.mp hv
    obtain ⟨ih1, ih2⟩ := ih hcs
    cases c with
    | run n b =>
      obtain ⟨hn1, hn2⟩ : 2 ≤ n ∧ n ≤ 128 := hc
      have ht := UInt8.toNat_ofNat_of_lt' (show 257 - n < 256 by omega)
      have c1 : ¬ 257 - n < 128 := by omega
      have c2 : ¬ 257 - n = 128 := by omega
      have hne : UInt8.ofNat (257 - n) ≠ 128 := fun he => c2 (by rw [← ht, he]; rfl)
      simp only [List.flatMap_cons, Chunk.emit, Chunk.content, List.cons_append, List.nil_append]
      constructor
      · rw [specDec_cons, ht, if_neg c1, if_neg c2]
        show Option.map _ (specDec _) = _
        rw [ih1, show 257 - (257 - n) = n by omega]; rfl
      · rw [headers, ht, if_neg c1, if_neg c2]
        exact List.forall_mem_cons.mpr ⟨hne, ih2⟩
    | lit bs =>
      obtain ⟨hn1, hn2⟩ : 1 ≤ bs.length ∧ bs.length ≤ 127 := hc
      have ht := UInt8.toNat_ofNat_of_lt' (show bs.length - 1 < 256 by omega)
      have c1 : bs.length - 1 < 128 := by omega
      have c2 : ¬ bs.length - 1 = 128 := by omega
      have e : bs.length - 1 + 1 = bs.length := by omega
      have hne : UInt8.ofNat (bs.length - 1) ≠ 128 := fun he => c2 (by rw [← ht, he]; rfl)
      simp only [List.flatMap_cons, Chunk.emit, Chunk.content, List.cons_append]
      constructor
      · rw [specDec_cons, ht, if_pos c1, e, if_pos (by rw [List.length_append]; omega),
          List.drop_left, List.take_left, ih1]; rfl
      · rw [headers, ht, if_pos c1, e, List.drop_left]
        exact List.forall_mem_cons.mpr ⟨hne, ih2⟩

/-- Potential argument: a literal chunk shorter than 127 bytes either ends the data, or is
followed by a run of at least three bytes, or by a run of two that ends the data, or (when
it has at least 125 bytes) by a run of at least two; in each case the pair pays for itself.
`127·len ≤ 128·n + 126` is `len ≤ n + ⌈n/127⌉` without the division. -/
theorem encFrom_length (d : Bytes) : ∀ i, i ≤ d.size →
    127 * (encFrom d i).length + 128 * i ≤ 128 * d.size + 126 := by
  refine induction_from_end d.size (fun i ih h hi => ?_) (fun i h hi => ?_)
  · rcases encFrom_step d i h with ⟨j, _, h1, h2, h3, h4, _, he⟩ | ⟨j, _, h1, h2, h3, hj, he⟩
    · have ihj := ih (j + 1) (Nat.lt_succ_of_lt h1) h2
      rw [he, List.length_cons, List.length_cons]
      omega
    · rw [he, List.length_cons, List.length_append, extract_length d i j h2]
      obtain ⟨_, _, hx⟩ := litLoop_spec d i i (Nat.le_refl _) hi (Nat.le_add_right _ _) j hj.symm
      rcases hx with hx | hx | ⟨hq, hx⟩ | ⟨hq, hq2⟩
      · rw [encFrom_end d j (Nat.le_of_eq hx.symm), List.length_nil]; omega
      · have ihj := ih j h1 h2
        omega
      · rcases encFrom_step d j (eqAt_lt hq).1 with ⟨r, _, r1, r2, r3, r4, _, hr⟩ | ⟨_, hne, _⟩
        · have ihr := ih (r + 1) (by omega) r2
          rw [hr, List.length_cons, List.length_cons]
          omega
        · exact absurd hq hne
      · rcases encFrom_step d j (eqAt_lt hq).1 with ⟨r, _, r1, r2, r3, r4, hrr, hr⟩ | ⟨_, hne, _⟩
        · have ihr := ih (r + 1) (by omega) r2
          have hp2 : j + 2 ≤ r := by
            rw [hrr, runLoop_pass (by omega) hq, runLoop_pass (by omega) hq2]
            exact le_runLoop d j (j + 2)
          rw [hr, List.length_cons, List.length_cons]
          omega
        · exact absurd hq hne
  · rw [encFrom_end d i h, List.length_nil]; omega

theorem encPy_length (d : Bytes) : (encPy d).length ≤ d.size + (d.size + 126) / 127 := by
  unfold encPy
  split
  · exact Nat.zero_le _
  · split
    · rename_i h; rw [h]; exact (by decide : 2 ≤ 1 + (1 + 126) / 127)
    · have := encFrom_length d 0 (Nat.zero_le _)
      omega

end PsdVerif.Rle
