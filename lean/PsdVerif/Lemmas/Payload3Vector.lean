/-
C01 payload classes — the laws of the vector data of Model/Payload3Vector.lean.
-/
import PsdVerif.Lemmas.Payload3Resources
import PsdVerif.Model.Payload3Vector

namespace PsdVerif.Payload3
open PsdVerif.Codec PsdVerif.Payload

/-- the registry rows the model relies on: the selectors of the three classes that are alone in their kind -/
theorem kindOf_fixed : kindOf 6 = some .fill ∧ kindOf 7 = some .clipboard ∧ kindOf 8 = some .initial := by decide

mutual
theorem PItem.encP_eq : ∀ x : PItem, x.encP = (x.encT, x.encT.length)
  | .fill => by simp only [PItem.encP, PItem.encT, wBytes_eq, wSeq_eq]
  | .initial r => by simp only [PItem.encP, PItem.encT, wBytes_eq, wSeq_eq]
  | .clipboard r => by simp only [PItem.encP, PItem.encT, wBytes_eq, wSeq_eq]
  | .knot s r => by simp only [PItem.encP, PItem.encT, wBytes_eq, wSeq_eq]
  | .subpath s head items => by
    simp only [PItem.encP, PItem.encT, PItem.encListP_eq items, wBytes_eq, wSeq_eq]
theorem PItem.encListP_eq : ∀ xs : List PItem, PItem.encListP xs = (PItem.encListT xs, (PItem.encListT xs).length)
  | [] => rfl
  | x :: xs => by simp only [PItem.encListP, PItem.encListT, PItem.encP_eq x, PItem.encListP_eq xs, wSeq_eq]
end

theorem PItem.encListT_eq : ∀ xs : List PItem, PItem.encListT xs = listT PItem.encT xs
  | [] => rfl
  | x :: xs => by simp only [PItem.encListT, listT, PItem.encListT_eq xs]

/-- every record has its 26 bytes -/
theorem PItem.length_ge : ∀ x : PItem, x.Fits → 26 ≤ x.encT.length
  | .fill, _ => by simp only [PItem.encT, List.length_append, length_beBytes, length_zeros]; omega
  | .initial r, hf => by
    have h1 := length_fmtT initFmt r hf
    have h2 : fmtSize initFmt = 24 := rfl
    simp only [PItem.encT, List.length_append, length_beBytes, h1, h2]; omega
  | .clipboard r, hf => by
    have h1 := length_fmtT clipFmt r hf
    have h2 : fmtSize clipFmt = 24 := rfl
    simp only [PItem.encT, List.length_append, length_beBytes, h1, h2]; omega
  | .knot s r, hf => by
    have h1 := length_fmtT knotFmt r hf.2
    have h2 : fmtSize knotFmt = 24 := rfl
    simp only [PItem.encT, List.length_append, length_beBytes, h1, h2]; omega
  | .subpath s head items, hf => by
    have h1 := length_fmtT subFmt head hf.2.2.1
    have h2 : fmtSize subFmt = 22 := rfl
    simp only [PItem.encT, List.length_append, length_beBytes, h1, h2]; omega

mutual
theorem PItem.depth_lt : ∀ x : PItem, x.depth + 1 ≤ x.encT.length
  | .fill => by simp only [PItem.depth, PItem.encT, List.length_append, length_beBytes]; omega
  | .initial r => by simp only [PItem.depth, PItem.encT, List.length_append, length_beBytes]; omega
  | .clipboard r => by simp only [PItem.depth, PItem.encT, List.length_append, length_beBytes]; omega
  | .knot s r => by simp only [PItem.depth, PItem.encT, List.length_append, length_beBytes]; omega
  | .subpath s head items => by
    have := PItem.depthList_le items
    simp only [PItem.depth, PItem.encT, List.length_append, length_beBytes]; omega
theorem PItem.depthList_le : ∀ xs : List PItem, PItem.depthList xs ≤ (PItem.encListT xs).length
  | [] => Nat.le_refl _
  | x :: xs => by
    have h1 := PItem.depth_lt x
    have h2 := PItem.depthList_le xs
    simp only [PItem.depthList, PItem.encListT, List.length_append]
    omega
end

mutual
/-- the reader returns the record wherever it sits, given fuel for its nesting depth -/
theorem PItem.dec_step : ∀ (x : PItem), x.WF → x.Fits → ∀ (fuel : Nat), x.depth < fuel → ∀ {d : B} {p : Nat} {rest : B},
    At d p (x.encT ++ rest) → PItem.decFuel fuel d p = .ok (x, p + x.encT.length) ∧ At d (p + x.encT.length) rest
  | .fill, _, _, fuel + 1, _, d, p, rest, h => by
    refine ⟨?_, h.right⟩
    simp only [PItem.encT, List.append_assoc] at h ⊢
    obtain ⟨e1, h1⟩ := readU_step h (by decide)
    obtain ⟨e2, _⟩ := readSkip_step h1
    simp only [PItem.decFuel, bind, Except.bind, e1, kindOf_fixed.1, e2, List.length_append, length_beBytes, length_zeros, Nat.add_assoc]
  | .initial r, _, hf, fuel + 1, _, d, p, rest, h => by
    refine ⟨?_, h.right⟩
    simp only [PItem.Fits] at hf
    simp only [PItem.encT, List.append_assoc] at h ⊢
    obtain ⟨e1, h1⟩ := readU_step h (by decide)
    obtain ⟨e2, _⟩ := fmt_step' (fs := initFmt) rfl hf (fmtWF_of_plain _ _ rfl) h1
    simp only [PItem.decFuel, bind, Except.bind, e1, kindOf_fixed.2.2, e2, List.length_append, length_beBytes, Nat.add_assoc]
  | .clipboard r, _, hf, fuel + 1, _, d, p, rest, h => by
    refine ⟨?_, h.right⟩
    simp only [PItem.Fits] at hf
    simp only [PItem.encT, List.append_assoc] at h ⊢
    obtain ⟨e1, h1⟩ := readU_step h (by decide)
    obtain ⟨e2, _⟩ := fmt_step' (fs := clipFmt) rfl hf (fmtWF_of_plain _ _ rfl) h1
    simp only [PItem.decFuel, bind, Except.bind, e1, kindOf_fixed.2.1, e2, List.length_append, length_beBytes, Nat.add_assoc]
  | .knot s r, hw, hf, fuel + 1, _, d, p, rest, h => by
    refine ⟨?_, h.right⟩
    simp only [PItem.Fits] at hf
    simp only [PItem.WF] at hw
    simp only [PItem.encT, List.append_assoc] at h ⊢
    obtain ⟨e1, h1⟩ := readU_step h hf.1
    obtain ⟨e2, _⟩ := fmt_step' (fs := knotFmt) rfl hf.2 (fmtWF_of_plain _ _ rfl) h1
    simp only [PItem.decFuel, bind, Except.bind, e1, hw, e2, List.length_append, length_beBytes, Nat.add_assoc]
  | .subpath s head items, hw, hf, fuel + 1, hfuel, d, p, rest, h => by
    refine ⟨?_, h.right⟩
    simp only [PItem.Fits] at hf
    simp only [PItem.WF] at hw
    simp only [PItem.depth] at hfuel
    simp only [PItem.encT, List.append_assoc] at h ⊢
    obtain ⟨e1, h1⟩ := readU_step h hf.1
    obtain ⟨e2, h2⟩ := readU_step h1 hf.2.1
    obtain ⟨e3, h3⟩ := fmt_step' (fs := subFmt) rfl hf.2.2.1 hw.2.1 h2
    obtain ⟨e4, _⟩ := PItem.decList_step items hw.2.2 hf.2.2.2 fuel (by omega) h3
    simp only [PItem.decFuel, bind, Except.bind, e1, hw.1, e2, e3, e4]
    simp only [List.length_append, length_beBytes, Nat.add_assoc]
theorem PItem.decList_step : ∀ (xs : List PItem), PItem.WFList xs → PItem.FitsList xs → ∀ (fuel : Nat), PItem.depthList xs < fuel →
    ∀ {d : B} {p : Nat} {rest : B}, At d p (PItem.encListT xs ++ rest) →
      readCount (PItem.decFuel fuel) xs.length d p = .ok (xs, p + (PItem.encListT xs).length) ∧
        At d (p + (PItem.encListT xs).length) rest
  | [], _, _, _, _, d, p, rest, h => by
    simp only [PItem.encListT, List.nil_append, List.length_nil, Nat.add_zero] at h ⊢
    exact ⟨rfl, h⟩
  | x :: xs, hw, hf, fuel, hfuel, d, p, rest, h => by
    simp only [PItem.WFList] at hw
    simp only [PItem.FitsList] at hf
    simp only [PItem.depthList] at hfuel
    simp only [PItem.encListT, List.append_assoc] at h ⊢
    obtain ⟨e1, h1⟩ := PItem.dec_step x hw.1 hf.1 fuel (by omega) h
    obtain ⟨e2, h2⟩ := PItem.decList_step xs hw.2 hf.2 fuel (by omega) h1
    refine ⟨?_, by simpa only [List.length_append, Nat.add_assoc] using h2⟩
    simp only [List.length_cons, readCount, e1, e2, List.length_append, Nat.add_assoc]
end

theorem PItem.dec_at {x : PItem} (hw : x.WF) (hf : x.Fits) {d : B} {p : Nat} (h : At d p x.encT) :
    PItem.dec d p = .ok (x, p + x.encT.length) := by
  have hb := h.bound
  have hd := PItem.depth_lt x
  exact (PItem.dec_step x hw hf (d.length + 1) (by omega) h.nil_right).1

theorem PItem.rt : PItem.codec.RtAnywhere := fun _ hw hf _ _ h => PItem.dec_at hw hf h
theorem PItem.count : PItem.codec.Count := PItem.encP_eq

theorem PItem.wfList_mem : ∀ {xs : List PItem}, PItem.WFList xs → ∀ x ∈ xs, x.WF
  | [], _, _, hx => by cases hx
  | y :: ys, hw, x, hx => by
    simp only [PItem.WFList] at hw
    rcases List.mem_cons.1 hx with rfl | hx'
    · exact hw.1
    · exact PItem.wfList_mem hw.2 x hx'

theorem PItem.fitsList_mem : ∀ {xs : List PItem}, PItem.FitsList xs → ∀ x ∈ xs, x.Fits
  | [], _, _, hx => by cases hx
  | y :: ys, hf, x, hx => by
    simp only [PItem.FitsList] at hf
    rcases List.mem_cons.1 hx with rfl | hx'
    · exact hf.1
    · exact PItem.fitsList_mem hf.2 x hx'

namespace Path

theorem rt (pad : Nat) : (codec pad).RtAtEnd := by
  intro xs hwf hf d p h hend
  obtain ⟨hw, hp0, hp26⟩ := hwf
  simp only [codec, bodyT, PItem.encListT_eq] at h hend ⊢
  simp only [List.length_append, length_zeros] at hend
  have hlt := padAmount_lt (listT PItem.encT xs).length pad hp0
  exact readWhile_isReadable_opt (by decide)
    (fun x hx _ _ hq => PItem.dec_at (PItem.wfList_mem hw x hx) (PItem.fitsList_mem hf x hx) hq)
    (fun x hx => PItem.length_ge x (PItem.fitsList_mem hf x hx)) h.left (by omega)

theorem count (pad : Nat) : (codec pad).Count := by
  intro xs
  simp only [codec, bodyT, PItem.encListP_eq, wSeq_eq, wPad_eq]

end Path

namespace VectorMaskSetting

theorem rt : codec.RtAtEnd := by
  intro x hwf hf d p h hend
  obtain ⟨hv, hw⟩ := hwf
  obtain ⟨f1, f2⟩ := hf
  simp only [codec, encT] at h hend ⊢
  obtain ⟨e1, h1⟩ := fmt_step' (fs := headFmt) rfl f1 (fmtWF_of_plain _ _ rfl) h
  have e2 := Path.rt 4 x.path ⟨hw, by decide, by decide⟩ f2 d _ h1 (by simp only [List.length_append] at hend; omega)
  simp only [dec, bind, Except.bind, e1, if_pos hv, e2]
  simp only [Path.codec, Nat.add_assoc]

theorem count : codec.Count := by
  intro x
  simp only [codec, encP, encT, Path.count 4 x.path, wBytes_eq, wSeq_eq]

end VectorMaskSetting

namespace VectorStrokeContentSetting
open Descriptor
variable (tb : Descriptor.Tables)

theorem encP_eq (pad : Nat) (x : VectorStrokeContentSetting) : encP tb pad x = (encT tb pad x, (encT tb pad x).length) := by
  simp only [encP, encT, bodyT, bodyW_eq, wBytes_eq, wSeq_eq, wPad_eq, List.append_assoc]

theorem rt (pad : Nat) : (codec tb pad).RtAnywhere := by
  intro x hwf hf d p h
  obtain ⟨hk, hnm, hcid, hnd, hitems⟩ := hwf
  obtain ⟨fv, fnm, fcid, flen, fitems⟩ := hf
  simp only [codec, encT, bodyT, packS_of_length hk, List.append_assoc] at h ⊢
  obtain ⟨r0, h1⟩ := readN_step h hk
  have fv' : x.version.toNat < 256 ^ 4 := by unfold FitsU32 at fv; omega
  obtain ⟨r0', h2⟩ := readU_step h1 fv'
  obtain ⟨r1, _⟩ := readBody_step hnm fnm hcid fcid flen hnd hitems fitems h2
  unfold dec
  rw [rbind_ok r0, rbind_ok r0', rbind_ok r1]
  have e1 : ((x.version.toNat : Nat) : Int) = x.version := Int.toNat_of_nonneg fv.1
  obtain ⟨key, ver, nm, cid, items⟩ := x
  simp only at e1 hk ⊢
  simp only [rpure_eq, e1, List.length_append, length_beBytes, hk, Nat.add_assoc]

theorem count (pad : Nat) : (codec tb pad).Count := encP_eq tb pad

end VectorStrokeContentSetting

end PsdVerif.Payload3
