/-
Layer-tree model: the invariant and "refused ⇒ unchanged" for `step`, and the invariant over guarded histories.
-/
import PsdVerif.Lemmas.TreeRefuse

namespace PsdVerif.TreeSt

theorem inv_empty (limit : Nat) : Inv (State.empty limit) where
  live := by intro c x hx; cases hx
  contOnly := by intro c h; exact absurd rfl h
  layerOnly := by intro c x hx; cases hx
  parentOk := by intro c x hx; cases hx
  psdOk := by intro c x d hx; cases hx
  nodup := by intro c; exact List.nodup_nil
  acyclic := ⟨fun _ => 0, by intro c x hx; cases hx⟩

/-- on a well-formed store "listed nowhere" only has to be checked for the live containers -/
theorem detached_of_bounded {s : State} {x : Id} (i : Inv s) (h : ∀ c, c < s.next → x ∉ s.children c) :
    Detached s x := fun c hc => h c (i.live c x hc).1 hc

theorem inv_step (s : State) (op : Op) (i : Inv s) (hg : Guard s op)
    (hne : (step .current s op).2 ≠ .error .recursionError) : Inv (step .current s op).1 :=
  (Kept.ofInv rfl).keeps_step rfl op i hg hne

/-- a history all of whose steps satisfy the guard and stay below the recursion limit -/
def Guarded (cfg : Cfg) : State → List Op → Prop
  | _, [] => True
  | s, op :: ops => Guard s op ∧ (step cfg s op).2 ≠ .error .recursionError ∧ Guarded cfg (step cfg s op).1 ops

theorem Kept.keeps_run {cfg : Cfg} {P : State → Prop} (K : Kept cfg P) (hpre : cfg.groupLayersPrecheck = true) {s : State}
    (ops : List Op) (h : P s) (hg : Guarded cfg s ops) : P (runState cfg s ops) := by
  induction ops generalizing s with
  | nil => exact h
  | cons op ops ih => exact ih (K.keeps_step hpre op h hg.1 hg.2.1) hg.2.2

theorem inv_run (s : State) (ops : List Op) (i : Inv s) (h : Guarded .current s ops) :
    Inv (runState .current s ops) :=
  (Kept.ofInv rfl).keeps_run rfl ops i h

theorem step_ref (s : State) (op : Op) (e : Err) (i : Inv s)
    (h : (step .current s op).2 = .error e) (hne : e ≠ .recursionError) : SameTree s (step .current s op).1 :=
  step_refused rfl rfl i op e h hne

end PsdVerif.TreeSt
