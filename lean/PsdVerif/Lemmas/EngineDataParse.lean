/-
Lemmas for C18: the parser on the token stream of a well-formed tree. Core Lean only.
-/
import PsdVerif.Lemmas.EngineDataTree

namespace PsdVerif.EngineData

theorem Toks_inv {d : BL} {tok : BL} {ty : Tok} {ts : List (BL × Tok)} (h : Toks d ((tok, ty) :: ts)) :
    ∃ rest, nextTok d = .ok (some (tok, ty, rest)) ∧ Toks rest ts := by
  cases h with
  | cons h0 h1 => exact ⟨_, h0, h1⟩

theorem Toks_inv_nil {d : BL} (h : Toks d []) : nextTok d = .ok none := by
  cases h with
  | nil h0 => exact h0

theorem insertKey_new (acc : List (BL × Val)) (k : BL) (v : Val) (h : ∀ p ∈ acc, p.1 ≠ k) :
    insertKey acc k v = acc ++ [(k, v)] := by
  have : acc.any (fun p => p.1 == k) = false := by
    rw [List.any_eq_false]
    intro p hp; simpa using h p hp
  simp [insertKey, this]

theorem any_key_false {t : List (BL × Val)} {k : BL} (h : (!(t.any (fun p => p.1 == k))) = true) :
    ∀ q ∈ t, q.1 ≠ k := by
  intro q hq
  simp only [Bool.not_eq_true', List.any_eq_false] at h
  simpa using h q hq

theorem succ_of_fuel {n f : Nat} (h : n + 1 ≤ f) : ∃ g, f = g + 1 :=
  ⟨f - 1, (Nat.sub_add_cancel (Nat.le_trans (Nat.le_add_left 1 n) h)).symm⟩

/-- What either loop does with a value whose first token `(vtok, vty)` has been read and is
followed by `rest`: the value, and the data left after it. -/
inductive ReadsValue (f : Nat) (vtok : BL) : Tok → BL → Val → BL → Prop
  | list {rest r : BL} {xs : List Val} : parseList f rest [] = .ok (xs, r) →
      ReadsValue f vtok .arrayStart rest (.list xs) r
  | dict {rest r : BL} {xs : List (BL × Val)} : parseDict f rest [] = .ok (xs, r) →
      ReadsValue f vtok .dictStart rest (.dict xs) r
  | sc {vty : Tok} {rest : BL} {s : Scalar} : valueOfToken vty vtok = some (.ok s) →
      ReadsValue f vtok vty rest (.sc s) rest

theorem parseDict_value {f : Nat} {d tok rest vtok rest2 r : BL} {vty : Tok} {v : Val} {acc : List (BL × Val)}
    (h1 : nextTok d = .ok (some (tok, .property, rest))) (h2 : nextTok rest = .ok (some (vtok, vty, rest2)))
    (hv : ReadsValue f vtok vty rest2 v r) :
    parseDict (f + 1) d acc = parseDict f r (insertKey acc (tok.filter (· != 0x2F)) v) := by
  rw [parseDict]
  cases hv with
  | list h => simp only [h1, h2, h]
  | dict h => simp only [h1, h2, h]
  | sc h =>
    -- `[`, `<<` and the other tokens without a value class contradict `h`; for the rest the last match reads `h`
    cases vty <;> first | (cases h; done) | simp only [h1, h2, h]

theorem parseList_value {f : Nat} {d tok rest r : BL} {ty : Tok} {v : Val} {acc : List Val}
    (h1 : nextTok d = .ok (some (tok, ty, rest))) (hv : ReadsValue f tok ty rest v r) :
    parseList (f + 1) d acc = parseList f r (acc ++ [v]) := by
  rw [parseList]
  cases hv with
  | list h => simp only [h1, h]
  | dict h => simp only [h1, h]
  | sc h => cases ty <;> first | (cases h; done) | simp only [h1, h]

theorem parseDict_end {f : Nat} {d tok rest : BL} {acc : List (BL × Val)}
    (h : nextTok d = .ok (some (tok, .dictEnd, rest))) : parseDict (f + 1) d acc = .ok (acc, rest) := by
  rw [parseDict]; simp only [h]

theorem parseList_end {f : Nat} {d tok rest : BL} {acc : List Val}
    (h : nextTok d = .ok (some (tok, .arrayEnd, rest))) : parseList (f + 1) d acc = .ok (acc, rest) := by
  rw [parseList]; simp only [h]

/-- Both loops read back what a well-formed container was written as and go on with what
follows. Every recursive call of the parser, nested or in sequence, runs on one unit of fuel
less, so the induction is on the fuel. -/
theorem parse_back (hf : FloatOK) (f : Nat) :
    (∀ (items : List (BL × Val)), wfPairs items = true → ∀ (d : BL) (acc : List (BL × Val)) (ts : List (BL × Tok)),
      Toks d (tokPairs items ++ ts) → (tokPairs items ++ ts).length + 1 ≤ f →
      (∀ p ∈ acc, ∀ q ∈ items, p.1 ≠ q.1) →
      ∃ d' f', Toks d' ts ∧ ts.length + 1 ≤ f' ∧ parseDict f d acc = parseDict f' d' (acc ++ items)) ∧
    (∀ (elems : List Val), wfElems elems = true → ∀ (d : BL) (acc : List Val) (ts : List (BL × Tok)),
      Toks d (tokElems elems ++ ts) → (tokElems elems ++ ts).length + 1 ≤ f →
      ∃ d' f', Toks d' ts ∧ ts.length + 1 ≤ f' ∧ parseList f d acc = parseList f' d' (acc ++ elems)) := by
  induction f with
  | zero => exact ⟨fun _ _ _ _ _ _ h => absurd h (by omega), fun _ _ _ _ _ _ h => absurd h (by omega)⟩
  | succ f ih =>
    obtain ⟨ihP, ihE⟩ := ih
    -- one value, whichever loop meets it: a nested container is read back by the induction hypothesis
    have hval : ∀ v, wfVal v = true → ∀ (d : BL) (ts : List (BL × Tok)), Toks d (tokVal v ++ ts) →
        (tokVal v ++ ts).length ≤ f →
        ∃ vtok vty rest r, nextTok d = .ok (some (vtok, vty, rest)) ∧ ReadsValue f vtok vty rest v r ∧ Toks r ts := by
      intro v hv d ts ht hfuel
      cases v with
      | sc s =>
        rw [wfVal] at hv
        rw [tokVal] at ht
        obtain ⟨rest, hn, ht⟩ := Toks_inv ht
        exact ⟨_, _, rest, rest, hn, .sc (scalarOK hf s hv).val, ht⟩
      | dict items =>
        rw [wfVal] at hv
        rw [tokVal] at ht hfuel
        simp only [List.cons_append, List.append_assoc, List.length_cons] at ht hfuel
        obtain ⟨rest, hn, ht⟩ := Toks_inv ht
        obtain ⟨d1, f1, hd1, hf1, he1⟩ := ihP items hv rest [] (tGG :: ts) ht hfuel (fun _ hp => nomatch hp)
        obtain ⟨f1, rfl⟩ := succ_of_fuel hf1
        obtain ⟨r, hn3, ht3⟩ := Toks_inv hd1
        exact ⟨_, _, rest, r, hn, .dict (by rw [he1, parseDict_end hn3]; rfl), ht3⟩
      | list elems =>
        rw [wfVal] at hv
        rw [tokVal] at ht hfuel
        simp only [List.cons_append, List.append_assoc, List.length_cons] at ht hfuel
        obtain ⟨rest, hn, ht⟩ := Toks_inv ht
        obtain ⟨d1, f1, hd1, hf1, he1⟩ := ihE elems hv rest [] (tRB :: ts) ht hfuel
        obtain ⟨f1, rfl⟩ := succ_of_fuel hf1
        obtain ⟨r, hn3, ht3⟩ := Toks_inv hd1
        exact ⟨_, _, rest, r, hn, .list (by rw [he1, parseList_end hn3]; rfl), ht3⟩
    refine ⟨?_, ?_⟩
    · intro items h d acc ts ht hfuel hacc
      cases items with
      | nil =>
        rw [tokPairs, List.nil_append] at ht hfuel
        exact ⟨d, f + 1, ht, hfuel, by rw [List.append_nil]⟩
      | cons kv t =>
        obtain ⟨k, v⟩ := kv
        rw [wfPairs] at h
        simp only [Bool.and_eq_true] at h
        obtain ⟨⟨⟨hk, hkt⟩, hv⟩, hT⟩ := h
        rw [tokPairs] at ht hfuel
        simp only [List.cons_append, List.append_assoc, List.length_cons] at ht hfuel
        obtain ⟨rest, hn1, ht1⟩ := Toks_inv ht
        obtain ⟨vtok, vty, rest2, r, hn2, hrv, ht2⟩ := hval v hv rest _ ht1 (by omega)
        have hnew : ∀ p ∈ acc, p.1 ≠ k := fun p hp => hacc p hp (k, v) (by simp)
        have hacc' : ∀ p ∈ acc ++ [(k, v)], ∀ q ∈ t, p.1 ≠ q.1 := by
          intro p hp q hq
          rcases List.mem_append.mp hp with hp | hp
          · exact hacc p hp q (by simp [hq])
          · simp at hp; subst hp; exact fun e => any_key_false hkt q hq e.symm
        obtain ⟨d', f', hd', hf', he⟩ := ihP t hT r (acc ++ [(k, v)]) ts ht2
          (by simp only [List.length_append] at hfuel ⊢; omega) hacc'
        refine ⟨d', f', hd', hf', ?_⟩
        rw [parseDict_value hn1 hn2 hrv, key_name k hk, insertKey_new _ _ _ hnew, he, List.append_assoc]
        rfl
    · intro elems h d acc ts ht hfuel
      cases elems with
      | nil =>
        rw [tokElems, List.nil_append] at ht hfuel
        exact ⟨d, f + 1, ht, hfuel, by rw [List.append_nil]⟩
      | cons v t =>
        rw [wfElems] at h
        simp only [Bool.and_eq_true] at h
        rw [tokElems] at ht hfuel
        simp only [List.append_assoc] at ht hfuel
        have hpos : 0 < (tokVal v).length := by cases v <;> simp [tokVal]
        obtain ⟨vtok, vty, rest, r, hn, hrv, ht1⟩ := hval v h.1 d _ ht
          (by simp only [List.length_append] at hfuel ⊢; omega)
        obtain ⟨d', f', hd', hf', he⟩ := ihE t h.2 r (acc ++ [v]) ts ht1
          (by simp only [List.length_append] at hfuel ⊢; omega)
        refine ⟨d', f', hd', hf', ?_⟩
        rw [parseList_value hn hrv, he, List.append_assoc]
        rfl

theorem parse_elems (hf : FloatOK) (elems : List Val) (h : wfElems elems = true) (f : Nat) (d : BL)
    (acc : List Val) (ts : List (BL × Tok)) (ht : Toks d (tokElems elems ++ ts))
    (hfuel : (tokElems elems ++ ts).length + 1 ≤ f) :
    ∃ d' f', Toks d' ts ∧ ts.length + 1 ≤ f' ∧ parseList f d acc = parseList f' d' (acc ++ elems) :=
  (parse_back hf f).2 elems h d acc ts ht hfuel

/-- The parser reads a well-formed tree back from any byte string whose token stream is
the tree's. -/
theorem parse_of_toks (hf : FloatOK) (l : Layout) (t : Tree) (h : wfPairs t = true) (d : BL)
    (ht : Toks d (tokensOf l t)) : parse d = .ok t := by
  have hlen := Toks_length ht
  unfold parse
  cases l with
  | indented =>
    simp only [tokensOf, List.length_cons] at ht hlen
    obtain ⟨rest, hn1, ht1⟩ := Toks_inv ht
    obtain ⟨d', f', hd', hf', he⟩ := (parse_back hf d.length).1 t h rest [] [tGG] ht1 (by omega) (fun _ hp => nomatch hp)
    obtain ⟨f1, rfl⟩ := succ_of_fuel hf'
    obtain ⟨r, hn3, _⟩ := Toks_inv hd'
    -- the leading `<<` stands where a key is expected and is skipped
    rw [parseDict]
    simp only [hn1, he, parseDict_end hn3, List.nil_append]
  | compact =>
    have ht' : Toks d (tokPairs t ++ []) := by simpa [tokensOf] using ht
    obtain ⟨d', f', hd', hf', he⟩ := (parse_back hf (d.length + 1)).1 t h d [] [] ht'
      (by simpa [tokensOf] using hlen) (fun _ hp => nomatch hp)
    obtain ⟨f1, rfl⟩ := succ_of_fuel hf'
    rw [he, parseDict]
    simp only [Toks_inv_nil hd', List.nil_append]

mutual
theorem enc_val (v : Val) (h : wfVal v = true) : encodableVal v = true := by
  match v with
  | .dict items => rw [wfVal] at h; rw [encodableVal]; exact enc_pairs items h
  | .list elems => rw [wfVal] at h; rw [encodableVal]; exact enc_elems elems h
  | .sc s =>
    rw [wfVal] at h
    -- only a string can fail to encode, and there the two predicates are the same test
    cases s <;> first | exact h | rfl
theorem enc_pairs (ps : List (BL × Val)) (h : wfPairs ps = true) : encodablePairs ps = true := by
  match ps with
  | [] => rfl
  | (k, v) :: t =>
    rw [wfPairs] at h; simp only [Bool.and_eq_true] at h
    rw [encodablePairs]; simp [enc_val v h.1.2, enc_pairs t h.2]
theorem enc_elems (es : List Val) (h : wfElems es = true) : encodableElems es = true := by
  match es with
  | [] => rfl
  | v :: t =>
    rw [wfElems] at h; simp only [Bool.and_eq_true] at h
    rw [encodableElems]; simp [enc_val v h.1, enc_elems t h.2]
end

end PsdVerif.EngineData
