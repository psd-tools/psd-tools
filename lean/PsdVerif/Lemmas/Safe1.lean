/-
C06 — safety of the skeleton reader, part 1: the framework and the primitives.

`Good k d p r` is the invariant every reader of `Model/Psd.lean` that does not seek satisfies:

  * success `(v, p')`: the cursor advanced by at least `k` bytes and it is still inside the stream
    (`p' ≤ d.length`) unless it did not move at all (`p' = p`: a lenient read at or behind the end);
  * failure `e`: `e` is one of the four ordinary exception classes (`Err.other`, the fuel
    exhaustion value of `readWhileFuel`, is not among them).

`Good.bind` composes it along a `do` block (the `k`s subtract: ask for what you need).
-/
import PsdVerif.Model.Psd
import PsdVerif.Lemmas.Lenient1
import PsdVerif.Lemmas.Codec

namespace PsdVerif.Safe
open PsdVerif PsdVerif.Codec PsdVerif.Psd

/-- the exception classes the skeleton reader can raise -/
def ordinary : List Err := [.ioError, .valueError, .assertionError, .overflowError]

def ErrIn {α : Type} (r : Except Err α) : Prop := ∀ e, r = .error e → e ∈ ordinary

def Good {α : Type} (k : Nat) (d : B) (p : Nat) (r : Except Err (α × Nat)) : Prop :=
  match r with
  | .ok (_, p') => p + k ≤ p' ∧ (p' ≤ d.length ∨ p' = p)
  | .error e => e ∈ ordinary

theorem io_mem : Err.ioError ∈ ordinary := by decide
theorem value_mem : Err.valueError ∈ ordinary := by decide
theorem assertion_mem : Err.assertionError ∈ ordinary := by decide
theorem overflow_mem : Err.overflowError ∈ ordinary := by decide
theorem other_not_mem : Err.other ∉ ordinary := by decide

theorem ErrIn.ok {α : Type} (a : α) : ErrIn (.ok a : Except Err α) := by
  intro e h; cases h

theorem ErrIn.error {α : Type} {e : Err} (h : e ∈ ordinary) : ErrIn (.error e : Except Err α) := by
  intro e' h'; cases h'; exact h

theorem ErrIn.bind {α β : Type} {m : Except Err β} {f : β → Except Err α}
    (hm : ErrIn m) (hf : ∀ x, m = .ok x → ErrIn (f x)) : ErrIn (m >>= f) := by
  cases m with
  | error e =>
    intro e' h
    have h' : (Except.error e : Except Err α) = .error e' := h
    cases h'
    exact hm e rfl
  | ok x => exact hf x rfl

theorem ErrIn.ne_other {α : Type} {r : Except Err α} (h : ErrIn r) : r ≠ .error .other := by
  intro e; exact other_not_mem (h _ e)

theorem Good.errIn {α : Type} {k : Nat} {d : B} {p : Nat} {r : Except Err (α × Nat)} (h : Good k d p r) : ErrIn r := by
  intro e he; subst he; exact h

theorem Good.of_ok {α : Type} {k : Nat} {d : B} {p : Nat} {r : Except Err (α × Nat)} {v : α} {p' : Nat}
    (h : Good k d p r) (he : r = .ok (v, p')) : p + k ≤ p' ∧ (p' ≤ d.length ∨ p' = p) := by
  subst he; exact h

/-- the form asked for in DESIGN §3 (`sound`): a reader that does not seek stays inside the stream -/
theorem Good.cursor {α : Type} {k : Nat} {d : B} {p : Nat} {r : Except Err (α × Nat)} {v : α} {p' : Nat}
    (h : Good k d p r) (he : r = .ok (v, p')) (hp : p ≤ d.length) : p ≤ p' ∧ p' ≤ d.length := by
  have := h.of_ok he; omega

theorem Good.ok_self {α : Type} {k : Nat} {d : B} {p : Nat} (v : α) (hk : k = 0 := by decide) :
    Good k d p (.ok (v, p)) := by
  subst hk; exact ⟨Nat.le_refl _, Or.inr rfl⟩

theorem Good.error {α : Type} {k : Nat} {d : B} {p : Nat} {e : Err} (h : e ∈ ordinary) :
    Good k d p (.error e : Except Err (α × Nat)) := h

theorem Good.weaken {α : Type} {k k' : Nat} {d : B} {p : Nat} {r : Except Err (α × Nat)}
    (h : Good k' d p r) (hk : k ≤ k' := by decide) : Good k d p r := by
  cases r with
  | error e => exact h
  | ok x =>
    obtain ⟨v, p'⟩ := x
    have := h.of_ok rfl
    exact ⟨by omega, this.2⟩

/-- sequencing on the same stream -/
theorem Good.bind {α β : Type} {k k₁ : Nat} {d : B} {p : Nat} {m : Except Err (β × Nat)}
    {f : β × Nat → Except Err (α × Nat)} (hm : Good k₁ d p m)
    (hf : ∀ v p₁, m = .ok (v, p₁) → Good (k - k₁) d p₁ (f (v, p₁))) : Good k d p (m >>= f) := by
  cases m with
  | error e => exact hm
  | ok x =>
    obtain ⟨v, p₁⟩ := x
    have h1 := hm.of_ok rfl
    have h2 := hf v p₁ rfl
    show Good k d p (f (v, p₁))
    cases hr : f (v, p₁) with
    | error e => rw [hr] at h2; exact h2
    | ok y =>
      obtain ⟨w, p₂⟩ := y
      have h3 := h2.of_ok hr
      exact ⟨by omega, by omega⟩

/-- a nested run (`with io.BytesIO(block) as f`): only its exception class matters -/
theorem Good.bind_nested {α β : Type} {k : Nat} {d : B} {p : Nat} {m : Except Err β}
    {f : β → Except Err (α × Nat)} (hm : ErrIn m)
    (hf : ∀ x, m = .ok x → Good k d p (f x)) : Good k d p (m >>= f) := by
  cases m with
  | error e => exact hm e rfl
  | ok x => exact hf x rfl

/-- sequencing where the continuation may also REWIND to the start `p` -/
theorem Good.bind_or {α β : Type} {k k₁ : Nat} {d : B} {p : Nat} {m : Except Err (β × Nat)}
    {f : β × Nat → Except Err (α × Nat)} (hm : Good k₁ d p m)
    (hf : ∀ v p₁, m = .ok (v, p₁) → Good (k - k₁) d p₁ (f (v, p₁)) ∨ Good k d p (f (v, p₁))) : Good k d p (m >>= f) := by
  cases m with
  | error e => exact hm
  | ok x =>
    obtain ⟨v, p₁⟩ := x
    rcases hf v p₁ rfl with h | h
    · exact Good.bind hm fun v' p' hx => by cases hx; exact h
    · exact h

theorem Good.ite {α : Type} {k : Nat} {d : B} {p : Nat} {c : Prop} [Decidable c] {a b : Except Err (α × Nat)}
    (ha : c → Good k d p a) (hb : ¬ c → Good k d p b) : Good k d p (if c then a else b) := by
  split
  · exact ha ‹_›
  · exact hb ‹_›

theorem readN_good (n : Nat) (d : B) (p : Nat) : Good n d p (readN n d p) := by
  cases h : readN n d p with
  | error e =>
    unfold readN at h
    split at h
    · cases h
    · cases h; exact io_mem
  | ok x =>
    obtain ⟨v, p'⟩ := x
    have := readN_ok h
    exact ⟨by omega, by omega⟩

theorem readUpTo_ne_error (n : Nat) (d : B) (p : Nat) (e : Err) : readUpTo n d p ≠ .error e := by
  unfold readUpTo; intro h; cases h

theorem readUpTo_good (n : Nat) (d : B) (p : Nat) : Good 0 d p (readUpTo n d p) := by
  cases h : readUpTo n d p with
  | error e => exact absurd h (readUpTo_ne_error n d p e)
  | ok x =>
    obtain ⟨v, p'⟩ := x
    have := readUpTo_ok h
    exact ⟨by omega, by omega⟩

theorem readAll_good (d : B) (p : Nat) : Good 0 d p (readAll d p) := by
  cases h : readAll d p with
  | error e => unfold readAll at h; cases h
  | ok x =>
    obtain ⟨v, p'⟩ := x
    have := readAll_ok h
    exact ⟨by omega, by omega⟩

theorem readPy_good (n : Int) (d : B) (p : Nat) : Good 0 d p (readPy n d p) := by
  unfold readPy
  split
  · exact readAll_good d p
  · split
    · exact overflow_mem
    · exact readUpTo_good _ d p

/-- the cursor half of `Codec.readU_ok` -/
theorem readU_ok {w : Nat} {d : B} {p : Nat} {n : Nat} {p' : Nat} (h : readU w d p = .ok (n, p')) :
    p' = p + w ∧ p + w ≤ d.length := (Codec.readU_ok h).2

theorem readN_eq {n : Nat} {d : B} {p : Nat} (h : p + n ≤ d.length) :
    readN n d p = .ok ((d.drop p).take n, p + n) := by
  unfold readN; rw [if_pos h]

theorem readU_eq {w : Nat} {d : B} {p : Nat} (h : p + w ≤ d.length) :
    readU w d p = .ok (beVal ((d.drop p).take w), p + w) := by
  unfold readU; rw [readN_eq h]

theorem readU_short {w : Nat} {d : B} {p : Nat} (h : d.length < p + w) : readU w d p = .error .ioError := by
  unfold readU; rw [readN_short h]

theorem readU_good (w : Nat) (d : B) (p : Nat) : Good w d p (readU w d p) := by
  have g := readN_good w d p
  unfold readU
  split
  · rename_i bs q hq
    exact g.of_ok hq
  · rename_i e he
    exact g.errIn e he

theorem readI16_good (d : B) (p : Nat) : Good 2 d p (readI16 d p) := by
  have g := readU_good 2 d p
  unfold readI16
  split
  · rename_i n q hq
    exact g.of_ok hq
  · rename_i e he
    exact g.errIn e he

theorem readI32_good (d : B) (p : Nat) : Good 4 d p (readI32 d p) := by
  have g := readU_good 4 d p
  unfold readI32
  split
  · rename_i n q hq
    exact g.of_ok hq
  · rename_i e he
    exact g.errIn e he

theorem readPadding_good (size divisor : Nat) (d : B) (p : Nat) : Good 0 d p (readPadding size divisor d p) := by
  have g := readUpTo_good (padAmount size divisor) d p
  unfold readPadding
  split
  · rename_i x q hq
    exact g.of_ok hq
  · rename_i e he
    exact g.errIn e he

theorem padAmount_le (size divisor : Nat) : padAmount size divisor ≤ divisor := by
  unfold padAmount; split <;> omega

/-- the filler: a lenient read of less than one alignment unit -/
theorem readPadding_ok {size divisor : Nat} {d : B} {p : Nat} {u : Unit} {p' : Nat}
    (h : readPadding size divisor d p = .ok (u, p')) : p ≤ p' ∧ p' ≤ p + divisor ∧ (p' ≤ d.length ∨ p' = p) := by
  unfold readPadding at h
  split at h
  · rename_i x q hq
    cases h
    have := readUpTo_ok hq
    have := padAmount_le size divisor
    omega
  · cases h

/-- `read_length_block`: the block returned is a copy of bytes of the stream, whatever length was declared; the cursor
advanced by the prefix, the block and less than one alignment unit; a failure is an ordinary exception -/
theorem readLenBlock_spec (skip w pad : Nat) (d : B) (p : Nat) :
    match readLenBlock skip w pad d p with
    | .ok (x, p') => p + skip + w + x.length ≤ p' ∧ p' ≤ d.length ∧ p' ≤ p + skip + w + x.length + pad
    | .error e => e ∈ ordinary := by
  unfold readLenBlock
  cases h0 : readN skip d p with
  | error e => exact (readN_good skip d p).errIn e h0
  | ok y0 =>
    obtain ⟨_, p0⟩ := y0
    have a0 := readN_ok h0
    dsimp only
    cases h1 : readU w d p0 with
    | error e => exact (readU_good w d p0).errIn e h1
    | ok y1 =>
      obtain ⟨n, p1⟩ := y1
      have a1 := readU_ok h1
      dsimp only
      by_cases hov : overflows n d
      · rw [if_pos hov]; exact overflow_mem
      · rw [if_neg hov]
        cases h2 : readUpTo n d p1 with
        | error e => exact absurd h2 (readUpTo_ne_error n d p1 e)
        | ok y2 =>
          obtain ⟨x, p2⟩ := y2
          have a2 := readUpTo_ok h2
          dsimp only
          by_cases hx : x.length ≠ n
          · rw [if_pos hx]; exact io_mem
          · rw [if_neg hx]
            cases h3 : readPadding n pad d p2 with
            | error e => exact (readPadding_good n pad d p2).errIn e h3
            | ok y3 =>
              have a3 := readPadding_ok h3
              dsimp only
              omega

theorem readLenBlock_ok {skip w pad : Nat} {d : B} {p : Nat} {x : B} {p' : Nat}
    (h : readLenBlock skip w pad d p = .ok (x, p')) :
    p + skip + w + x.length ≤ p' ∧ p' ≤ d.length := by
  have s := readLenBlock_spec skip w pad d p
  rw [h] at s
  exact ⟨s.1, s.2.1⟩

theorem readLenBlock_adv_le {skip w pad : Nat} {d : B} {p : Nat} {x : B} {p' : Nat}
    (h : readLenBlock skip w pad d p = .ok (x, p')) : p' ≤ p + skip + w + x.length + pad := by
  have s := readLenBlock_spec skip w pad d p
  rw [h] at s
  exact s.2.2

theorem readLenBlock_good (skip w pad : Nat) (d : B) (p : Nat) :
    Good (skip + w) d p (readLenBlock skip w pad d p) := by
  have s := readLenBlock_spec skip w pad d p
  cases h : readLenBlock skip w pad d p with
  | ok y => rw [h] at s; exact ⟨by omega, by omega⟩
  | error e => rw [h] at s; exact s

theorem readPascal_spec (pad : Nat) (d : B) (p : Nat) :
    match readPascal pad d p with
    | .ok (x, p') => p + 1 + x.length ≤ p' ∧ p' ≤ d.length
    | .error e => e ∈ ordinary := by
  unfold readPascal
  cases h1 : readU 1 d p with
  | error e => exact (readU_good 1 d p).errIn e h1
  | ok y1 =>
    obtain ⟨n, p1⟩ := y1
    have a1 := readU_ok h1
    dsimp only
    cases h2 : readUpTo n d p1 with
    | error e => exact absurd h2 (readUpTo_ne_error n d p1 e)
    | ok y2 =>
      obtain ⟨x, p2⟩ := y2
      have a2 := readUpTo_ok h2
      dsimp only
      by_cases hx : x.length ≠ n
      · rw [if_pos hx]; exact assertion_mem
      · rw [if_neg hx]
        cases h3 : readPadding (p2 - p) pad d p2 with
        | error e => exact (readPadding_good (p2 - p) pad d p2).errIn e h3
        | ok y3 =>
          have a3 := readPadding_ok h3
          dsimp only
          omega

theorem readPascal_good (pad : Nat) (d : B) (p : Nat) : Good 1 d p (readPascal pad d p) := by
  have s := readPascal_spec pad d p
  cases h : readPascal pad d p with
  | ok y => rw [h] at s; exact ⟨by omega, by omega⟩
  | error e => rw [h] at s; exact s

theorem optItem_good {α : Type} {item : R α} {k : Nat} {d : B} {p : Nat} (h : Good k d p (item d p)) :
    Good k d p (optItem item d p) := by
  unfold optItem
  split
  · rename_i a q hq
    exact h.of_ok hq
  · rename_i e he
    exact h.errIn e he

theorem readFor_good {α β : Type} {item : β → R α} {d : B} (xs : List β)
    (hi : ∀ x ∈ xs, ∀ p, Good 0 d p (item x d p)) (p : Nat) :
    Good 0 d p (readFor item xs d p) := by
  induction xs generalizing p with
  | nil => exact Good.ok_self _ rfl
  | cons x xs ih =>
    unfold readFor
    have g := hi x (by simp) p
    split
    · rename_i e he
      exact g.errIn e he
    · rename_i a p1 h1
      have g1 := g.of_ok h1
      have g2 := ih (fun y hy => hi y (by simp [hy])) p1
      split
      · rename_i e he
        exact g2.errIn e he
      · rename_i as p2 h2
        have g3 := g2.of_ok h2
        exact ⟨by omega, by omega⟩

/-- `for _ in range(n)` is `for _ in [()] * n` -/
theorem readCount_eq_readFor {α : Type} (item : R α) (n : Nat) :
    readCount item n = readFor (fun _ : Unit => item) (List.replicate n ()) := by
  induction n with
  | zero => rfl
  | succ n ih => funext d p; simp only [readCount, List.replicate_succ, readFor, ih]

theorem readCount_good {α : Type} {item : R α} {k : Nat} {d : B} (hi : ∀ p, Good k d p (item d p)) (n : Nat) (p : Nat) :
    Good 0 d p (readCount item n d p) := by
  rw [readCount_eq_readFor]
  exact readFor_good _ (fun _ _ q => (hi q).weaken (Nat.zero_le _)) p

theorem readCount_length {α : Type} {item : R α} {k : Nat} {d : B} (hi : ∀ p, Good k d p (item d p)) (n : Nat) (p : Nat)
    {vs : List α} {p' : Nat} (h : readCount item n d p = .ok (vs, p')) :
    vs.length = n ∧ p + k * n ≤ p' := by
  induction n generalizing p vs p' with
  | zero => unfold readCount at h; cases h; exact ⟨rfl, by omega⟩
  | succ n ih =>
    unfold readCount at h
    split at h
    · cases h
    · rename_i a p1 h1
      have g1 := (hi p).of_ok h1
      split at h
      · cases h
      · rename_i as p2 h2
        cases h
        have g2 := ih p1 h2
        refine ⟨by simp [g2.1], ?_⟩
        rw [Nat.mul_succ]; omega

/-- The `while cond(fp): …` loops terminate before the fuel runs out: `cond` only holds inside the stream,
an item that returns a value has consumed at least one byte, an item that returns `None` ends the loop.
Hence `Err.other` (the `fuel = 0` value) is never produced when `fuel > remaining bytes`. -/
theorem readWhileFuel_good {α : Type} {cond : B → Nat → Bool} {item : R (Option α)} {d : B}
    (hc : ∀ p, cond d p = true → p < d.length)
    (hi : ∀ p, Good 0 d p (item d p))
    (hs : ∀ p a p', item d p = .ok (some a, p') → p < p')
    (fuel : Nat) (p : Nat) (hf : d.length - p < fuel) :
    Good 0 d p (readWhileFuel cond item fuel d p) := by
  induction fuel generalizing p with
  | zero => omega
  | succ fuel ih =>
    unfold readWhileFuel
    split
    · rename_i hcond
      have hlt := hc p hcond
      have g := hi p
      split
      · rename_i e he
        exact g.errIn e he
      · rename_i p1 h1
        exact g.of_ok h1
      · rename_i a p1 h1
        have g1 := g.of_ok h1
        have hp := hs p a p1 h1
        have g2 := ih p1 (by omega)
        split
        · rename_i e he
          exact g2.errIn e he
        · rename_i as p2 h2
          have g3 := g2.of_ok h2
          exact ⟨by omega, by omega⟩
    · exact Good.ok_self _ rfl

theorem readWhile_good {α : Type} {cond : B → Nat → Bool} {item : R (Option α)} {d : B}
    (hc : ∀ p, cond d p = true → p < d.length)
    (hi : ∀ p, Good 0 d p (item d p))
    (hs : ∀ p a p', item d p = .ok (some a, p') → p < p') (p : Nat) :
    Good 0 d p (readWhile cond item d p) := by
  unfold readWhile
  exact readWhileFuel_good hc hi hs _ p (by omega)

theorem isReadable_lt {n : Nat} (hn : 1 ≤ n) {d : B} {p : Nat} (h : isReadable n d p = true) : p < d.length := by
  simp only [isReadable, decide_eq_true_eq] at h; omega

theorem taggedCond_lt {endPos : Option Nat} {d : B} {p : Nat} (h : taggedCond endPos d p = true) : p < d.length := by
  simp only [taggedCond, Bool.and_eq_true] at h
  exact isReadable_lt (by decide) h.1

end PsdVerif.Safe
