/-
C06 — the `Lr16` / `Lr32` recursion, and the bound for the whole typed reader.

`plOf h D` with `D` nesting levels left costs, on a block of `L` bytes,

    (ab + (13 + q) · min D (L / 12 + 1)) · L + max bb 113

(`ab`, `bb`: the registered payload classes; `q`: twelve header bytes pay for `max bb 113`): every nesting level copies
the block once more (`io.BytesIO(data)` in `frombytes`, the extra data of the layer record), so the coefficient grows by
the CONSTANT `13 + q` per level, and a level needs at least twelve bytes of its enclosing block, so at most `L / 12 + 1`
levels exist — quadratic in `L` when the recursion limit `D` is ignored, linear with it.
-/
import PsdVerif.Lemmas.OpenCost2

namespace PsdVerif.OpenCost
open PsdVerif PsdVerif.Codec PsdVerif.PsdCost PsdVerif.SafeCost

/-- the registered payload classes cost at most `ab · len + bb` (tagged blocks), `(ar + sq · len) · len + br` (resources:
`Slices` re-reads the rest of its block once per slice — the speculative descriptor read of `SliceV6.read` — and is
only quadratic: `sq`) -/
def Hooks.Bound (h : Hooks) (ab bb ar br sq : Nat) : Prop :=
  (∀ v key f data, h.blk v key = some f → (f data).2.w ≤ ab * data.length + bb) ∧
  (∀ key f data, h.res key = some f → (f data).2.w ≤ (ar + sq * data.length) * data.length + br)

theorem runOpt_w {o : Option (B → CE Unit)} {a b : Nat} (ho : ∀ f data, o = some f → (f data).2.w ≤ a * data.length + b)
    (data : B) : (runOpt o data).2.w ≤ a * data.length + b := by
  unfold runOpt
  cases o with
  | none => show (0 : Nat) ≤ _; omega
  | some f => exact ho f data rfl

theorem coef_mono {ab c m₁ m₂ L bp : Nat} (h : m₁ ≤ m₂) : (ab + c * m₁) * L + bp ≤ (ab + c * m₂) * L + bp :=
  Nat.add_le_add_right (Nat.mul_le_mul_right _ (Nat.add_le_add_left (Nat.mul_le_mul_left _ h) _)) _

theorem plOf_cost {h : Hooks} {ab bb ar br sq q : Nat} (hh : h.Ok) (hbnd : h.Bound ab bb ar br sq)
    (hq : max bb 113 ≤ 12 * q) (D : Nat) (v : Nat) (key data : B) :
    (plOf h D v key data).2.w ≤ (ab + (13 + q) * min D (data.length / 12 + 1)) * data.length + max bb 113 := by
  induction D generalizing v key data with
  | zero =>
    unfold plOf
    split
    · show (0 : Nat) ≤ _; omega
    · have := runOpt_w (fun f data hf => hbnd.1 v key f data hf) data
      have e : (ab + (13 + q) * min 0 (data.length / 12 + 1)) * data.length = ab * data.length := by
        rw [Nat.zero_min, Nat.mul_zero, Nat.add_zero]
      omega
  | succ D ih =>
    unfold plOf
    split
    · -- the nested layer info: one more copy, then the body reader with `D` levels left
      let M := min D (data.length / 12)
      have hb : HB (plOf h D) (ab + (13 + q) * M) (max bb 113) data.length := by
        intro v' key' data' hd
        refine Nat.le_trans (ih v' key' data') (coef_mono ?_)
        have : data'.length / 12 + 1 ≤ data.length / 12 := by
          have h1 : (data'.length + 12) / 12 ≤ data.length / 12 := Nat.div_le_div_right hd
          have h2 : (data'.length + 12) / 12 = data'.length / 12 + 1 := Nat.add_div_right _ (by decide)
          omega
        show min D (data'.length / 12 + 1) ≤ min D (data.length / 12)
        omega
      have hbody := (layerInfoBodyT_pays (plOf_ok hh D) v data 0 hb hq).w_le
      have e1 : min (D + 1) (data.length / 12 + 1) = M + 1 := by show _ = min D (data.length / 12) + 1; omega
      have e2 : ab + (13 + q) * (M + 1) = (12 + (ab + (13 + q) * M) + q) + 1 := by rw [Nat.mul_succ]; omega
      rw [e1, e2, Nat.add_mul, Nat.one_mul, run_w]
      omega
    · have := runOpt_w (fun f data hf => hbnd.1 v key f data hf) data
      have : ab * data.length ≤ (ab + (13 + q) * min (D + 1) (data.length / 12 + 1)) * data.length :=
        Nat.mul_le_mul_right _ (Nat.le_add_right _ _)
      omega

/-- the payload hook of the whole file: blocks sit behind a 12-byte header, so at most `n / 12` levels -/
theorem plOf_HB {h : Hooks} {ab bb ar br sq q : Nat} (hh : h.Ok) (hbnd : h.Bound ab bb ar br sq)
    (hq : max bb 113 ≤ 12 * q) (D N : Nat) : HB (plOf h D) (ab + (13 + q) * min D (N / 12)) (max bb 113) N := by
  intro v key data hd
  refine Nat.le_trans (plOf_cost hh hbnd hq D v key data) (coef_mono ?_)
  have h1 : (data.length + 12) / 12 ≤ N / 12 := Nat.div_le_div_right hd
  have h2 : (data.length + 12) / 12 = data.length / 12 + 1 := Nat.add_div_right _ (by decide)
  omega

theorem rsOf_HR {h : Hooks} {ab bb ar br sq : Nat} (hbnd : h.Bound ab bb ar br sq) (N : Nat) :
    HR (rsOf h) (ar + sq * N) br N := by
  intro key data hd
  unfold rsOf runOpt
  cases ho : h.res key with
  | none => show (0 : Nat) ≤ _; omega
  | some f =>
    have h1 := hbnd.2 key f data ho
    have : (ar + sq * data.length) * data.length ≤ (ar + sq * N) * data.length :=
      Nat.mul_le_mul_right _ (Nat.add_le_add_left (Nat.mul_le_mul_left _ hd) _)
    show (f data).2.w ≤ _
    omega

/-- ticks + bytes of `PSDImage.open` on the model, for EVERY byte string `b` and EVERY outcome, with at most `D`
nested layer-info blocks before `RecursionError`. The coefficient is `A + 1` of `psdT_spend` with `A` the larger of the layer
section's `12 + ap + q` (at `ap = ab + (13 + q) · levels`) and the resource section's `3 + (ar + sq · n) + j`, here their sum;
`224 + br` is the sum of the sections' constants (see `psdT_spend`) -/
theorem open_cost {h : Hooks} {ab bb ar br sq q j : Nat} (hh : h.Ok) (hbnd : h.Bound ab bb ar br sq)
    (hq : max bb 113 ≤ 12 * q) (hj : 15 + br ≤ j * 11) (D : Nat) (b : B) :
    (open_ h D b).2.w ≤
      (13 + ab + q + ar + j + sq * b.length + (13 + q) * min D (b.length / 12)) * b.length + (224 + br) := by
  have := psdT_spend (pl := plOf h D) (rs := rsOf h) b (plOf_ok hh D) (rsOf_ok hh) (plOf_HB hh hbnd hq D b.length) hq
    (rsOf_HR hbnd b.length) hj (Nat.le_add_right _ (ar + sq * b.length + j)) (by omega)
  have e : 12 + (ab + (13 + q) * min D (b.length / 12)) + q + (ar + sq * b.length + j) + 1 =
      13 + ab + q + ar + j + sq * b.length + (13 + q) * min D (b.length / 12) := by omega
  rw [e] at this
  exact this

/-- without the recursion limit: at most quadratic. A level needs twelve bytes, so the `13 + q` per level and byte become
`c` per byte and byte for any `c` with `13 + q ≤ 12 · c` -/
theorem open_cost_quadratic {h : Hooks} {ab bb ar br sq q j c : Nat} (hh : h.Ok) (hbnd : h.Bound ab bb ar br sq)
    (hq : max bb 113 ≤ 12 * q) (hj : 15 + br ≤ j * 11) (hc : 13 + q ≤ 12 * c) (D : Nat) (b : B) :
    (open_ h D b).2.w ≤ (c + sq) * b.length * b.length + (13 + ab + q + ar + j) * b.length + (224 + br) := by
  have h1 := open_cost hh hbnd hq hj D b
  have h2 : (13 + q) * min D (b.length / 12) ≤ c * b.length :=
    Nat.le_trans (Nat.mul_le_mul hc (Nat.min_le_right _ _))
      (by rw [Nat.mul_comm 12 c, Nat.mul_assoc]; exact Nat.mul_le_mul_left _ (Nat.mul_div_le _ _))
  have h3 : (13 + ab + q + ar + j + sq * b.length + (13 + q) * min D (b.length / 12)) * b.length ≤
      (13 + ab + q + ar + j + (c + sq) * b.length) * b.length := by
    refine Nat.mul_le_mul_right _ ?_
    have e : (c + sq) * b.length = c * b.length + sq * b.length := Nat.add_mul ..
    omega
  have e := Nat.add_mul (13 + ab + q + ar + j) ((c + sq) * b.length) b.length
  rw [e] at h3
  omega

/-- with the recursion limit: the nesting contributes a constant per level; what stays quadratic is `sq` (`Slices`) -/
theorem open_cost_limit {h : Hooks} {ab bb ar br sq q j : Nat} (hh : h.Ok) (hbnd : h.Bound ab bb ar br sq)
    (hq : max bb 113 ≤ 12 * q) (hj : 15 + br ≤ j * 11) (D : Nat) (b : B) :
    (open_ h D b).2.w ≤ (13 + ab + q + ar + j + sq * b.length + (13 + q) * D) * b.length + (224 + br) := by
  have h1 := open_cost hh hbnd hq hj D b
  have h3 : (13 + ab + q + ar + j + sq * b.length + (13 + q) * min D (b.length / 12)) * b.length ≤
      (13 + ab + q + ar + j + sq * b.length + (13 + q) * D) * b.length :=
    Nat.mul_le_mul_right _ (Nat.add_le_add_left (Nat.mul_le_mul_left _ (Nat.min_le_left _ _)) _)
  omega

end PsdVerif.OpenCost
