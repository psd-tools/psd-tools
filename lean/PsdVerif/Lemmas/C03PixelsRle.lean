/-
C03 (pixel clauses) — the shape of what `encode_rle` (C04's model) emits: a row table of `h`
big-endian items followed by the PackBits rows; what the containers store.

Composes `Model/Compression.lean` and `Lemmas/CompRle.lean`.
-/
import PsdVerif.Lemmas.CompRle
import PsdVerif.Model.Psd

namespace PsdVerif.C03Pixels
open PsdVerif PsdVerif.Rle PsdVerif.Compression

/-- the row table of `encode_rle`: one big-endian item of `k` bytes per row, holding the row's
compressed length (`write_be_array(fp, array.array(fmt, map(len, rows)))`) -/
def rowTable (k : Nat) (rows : List BList) : BList := rows.flatMap (fun r => beBytes k r.length)

/-- row `i` of a raster with rows of `rs` bytes (`fp.read(row_size)`, the `i`-th time) -/
def rawRow (rs : Nat) (d : BList) (i : Nat) : BList := (d.drop (i * rs)).take rs

/-- item `i` of a table of `k`-byte big-endian items at the head of `bs` -/
def tableEntry (k : Nat) (bs : BList) (i : Nat) : Nat := beVal ((bs.drop (i * k)).take k)

/-- the PackBits rows of a raster: row `i` is `rle_impl.encode` of raw row `i` -/
def packedRows (rs h : Nat) (d : BList) : List BList :=
  (List.range h).map (fun i => encPy (rawRow rs d i).toArray)

theorem length_rowTable (k : Nat) (rows : List BList) : (rowTable k rows).length = rows.length * k := by
  unfold rowTable
  rw [length_flatMap_const _ k]
  intro a _; exact beBytes_length k _

theorem length_encRows (rs h : Nat) (d : BList) : (encRows rs h d).length = h := by
  induction h generalizing d with
  | zero => rfl
  | succ h ih => simp [encRows, ih]

theorem length_packedRows (rs h : Nat) (d : BList) : (packedRows rs h d).length = h := by
  simp [packedRows]

theorem rawRow_zero (rs : Nat) (d : BList) : rawRow rs d 0 = d.take rs := by simp [rawRow]

theorem rawRow_succ (rs : Nat) (d : BList) (i : Nat) : rawRow rs (d.drop rs) i = rawRow rs d (i + 1) := by
  simp only [rawRow, List.drop_drop]
  congr 2
  rw [Nat.add_mul, Nat.one_mul, Nat.add_comm]

theorem splitPlanes_eq_range (ps n : Nat) (d : BList) :
    splitPlanes ps n d = (List.range n).map (rawRow ps d) := by
  induction n generalizing d with
  | zero => rfl
  | succ n ih =>
    rw [splitPlanes, ih, List.range_succ_eq_map, List.map_cons, rawRow_zero, List.map_map]
    congr 1
    apply List.map_congr_left
    intro i _
    exact rawRow_succ ps d i

theorem encRows_eq_packedRows (rs h : Nat) (d : BList) : encRows rs h d = packedRows rs h d := by
  rw [encRows_eq, splitPlanes_eq_range, List.map_map]
  rfl

theorem length_rawRow (rs h : Nat) (d : BList) (hl : d.length = rs * h) (i : Nat) (hi : i < h) :
    (rawRow rs d i).length = rs := by
  simp only [rawRow, List.length_take, List.length_drop, hl]
  have : (i + 1) * rs ≤ rs * h := by
    rw [Nat.mul_comm rs h]; exact Nat.mul_le_mul_right rs hi
  rw [Nat.add_mul, Nat.one_mul] at this
  omega

theorem rawRows_flatten (rs h : Nat) (d : BList) (hl : d.length = rs * h) :
    ((List.range h).map (rawRow rs d)).flatten = d := by
  rw [← splitPlanes_eq_range]
  exact (splitPlanes_spec rs h d hl).1

/-- what `encode_rle` returns when it returns: table item size of the version, every row fits it,
the stream is the table followed by the rows -/
theorem encodeRle_ok {d : BList} {w h depth version : Nat} {bs : BList}
    (he : encodeRle d w h depth version = .ok bs) :
    ∃ k, tableItem version = .ok k ∧ (∀ r ∈ packedRows (rowSize w depth) h d, r.length < 256 ^ k) ∧
      bs = rowTable k (packedRows (rowSize w depth) h d) ++ (packedRows (rowSize w depth) h d).flatten := by
  unfold encodeRle at he
  cases hk : tableItem version with
  | error e => rw [hk] at he; cases he
  | ok k =>
    rw [hk] at he
    simp only at he
    split at he
    · cases he
    · rename_i hany
      refine ⟨k, rfl, ?_, ?_⟩
      · intro r hr
        rw [← encRows_eq_packedRows] at hr
        have h2 : (encRows (rowSize w depth) h d).any (fun r => decide (r.length ≥ 256 ^ k)) = false := by
          simpa using hany
        have := List.any_eq_false.mp h2 r hr
        simpa using this
      · rw [← encRows_eq_packedRows]
        injection he with he
        exact he.symm

theorem encodeRle_of_fit {d : BList} {w h depth version k : Nat} (hk : tableItem version = .ok k)
    (hfit : ∀ r ∈ packedRows (rowSize w depth) h d, r.length < 256 ^ k) :
    encodeRle d w h depth version =
      .ok (rowTable k (packedRows (rowSize w depth) h d) ++ (packedRows (rowSize w depth) h d).flatten) := by
  have : (encRows (rowSize w depth) h d).any (fun r => decide (r.length ≥ 256 ^ k)) = false := by
    rw [List.any_eq_false]
    intro r hr
    rw [encRows_eq_packedRows] at hr
    have := hfit r hr
    simp; omega
  simp only [encodeRle, hk, this, rowTable]
  rw [encRows_eq_packedRows]
  rfl

theorem tableItem_version {version k : Nat} (h : tableItem version = .ok k) :
    (version = 1 → k = 2) ∧ (version = 2 → k = 4) ∧ (k = 2 ∨ k = 4) := by
  unfold tableItem at h
  split at h
  · injection h with h; omega
  · split at h
    · injection h with h; omega
    · cases h

/-- `read_be_array`: item `i` of the table as `decode_rle` reads it -/
theorem readVals_getElem? (k n : Nat) (bs : BList) (i : Nat) (hi : i < n) :
    (readVals k n bs)[i]? = some (tableEntry k bs i) := by
  induction n generalizing bs i with
  | zero => omega
  | succ n ih =>
    cases i with
    | zero => simp [readVals, tableEntry]
    | succ i =>
      simp only [readVals, List.getElem?_cons_succ]
      rw [ih (bs.drop k) i (by omega)]
      simp only [tableEntry, List.drop_drop]
      congr 4
      rw [Nat.add_mul, Nat.one_mul, Nat.add_comm]

theorem readVals_rowTable (k : Nat) (rows : List BList) (rest : BList) (hfit : ∀ r ∈ rows, r.length < 256 ^ k) :
    readVals k rows.length (rowTable k rows ++ rest) = rows.map List.length := by
  have := readVals_table k (rows.map List.length) rest
    (by intro c hc; obtain ⟨r, hr, rfl⟩ := List.mem_map.mp hc; exact hfit r hr)
  rw [List.length_map] at this
  rw [← this]
  congr 2
  simp [rowTable, List.flatMap_map]

theorem sum_lengths (rows : List BList) : (rows.map List.length).sum = rows.flatten.length := by
  rw [List.length_flatten]

/-- `bs` is an RLE stream of `n` rows with `k`-byte table items: `n` big-endian entries, entry `i` the
length of row `i`, followed by the rows; the entries sum to the size of what follows the table -/
def RowTableStream (k n : Nat) (rows : List BList) (bs : BList) : Prop :=
  rows.length = n ∧ bs = rowTable k rows ++ rows.flatten ∧ (rowTable k rows).length = n * k ∧
  (∀ r ∈ rows, r.length < 256 ^ k) ∧
  readVals k n bs = rows.map List.length ∧
  (∀ i r, rows[i]? = some r → tableEntry k bs i = r.length) ∧
  (readVals k n bs).sum = bs.length - n * k ∧ bs.length = n * k + (readVals k n bs).sum

theorem rowTableStream_intro (k : Nat) (rows : List BList) (hfit : ∀ r ∈ rows, r.length < 256 ^ k) :
    RowTableStream k rows.length rows (rowTable k rows ++ rows.flatten) := by
  have hrv := readVals_rowTable k rows rows.flatten hfit
  have hlen : (rowTable k rows ++ rows.flatten).length = rows.length * k + (rows.map List.length).sum := by
    rw [List.length_append, length_rowTable, sum_lengths]
  refine ⟨rfl, rfl, length_rowTable k rows, hfit, hrv, ?_, ?_, ?_⟩
  · intro i r hr
    have hi : i < rows.length := by
      rcases Nat.lt_or_ge i rows.length with h | h
      · exact h
      · rw [List.getElem?_eq_none h] at hr; cases hr
    have h1 := readVals_getElem? k rows.length (rowTable k rows ++ rows.flatten) i hi
    rw [hrv, List.getElem?_map, hr] at h1
    simp only [Option.map_some, Option.some.injEq] at h1
    exact h1.symm
  · rw [hrv, hlen]; omega
  · rw [hrv, hlen]

/-- `psd_tools.constants.Compression`: the number stored in front of the pixel data -/
def code : Codec → Nat
  | .raw => 0
  | .rle => 1
  | .zip => 2
  | .zipPred => 3

/-- `ChannelData.set_data(data, width, height, depth, version)` on a channel whose `compression`
attribute is `c`: the object afterwards (its `data` attribute is what `compress` returned) -/
def setChannel (z : ZCodec) (c : Codec) (d : BList) (w h depth version : Nat) : Except Err Psd.ChannelData :=
  match channelSet z d c w h depth version with
  | .ok e => .ok ⟨code c, e⟩
  | .error e => .error e

/-- `ImageData.set_data(planes, header)` on a section whose `compression` attribute is `c` -/
def setImage (z : ZCodec) (c : Codec) (planes : List BList) (w h channels depth version : Nat) :
    Except Err Psd.ImageData :=
  match imageSet z planes c w h channels depth version with
  | .ok e => .ok ⟨code c, e⟩
  | .error e => .error e

end PsdVerif.C03Pixels
