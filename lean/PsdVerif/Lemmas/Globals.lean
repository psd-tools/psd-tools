/-
The descriptor key codec of `Model/Globals.lean` (`read_length_and_key` / `write_length_and_key`, modelled there
because it was the one place where the library consulted process-wide state: C20): its own big-endian length word,
the reader on a written key, and `Key.WF`, the keys the library can hold. `C20.readKey_writeKey` is stated with
these; `Lemmas/Descriptor1.lean` imports this file because the descriptor codec reads and writes its keys through
the same model functions.
-/
import PsdVerif.Model.Globals
import PsdVerif.Lemmas.Bytes

namespace PsdVerif.Globals

theorem readU32_u32be (pre post : List UInt8) (n : Nat) (hn : n < 4294967296) :
    readU32 (pre ++ u32be n ++ post) pre.length = .ok (n, pre.length + 4) := by
  unfold readU32 u32be
  rw [List.append_assoc, List.drop_left]
  simp only [List.cons_append, List.length_append, List.length_cons, toNat_ofNat, Nat.mod_mod]
  rw [if_pos (by omega)]
  congr 2
  -- the model sums the weighted bytes; in Horner form they are the digits of `n`
  have horner : ∀ a b c e : Nat,
      a * 16777216 + b * 65536 + c * 256 + e = ((a * 256 + b) * 256 + c) * 256 + e := by omega
  rw [horner, Nat.mod_eq_of_lt (show n / 16777216 < 256 by omega), digit 256 n 65536,
    digit 256 n 256, Nat.div_add_mod']

def Key.WF (terms : List UInt8 → Bool) (k : Key) : Prop :=
  (k.implicit = true → k.bytes.length = 4 ∧ terms k.bytes = false) ∧
  (terms k.bytes = true → k.bytes.length = 4) ∧
  (k.implicit = false → terms k.bytes = false → k.bytes.length ≠ 0)

theorem length_u32be (n : Nat) : (u32be n).length = 4 := rfl

theorem readKey_frame (terms : List UInt8 → Bool) (kb pre post : List UInt8) (n : Nat)
    (hn : n < 4294967296) (hlen : kb.length = if n = 0 then 4 else n) :
    readKey terms (pre ++ (u32be n ++ kb) ++ post) pre.length =
      .ok ({ bytes := kb, implicit := decide (n = 0) && !terms kb }, pre.length + (u32be n ++ kb).length) := by
  unfold readKey
  have e1 : pre ++ (u32be n ++ kb) ++ post = pre ++ u32be n ++ (kb ++ post) := by simp
  rw [e1, readU32_u32be _ _ _ hn]
  simp only
  have hdrop : List.drop (pre.length + 4) (pre ++ u32be n ++ (kb ++ post)) = kb ++ post := by
    have : pre.length + 4 = (pre ++ u32be n).length := by simp [length_u32be]
    rw [this, List.drop_left]
  rw [hdrop, ← hlen, List.take_left]
  by_cases h0 : n = 0 <;> cases ht : terms kb <;> simp [h0, length_u32be] <;> omega


end PsdVerif.Globals
