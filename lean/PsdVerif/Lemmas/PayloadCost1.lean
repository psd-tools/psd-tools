/-
C06 — cost of the counting payload readers: the judgement `Cost` and its rules.

`Cost a b k d p x` for a counting run `x : CE (β × Nat)` started at cursor `p ≤ d.length` of the stream `d`:

  success at `p'`:  `p + k ≤ p'`, `p' ≤ d.length`  and  ticks + bytes ≤ `a · (p' − p) + b`
  failure `e`:      `e ≠ Err.other` (no loop ran out of fuel)  and  ticks + bytes ≤ `a · (d.length − p) + b`

so a reader is paid by the bytes it CONSUMED when it succeeds and by the bytes that were LEFT when it fails — never by a
count or a length it found in the data. Rules: `Cost.bind_le` (sequencing in general) and its instances `Cost.bind`
(`max` of the coefficients, sum of the constants and of the progress) and `Cost.bind_credit`; `Cost.step` (a step on no
stream or on another stream: tick, nested run); `Cost.ite`; the primitives. The loops (`readCountC_cost`,
`readCountC_cost_fixed`, `readWhileC_cost`) and `CC.Sound` are in Lemmas/PayloadCost2.lean.

The judgements of the cost side, and how they are related.

Two worlds. The SKELETON (Lemmas/SafeCost2-4, OpenCost1-3) counts in a potential `pot a d p = a · (bytes left)`, because
its readers seek and may leave the cursor behind the end of the data. The PAYLOAD classes (this file and PayloadCost*,
DescriptorCost) run on a block that was read, never seek, and count the bytes between two cursors. They meet in one
place: a payload is run by a hook on a copy of its block, the hook's whole cost is bounded by `Cost.w_le`
(`OpenDispatch.runD_bound` → `Hooks.Bound`, OpenCost3 → `HB` / `HR`, OpenCost2), and that number enters the skeleton's
accounting as a step on another stream (`PaysCr.bind_nested`). Nothing else of a payload's judgement is used there, so
there is no lemma from `Cost` to `Pays` (it holds: `Cost a b k → Pays a b`; the converse does not: `Pays` has neither
`p' ≤ d.length` nor `e ≠ Err.other`).

Paid by what was consumed (success `w + credit ≤ a · consumed + b₀`, failure `w ≤ a · left + b₁`):

  `PaysCr a b cr`, `Pays` (SafeCost2)     potential form, `b₀ = b₁ = b`, the credit `cr v` depends on the value returned
  `IterPays`, `WhileItem` (SafeCost3)     `PaysCr` for one loop iteration (`IterPays.withTick`, `WhileItem.paysCr`)
  `Cost a b k`, `CostR` (here)            no credit, `b₀ = b₁ = b`, progress `k`, inside the stream, never out of fuel
  `Slack s a b k` (PayloadCost2)          `Cost` with a constant credit `s` and `b₀ = 0`: for readers that recurse through
                                          a count-driven loop; `DescriptorCost.ValInv` is `Cost 4 10 0`, `LoopInv` is
                                          `Slack 0 4 16 0` written out
  `CostE` (PayloadCostAdjust)             `Cost` in the monad whose failures carry the cursor they happened at
  `CC.Sound` (PayloadCost2)               erasure and `CostR` with the constants computed from a class's shape

Bounded by what is left, whatever the outcome (`w ≤ n`, never out of fuel, something about the result):

  `Spend a b` (SafeCost2)                 the bound alone, `n = pot + b`: for the one reader that seeks backwards
  `Inner a b data q Q` (PayloadCostEffects)  a run on a nested block, `n = a · left + b`, result satisfies `Q`
  `Left n k` (PayloadCostDesc)            result is a cursor `≥ p + k` inside the stream; `Weak` is `n = a · left + b`,
                                          `Quad` is `n = (left + 1) · (a · left + b)`: the `Slices` classes, whose
                                          speculative read is paid by nothing it consumed
  `EngineDataCost.Bd A n`                 the same idea on a token stream: `w + A · (bytes not yet tokenised) ≤ n`
  `RB` / `RQ` (OpenDispatch), `HB` / `HR` (OpenCost2), `Hooks.Bound` (OpenCost3)
                                          `w ≤ a · len + b` of a whole hook run: the boundary described above

"Never out of fuel" is `e ≠ Err.other` in `Cost`, `HookOk` for a hook run (OpenCost1), and the second half of `RB`.
-/
import PsdVerif.Model.PayloadCost
import PsdVerif.Lemmas.SafeCost3
import PsdVerif.Lemmas.Payload3Curves
import PsdVerif.Lemmas.Descriptor4

namespace PsdVerif.PayloadCost
open PsdVerif PsdVerif.Codec PsdVerif.PsdCost PsdVerif.Payload PsdVerif.Payload3 PsdVerif.Safe PsdVerif.SafeCost

def Cost {β : Type} (a b k : Nat) (d : B) (p : Nat) (x : CE (β × Nat)) : Prop :=
  match x.1 with
  | .ok (_, p') => p + k ≤ p' ∧ p' ≤ d.length ∧ x.2.w ≤ a * (p' - p) + b
  | .error e => e ≠ .other ∧ x.2.w ≤ a * (d.length - p) + b

/-- for every stream and every cursor inside it -/
def CostR {β : Type} (a b k : Nat) (x : RC β) : Prop := ∀ d p, p ≤ d.length → Cost a b k d p (x d p)

theorem Cost.of_ok {β : Type} {a b k : Nat} {d : B} {p : Nat} {x : CE (β × Nat)} {v : β} {p' : Nat}
    (h : Cost a b k d p x) (hx : x.1 = .ok (v, p')) : p + k ≤ p' ∧ p' ≤ d.length ∧ x.2.w ≤ a * (p' - p) + b := by
  unfold Cost at h; rw [hx] at h; exact h

theorem Cost.of_error {β : Type} {a b k : Nat} {d : B} {p : Nat} {x : CE (β × Nat)} {e : Err}
    (h : Cost a b k d p x) (hx : x.1 = .error e) : e ≠ .other ∧ x.2.w ≤ a * (d.length - p) + b := by
  unfold Cost at h; rw [hx] at h; exact h

theorem Cost.intro {β : Type} {a b k : Nat} {d : B} {p : Nat} {x : CE (β × Nat)}
    (hok : ∀ v p', x.1 = .ok (v, p') → p + k ≤ p' ∧ p' ≤ d.length ∧ x.2.w ≤ a * (p' - p) + b)
    (herr : ∀ e, x.1 = .error e → e ≠ .other ∧ x.2.w ≤ a * (d.length - p) + b) : Cost a b k d p x := by
  unfold Cost
  cases hx : x.1 with
  | error e => exact herr e hx
  | ok y => obtain ⟨v, p'⟩ := y; exact hok v p' hx

/-- whatever the outcome: at most `a · (bytes left) + b` -/
theorem Cost.w_le {β : Type} {a b k : Nat} {d : B} {p : Nat} {x : CE (β × Nat)} (h : Cost a b k d p x) :
    x.2.w ≤ a * (d.length - p) + b := by
  cases hx : x.1 with
  | error e => exact (h.of_error hx).2
  | ok y =>
    obtain ⟨v, p'⟩ := y
    have h1 := h.of_ok hx
    have : a * (p' - p) ≤ a * (d.length - p) := Nat.mul_le_mul_left a (by omega)
    omega

theorem Cost.ne_other {β : Type} {a b k : Nat} {d : B} {p : Nat} {x : CE (β × Nat)} (h : Cost a b k d p x) :
    x.1 ≠ .error .other := fun hx => (h.of_error hx).1 rfl

theorem Cost.mono {β : Type} {a a' b b' k k' : Nat} {d : B} {p : Nat} {x : CE (β × Nat)}
    (h : Cost a' b' k' d p x) (ha : a' ≤ a) (hb : b' ≤ b) (hk : k ≤ k') : Cost a b k d p x := by
  refine Cost.intro (fun v p' hx => ?_) (fun e hx => ?_)
  · have h1 := h.of_ok hx
    have : a' * (p' - p) ≤ a * (p' - p) := Nat.mul_le_mul_right _ ha
    exact ⟨by omega, h1.2.1, by omega⟩
  · have h1 := h.of_error hx
    have : a' * (d.length - p) ≤ a * (d.length - p) := Nat.mul_le_mul_right _ ha
    exact ⟨h1.1, by omega⟩

theorem Cost.ok {β : Type} {d : B} {q : Nat} (v : β) (hq : q ≤ d.length) :
    Cost 0 0 0 d q (CE.ok (v, q) : CE (β × Nat)) := by
  refine Cost.intro (fun v' p' hx => ?_) (fun e hx => by cases hx)
  cases hx
  have : (CE.ok (v, q) : CE (β × Nat)).2.w = 0 := rfl
  exact ⟨by omega, hq, by omega⟩

/-- success somewhere ahead in the stream (a reader that ends with the cursor of an earlier step) -/
theorem Cost.ok_at {β : Type} {d : B} {p q k : Nat} (v : β) (hq : q ≤ d.length) (hk : p + k ≤ q) :
    Cost 0 0 k d p (CE.ok (v, q) : CE (β × Nat)) := by
  refine Cost.intro (fun v' p' hx => ?_) (fun e hx => by cases hx)
  cases hx
  have : (CE.ok (v, q) : CE (β × Nat)).2.w = 0 := rfl
  exact ⟨hk, hq, by omega⟩

theorem Cost.error {β : Type} {d : B} {p : Nat} (k : Nat) {e : Err} (he : e ≠ .other) :
    Cost 0 0 k d p (CE.error e : CE (β × Nat)) := by
  refine Cost.intro (fun v' p' hx => by cases hx) (fun e' hx => ?_)
  cases hx
  have : (CE.error e : CE (β × Nat)).2.w = 0 := rfl
  exact ⟨he, by omega⟩

theorem Cost.ite {β : Type} {a₁ a₂ b₁ b₂ k₁ k₂ : Nat} {d : B} {p : Nat} {c : Prop} [Decidable c]
    {x y : CE (β × Nat)} (hx : c → Cost a₁ b₁ k₁ d p x) (hy : ¬ c → Cost a₂ b₂ k₂ d p y) :
    Cost (max a₁ a₂) (max b₁ b₂) (min k₁ k₂) d p (if c then x else y) := by
  split
  · exact (hx ‹_›).mono (Nat.le_max_left ..) (Nat.le_max_left ..) (Nat.min_le_left ..)
  · exact (hy ‹_›).mono (Nat.le_max_right ..) (Nat.le_max_right ..) (Nat.min_le_right ..)

/-- `if c then x else raise e` -/
theorem Cost.ite_else_error {β : Type} {a b k : Nat} {d : B} {p : Nat} {c : Prop} [Decidable c]
    {x : CE (β × Nat)} {e : Err} (hx : c → Cost a b k d p x) (he : e ≠ .other) :
    Cost a b k d p (if c then x else CE.error e) := by
  split
  · exact hx ‹_›
  · exact (Cost.error k he).mono (Nat.zero_le _) (Nat.zero_le _) (Nat.le_refl _)

/-- `if c then raise e else y` -/
theorem Cost.ite_then_error {β : Type} {a b k : Nat} {d : B} {p : Nat} {c : Prop} [Decidable c]
    {y : CE (β × Nat)} {e : Err} (he : e ≠ .other) (hy : ¬ c → Cost a b k d p y) :
    Cost a b k d p (if c then CE.error e else y) := by
  split
  · exact (Cost.error k he).mono (Nat.zero_le _) (Nat.zero_le _) (Nat.le_refl _)
  · exact hy ‹_›

/-! ### sequencing

Every sequencing rule below is an instance of `Cost.bind_le`; the arithmetic is in two lemmas about numbers. -/

theorem adv_add {p p₁ p' k k₁ k₂ : Nat} (h₁ : p + k₁ ≤ p₁) (h₂ : p₁ + k₂ ≤ p') (hk : k ≤ k₁ + k₂) : p + k ≤ p' := by
  omega

/-- the first step cost `w₁` over `x` bytes, the second `w₂` over `y` bytes at a rate `a₂ ≤ A` plus `B₂`, and what the
first step was allowed together with `B₂` lies below the line `A · x + b` -/
theorem pay_seq {A a₁ a₂ x y z w₁ w₂ b₁ B₂ b : Nat} (h₁ : w₁ ≤ a₁ * x + b₁) (ht : a₁ * x + (b₁ + B₂) ≤ A * x + b)
    (h₂ : w₂ ≤ a₂ * y + B₂) (ha₂ : a₂ ≤ A) (hz : y + x = z) : w₁ + w₂ ≤ A * z + b := by
  subst hz
  have e₂ := Nat.mul_le_mul_right y ha₂
  rw [Nat.mul_add]
  omega

/-- sequencing in general. The constant `b₂` of the continuation may depend on what the first step returned; `hpay`
says why the first step and that constant are paid by `A` per byte the first step consumed (`p₁ − p ≥ k₁`) and `b` -/
theorem Cost.bind_le {α β : Type} {a₁ b₁ k₁ a₂ k₂ A b k : Nat} {b₂ : β → Nat → Nat} {d : B} {p : Nat}
    {m : CE (β × Nat)} {f : β × Nat → CE (α × Nat)} (hm : Cost a₁ b₁ k₁ d p m)
    (hf : ∀ v p₁, m.1 = .ok (v, p₁) → p₁ ≤ d.length → Cost a₂ (b₂ v p₁) k₂ d p₁ (f (v, p₁)))
    (hpay : ∀ v p₁, m.1 = .ok (v, p₁) → p + k₁ ≤ p₁ → p₁ ≤ d.length →
      a₁ * (p₁ - p) + (b₁ + b₂ v p₁) ≤ A * (p₁ - p) + b)
    (ha₁ : a₁ ≤ A) (hb₁ : b₁ ≤ b) (ha₂ : a₂ ≤ A) (hk : k ≤ k₁ + k₂) : Cost A b k d p (m >>= f) := by
  cases hm1 : m.1 with
  | error e =>
    rw [bind_err' hm1]
    refine Cost.intro (fun _ _ hx => by cases hx) (fun e' hx => ?_)
    cases hx
    exact (hm.mono ha₁ hb₁ (Nat.le_refl _)).of_error hm1
  | ok y =>
    obtain ⟨v, p₁⟩ := y
    have h1 := hm.of_ok hm1
    have h2' := hf v p₁ hm1 h1.2.1
    have hp := hpay v p₁ hm1 h1.1 h1.2.1
    have hpp := Nat.le_of_add_right_le h1.1
    rw [bind_ok' hm1]
    refine Cost.intro (fun v' p' hx => ?_) (fun e' hx => ?_)
    · have h2 := h2'.of_ok hx
      refine ⟨adv_add h1.1 h2.1 hk, h2.2.1, ?_⟩
      show (m.2 + (f (v, p₁)).2).w ≤ _
      rw [w_add]
      exact pay_seq h1.2.2 hp h2.2.2 ha₂ (Nat.sub_add_sub_cancel (Nat.le_of_add_right_le h2.1) hpp)
    · have h2 := h2'.of_error hx
      refine ⟨h2.1, ?_⟩
      show (m.2 + (f (v, p₁)).2).w ≤ _
      rw [w_add]
      exact pay_seq h1.2.2 hp h2.2 ha₂ (Nat.sub_add_sub_cancel h1.2.1 hpp)

/-- sequencing on the same stream: `max` of the rates, sum of the constants and of the progress -/
theorem Cost.bind {α β : Type} {a₁ a₂ b₁ b₂ k₁ k₂ : Nat} {d : B} {p : Nat} {m : CE (β × Nat)}
    {f : β × Nat → CE (α × Nat)} (hm : Cost a₁ b₁ k₁ d p m)
    (hf : ∀ v p₁, m.1 = .ok (v, p₁) → p₁ ≤ d.length → Cost a₂ b₂ k₂ d p₁ (f (v, p₁))) :
    Cost (max a₁ a₂) (b₁ + b₂) (k₁ + k₂) d p (m >>= f) :=
  Cost.bind_le (b₂ := fun _ _ => b₂) hm hf
    (fun _ _ _ _ _ => Nat.add_le_add_right (Nat.mul_le_mul_right _ (Nat.le_max_left ..)) _)
    (Nat.le_max_left ..) (Nat.le_add_right ..) (Nat.le_max_right ..) (Nat.le_refl _)

/-- sequencing where the continuation may spend `c` more per byte the first step consumed (a block that was read is
copied into a nested stream and parsed there) -/
theorem Cost.bind_credit {α β : Type} {a₁ a₂ b₁ b₂ k₁ k₂ c : Nat} {d : B} {p : Nat} {m : CE (β × Nat)}
    {f : β × Nat → CE (α × Nat)} (hm : Cost a₁ b₁ k₁ d p m)
    (hf : ∀ v p₁, m.1 = .ok (v, p₁) → p₁ ≤ d.length → Cost a₂ (b₂ + c * (p₁ - p)) k₂ d p₁ (f (v, p₁))) :
    Cost (max (a₁ + c) a₂) (b₁ + b₂) (k₁ + k₂) d p (m >>= f) := by
  refine Cost.bind_le (b₂ := fun _ p₁ => b₂ + c * (p₁ - p)) hm hf (fun _ p₁ _ _ _ => ?_)
    (Nat.le_trans (Nat.le_add_right ..) (Nat.le_max_left ..)) (Nat.le_add_right ..) (Nat.le_max_right ..) (Nat.le_refl _)
  have := Nat.mul_le_mul_right (p₁ - p) (Nat.le_max_left (a₁ + c) a₂)
  rw [Nat.add_mul] at this
  omega

/-- a step that is not a read on this stream (a tick, a nested run, a validator): it costs at most `n` -/
theorem Cost.step {α γ : Type} {a b k n : Nat} {d : B} {p : Nat} {m : CE γ} {f : γ → CE (α × Nat)}
    (hm : m.2.w ≤ n) (hne : m.1 ≠ .error .other) (hf : ∀ y, m.1 = .ok y → Cost a b k d p (f y)) :
    Cost a (n + b) k d p (m >>= f) := by
  cases hm1 : m.1 with
  | error e =>
    rw [bind_err' hm1]
    refine Cost.intro (fun _ _ hx => by cases hx) (fun e' hx => ?_)
    cases hx
    refine ⟨fun h => hne (by rw [hm1, h]), ?_⟩
    show m.2.w ≤ _
    omega
  | ok y =>
    have h2' := hf y hm1
    rw [bind_ok' hm1]
    refine Cost.intro (fun v' p' hx => ?_) (fun e' hx => ?_)
    · have h2 := h2'.of_ok hx
      refine ⟨h2.1, h2.2.1, ?_⟩
      show (m.2 + (f y).2).w ≤ _
      rw [w_add]
      omega
    · have h2 := h2'.of_error hx
      refine ⟨h2.1, ?_⟩
      show (m.2 + (f y).2).w ≤ _
      rw [w_add]
      omega

theorem Cost.tick {α : Type} {a b k : Nat} {d : B} {p : Nat} {x : CE (α × Nat)}
    (hf : Cost a b k d p x) : Cost a (b + 1) k d p (PsdCost.tick >>= fun _ => x) :=
  (Cost.step (Nat.le_of_eq tick_w) (by intro h; cases h) (fun _ _ => hf)).mono (Nat.le_refl _)
    (Nat.le_of_eq (Nat.add_comm ..)) (Nat.le_refl _)

/-- the value is post-processed: `let (v, p') ← m; ok (g v, p')` -/
theorem Cost.map {α β : Type} {a b k : Nat} {d : B} {p : Nat} {m : CE (β × Nat)} {g : β → α}
    (hm : Cost a b k d p m) : Cost a b k d p (m >>= fun x => CE.ok (g x.1, x.2)) := by
  have h := Cost.bind hm (f := fun x => CE.ok (g x.1, x.2)) (fun v p₁ _ hp => Cost.ok (g v) hp)
  exact h.mono (by omega) (by omega) (by omega)

/-- `cstep R h`: the next statement of a `do` block costs `h`, by the sequencing rule `R` of the judgement at hand
(`Cost.bind`, `CostE.bind`, `Inner.bind`, `Weak.bind`, `Quad.bind`, `Cost.rbind`); the continuation gets the new cursor and the
fact that it lies inside the stream -/
macro "cstep " r:ident t:term : tactic => `(tactic| (apply $r $t; intro _ _ _ _))
/-- `cbind h` is `cstep Cost.bind h` -/
macro "cbind " t:term : tactic => `(tactic| cstep Cost.bind $t)
/-- the last statement: `ok` at the current cursor, or a `raise` -/
macro "cdone" : tactic => `(tactic| first | exact Cost.ok _ (by assumption) | exact Cost.error _ (by decide))
/-- `if c then … else raise e` -/
macro "celse" : tactic => `(tactic| (apply Cost.ite_else_error (he := by decide); intro _))
/-- `if c then raise e else …` -/
macro "cthen" : tactic => `(tactic| (apply Cost.ite_then_error (by decide); intro _))
/-- a general `if`: both branches are runs -/
macro "cite" : tactic => `(tactic| (apply Cost.ite; all_goals try intro _))
/-- close the side goals `a' ≤ a`, `b' ≤ b`, `k ≤ k'` of `Cost.mono` -/
macro "cside" : tactic => `(tactic| all_goals first | decide | omega | (simp only [Nat.max_def]; split <;> omega))

/-! ### erasure -/

theorem liftE_fst {α : Type} (r : Except Err α) : (liftE r).1 = r := rfl
theorem liftE_w {α : Type} (r : Except Err α) : (liftE r).2.w = 0 := rfl

/-! ### primitives -/

theorem prim_cost {β : Type} {r : Except Err (β × Nat)} {bytes k : Nat} {d : B} {p : Nat}
    (hok : ∀ v p', r = .ok (v, p') → p' = p + bytes ∧ p' ≤ d.length ∧ k ≤ bytes)
    (herr : ∀ e, r = .error e → e ≠ .other ∧ bytes ≤ d.length - p) : Cost 1 1 k d p (prim r bytes) := by
  refine Cost.intro (fun v p' hx => ?_) (fun e hx => ?_)
  · have := hok v p' hx
    have hw : (prim r bytes).2.w = 1 + bytes := rfl
    rw [hw]
    exact ⟨by omega, by omega, by omega⟩
  · have := herr e hx
    have hw : (prim r bytes).2.w = 1 + bytes := rfl
    rw [hw]
    exact ⟨this.1, by omega⟩

theorem readN_err {n : Nat} {d : B} {p : Nat} {e : Err} (h : readN n d p = .error e) : e = .ioError := by
  unfold readN at h
  split at h
  · cases h
  · cases h; rfl

theorem readN_err_len {n : Nat} {d : B} {p : Nat} {e : Err} (h : readN n d p = .error e) : d.length < p + n := by
  unfold readN at h
  split at h
  · cases h
  · omega

theorem readU_err_len {w : Nat} {d : B} {p : Nat} {e : Err} (h : readU w d p = .error e) : d.length < p + w := by
  unfold readU at h
  split at h
  · cases h
  · rename_i e' h'; exact readN_err_len h'

theorem readSkip_err_len {n : Nat} {d : B} {p : Nat} {e : Err} (h : readSkip n d p = .error e) : d.length < p + n := by
  unfold readSkip at h
  split at h
  · cases h
  · rename_i e' h'; exact readN_err_len h'

/-- a failed read of a fixed size has cost at most what was left -/
theorem fail_w_le {β : Type} {a b k : Nat} {d : B} {p : Nat} {x : CE (β × Nat)} {e : Err} (n : Nat)
    (h : Cost a b k d p x) (hx : x.1 = .error e) (hs : d.length - p ≤ n) : x.2.w ≤ a * n + b := by
  have := (h.of_error hx).2
  have : a * (d.length - p) ≤ a * n := Nat.mul_le_mul_left a hs
  omega

theorem readNC_cost (n : Nat) {d : B} {p : Nat} : Cost 1 1 n d p (readNC n d p) := by
  unfold readNC
  refine prim_cost (fun v p' h => ?_) (fun e h => ?_)
  · have := readN_ok h
    exact ⟨by omega, by omega, by omega⟩
  · have := readN_err h
    subst this
    exact ⟨by decide, by omega⟩

theorem readUpToC_cost (n : Nat) {d : B} {p : Nat} (hp : p ≤ d.length := by assumption) : Cost 1 1 0 d p (readUpToC n d p) := by
  unfold readUpToC
  refine prim_cost (fun v p' h => ?_) (fun e h => ?_)
  · have := readUpTo_ok h
    exact ⟨by omega, by omega, by omega⟩
  · exact absurd h (readUpTo_ne_error n d p e)

/-- `fp.read(n)` that returned `n` bytes -/
theorem readUpToC_ok {n : Nat} {d : B} {p : Nat} {x : B} {p' : Nat} (h : (readUpToC n d p).1 = .ok (x, p')) :
    p' = p + x.length ∧ x.length ≤ d.length - p ∧ x.length ≤ n := by
  have := readUpTo_ok (h : readUpTo n d p = .ok (x, p'))
  omega

theorem readAllC_cost {d : B} {p : Nat} (hp : p ≤ d.length := by assumption) : Cost 1 1 0 d p (readAllC d p) := by
  unfold readAllC
  refine prim_cost (fun v p' h => ?_) (fun e h => ?_)
  · have := readAll_ok h
    exact ⟨by omega, by omega, by omega⟩
  · unfold readAll at h; cases h

theorem readPyC_cost (n : Int) {d : B} {p : Nat} (hp : p ≤ d.length := by assumption) : Cost 1 1 0 d p (readPyC n d p) := by
  unfold readPyC
  split
  · exact readAllC_cost
  · split
    · exact (Cost.error 0 (by decide)).mono (by decide) (by decide) (Nat.le_refl _)
    · exact readUpToC_cost _

theorem readSizedC_cost (n : Nat) {d : B} {p : Nat} (hp : p ≤ d.length := by assumption) : Cost 1 1 0 d p (readSizedC n d p) :=
  readPyC_cost _

theorem readUC_cost (w : Nat) {d : B} {p : Nat} : Cost 1 1 w d p (readUC w d p) := by
  unfold readUC
  exact Cost.map (g := beVal) (readNC_cost w)

/-- whatever the outcome: one tick and at most `w` bytes -/
theorem readUC_w_le (w : Nat) (d : B) (p : Nat) : (readUC w d p).2.w ≤ 1 + w := by
  unfold readUC
  rw [bind_snd]
  have hm : (readNC w d p).2.w = 1 + min w (d.length - p) := rfl
  cases (readNC w d p).1 with
  | error e => dsimp only; omega
  | ok y =>
    obtain ⟨bs, p'⟩ := y
    dsimp only
    rw [w_add, ok_w]
    omega

theorem readI16C_cost {d : B} {p : Nat} : Cost 1 1 2 d p (readI16C d p) := by
  unfold readI16C
  exact Cost.map (g := natToI16) (readUC_cost 2)

theorem readI32C_cost {d : B} {p : Nat} : Cost 1 1 4 d p (readI32C d p) := by
  unfold readI32C
  exact Cost.map (g := natToI32) (readUC_cost 4)

theorem readF64C_cost {d : B} {p : Nat} : Cost 1 1 8 d p (readF64C d p) := by
  unfold readF64C
  exact Cost.map (g := UInt64.ofNat) (readUC_cost 8)

theorem readBoolC_cost {d : B} {p : Nat} : Cost 1 1 1 d p (readBoolC d p) := by
  unfold readBoolC
  exact Cost.map (g := fun n => n != 0) (readUC_cost 1)

theorem readSC_cost (w : Nat) {d : B} {p : Nat} : Cost 1 1 w d p (readSC w d p) := by
  unfold readSC
  exact Cost.map (g := natToS w) (readUC_cost w)

theorem readSkipC_cost (n : Nat) {d : B} {p : Nat} : Cost 1 1 n d p (readSkipC n d p) := by
  unfold readSkipC
  exact Cost.map (g := fun _ => ()) (readNC_cost n)

theorem readPaddingC_cost (size divisor : Nat) {d : B} {p : Nat} (hp : p ≤ d.length := by assumption) :
    Cost 1 1 0 d p (readPaddingC size divisor d p) := by
  unfold readPaddingC
  exact Cost.map (g := fun _ => ()) (readUpToC_cost _)

theorem max11 : max 1 1 = 1 := rfl

/-- `read_length_block`: four reads at most, the block and its frame -/
theorem readLenBlockC_cost (skip w pad : Nat) {d : B} {p : Nat} (hp : p ≤ d.length := by assumption) :
    Cost 1 4 (skip + w) d p (readLenBlockC skip w pad d p) := by
  apply Cost.mono
  case h =>
    unfold readLenBlockC
    cbind (readNC_cost skip)
    cbind (readUC_cost w)
    cthen
    cbind (readUpToC_cost _)
    cthen
    cbind (readPaddingC_cost _ pad)
    cdone
  cside

theorem readPascalC_cost (pad : Nat) {d : B} {p : Nat} (hp : p ≤ d.length := by assumption) : Cost 1 3 1 d p (readPascalC pad d p) := by
  apply Cost.mono
  case h =>
    unfold readPascalC
    cbind (readUC_cost 1)
    cbind (readUpToC_cost _)
    cthen
    cbind (readPaddingC_cost _ pad)
    cdone
  cside

/-! ### `read_fmt` as one read -/

theorem fmtDecC_fst (fs : List FI) (d : B) (p : Nat) : (fmtDecC fs d p).1 = fmtDec fs d p := rfl

theorem readU_err {w : Nat} {d : B} {p : Nat} {e : Err} (h : readU w d p = .error e) : e = .ioError := by
  unfold readU at h
  split at h
  · cases h
  · rename_i e' h'
    cases h
    exact readN_err h'

/-- `read_fmt` succeeds when the bytes the format needs are there -/
theorem fmt_long : ∀ (fs : List FI) {d : B} {p : Nat}, p + fmtSize fs ≤ d.length → ∃ vs, fmtDec fs d p = .ok (vs, p + fmtSize fs)
  | [], d, p, _ => ⟨[], by simp only [fmtDec, fmtSize, Nat.add_zero]⟩
  | .pad n :: fs, d, p, h => by
    simp only [fmtSize] at h
    obtain ⟨b, hb⟩ := readN_long (by omega : p + n ≤ d.length)
    obtain ⟨vs, hv⟩ := fmt_long fs (by omega : p + n + fmtSize fs ≤ d.length)
    exact ⟨vs, by simp only [fmtDec, readSkip, hb, hv, fmtSize, Nat.add_assoc]⟩
  | .fld t :: fs, d, p, h => by
    simp only [fmtSize] at h
    obtain ⟨v, hv⟩ := FT.dec_long (by omega : p + t.size ≤ d.length)
    obtain ⟨vs, hvs⟩ := fmt_long fs (by omega : p + t.size + fmtSize fs ≤ d.length)
    exact ⟨v :: vs, by simp only [fmtDec, hv, hvs, fmtSize, Nat.add_assoc]⟩

theorem fmtDec_ok {fs : List FI} {d : B} {p : Nat} {v : Row} {p' : Nat} (h : fmtDec fs d p = .ok (v, p')) (hp : p ≤ d.length) :
    p' = p + fmtSize fs ∧ p' ≤ d.length := by
  by_cases hl : p + fmtSize fs ≤ d.length
  · obtain ⟨vs, hv⟩ := fmt_long fs hl
    rw [hv] at h
    cases h
    exact ⟨rfl, hl⟩
  · rw [fmt_short fs hp (by omega)] at h
    cases h

theorem fmtDec_err {fs : List FI} {d : B} {p : Nat} {e : Err} (h : fmtDec fs d p = .error e) (hp : p ≤ d.length) :
    e = .ioError := by
  by_cases hl : p + fmtSize fs ≤ d.length
  · obtain ⟨vs, hv⟩ := fmt_long fs hl
    rw [hv] at h
    cases h
  · rw [fmt_short fs hp (by omega)] at h
    cases h
    rfl
theorem fmtDecC_cost (fs : List FI) {d : B} {p : Nat} (hp : p ≤ d.length := by assumption) : Cost 1 1 (fmtSize fs) d p (fmtDecC fs d p) := by
  unfold fmtDecC
  refine prim_cost (fun v p' h => ?_) (fun e h => ?_)
  · have := fmtDec_ok h hp
    have : min (fmtSize fs) (d.length - p) = fmtSize fs := by omega
    omega
  · have := fmtDec_err h hp
    subst this
    exact ⟨by decide, by omega⟩

/-! ### strings and keys -/

theorem readUStrC_fst (pad : Nat) (d : B) (p : Nat) : (readUStrC pad d p).1 = readUStr pad d p := by
  unfold readUStrC
  split <;> rfl

theorem readU32_err {d : B} {p : Nat} {e : Err} (h : Unicode.readU32 d p = .error e) : e = .ioError := by
  unfold Unicode.readU32 at h
  split at h
  · cases h
  · cases h; rfl

theorem slice_len (d : B) (p n : Nat) : (Unicode.slice d p n).length = min n (d.length - p) := by
  unfold Unicode.slice
  simp only [List.length_take, List.length_drop]

/-- once its length field is read, `read_unicode_string` ends behind the string and its padding, or does not decode -/
theorem readUStr_cases {pad : Nat} (hpad : pad ≠ 0) {d : B} {p n p1 : Nat} (h : Unicode.readU32 d p = .ok (n, p1)) :
    readUStr pad d p = .error .unicodeError ∨ ∃ s, readUStr pad d p = .ok (s, p1 + (Unicode.slice d p1 (2 * n)).length +
      (Unicode.slice d (p1 + (Unicode.slice d p1 (2 * n)).length) (Unicode.padLen (4 + 2 * n) pad)).length) := by
  unfold readUStr Unicode.readUnicodeString
  rw [h]
  dsimp only
  unfold Unicode.readPadding
  rw [if_neg hpad]
  dsimp only
  split
  · exact .inl rfl
  · exact .inr ⟨_, rfl⟩

theorem readUStrC_cost (pad : Nat) (hpad : pad ≠ 0 := by decide) {d : B} {p : Nat} (hp : p ≤ d.length := by assumption) :
    Cost 1 3 4 d p (readUStrC pad d p) := by
  unfold readUStrC
  cases h32 : Unicode.readU32 d p with
  | error e' =>
    have hk : readUStr pad d p = .error e' := by unfold readUStr Unicode.readUnicodeString; rw [h32]
    have := readU32_err h32
    subst this
    dsimp only
    rw [hk]
    refine Cost.intro (fun _ _ hx => by cases hx) (fun e hx => ?_)
    cases hx
    exact ⟨by decide, by show 1 + min 4 (d.length - p) ≤ _; omega⟩
  | ok y =>
    obtain ⟨n, p1⟩ := y
    have h1 := Unicode.readU32_bound h32
    have s1 : (Unicode.slice d p1 (2 * n)).length ≤ d.length - p1 := by rw [slice_len]; exact Nat.min_le_right ..
    have s2 : (Unicode.slice d (p1 + (Unicode.slice d p1 (2 * n)).length) (Unicode.padLen (4 + 2 * n) pad)).length ≤
        d.length - (p1 + (Unicode.slice d p1 (2 * n)).length) := by rw [slice_len]; exact Nat.min_le_right ..
    have hc := readUStr_cases hpad h32
    dsimp only
    generalize (Unicode.slice d (p1 + (Unicode.slice d p1 (2 * n)).length) (Unicode.padLen (4 + 2 * n) pad)).length = F at s2 hc ⊢
    generalize (Unicode.slice d p1 (2 * n)).length = R at s1 s2 hc ⊢
    have hb : 4 + R + F ≤ d.length - p := by omega
    clear s1 s2
    rcases hc with hk | ⟨k, hk⟩
    · rw [hk]
      refine Cost.intro (fun _ _ hx => by cases hx) (fun e hx => ?_)
      cases hx
      exact ⟨by decide, by show 3 + (4 + _ + _) ≤ _; omega⟩
    · rw [hk]
      refine Cost.intro (fun v p' hx => ?_) (fun _ hx => by cases hx)
      cases hx
      exact ⟨by omega, by omega, by show 3 + (4 + _ + _) ≤ _; omega⟩
theorem readKeyC_fst (terms : B → Bool) (d : B) (p : Nat) : (readKeyC terms d p).1 = Globals.readKey terms d p := by
  unfold readKeyC
  split <;> rfl

/-- once its length field is read, `read_length_and_key` either finds the key cut short or ends behind the key -/
theorem readKey_cases (terms : B → Bool) {d : B} {p len p1 : Nat} (h : Globals.readU32 d p = .ok (len, p1)) :
    Globals.readKey terms d p = .error .ioError ∨
      ∃ k, Globals.readKey terms d p = .ok (k, p1 + ((d.drop p1).take (if len = 0 then 4 else len)).length) := by
  unfold Globals.readKey
  rw [h]
  dsimp only
  generalize (if len = 0 then 4 else len) = n
  split
  · exact .inl rfl
  · split <;> exact .inr ⟨_, rfl⟩

theorem readKeyC_cost (terms : B → Bool) {d : B} {p : Nat} (hp : p ≤ d.length := by assumption) : Cost 1 2 4 d p (readKeyC terms d p) := by
  unfold readKeyC
  cases h32 : Globals.readU32 d p with
  | error e' =>
    have hk : Globals.readKey terms d p = .error e' := by unfold Globals.readKey; rw [h32]
    have := Globals.readU32_err h32
    subst this
    dsimp only
    rw [hk]
    refine Cost.intro (fun _ _ hx => by cases hx) (fun e hx => ?_)
    cases hx
    exact ⟨by decide, by show 1 + min 4 (d.length - p) ≤ _; omega⟩
  | ok y =>
    obtain ⟨len, p1⟩ := y
    have h1 := Globals.readU32_ok h32
    have hl : ((d.drop p1).take (if len = 0 then 4 else len)).length ≤ d.length - p1 := by
      simp only [List.length_take, List.length_drop]; omega
    dsimp only
    have hc := readKey_cases terms h32
    generalize ((d.drop p1).take (if len = 0 then 4 else len)).length = L at hl hc ⊢
    rcases hc with hk | ⟨k, hk⟩
    · rw [hk]
      refine Cost.intro (fun _ _ hx => by cases hx) (fun e hx => ?_)
      cases hx
      exact ⟨by decide, by show 2 + (4 + _) ≤ _; omega⟩
    · rw [hk]
      refine Cost.intro (fun v p' hx => ?_) (fun _ hx => by cases hx)
      cases hx
      exact ⟨by omega, by omega, by show 2 + (4 + _) ≤ _; omega⟩
/-! ### `try … except IOError` -/

theorem orElseIOC_fst {α : Type} {ac bc : RC α} {a b : R α} (ha : ∀ d p, (ac d p).1 = a d p) (hb : ∀ d p, (bc d p).1 = b d p)
    (d : B) (p : Nat) : (orElseIOC ac bc d p).1 = orElseIO a b d p := by
  unfold orElseIOC orElseIO
  rw [← ha, ← hb]
  cases h : (ac d p).1 with
  | ok y => simp only [h]
  | error e => cases e <;> simp only [h]

/-- the first attempt is a read of a fixed size: when it fails it has cost at most `c` -/
theorem orElseIOC_cost {α : Type} {ac bc : RC α} {a₁ b₁ k₁ a₂ b₂ k₂ c : Nat} {d : B} {p : Nat}
    (ha : Cost a₁ b₁ k₁ d p (ac d p)) (hc : ∀ e, (ac d p).1 = .error e → (ac d p).2.w ≤ c)
    (hb : Cost a₂ b₂ k₂ d p (bc d p)) :
    Cost (max a₁ a₂) (max b₁ (c + b₂)) (min k₁ k₂) d p (orElseIOC ac bc d p) := by
  have key : (ac d p).1 = .error .ioError → Cost (max a₁ a₂) (max b₁ (c + b₂)) (min k₁ k₂) d p
      ((bc d p).1, (ac d p).2 + (bc d p).2) := by
    intro h
    have h1 := hc _ h
    refine (Cost.mono (a' := a₂) (b' := c + b₂) (k' := k₂) ?_ (Nat.le_max_right ..) (Nat.le_max_right ..) (Nat.min_le_right ..))
    refine Cost.intro (fun v p' hx => ?_) (fun e hx => ?_)
    · have h2 := hb.of_ok (hx : (bc d p).1 = _)
      refine ⟨h2.1, h2.2.1, ?_⟩
      show ((ac d p).2 + (bc d p).2).w ≤ _
      rw [w_add]
      omega
    · have h2 := hb.of_error (hx : (bc d p).1 = _)
      refine ⟨h2.1, ?_⟩
      show ((ac d p).2 + (bc d p).2).w ≤ _
      rw [w_add]
      omega
  have other := ha.mono (Nat.le_max_left a₁ a₂) (Nat.le_max_left b₁ (c + b₂)) (Nat.min_le_left k₁ k₂)
  unfold orElseIOC
  cases h : (ac d p).1 with
  | ok y => simpa only [h] using other
  | error e => cases e <;> first | (simpa only [h] using key h) | (simpa only [h] using other)

end PsdVerif.PayloadCost
