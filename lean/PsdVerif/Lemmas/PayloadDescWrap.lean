/-
C01 payload classes — the descriptor-wrapping payloads: laws of `SmartObjectLayerData`, `PlacedLayerData`,
`TypeToolObjectSetting`.
-/
import PsdVerif.Lemmas.PayloadLinked
import PsdVerif.Model.PayloadDescWrap

namespace PsdVerif.Payload
open PsdVerif.Codec

/-- a `DescriptorBlock2` written with `padding=1` (no filler) -/
theorem block2_step (tb : Descriptor.Tables) {b : Descriptor.Block2} (hwf : b.WF tb) (hf : b.Fits tb) {d : B} {p : Nat} {rest : B}
    (h : At d p (b.encT tb 1 ++ rest)) :
    Descriptor.Block2.dec tb d p = .ok (b, p + (b.encT tb 1).length) ∧ At d (p + (b.encT tb 1).length) rest := by
  refine ⟨?_, h.right⟩
  rw [Descriptor.Block2.length_encT, padAmount_one, Nat.add_zero]
  exact Descriptor.Block2.dec_at hwf hf h.left

theorem readF64List_step {n : Nat} {vs : List UInt64} (hn : vs.length = n) {d : B} {p : Nat} {rest : B}
    (h : At d p (listT f64T vs ++ rest)) :
    readCount readF64 n d p = .ok (vs, p + 8 * n) ∧ At d (p + 8 * n) rest :=
  readCount_fixed_step hn (fun _ _ _ _ h => (readF64_step h.nil_right).1) (fun v _ => length_f64T v) h

namespace SmartObjectLayerData
variable (tb : Descriptor.Tables)

theorem encP_eq (pad : Nat) (x : SmartObjectLayerData) : encP tb pad x = (encT tb pad x, (encT tb pad x).length) := by
  simp only [encP, encT, bodyT, Descriptor.Block.encW_eq, wBytes_eq, wSeq_eq, wPad_eq, List.append_assoc]

theorem rt (pad : Nat) : (codec tb pad).RtAnywhere := by
  intro x hwf hf d p h
  obtain ⟨hvalid, hdata⟩ := hwf
  obtain ⟨fv, fd⟩ := hf
  have hk : ∀ k ∈ GP.smartObjectKinds, k.length = 4 := by decide
  have e4 := pack4s_of_length (hk _ hvalid.1)
  simp only [codec, encT, bodyT, e4, List.append_assoc] at h
  obtain ⟨e1, h⟩ := readN_step h (hk _ hvalid.1)
  obtain ⟨e2, h⟩ := readU_step h fv
  obtain ⟨e3, _⟩ := LinkedLayer.block_step tb hdata fd h
  simp only [codec, dec, bind, Except.bind, e1, e2, e3]
  rw [if_pos hvalid]
  simp only [bodyT, List.length_append, length_pack4s, length_beBytes, Nat.add_assoc]

theorem count (pad : Nat) : (codec tb pad).Count := encP_eq tb pad

end SmartObjectLayerData

namespace PlacedLayerData
variable (tb : Descriptor.Tables)

theorem encP_eq (pad : Nat) (x : PlacedLayerData) : encP tb pad x = (encT tb pad x, (encT tb pad x).length) := by
  simp only [encP, encT, bodyT, Descriptor.Block2.encW_eq, wPascal_eq, wBytes_eq, wSeq_eq, wPad_eq, List.append_assoc]

theorem rt (pad : Nat) : (codec tb pad).RtAnywhere := by
  intro x hwf hf d p h
  obtain ⟨hvalid, hk4, hwarp⟩ := hwf
  obtain ⟨fv, fu, f1, f2, f3, f4, f8, fw⟩ := hf
  have e4 := pack4s_of_length hk4
  simp only [codec, encT, bodyT, e4, List.append_assoc] at h
  have hL : (bodyT tb x).length = 4 + (4 + ((pascalT 1 x.uuid).length + (4 + (4 + (4 + (4 + (8 * 8 + (x.warp.encT tb 1).length))))))) := by
    have hl := length_listT_const f64T 8 x.transform (fun v _ => length_f64T v)
    simp only [bodyT, List.length_append, length_pack4s, length_beBytes, hl, f8]; omega
  obtain ⟨e1, h⟩ := readN_step h hk4
  obtain ⟨e2, h⟩ := readU_step h fv
  obtain ⟨e3, h⟩ := readPascal_step h fu
  obtain ⟨e4', h⟩ := readU_step h f1
  obtain ⟨e5, h⟩ := readU_step h f2
  obtain ⟨e6, h⟩ := readU_step h f3
  obtain ⟨e7, h⟩ := readU_step h f4
  obtain ⟨e8, h⟩ := readF64List_step f8 h
  obtain ⟨e9, _⟩ := block2_step tb hwarp fw h
  simp only [codec, dec, bind, Except.bind, e1, e2, e3, e4', e5, e6, e7, e8, e9]
  rw [if_pos hvalid]
  simp only [hL, Nat.add_assoc]

theorem count (pad : Nat) : (codec tb pad).Count := encP_eq tb pad

end PlacedLayerData

namespace TypeToolObjectSetting
variable (tb : Descriptor.Tables)

theorem encP_eq (pad : Nat) (x : TypeToolObjectSetting) : encP tb pad x = (encT tb pad x, (encT tb pad x).length) := by
  simp only [encP, encT, bodyT, Descriptor.Block.encW_eq, wBytes_eq, wSeq_eq, wPad_eq, List.append_assoc]

theorem rt (pad : Nat) : (codec tb pad).RtAnywhere := by
  intro x hwf hf d p h
  obtain ⟨hvalid, htext, hwarp⟩ := hwf
  obtain ⟨fv, f6, ftv, ftext, fwv, fwarp, fl, ft, fr, fb⟩ := hf
  simp only [codec, encT, bodyT, List.append_assoc] at h
  have hL : (bodyT tb x).length = 2 + (8 * 6 + (2 + ((x.textData.encT tb 1).length + (2 + ((x.warp.encT tb 1).length +
      (4 + (4 + (4 + 4)))))))) := by
    have hl := length_listT_const f64T 8 x.transform (fun v _ => length_f64T v)
    simp only [bodyT, List.length_append, length_beBytes, length_i32T, hl, f6]; omega
  obtain ⟨e1, h⟩ := readU_step h fv
  obtain ⟨e2, h⟩ := readF64List_step f6 h
  obtain ⟨e3, h⟩ := readU_step h ftv
  obtain ⟨e4, h⟩ := LinkedLayer.block_step tb htext ftext h
  obtain ⟨e5, h⟩ := readU_step h fwv
  obtain ⟨e6, h⟩ := LinkedLayer.block_step tb hwarp fwarp h
  obtain ⟨e7, h⟩ := readI32_step h fl
  obtain ⟨e8, h⟩ := readI32_step h ft
  obtain ⟨e9, h⟩ := readI32_step h fr
  obtain ⟨e10, _⟩ := readI32_step h fb
  simp only [codec, dec, bind, Except.bind, e1, e2, e3, e4, e5, e6, e7, e8, e9, e10]
  rw [if_pos hvalid]
  simp only [hL, Nat.add_assoc]

theorem count (pad : Nat) : (codec tb pad).Count := encP_eq tb pad

theorem length_encT_mod {pad : Nat} (hp : 0 < pad) (x : TypeToolObjectSetting) : ((codec tb pad).encT x).length % pad = 0 :=
  length_padded_mod (bodyT tb x) hp

end TypeToolObjectSetting

end PsdVerif.Payload
