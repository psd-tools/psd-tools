/-
Laws of the primitives of `Model/Codec.lean`, proved once.

`At d p bs` : the byte string `bs` occurs in the stream `d` at offset `p` (`At.intro` gives it for `pre ++ bs ++ post`).

"Reader `r` returns `v` on the written bytes" is said in these forms; the first is the one to prove, the others follow:

* `X_at    : At d p bs → r d p = .ok (v, p + n)`, `n` the length of `bs` in normal form (`p + 4`); readers that look at
  what follows take `p + n = d.length` in addition ("at end").
* `X_step  : At d p (bs ++ rest) → r d p = .ok (v, p + n) ∧ At d (p + n) rest` — the same with the occurrence of what
  follows handed on, for walking through `a ++ (b ++ (c ++ …))` field by field. From `X_at` by `At.left`/`At.right`.
* `Reads r bs v` — `X_at` as a proposition, with `p + bs.length`; `Reads.of_at` and `Reads.step` convert. It is the form
  that composes: `Reads.readCount_cons`, `Reads.readFor_cons` here, `Reads.bind`, `Reads.map`, … for the reader monad
  `>>-` of `Model/Descriptor.lean` in `Lemmas/Descriptor1.lean`.
* `Lawful enc r WF` (`Lemmas/CodecLaws.lean`) — the `pre ++ bs ++ post` statement of DESIGN §3 for a writer that can
  refuse, which the `…_rt` theorems of `Props/C01.lean` state; `lawful_of_reads` and `Lawful.reads` convert.
* `PCodec.RtAnywhere c` / `RtAtEnd c` (`Lemmas/PayloadBase.lean`) — `X_at` for every value of a payload codec `c`, with
  `c.consumed v` for the length (a payload reader may stop before the writer's filler); `RtAnywhere.of_reads` converts.
* `X.dec_encT : r (encT v) 0 = .ok (v, …)` — `X_at` at `At.self`, the bytes as a stream of their own (a nested `BytesIO`).
-/
import PsdVerif.Model.Codec

namespace PsdVerif.Codec

/-! ### occurrences -/

def At (d : B) (p : Nat) (bs : B) : Prop := ∃ pre post, d = pre ++ bs ++ post ∧ pre.length = p

theorem At.intro (pre bs post : B) : At (pre ++ bs ++ post) pre.length bs := ⟨pre, post, rfl, rfl⟩

theorem At.intro_rest (pre bs post : B) : At (pre ++ bs ++ post) pre.length (bs ++ post) :=
  ⟨pre, [], by simp, rfl⟩

theorem At.self (d : B) : At d 0 d := ⟨[], [], by simp, rfl⟩

theorem At.left {d : B} {p : Nat} {a b : B} (h : At d p (a ++ b)) : At d p a := by
  obtain ⟨pre, post, rfl, rfl⟩ := h
  exact ⟨pre, b ++ post, by simp, rfl⟩

theorem At.right {d : B} {p : Nat} {a b : B} (h : At d p (a ++ b)) : At d (p + a.length) b := by
  obtain ⟨pre, post, rfl, rfl⟩ := h
  exact ⟨pre ++ a, post, by simp, by simp⟩

theorem At.bound {d : B} {p : Nat} {bs : B} (h : At d p bs) : p + bs.length ≤ d.length := by
  obtain ⟨pre, post, rfl, rfl⟩ := h
  simp only [List.length_append]; omega

theorem At.drop {d : B} {p : Nat} {bs : B} (h : At d p bs) : ∃ post, d.drop p = bs ++ post := by
  obtain ⟨pre, post, rfl, rfl⟩ := h
  exact ⟨post, by simp⟩

theorem At.drop_take {d : B} {p : Nat} {bs : B} (h : At d p bs) : (d.drop p).take bs.length = bs := by
  obtain ⟨post, hp⟩ := h.drop
  rw [hp, List.take_left]

theorem At.drop_of_end {d : B} {p : Nat} {bs : B} (h : At d p bs) (he : p + bs.length = d.length) :
    d.drop p = bs := by
  obtain ⟨pre, post, rfl, rfl⟩ := h
  have : post = [] := by
    simp only [List.length_append] at he
    exact List.eq_nil_of_length_eq_zero (by omega)
  subst this; simp

theorem At.nil_right {d : B} {p : Nat} {bs : B} (h : At d p bs) : At d p (bs ++ []) := by simpa using h

/-- the same occurrence at a position written differently -/
theorem At.cast {d : B} {p q : Nat} {bs : B} (h : At d p bs) (e : p = q) : At d q bs := e ▸ h

/-- a writer that refuses (`if fits then ok bytes else error`) and succeeded: it fitted, and these are the bytes -/
theorem fits_of_ite_ok {α ε : Type} {c : Prop} [Decidable c] {a out : α} {e : ε}
    (h : (if c then Except.ok a else Except.error e) = .ok out) : c ∧ out = a := by
  split at h
  · exact ⟨‹c›, (Except.ok.inj h).symm⟩
  · exact nomatch h

/-! ### integers -/

theorem length_zeros (n : Nat) : (zeros n).length = n := by simp [zeros]

theorem length_beBytes (w n : Nat) : (beBytes w n).length = w := by
  induction w generalizing n with
  | zero => rfl
  | succ w ih => simp [beBytes, ih]

theorem beVal_append_singleton (xs : B) (b : UInt8) : beVal (xs ++ [b]) = beVal xs * 256 + b.toNat := by
  simp [beVal, List.foldl_append]

theorem beVal_beBytes (w n : Nat) (h : n < 256 ^ w) : beVal (beBytes w n) = n := by
  induction w generalizing n with
  | zero => simp [beBytes, beVal] at *; omega
  | succ w ih =>
    have h' : n / 256 < 256 ^ w := by
      rw [Nat.pow_succ] at h
      exact Nat.div_lt_of_lt_mul (by rw [Nat.mul_comm]; exact h)
    rw [beBytes, beVal_append_singleton, ih _ h']
    rw [UInt8.toNat_ofNat', Nat.mod_mod]
    exact Nat.div_add_mod' n 256

theorem natToI16_i16ToNat (z : Int) (h : FitsI16 z) : natToI16 (i16ToNat z) = z := by
  unfold FitsI16 at h; unfold natToI16 i16ToNat; omega

theorem natToI32_i32ToNat (z : Int) (h : FitsI32 z) : natToI32 (i32ToNat z) = z := by
  unfold FitsI32 at h; unfold natToI32 i32ToNat; omega

theorem i16ToNat_lt (z : Int) : i16ToNat z < 256 ^ 2 := by unfold i16ToNat; omega
theorem i32ToNat_lt (z : Int) : i32ToNat z < 256 ^ 4 := by unfold i32ToNat; omega

theorem length_i16T (z : Int) : (i16T z).length = 2 := length_beBytes _ _
theorem length_i32T (z : Int) : (i32T z).length = 4 := length_beBytes _ _

theorem pack4s_of_length {b : B} (h : b.length = 4) : pack4s b = b := by
  unfold pack4s
  rw [List.take_append_of_le_length (by omega), ← h, List.take_length]

theorem length_pack4s (b : B) : (pack4s b).length = 4 := by
  simp [pack4s, length_zeros]

/-! ### primitive readers -/

theorem readN_at {d : B} {p : Nat} {bs : B} (h : At d p bs) : readN bs.length d p = .ok (bs, p + bs.length) := by
  unfold readN
  rw [if_pos h.bound, h.drop_take]

theorem readN_at' {d : B} {p n : Nat} {bs : B} (h : At d p bs) (hn : bs.length = n) :
    readN n d p = .ok (bs, p + n) := by subst hn; exact readN_at h

theorem readN_short {n : Nat} {d : B} {p : Nat} (h : d.length < p + n) : readN n d p = .error .ioError := by
  simp only [readN, if_neg (by omega : ¬ p + n ≤ d.length)]

theorem readN_long {n : Nat} {d : B} {p : Nat} (h : p + n ≤ d.length) : ∃ b, readN n d p = .ok (b, p + n) := by
  exact ⟨(d.drop p).take n, by simp only [readN, if_pos h]⟩

theorem readUpTo_at {d : B} {p : Nat} {bs : B} (h : At d p bs) : readUpTo bs.length d p = .ok (bs, p + bs.length) := by
  unfold readUpTo
  simp only [h.drop_take]

theorem readUpTo_at' {d : B} {p n : Nat} {bs : B} (h : At d p bs) (hn : bs.length = n) :
    readUpTo n d p = .ok (bs, p + n) := by subst hn; exact readUpTo_at h

theorem readAll_at_end {d : B} {p : Nat} {bs : B} (h : At d p bs) (he : p + bs.length = d.length) :
    readAll d p = .ok (bs, p + bs.length) := by
  unfold readAll
  simp only [h.drop_of_end he]

theorem readU_at {d : B} {p w n : Nat} (h : At d p (beBytes w n)) (hn : n < 256 ^ w) :
    readU w d p = .ok (n, p + w) := by
  unfold readU
  rw [readN_at' h (length_beBytes w n)]
  simp only [beVal_beBytes w n hn]

theorem readI16_at {d : B} {p : Nat} {z : Int} (h : At d p (i16T z)) (hz : FitsI16 z) :
    readI16 d p = .ok (z, p + 2) := by
  unfold readI16
  rw [readU_at h (i16ToNat_lt z)]
  simp only [natToI16_i16ToNat z hz]

theorem readI32_at {d : B} {p : Nat} {z : Int} (h : At d p (i32T z)) (hz : FitsI32 z) :
    readI32 d p = .ok (z, p + 4) := by
  unfold readI32
  rw [readU_at h (i32ToNat_lt z)]
  simp only [natToI32_i32ToNat z hz]

theorem isReadable_of_at {d : B} {p n : Nat} {bs : B} (h : At d p bs) (hn : n ≤ bs.length) :
    isReadable n d p = true := by
  have := h.bound
  simp only [isReadable, decide_eq_true_eq]; omega

theorem isReadable_false {d : B} {p n : Nat} (h : d.length < p + n) : isReadable n d p = false := by
  simp only [isReadable, decide_eq_false_iff_not]; omega

theorem readPadding_at {d : B} {p size divisor : Nat} (h : At d p (zeros (padAmount size divisor))) :
    readPadding size divisor d p = .ok ((), p + padAmount size divisor) := by
  unfold readPadding
  rw [readUpTo_at' h (length_zeros _)]

/-! ### a reader on an occurrence of its bytes -/

/-- `r` returns `a` on the bytes `bs`, wherever they occur, and leaves the cursor right behind them -/
def Reads {α : Type} (r : R α) (bs : B) (a : α) : Prop :=
  ∀ (d : B) (p : Nat), At d p bs → r d p = .ok (a, p + bs.length)

theorem Reads.step {α : Type} {r : R α} {bs : B} {a : α} (hr : Reads r bs a) {d : B} {p : Nat} {rest : B}
    (h : At d p (bs ++ rest)) : r d p = .ok (a, p + bs.length) ∧ At d (p + bs.length) rest :=
  ⟨hr d p h.left, h.right⟩

theorem Reads.of_at {α : Type} {r : R α} {bs : B} {a : α} {n : Nat} (hn : bs.length = n)
    (h : ∀ (d : B) (p : Nat), At d p bs → r d p = .ok (a, p + n)) : Reads r bs a := by
  subst hn; exact h

theorem readN_reads {bs : B} {n : Nat} (hl : bs.length = n) : Reads (readN n) bs bs :=
  .of_at hl fun _ _ h => readN_at' h hl

theorem readU_reads {w n : Nat} (hn : n < 256 ^ w) : Reads (readU w) (beBytes w n) n :=
  .of_at (length_beBytes w n) fun _ _ h => readU_at h hn

theorem readI16_reads {z : Int} (hz : FitsI16 z) : Reads readI16 (i16T z) z :=
  .of_at (length_i16T z) fun _ _ h => readI16_at h hz

theorem readI32_reads {z : Int} (hz : FitsI32 z) : Reads readI32 (i32T z) z :=
  .of_at (length_i32T z) fun _ _ h => readI32_at h hz

/-! ### padding arithmetic -/

theorem padAmount_add_mul (n k divisor : Nat) (hk : k % divisor = 0) :
    padAmount (n + k) divisor = padAmount n divisor := by
  unfold padAmount
  have : (n + k) % divisor = n % divisor := by
    rw [Nat.add_mod, hk, Nat.add_zero, Nat.mod_mod]
  rw [this]

theorem padAmount_one (n : Nat) : padAmount n 1 = 0 := by simp [padAmount, Nat.mod_one]

theorem padAmount_lt (n divisor : Nat) (h : 0 < divisor) : padAmount n divisor < divisor := by
  unfold padAmount; split <;> omega

theorem add_padAmount_mod (n divisor : Nat) (h : 0 < divisor) : (n + padAmount n divisor) % divisor = 0 := by
  unfold padAmount
  split
  · simpa using ‹n % divisor = 0›
  · have hlt := Nat.mod_lt n h
    have e : n + (divisor - n % divisor) = divisor * (n / divisor) + divisor := by
      have := Nat.div_add_mod n divisor; omega
    rw [e]; simp

/-! ### `Py_ssize_t` overflow: never for a size that is really there -/

theorem not_overflows_of_le {n : Nat} {d : B} (h : n ≤ d.length) : ¬ overflows n d := by
  unfold overflows; omega

/-- `fp.read(n)` with a count that is there -/
theorem readPy_natCast (n : Nat) {d : B} {p : Nat} (h : p + n ≤ d.length) : readPy (n : Int) d p = readUpTo n d p := by
  unfold readPy
  rw [if_neg (by omega : ¬ (n : Int) < 0), Int.toNat_natCast, if_neg (not_overflows_of_le (by omega))]

/-! ### length blocks -/

theorem length_lenBlockT (skip w pad : Nat) (body : B) :
    (lenBlockT skip w pad body).length = skip + w + body.length + padAmount (body.length + (skip + w)) pad := by
  simp only [lenBlockT, List.length_append, length_zeros, length_beBytes]

/-- `read_length_block` returns the body of a written length block wherever it sits,
provided the prefix can hold the length and the alignment divides the prefix size
(`read_padding` aligns the body, `write_padding` the prefix + body). -/
theorem readLenBlock_at {d : B} {p skip w pad : Nat} {body : B}
    (h : At d p (lenBlockT skip w pad body)) (hw : body.length < 256 ^ w) (hp : (skip + w) % pad = 0) :
    readLenBlock skip w pad d p = .ok (body, p + (lenBlockT skip w pad body).length) := by
  unfold lenBlockT at h
  have h1 := h.left.left.left
  have h2 := h.left.left.right
  have h3 : At d (p + skip + w) body :=
    h.left.right.cast (by simp only [List.length_append, length_zeros, length_beBytes]; omega)
  have h4 : At d (p + skip + w + body.length) (zeros (padAmount (body.length + (skip + w)) pad)) :=
    h.right.cast (by simp only [List.length_append, length_zeros, length_beBytes]; omega)
  simp only [length_zeros] at h2
  unfold readLenBlock
  rw [readN_at' h1 (length_zeros _)]
  simp only
  rw [readU_at h2 hw]
  simp only
  rw [if_neg (not_overflows_of_le (by have := h3.bound; omega))]
  rw [readUpTo_at h3]
  simp only [ne_eq, not_true_eq_false, if_false]
  rw [padAmount_add_mul _ _ _ hp] at h4
  rw [readPadding_at h4, length_lenBlockT, padAmount_add_mul _ _ _ hp]
  simp only [Nat.add_assoc]

theorem readLenBlock_reads {skip w pad : Nat} {body : B} (hw : body.length < 256 ^ w) (hp : (skip + w) % pad = 0) :
    Reads (readLenBlock skip w pad) (lenBlockT skip w pad body) body :=
  fun _ _ h => readLenBlock_at h hw hp

/-! ### pascal strings -/

theorem length_pascalT (pad : Nat) (s : B) :
    (pascalT pad s).length = 1 + s.length + padAmount (1 + s.length) pad := by
  simp only [pascalT, List.length_append, length_zeros, length_beBytes]

theorem readPascal_at {d : B} {p pad : Nat} {s : B}
    (h : At d p (pascalT pad s)) (hs : s.length < 256) :
    readPascal pad d p = .ok (s, p + (pascalT pad s).length) := by
  unfold pascalT at h
  have h1 := h.left.left
  have h2 := h.left.right
  have h3 : At d (p + 1 + s.length) (zeros (padAmount (1 + s.length) pad)) :=
    h.right.cast (by simp only [List.length_append, length_beBytes]; omega)
  simp only [length_beBytes] at h2
  unfold readPascal
  rw [readU_at h1 (by simpa using hs)]
  simp only
  rw [readUpTo_at h2]
  simp only [ne_eq, not_true_eq_false, if_false]
  have e : p + 1 + s.length - p = 1 + s.length := by omega
  rw [e, readPadding_at h3, length_pascalT]
  simp only [Nat.add_assoc]

/-! ### the `written` accumulators are honest -/

theorem wLenBlock_eq (skip w pad : Nat) (body : B) :
    wLenBlock skip w pad (body, body.length) =
      (lenBlockT skip w pad body, (lenBlockT skip w pad body).length) := by
  simp only [wLenBlock, wPad, wBytes, lenBlockT, List.length_append, length_zeros, length_beBytes]
  congr 1
  omega

theorem wPascal_eq (pad : Nat) (s : B) : wPascal pad s = (pascalT pad s, (pascalT pad s).length) := by
  simp only [wPascal, wPad, wBytes, W.seq, pascalT, List.length_append, length_zeros, length_beBytes]

theorem wSeq_eq (a b : B) : (a, a.length) +> (b, b.length) = (a ++ b, (a ++ b).length) := by
  simp [W.seq]

theorem wBytes_eq (a : B) : wBytes a = (a, a.length) := rfl

theorem wPad_eq (size divisor : Nat) :
    wPad size divisor = (zeros (padAmount size divisor), (zeros (padAmount size divisor)).length) := rfl

/-! ### lists -/

theorem length_listT_le {α : Type} (f : α → B) (vs : List α) (k : Nat) (hk : ∀ v ∈ vs, k ≤ (f v).length) :
    k * vs.length ≤ (listT f vs).length := by
  induction vs with
  | nil => simp [listT]
  | cons v vs ih =>
    have h1 := hk v (by simp)
    have h2 := ih (fun x hx => hk x (by simp [hx]))
    simp only [listT, List.length_cons, List.length_append, Nat.mul_succ]
    omega

theorem listT_map {α β : Type} (f : β → B) (g : α → β) (xs : List α) : listT f (xs.map g) = listT (fun x => f (g x)) xs := by
  induction xs with
  | nil => rfl
  | cons x xs ih => simp only [List.map_cons, listT, ih]

theorem length_listT_const {α : Type} (f : α → B) (k : Nat) (vs : List α) (h : ∀ v ∈ vs, (f v).length = k) :
    (listT f vs).length = k * vs.length := by
  induction vs with
  | nil => rfl
  | cons v vs ih =>
    simp only [listT, List.length_append, h v (by simp), ih (fun x hx => h x (by simp [hx])), List.length_cons]
    rw [Nat.mul_succ]; omega

theorem wList_eq {α : Type} (f : α → W) (g : α → B) (vs : List α) (h : ∀ v ∈ vs, f v = (g v, (g v).length)) :
    wList f vs = (listT g vs, (listT g vs).length) := by
  induction vs with
  | nil => rfl
  | cons v vs ih =>
    rw [wList, h v (by simp), ih (fun x hx => h x (by simp [hx])), wSeq_eq]; rfl

theorem Reads.readFor_nil {α β : Type} (item : β → R α) : Reads (readFor item []) [] [] := fun _ _ _ => rfl

theorem Reads.readFor_cons {α β : Type} {item : β → R α} {x : β} {xs : List β} {bs cs : B} {a : α} {as : List α}
    (hi : Reads (item x) bs a) (hr : Reads (readFor item xs) cs as) :
    Reads (readFor item (x :: xs)) (bs ++ cs) (a :: as) := by
  intro d p h
  simp only [readFor, hi d p h.left, hr _ _ h.right, List.length_append, Nat.add_assoc]

theorem Reads.readCount_nil {α : Type} (item : R α) : Reads (readCount item 0) [] [] := fun _ _ _ => rfl

theorem Reads.readCount_cons {α : Type} {item : R α} {n : Nat} {bs cs : B} {a : α} {as : List α}
    (hi : Reads item bs a) (hr : Reads (readCount item n) cs as) :
    Reads (readCount item (n + 1)) (bs ++ cs) (a :: as) := by
  intro d p h
  simp only [readCount, hi d p h.left, hr _ _ h.right, List.length_append, Nat.add_assoc]

theorem readCount_at {α : Type} (item : R α) (enc : α → B) (vs : List α)
    (hitem : ∀ v ∈ vs, ∀ d p, At d p (enc v) → item d p = .ok (v, p + (enc v).length))
    {d : B} {p : Nat} (h : At d p (listT enc vs)) :
    readCount item vs.length d p = .ok (vs, p + (listT enc vs).length) := by
  suffices hr : Reads (readCount item vs.length) (listT enc vs) vs from hr d p h
  clear h
  induction vs with
  | nil => exact .readCount_nil item
  | cons v vs ih =>
    exact .readCount_cons (hitem v (by simp)) (ih fun x hx => hitem x (by simp [hx]))

theorem readCount_step {α : Type} (item : R α) (enc : α → B) (vs : List α)
    (hitem : ∀ v ∈ vs, ∀ d p, At d p (enc v) → item d p = .ok (v, p + (enc v).length))
    {d : B} {p : Nat} {rest : B} (h : At d p (listT enc vs ++ rest)) :
    readCount item vs.length d p = .ok (vs, p + (listT enc vs).length) ∧ At d (p + (listT enc vs).length) rest :=
  ⟨readCount_at item enc vs hitem h.left, h.right⟩

/-- `read_fmt("nX")`: `n` items of one width `k` back to back -/
theorem readCount_fixed_step {α : Type} {item : R α} {enc : α → B} {k n : Nat} {vs : List α} (hn : vs.length = n)
    (hitem : ∀ v ∈ vs, ∀ d p, At d p (enc v) → item d p = .ok (v, p + k)) (hk : ∀ v ∈ vs, (enc v).length = k)
    {d : B} {p : Nat} {rest : B} (h : At d p (listT enc vs ++ rest)) :
    readCount item n d p = .ok (vs, p + k * n) ∧ At d (p + k * n) rest := by
  have hl := length_listT_const enc k vs hk
  subst hn
  rw [← hl]
  exact ⟨readCount_at item enc vs (fun v hv d p hv' => by rw [hitem v hv d p hv', hk v hv]) h.left, h.right⟩

/-- `readCount` on a written list whose items are read back as `f item` -/
theorem readCount_map_at {α : Type} (item : R α) (enc : α → B) (f : α → α) (vs : List α)
    (hitem : ∀ v ∈ vs, ∀ d p, At d p (enc v) → item d p = .ok (f v, p + (enc v).length))
    {d : B} {p : Nat} (h : At d p (listT enc vs)) :
    readCount item vs.length d p = .ok (vs.map f, p + (listT enc vs).length) := by
  induction vs generalizing p with
  | nil => simp [readCount, listT]
  | cons v vs ih =>
    simp only [listT] at h ⊢
    simp only [List.length_cons, readCount]
    rw [hitem v (by simp) d p h.left]
    simp only
    rw [ih (fun x hx => hitem x (by simp [hx])) h.right]
    simp only [List.length_append, Nat.add_assoc, List.map_cons]

/-- `readWhile` on a written list whose items are read back as `f v`. The loop condition may depend on how far the end of
the list is: `hitem` is told that the item lies before it. -/
theorem readWhile_map_at {α β : Type} (cond : B → Nat → Bool) (item : R (Option β)) (enc : α → B) (f : α → β) (vs : List α)
    {d : B} {p : Nat} (h : At d p (listT enc vs))
    (hitem : ∀ v ∈ vs, ∀ q, At d q (enc v) → q + (enc v).length ≤ p + (listT enc vs).length →
      cond d q = true ∧ item d q = .ok (some (f v), q + (enc v).length))
    (hpos : ∀ v ∈ vs, 1 ≤ (enc v).length) (hstop : cond d (p + (listT enc vs).length) = false) :
    readWhile cond item d p = .ok (vs.map f, p + (listT enc vs).length) := by
  have key : ∀ (fuel : Nat) (vs : List α) (p : Nat), At d p (listT enc vs) →
      (∀ v ∈ vs, ∀ q, At d q (enc v) → q + (enc v).length ≤ p + (listT enc vs).length →
        cond d q = true ∧ item d q = .ok (some (f v), q + (enc v).length)) →
      cond d (p + (listT enc vs).length) = false → vs.length < fuel →
      readWhileFuel cond item fuel d p = .ok (vs.map f, p + (listT enc vs).length) := by
    intro fuel
    induction fuel with
    | zero => intro _ _ _ _ _ hf; omega
    | succ fuel ih =>
      intro vs p h hitem hstop hf
      cases vs with
      | nil =>
        simp only [listT, List.length_nil, Nat.add_zero] at hstop ⊢
        simp [readWhileFuel, hstop]
      | cons v vs =>
        simp only [listT, List.length_append] at h hitem hstop ⊢
        obtain ⟨hc, hi⟩ := hitem v (by simp) p h.left (by omega)
        simp only [readWhileFuel, hc, if_true, hi]
        rw [ih vs _ h.right (fun x hx q hq hle => hitem x (by simp [hx]) q hq (by omega))
          (by rw [Nat.add_assoc]; exact hstop) (by simpa using hf)]
        simp only [Nat.add_assoc, List.map_cons]
  apply key _ vs p h hitem hstop
  have h1 := length_listT_le enc vs 1 hpos
  have h2 := h.bound
  omega

/-- The `while cond: item` loop reads back a written list when `cond` holds at the start of every item and fails
after the last one. `cond` may look at the whole stream (that is what `is_readable` does) and at an end position,
so the hypotheses speak about `d`, and about each item they may use that it ends at or before `e`. -/
theorem readWhile_at_le {α : Type} (cond : B → Nat → Bool) (item : R (Option α)) (enc : α → B)
    (vs : List α) {d : B} (e : Nat)
    (hitem : ∀ v ∈ vs, ∀ p, At d p (enc v) → p + (enc v).length ≤ e →
      cond d p = true ∧ item d p = .ok (some v, p + (enc v).length))
    (hpos : ∀ v ∈ vs, 1 ≤ (enc v).length)
    {p : Nat} (h : At d p (listT enc vs)) (he : p + (listT enc vs).length ≤ e)
    (hstop : cond d (p + (listT enc vs).length) = false) :
    readWhile cond item d p = .ok (vs, p + (listT enc vs).length) := by
  simpa using readWhile_map_at cond item enc id vs h
    (fun v hv q hq hle => hitem v hv q hq (Nat.le_trans hle he)) hpos hstop

theorem readWhile_at {α : Type} (cond : B → Nat → Bool) (item : R (Option α)) (enc : α → B)
    (vs : List α) {d : B}
    (hitem : ∀ v ∈ vs, ∀ p, At d p (enc v) → cond d p = true ∧ item d p = .ok (some v, p + (enc v).length))
    (hpos : ∀ v ∈ vs, 1 ≤ (enc v).length)
    {p : Nat} (h : At d p (listT enc vs)) (hstop : cond d (p + (listT enc vs).length) = false) :
    readWhile cond item d p = .ok (vs, p + (listT enc vs).length) :=
  readWhile_at_le cond item enc vs _ (fun v hv p hp _ => hitem v hv p hp) hpos h (Nat.le_refl _) hstop

/-- `while is_readable(fp, n): item` over items of at least `n` bytes each, with fewer than `n` bytes left behind the last -/
theorem readWhile_isReadable {α : Type} {item : R (Option α)} {enc : α → B} {vs : List α} {n : Nat} (hn : 0 < n) {d : B}
    (hitem : ∀ v ∈ vs, ∀ p, At d p (enc v) → item d p = .ok (some v, p + (enc v).length))
    (hlen : ∀ v ∈ vs, n ≤ (enc v).length) {p : Nat} (h : At d p (listT enc vs))
    (hend : d.length < p + (listT enc vs).length + n) :
    readWhile (isReadable n) item d p = .ok (vs, p + (listT enc vs).length) :=
  readWhile_at (isReadable n) item enc vs (fun v hv q hq => ⟨isReadable_of_at hq (hlen v hv), hitem v hv q hq⟩)
    (fun v hv => Nat.le_trans hn (hlen v hv)) h (isReadable_false hend)

theorem readWhile_isReadable_opt {α : Type} {item : R α} {enc : α → B} {vs : List α} {n : Nat} (hn : 0 < n) {d : B}
    (hitem : ∀ v ∈ vs, Reads item (enc v) v) (hlen : ∀ v ∈ vs, n ≤ (enc v).length) {p : Nat}
    (h : At d p (listT enc vs)) (hend : d.length < p + (listT enc vs).length + n) :
    readWhile (isReadable n) (optItem item) d p = .ok (vs, p + (listT enc vs).length) :=
  readWhile_isReadable hn (fun v hv q hq => by simp only [optItem, hitem v hv d q hq]) hlen h hend

/-! ### step lemmas: read the head of `x ++ rest`, keep the occurrence of `rest`

Used to walk through a right-associated encoding without position arithmetic: each step
returns the occurrence of the remainder at exactly the position the reader continues from. -/

theorem readN_step {d : B} {p n : Nat} {bs rest : B} (h : At d p (bs ++ rest)) (hl : bs.length = n) :
    readN n d p = .ok (bs, p + n) ∧ At d (p + n) rest :=
  ⟨readN_at' h.left hl, hl ▸ h.right⟩

theorem readU_step {d : B} {p w n : Nat} {rest : B} (h : At d p (beBytes w n ++ rest)) (hn : n < 256 ^ w) :
    readU w d p = .ok (n, p + w) ∧ At d (p + w) rest :=
  ⟨readU_at h.left hn, (length_beBytes w n) ▸ h.right⟩

theorem readI16_step {d : B} {p : Nat} {z : Int} {rest : B} (h : At d p (i16T z ++ rest)) (hz : FitsI16 z) :
    readI16 d p = .ok (z, p + 2) ∧ At d (p + 2) rest :=
  ⟨readI16_at h.left hz, (length_i16T z) ▸ h.right⟩

theorem readI32_step {d : B} {p : Nat} {z : Int} {rest : B} (h : At d p (i32T z ++ rest)) (hz : FitsI32 z) :
    readI32 d p = .ok (z, p + 4) ∧ At d (p + 4) rest :=
  ⟨readI32_at h.left hz, (length_i32T z) ▸ h.right⟩

theorem readLenBlock_step {d : B} {p skip w pad : Nat} {body rest : B}
    (h : At d p (lenBlockT skip w pad body ++ rest)) (hw : body.length < 256 ^ w) (hp : (skip + w) % pad = 0) :
    readLenBlock skip w pad d p = .ok (body, p + (lenBlockT skip w pad body).length) ∧
      At d (p + (lenBlockT skip w pad body).length) rest :=
  ⟨readLenBlock_at h.left hw hp, h.right⟩

theorem readPascal_step {d : B} {p pad : Nat} {s rest : B} (h : At d p (pascalT pad s ++ rest)) (hs : s.length < 256) :
    readPascal pad d p = .ok (s, p + (pascalT pad s).length) ∧ At d (p + (pascalT pad s).length) rest :=
  ⟨readPascal_at h.left hs, h.right⟩

/-! ### ordered dictionaries -/

/-- folding an insertion that appends every item whose key is fresh over items with distinct keys appends them all:
what `OrderedDict(items)` does when no key repeats, whatever it does when one does -/
theorem foldl_insert_of_nodup {κ α : Type} (key : α → κ) (ins : List α → α → List α)
    (hins : ∀ acc x, (∀ y ∈ acc, key y ≠ key x) → ins acc x = acc ++ [x]) (acc items : List α)
    (hn : ((acc ++ items).map key).Nodup) : items.foldl ins acc = acc ++ items := by
  induction items generalizing acc with
  | nil => simp
  | cons x xs ih =>
    have hx : ∀ y ∈ acc, key y ≠ key x := by
      intro y hy e
      rw [List.map_append, List.nodup_append] at hn
      exact hn.2.2 (key y) (List.mem_map_of_mem hy) (key x) (by simp) e
    rw [List.foldl_cons, hins acc x hx, ih (acc ++ [x]) (by simpa using hn)]
    simp

theorem odict_of_nodup {κ α : Type} [DecidableEq κ] (key : α → κ) (items : List α)
    (hn : (items.map key).Nodup) : odict key items = items := by
  have hins : ∀ acc x, (∀ y ∈ acc, key y ≠ key x) → odictInsert key acc x = acc ++ [x] := by
    intro acc x h
    have : acc.any (fun y => key y = key x) = false := by simpa [List.any_eq_false] using h
    simp [odictInsert, this]
  simpa [odict] using foldl_insert_of_nodup key (odictInsert key) hins [] items (by simpa using hn)

end PsdVerif.Codec
