/-
C01, `LayerInfoBlock` (`Lr16` / `Lr32`) — `LayerInfoBlock` and the typed tagged block: round-trip, count and refresh laws.
-/
import PsdVerif.Lemmas.CodecPsd3
import PsdVerif.Model.PayloadLayerInfo

namespace PsdVerif.Payload
open PsdVerif PsdVerif.Codec PsdVerif.Psd

/-! ### `if self.layer_records:` on a list whose encoding is empty when the list is -/

theorem optListT_listT {α : Type} (f : α → B) (xs : List α) : optListT (listT f) (some xs) = listT f xs := by
  cases xs <;> rfl

theorem optListT_channelImageT (css : List (List ChannelData)) : optListT channelImageT (some css) = channelImageT css := by
  cases css <;> rfl

theorem shapesAgree_length : ∀ (rs : List LayerRecord) (css : List (List ChannelData)), shapesAgree rs css →
    rs.length = css.length := by
  intro rs
  induction rs with
  | nil => intro css h; cases css <;> simp_all [shapesAgree]
  | cons r rs ih => intro css h; cases css with
    | nil => simp [shapesAgree] at h
    | cons c cs => simp only [shapesAgree] at h; simp [ih cs h.2]

/-- with one channel list per record, the object after `write` has exactly the refreshed records -/
theorem blockRefresh_of_shapes (n : Int) (rs : List LayerRecord) (css : List (List ChannelData)) (h : shapesAgree rs css) :
    blockRefresh ⟨n, some rs, some css⟩ = ⟨n, some (refreshRecords rs css), some css⟩ := by
  cases rs with
  | nil => cases css with
    | nil => rfl
    | cons c cs => simp [shapesAgree] at h
  | cons r rs => cases css with
    | nil => simp [shapesAgree] at h
    | cons c cs => rfl

theorem blockRefresh_idem (li : LayerInfo) : blockRefresh (blockRefresh li) = blockRefresh li := by
  obtain ⟨n, rs, css⟩ := li
  cases rs with
  | none => rfl
  | some rs =>
    cases css with
    | none => cases rs <;> rfl
    | some css =>
      cases rs with
      | nil => rfl
      | cons r rs =>
        cases css with
        | nil => rfl
        | cons c cs =>
          have := refreshRecords_idem (r :: rs) (c :: cs)
          simp only [refreshRecords] at this
          simp only [blockRefresh, refreshRecords, LayerInfo.mk.injEq, true_and, and_true, Option.some.injEq]
          exact this

theorem blockRefresh_channels (li : LayerInfo) : (blockRefresh li).channels = li.channels := by
  unfold blockRefresh; split <;> rfl

theorem blockRefresh_layerCount (li : LayerInfo) : (blockRefresh li).layerCount = li.layerCount := by
  unfold blockRefresh; split <;> rfl

namespace LayerInfoBlock

theorem encT_refresh (v pad : Nat) (li : LayerInfo) : encT v pad (blockRefresh li) = encT v pad li := by
  unfold encT; rw [blockRefresh_idem]

theorem Fits_refresh (v : Nat) (li : LayerInfo) : Fits v (blockRefresh li) ↔ Fits v li := by
  unfold Fits; rw [blockRefresh_idem, blockRefresh_channels, blockRefresh_layerCount]

theorem enc_refresh (v pad : Nat) (li : LayerInfo) : enc v pad (blockRefresh li) = enc v pad li := by
  unfold enc
  simp only [Fits_refresh, encT_refresh]

theorem enc_ok {v pad : Nat} {li : LayerInfo} {bs : B} (h : enc v pad li = .ok bs) : Fits v li ∧ bs = encT v pad li := by
  unfold enc at h
  split at h
  · exact ⟨‹_›, by cases h; rfl⟩
  · cases h

theorem encP_eq (v pad : Nat) (li : LayerInfo) : encP v pad li = (encT v pad li, (encT v pad li).length) :=
  LayerInfo.bodyP_eq v pad (blockRefresh li)

theorem length_encT (v pad : Nat) (li : LayerInfo) :
    (encT v pad li).length = bodyLen v li + padAmount (bodyLen v li) pad := by
  simp only [encT, bodyLen, LayerInfo.bodyT, List.length_append, length_zeros]

/-- What `LayerInfoBlock.read` returns on what `LayerInfoBlock.write` wrote, anywhere in a stream: the object as the
writer left it; the cursor stops where the body ends (the writer's filler is not consumed). -/
theorem dec_at {v pad : Nat} {li : LayerInfo} (hwf : WF v li) (hf : Fits v li) {d : B} {p : Nat}
    (hat : At d p (encT v pad li)) :
    dec v d p = .ok (blockRefresh li, p + bodyLen v li) := by
  obtain ⟨n, rs, css⟩ := li
  unfold WF at hwf
  cases rs with
  | none => simp at hwf
  | some rs =>
    cases css with
    | none => simp at hwf
    | some css =>
      simp only at hwf
      obtain ⟨hcount, hshape, hrecs, hch⟩ := hwf
      obtain ⟨g1, _, _⟩ := hf
      simp only at g1
      unfold encT LayerInfo.bodyT at hat
      unfold bodyLen
      rw [blockRefresh_of_shapes n rs css hshape] at hat ⊢
      exact LayerInfo.bodyDec_step hcount hshape hrecs hch g1 hat

theorem enc_of_fits {v pad : Nat} {li : LayerInfo} (hf : Fits v li) : enc v pad li = .ok (encT v pad li) := if_pos hf

/-- the written bytes as a stream of their own (`LayerInfoBlock.frombytes`) -/
theorem dec_encT {v pad : Nat} {li : LayerInfo} (hwf : WF v li) (hf : Fits v li) :
    dec v (encT v pad li) 0 = .ok (blockRefresh li, bodyLen v li) := by
  have e := dec_at hwf hf (At.self (encT v pad li))
  rwa [Nat.zero_add] at e

end LayerInfoBlock

/-! ### payloads and typed blocks -/

theorem Payload.encP_eq (v pad : Nat) (x : Payload) : x.encP v pad = (x.encT v pad, (x.encT v pad).length) := by
  cases x with
  | raw b => rfl
  | layerInfo li => exact LayerInfoBlock.encP_eq v (innerPad pad) li

theorem Payload.refresh_idem (x : Payload) : x.refresh.refresh = x.refresh := by
  cases x with
  | raw b => rfl
  | layerInfo li => simp only [Payload.refresh, blockRefresh_idem]

theorem Payload.encT_refresh (v pad : Nat) (x : Payload) : x.refresh.encT v pad = x.encT v pad := by
  cases x with
  | raw b => rfl
  | layerInfo li => exact LayerInfoBlock.encT_refresh v (innerPad pad) li

theorem Payload.Fits_refresh (v : Nat) (x : Payload) : x.refresh.Fits v ↔ x.Fits v := by
  cases x with
  | raw b => exact Iff.rfl
  | layerInfo li => exact LayerInfoBlock.Fits_refresh v li

theorem TBlock.flat_refresh (v pad : Nat) (t : TBlock) : t.refresh.flat v pad = t.flat v pad := by
  simp only [TBlock.flat, TBlock.refresh, Payload.encT_refresh]

theorem TBlock.encT_refresh (v pad : Nat) (t : TBlock) : t.refresh.encT v pad = t.encT v pad := by
  simp only [TBlock.encT, TBlock.flat_refresh]

theorem TBlock.Fits_refresh (v pad : Nat) (t : TBlock) : t.refresh.Fits v pad ↔ t.Fits v pad := by
  unfold TBlock.Fits
  rw [TBlock.flat_refresh]
  simp only [TBlock.refresh, Payload.Fits_refresh]

theorem TBlock.enc_refresh (v pad : Nat) (t : TBlock) : t.refresh.enc v pad = t.enc v pad := by
  unfold TBlock.enc
  simp only [TBlock.Fits_refresh, TBlock.encT_refresh]

theorem TBlock.enc_ok {v pad : Nat} {t : TBlock} {bs : B} (h : t.enc v pad = .ok bs) :
    t.Fits v pad ∧ bs = t.encT v pad := by
  unfold TBlock.enc at h
  split at h
  · exact ⟨‹_›, by cases h; rfl⟩
  · cases h

theorem TBlock.encP_eq (v pad : Nat) (t : TBlock) : t.encP v pad = (t.encT v pad, (t.encT v pad).length) := by
  simp only [TBlock.encP, TBlock.encT, TBlock.flat, TaggedBlock.encT, Payload.encP_eq, wBytes_eq, wLenBlock_eq, wSeq_eq,
    List.append_assoc]

/-- the typed payload read from the bytes a well-formed typed payload wrote is that payload, as the writer left it -/
theorem typedPayload_encT {v pad : Nat} {t : TBlock} (hwf : t.WF v pad) :
    typedPayload v t.key (t.data.encT v pad) = .ok t.data.refresh := by
  obtain ⟨_, hfit, hcls⟩ := hwf
  obtain ⟨sig, key, data⟩ := t
  cases data with
  | raw b =>
    simp only at hcls
    simp only [typedPayload, if_neg hcls, Payload.encT, Payload.refresh]
  | layerInfo li =>
    simp only at hcls
    have e := LayerInfoBlock.dec_at (pad := innerPad pad) hcls.2 hfit (At.self _)
    simp only [typedPayload, if_pos hcls.1, Payload.encT, e, Payload.refresh]

/-- `TaggedBlock.read` with the payload dispatch, on what `TaggedBlock.write` wrote -/
theorem TBlock.dec_at {v pad : Nat} (hp : pad = 1 ∨ pad = 2 ∨ pad = 4) {t : TBlock} (hwf : t.WF v pad)
    {d : B} {p : Nat} (hat : At d p (t.encT v pad)) :
    TBlock.dec v pad d p = .ok (some t.refresh, p + (t.encT v pad).length) := by
  have hpl := typedPayload_encT hwf
  obtain ⟨⟨hsig, hk, hf⟩, _, _⟩ := hwf
  simp only [TBlock.flat] at hsig hk hf
  have hl : ∀ s ∈ G.blockSignatures, s.length = 4 := by decide
  have hs : pack4s t.signature = t.signature := pack4s_of_length (hl _ hsig)
  have hk' : pack4s t.key = t.key := pack4s_of_length hk
  unfold TBlock.encT at hat ⊢
  rw [TaggedBlock.length_encT]
  simp only [TaggedBlock.encT, TBlock.flat, List.append_assoc, hs, hk'] at hat ⊢
  obtain ⟨e1, hat⟩ := readN_step hat (hl _ hsig)
  obtain ⟨e2, hat⟩ := readN_step hat hk
  have e3 := readLenBlock_at hat hf (tbLenW_mod v t.key pad hp)
  simp only [TBlock.dec, bind, Except.bind, e1, if_pos hsig, e2, e3, hpl]
  simp only [TBlock.refresh, Nat.add_assoc]

theorem TBlock.length_ge (v pad : Nat) (t : TBlock) : 12 ≤ (t.encT v pad).length :=
  TaggedBlock.length_ge v pad (t.flat v pad)

/-- `TaggedBlocks.read` with the payload dispatch: every block comes back as its writer left it (`TBlock.refresh`) -/
theorem tblocksDec_at {v pad : Nat} (hp : pad = 1 ∨ pad = 2 ∨ pad = 4) {ts : List TBlock}
    (hwf : tblocksWF v pad ts) (endPos : Option Nat) {d : B} {p : Nat} (hat : At d p (tblocksT v pad ts))
    (hend : ∀ e, endPos = some e → p + (tblocksT v pad ts).length ≤ e)
    (hstop : taggedCond endPos d (p + (tblocksT v pad ts).length) = false) :
    tblocksDec v pad endPos d p = .ok (ts.map TBlock.refresh, p + (tblocksT v pad ts).length) := by
  obtain ⟨hall, hnd⟩ := hwf
  have e1 : readWhile (taggedCond endPos) (TBlock.dec v pad) d p =
      .ok (ts.map TBlock.refresh, p + (tblocksT v pad ts).length) := by
    exact readWhile_map_at _ _ (TBlock.encT v pad) TBlock.refresh ts hat
      (fun t ht q hq hle => ⟨taggedCond_inside hq (Nat.le_trans (by decide) (t.length_ge v pad)) hend hle,
        TBlock.dec_at hp (hall t ht) hq⟩)
      (fun t _ => Nat.le_trans (by decide) (t.length_ge v pad)) hstop
  have hkeys : (ts.map TBlock.refresh).map TBlock.key = ts.map TBlock.key := by
    simp only [List.map_map]; rfl
  simp only [tblocksDec, bind, Except.bind, e1, odict_of_nodup TBlock.key (ts.map TBlock.refresh) (hkeys ▸ hnd)]

theorem tblocksT_flat (v pad : Nat) (ts : List TBlock) :
    tblocksT v pad ts = taggedBlocksT v pad (ts.map (TBlock.flat v pad)) := by
  unfold tblocksT taggedBlocksT
  induction ts with
  | nil => rfl
  | cons t ts ih => simp only [listT, List.map_cons, ih, TBlock.encT]

end PsdVerif.Payload
