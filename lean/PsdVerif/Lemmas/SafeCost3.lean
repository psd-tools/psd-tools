/-
C06 — linear cost of the counting interpreter: the loops.

A loop is linear when every iteration pays for itself (its tick, its condition, its item) out of the
bytes it consumed: `IterPays` / `WhileItem`. `…of_pays` turn "the item pays with coefficient `a'` and
consumes ≥ `k` bytes inside the stream" into "the iteration pays for itself at coefficient `a' + j`".
Both are `PaysCr` with a credit that depends on what the item returned (`IterPays.withTick`, `WhileItem.paysCr`), so the
loops themselves are chains of `PaysCr.bind`.
-/
import PsdVerif.Lemmas.SafeCost2

namespace PsdVerif.SafeCost
open PsdVerif PsdVerif.Codec PsdVerif.Psd PsdVerif.PsdCost PsdVerif.Safe

/-- one iteration of a `for` loop: the item, the tick and a credit of `c` are paid by the bytes consumed,
up to `e` per iteration; on failure `bi` is enough -/
def IterPays {α : Type} (a bi c e : Nat) (d : B) (p : Nat) (x : CE (α × Nat)) : Prop :=
  match x.1 with
  | .ok (_, p') => p ≤ p' ∧ x.2.w + 1 + c + pot a d p' ≤ pot a d p + e
  | .error _ => x.2.w + 1 ≤ pot a d p + bi

theorem IterPays.of_ok {α : Type} {a bi c e : Nat} {d : B} {p : Nat} {x : CE (α × Nat)} {v : α} {p' : Nat}
    (h : IterPays a bi c e d p x) (hx : x.1 = .ok (v, p')) : p ≤ p' ∧ x.2.w + 1 + c + pot a d p' ≤ pot a d p + e := by
  unfold IterPays at h; rw [hx] at h; exact h

theorem IterPays.of_error {α : Type} {a bi c e : Nat} {d : B} {p : Nat} {x : CE (α × Nat)} {er : Err}
    (h : IterPays a bi c e d p x) (hx : x.1 = .error er) : x.2.w + 1 ≤ pot a d p + bi := by
  unfold IterPays at h; rw [hx] at h; exact h

/-- a success of a reader that erases to `r` advanced by `k ≥ 1` bytes and stayed inside the stream -/
theorem Good.inside {α : Type} {k : Nat} {d : B} {p : Nat} {x : CE (α × Nat)} {r : Except Err (α × Nat)}
    (hfst : x.1 = r) (g : Good k d p r) (hk : 1 ≤ k := by decide) (v : α) (p' : Nat) (hx : x.1 = .ok (v, p')) :
    p + k ≤ p' ∧ p' ≤ d.length := by
  have := g.of_ok (hfst.symm.trans hx); omega

/-- an item that pays at `a'` and, when it succeeds, has consumed ≥ `k` bytes inside the stream pays for its iteration
at `a' + j` when `j * k` covers the constants -/
theorem IterPays.of_pays {α : Type} {a' b' bi c e k j : Nat} {d : B} {p : Nat} {x : CE (α × Nat)}
    (h : Pays a' b' d p x) (g : ∀ v p', x.1 = .ok (v, p') → p + k ≤ p' ∧ p' ≤ d.length) (H : b' + 1 + c ≤ j * k + e)
    (hbi : b' + 1 ≤ bi) : IterPays (a' + j) bi c e d p x := by
  unfold IterPays
  cases hx : x.1 with
  | error er =>
    have h1 := h.of_error hx
    simp only
    rw [pot_add]; omega
  | ok y =>
    obtain ⟨v, p'⟩ := y
    have h1 := h.of_ok hx
    have g1 := g v p' hx
    have hs := pot_split j d (p := p) (q := p') (k := p' - p) (by omega) g1.2
    have hm : j * k ≤ j * (p' - p) := Nat.mul_le_mul_left j (by omega)
    simp only
    rw [pot_add, pot_add]
    exact ⟨h1.1, by omega⟩

/-- an item that may consume nothing: the iteration costs its tick -/
theorem IterPays.of_pays0 {α : Type} {a b' : Nat} {d : B} {p : Nat} {x : CE (α × Nat)}
    (h : Pays a b' d p x) : IterPays a (b' + 1) 0 (b' + 1) d p x := by
  unfold IterPays
  cases hx : x.1 with
  | error er => have h1 := h.of_error hx; simp only; omega
  | ok y =>
    obtain ⟨v, p'⟩ := y
    have h1 := h.of_ok hx
    simp only
    exact ⟨h1.1, by omega⟩

/-- an iteration judgement is `PaysCr` for the iteration with its tick: the failure constant `bi` is handed on as credit -/
theorem IterPays.withTick {α : Type} {a bi c e : Nat} {d : B} {p : Nat} {x : CE (α × Nat)} (h : IterPays a bi c e d p x) :
    PaysCr a (bi + e) d p (PsdCost.tick >>= fun _ => x) (fun _ => c + bi) := by
  rw [bind_ok' tick_fst]
  refine PaysCr.intro (fun v p' hx => ?_) (fun er hx => ?_)
  · have h1 := h.of_ok hx
    refine ⟨h1.1, ?_⟩
    show (PsdCost.tick.2 + x.2).w + _ + _ ≤ _
    rw [w_add, tick_w]
    omega
  · have h1 := h.of_error hx
    show (PsdCost.tick.2 + x.2).w ≤ _
    rw [w_add, tick_w]
    omega

theorem readForC_pays {α β : Type} {item : β → RC α} {a bi c e : Nat} {d : B} (xs : List β)
    (hi : ∀ x ∈ xs, ∀ p, IterPays a bi c e d p (item x d p)) (p : Nat) :
    PaysCr a (bi + e * xs.length) d p (readForC item xs d p) (fun vs => c * vs.length) := by
  induction xs generalizing p with
  | nil => exact PaysCr.ok _ (Nat.le_refl _) (by simp)
  | cons x xs ih =>
    have ih := ih (fun z hz => hi z (by simp [hz]))
    unfold readForC
    rw [List.length_cons, Nat.mul_succ, ← bind_assoc]
    refine PaysCr.bind (hi x (by simp) p).withTick (fun a1 p1 _ => ?_)
    refine PaysCr.bind (ih p1) (fun as p2 _ => PaysCr.ok _ (Nat.le_refl _) ?_)
    rw [List.length_cons, Nat.mul_succ]
    omega
theorem readCountC_pays {α : Type} {item : RC α} {a bi c e : Nat} {d : B}
    (hi : ∀ p, IterPays a bi c e d p (item d p)) (n : Nat) (p : Nat) :
    PaysCr a (bi + e * n) d p (readCountC item n d p) (fun vs => c * vs.length) := by
  have h := readForC_pays (List.replicate n ()) (fun _ _ => hi) p
  rwa [List.length_replicate, ← readCountC_eq_readForC] at h

/-- one iteration of a `while` loop whose condition costs at most `cc` -/
def WhileItem {α : Type} (a bi cc : Nat) (d : B) (p : Nat) (x : CE (Option α × Nat)) : Prop :=
  match x.1 with
  | .ok (some _, p') => p ≤ p' ∧ x.2.w + 1 + cc + pot a d p' ≤ pot a d p
  | .ok (none, p') => p ≤ p' ∧ x.2.w + 1 + cc + pot a d p' ≤ pot a d p + bi
  | .error _ => x.2.w + 1 + cc ≤ pot a d p + bi

/-- an item of a `while` loop is `PaysCr` with a credit that depends on what it returned: an element hands on the whole
budget of the loop, `None` nothing -/
theorem WhileItem.paysCr {α : Type} {a bi cc : Nat} {d : B} {p : Nat} {x : CE (Option α × Nat)} (h : WhileItem a bi cc d p x) :
    PaysCr a bi d p x (fun o => match o with | some _ => bi + (1 + cc) | none => 0) := by
  unfold WhileItem at h
  refine PaysCr.intro (fun o p' hx => ?_) (fun er hx => ?_)
  · rw [hx] at h
    cases o with
    | none => exact ⟨h.1, by have := h.2; dsimp only; omega⟩
    | some v => exact ⟨h.1, by have := h.2; dsimp only; omega⟩
  · rw [hx] at h
    have : x.2.w + 1 + cc ≤ pot a d p + bi := h
    omega

theorem readWhileFuelC_pays {α : Type} {condC : B → Nat → CE Bool} {cond : B → Nat → Bool} {item : RC (Option α)}
    {a bi cc : Nat} {d : B} (hc1 : ∀ p, (condC d p).1 = .ok (cond d p)) (hc2 : ∀ p, (condC d p).2.w ≤ cc)
    (hi : ∀ p, cond d p = true → WhileItem a bi cc d p (item d p)) (fuel : Nat) (p : Nat) :
    Pays a (bi + (1 + cc)) d p (readWhileFuelC condC item fuel d p) := by
  induction fuel generalizing p with
  | zero => exact PaysCr.error _
  | succ fuel ih =>
    unfold readWhileFuelC
    refine PaysCr.bind_nested (n := 1) (Nat.le_of_eq tick_w) fun _ _ => ?_
    refine PaysCr.bind_nested (n := cc) (hc2 p) fun c hc => ?_
    have hcd : c = cond d p := Except.ok.inj (hc.symm.trans (hc1 p))
    split
    · refine PaysCr.bind (b₁ := bi) (hi p (hcd ▸ ‹c = true›)).paysCr fun o p1 _ => ?_
      cases o with
      | none => exact PaysCr.ok _
      | some a1 =>
        dsimp only
        exact PaysCr.bind (ih p1) fun as p2 _ => PaysCr.ok _
    · exact PaysCr.ok _
theorem readWhileC_pays {α : Type} {condC : B → Nat → CE Bool} {cond : B → Nat → Bool} {item : RC (Option α)}
    {a bi cc : Nat} {d : B} (hc1 : ∀ p, (condC d p).1 = .ok (cond d p)) (hc2 : ∀ p, (condC d p).2.w ≤ cc)
    (hi : ∀ p, cond d p = true → WhileItem a bi cc d p (item d p)) (p : Nat) :
    Pays a (bi + (1 + cc)) d p (readWhileC condC item d p) :=
  readWhileFuelC_pays hc1 hc2 hi _ p

theorem optItemC_pays {α : Type} {item : RC α} {a b : Nat} {d : B} {p : Nat} (h : Pays a b d p (item d p)) :
    Pays a b d p (optItemC item d p) := by
  unfold optItemC
  refine PaysCr.bind h fun v p' _ => ?_
  exact PaysCr.ok _

/-- an item that returns `None` or an element: when the element took `k` bytes inside the stream, `j * k` pays the
constants -/
theorem WhileItem.of_paysOpt {α : Type} {a' b' bi cc k j : Nat} {d : B} {p : Nat} {x : CE (Option α × Nat)}
    (h : Pays a' b' d p x) (g : ∀ v p', x.1 = .ok (some v, p') → p + k ≤ p' ∧ p' ≤ d.length)
    (H : b' + 1 + cc ≤ j * k) (hbi : b' + 1 + cc ≤ bi) : WhileItem (a' + j) bi cc d p x := by
  unfold WhileItem
  cases hx : x.1 with
  | error er =>
    have h1 := h.of_error hx
    simp only
    rw [pot_add]; omega
  | ok y =>
    obtain ⟨o, p'⟩ := y
    have h1 := h.of_ok hx
    have h2 := pot_anti j d h1.1
    cases o with
    | none => simp only; rw [pot_add, pot_add]; exact ⟨h1.1, by omega⟩
    | some v =>
      have g1 := g v p' hx
      have hs := pot_split j d (p := p) (q := p') (k := p' - p) (by omega) g1.2
      have hm : j * k ≤ j * (p' - p) := Nat.mul_le_mul_left j (by omega)
      simp only
      rw [pot_add, pot_add]
      exact ⟨h1.1, by omega⟩

/-- `optItem X`: always `some`; pays for its iteration at `a' + j` -/
theorem WhileItem.of_pays {α : Type} {a' b' bi cc k j : Nat} {d : B} {p : Nat} {itemC : RC α}
    (h : Pays a' b' d p (itemC d p)) (g : ∀ v p', (itemC d p).1 = .ok (v, p') → p + k ≤ p' ∧ p' ≤ d.length)
    (H : b' + 1 + cc ≤ j * k) (hbi : b' + 1 + cc ≤ bi) : WhileItem (a' + j) bi cc d p (optItemC itemC d p) := by
  refine WhileItem.of_paysOpt (optItemC_pays h) (fun v p' hx => ?_) H hbi
  unfold optItemC at hx
  rw [bind_fst] at hx
  cases hi : (itemC d p).1 with
  | error e => rw [hi] at hx; cases hx
  | ok z =>
    obtain ⟨v', p2⟩ := z
    rw [hi] at hx
    cases hx
    exact g v p' hi

end PsdVerif.SafeCost
