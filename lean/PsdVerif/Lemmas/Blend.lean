/-
Scalar vocabulary for C12 (blend functions): the interval `[0,1]` and its closure properties, the
model's `if`-defined `rmin / rmax / rabs` as Mathlib's `min / max / |·|`, the modes written with `let`
as plain equations, the `ε` estimate for clipped quotients, and the `offDisc…` hypotheses of the
`_near_spec` theorems with the grid facts that discharge those of the separable modes.
Mathlib single modules only.
-/
import Mathlib.Tactic.Linarith
import Mathlib.Tactic.Ring
import Mathlib.Tactic.FieldSimp
import Mathlib.Algebra.Order.Field.Basic
import PsdVerif.Model.Blend

namespace PsdVerif.Blend

/-- a colour component: `x ∈ [0,1]` -/
def unit (x : Rat) : Prop := 0 ≤ x ∧ x ≤ 1

theorem eps_pos : 0 < eps := by unfold eps; norm_num
theorem eps_lt_one : eps < 1 := by unfold eps; norm_num

/-! ### `rmin`, `rmax`, `rabs` and the published `smin`, `smax` are the order's -/

theorem rmin_eq_min (a b : Rat) : rmin a b = min a b := (min_def a b).symm
theorem rmax_eq_max (a b : Rat) : rmax a b = max a b := (max_def a b).symm
theorem smin_eq_min (a b : Rat) : Spec.smin a b = min a b := (min_def_lt b a).symm.trans (min_comm b a)
theorem smax_eq_max (a b : Rat) : Spec.smax a b = max a b := (max_def_lt a b).symm
theorem rabs_eq_abs (a : Rat) : rabs a = |a| := by
  unfold rabs; split_ifs with h
  · exact (abs_of_neg h).symm
  · exact (abs_of_nonneg (not_lt.mp h)).symm

theorem rmin_le_left (a b : Rat) : rmin a b ≤ a := rmin_eq_min a b ▸ min_le_left a b
theorem rmin_le_right (a b : Rat) : rmin a b ≤ b := rmin_eq_min a b ▸ min_le_right a b
theorem le_rmin {a b c : Rat} (h1 : c ≤ a) (h2 : c ≤ b) : c ≤ rmin a b :=
  rmin_eq_min a b ▸ le_min h1 h2
theorem le_rmax_left (a b : Rat) : a ≤ rmax a b := rmax_eq_max a b ▸ le_max_left a b
theorem le_rmax_right (a b : Rat) : b ≤ rmax a b := rmax_eq_max a b ▸ le_max_right a b
theorem rmax_le {a b c : Rat} (h1 : a ≤ c) (h2 : b ≤ c) : rmax a b ≤ c :=
  rmax_eq_max a b ▸ max_le h1 h2

/-- the code tests `Cs > ½` where the published formulas test `cs ≤ ½` -/
theorem ite_gt_eq {α : Sort _} (a b : Rat) (x y : α) :
    (if a > b then x else y) = if a ≤ b then y else x := by
  by_cases h : a ≤ b
  · rw [if_pos h, if_neg (not_lt.mpr h)]
  · rw [if_neg h, if_pos (not_le.mp h)]

/-- `B[B > 1] = 1` -/
theorem ite_gt_one_eq_min (x : Rat) : (if x > 1 then 1 else x) = min 1 x := by
  rw [ite_gt_eq, min_comm]; exact (min_def x 1).symm

/-! ### The modes that the model writes with `let` (NumPy's masked assignments), as equations -/

theorem hardLight_eq (Cb Cs : Rat) :
    hardLight Cb Cs = if Cs > 1 / 2 then screen Cb (2 * Cs - 1) else multiply Cb (2 * Cs) := rfl
theorem vividLight_eq (Cb Cs : Rat) :
    vividLight Cb Cs = if Cs > 1 / 2 then colorDodge Cb (Cs * 2 - 1) else colorBurn Cb (Cs * 2) := rfl
theorem linearLight_eq (Cb Cs : Rat) :
    linearLight Cb Cs = if Cs > 1 / 2 then linearDodge Cb (2 * Cs - 1) else linearBurn Cb (2 * Cs) := rfl
theorem pinLight_eq (Cb Cs : Rat) :
    pinLight Cb Cs = if Cs > 1 / 2 then lighten Cb (2 * Cs - 1) else darken Cb (2 * Cs) := rfl
theorem hardMix_eq (Cb Cs : Rat) : hardMix Cb Cs = if Cb + c999999 * Cs ≥ 1 then 1 else 0 := rfl

/-- `B[Cb == 0] = 0` is assigned after `B[Cs == 1] = 1`, so at `(0, 1)` the value is 0: the W3C form of the
published formula, not PDF 1.7 Table 136 -/
theorem colorDodge_eq (Cb Cs : Rat) :
    colorDodge Cb Cs = if Cb = 0 then 0 else if Cs = 1 then 1 else rmin 1 (Cb / (1 - Cs + eps)) := by
  unfold colorDodge
  by_cases hb : Cb = 0 <;> by_cases hs : Cs = 1 <;> simp [hb, hs]

theorem colorBurn_eq (Cb Cs : Rat) :
    colorBurn Cb Cs = if Cb = 1 then 1 else if Cs = 0 then 0 else 1 - rmin 1 ((1 - Cb) / (Cs + eps)) := by
  unfold colorBurn
  by_cases hb : Cb = 1 <;> by_cases hs : Cs = 0 <;> simp [hb, hs]

theorem divide_eq (Cb Cs : Rat) : divide Cb Cs = rmin 1 (Cb / (Cs + eps)) :=
  (ite_gt_one_eq_min _).trans (rmin_eq_min _ _).symm

section
variable {a b t x : Rat}

theorem unit_zero : unit 0 := ⟨le_rfl, zero_le_one⟩
theorem unit_one : unit 1 := ⟨zero_le_one, le_rfl⟩
theorem unit.compl (h : unit x) : unit (1 - x) := ⟨sub_nonneg.mpr h.2, sub_le_self 1 h.1⟩
theorem unit.mul (ha : unit a) (hb : unit b) : unit (a * b) :=
  ⟨mul_nonneg ha.1 hb.1, mul_le_one₀ ha.2 hb.1 hb.2⟩
theorem unit_div (ha : 0 ≤ a) (hab : a ≤ b) (hb : 0 < b) : unit (a / b) :=
  ⟨div_nonneg ha hb.le, (div_le_one hb).mpr hab⟩
/-- `[0,1]` is convex: `a + t (b - a) = (1 - t) a + t b` -/
theorem unit.lerp (ha : unit a) (hb : unit b) (ht : unit t) : unit (a + t * (b - a)) := by
  have e : a + t * (b - a) = (1 - t) * a + t * b := by ring
  have h1 := ht.compl.mul ha
  have h2 := ht.mul hb
  have h3 := ht.compl.mul ha.compl
  have h4 := ht.mul hb.compl
  rw [e]
  exact ⟨add_nonneg h1.1 h2.1, by linarith [h3.1, h4.1]⟩
theorem unit_rmin (ha : unit a) (hb : unit b) : unit (rmin a b) := by
  unfold rmin; split_ifs <;> assumption
theorem unit_rmax (ha : unit a) (hb : unit b) : unit (rmax a b) := by
  unfold rmax; split_ifs <;> assumption

/-- the shape of hard, vivid, linear and pin light: one mode on `2 Cs - 1` where `Cs > ½`, another on
`2 Cs` elsewhere -/
theorem unit_halves {f g : Rat → Rat} (hf : ∀ s, unit s → unit (f s)) (hg : ∀ s, unit s → unit (g s))
    (hx : unit x) : unit (if x > 1 / 2 then f (2 * x - 1) else g (2 * x)) := by
  obtain ⟨x0, x1⟩ := hx
  split_ifs with h
  · exact hf _ ⟨by linarith, by linarith⟩
  · exact hg _ ⟨by linarith, by linarith⟩

theorem unit_rmin_one (h : 0 ≤ x) : unit (rmin 1 x) := ⟨le_rmin zero_le_one h, rmin_le_left 1 x⟩
theorem unit_rmax_zero (h : x ≤ 1) : unit (rmax 0 x) := ⟨le_rmax_left 0 x, rmax_le zero_le_one h⟩

end

theorem screen_eq (Cb Cs : Rat) : screen Cb Cs = 1 - (1 - Cb) * (1 - Cs) := by unfold screen; ring

/-- a `…Dens` list that holds one denominator under a mask -/
theorem ite_dens_pos {c : Prop} [Decidable c] {a : Rat} (h : c → 0 < a) :
    ∀ d ∈ (if c then [a] else []), 0 < d := by
  intro d hd
  split_ifs at hd with hc
  · rw [List.mem_singleton.mp hd]; exact h hc
  · cases hd

/-- dodge divides only where `Cs ≠ 1`; `Cs ≤ 1` is all it needs (vivid light calls it with `2 Cs - 1 < 0`) -/
theorem colorDodgeDens_pos {Cb Cs : Rat} (hs : Cs ≤ 1) : ∀ d ∈ colorDodgeDens Cb Cs, 0 < d :=
  ite_dens_pos fun _ => by linarith [eps_pos]
theorem colorBurnDens_pos {Cb Cs : Rat} (hs : 0 ≤ Cs) : ∀ d ∈ colorBurnDens Cb Cs, 0 < d :=
  ite_dens_pos fun _ => by linarith [eps_pos]

theorem div_sub_div_add {x d e : Rat} (hd : 0 < d) (hde : 0 < d + e) :
    x / d - x / (d + e) = x / (d + e) * (e / d) := by
  field_simp; ring

/-- The estimate behind the `ε`-ed separable modes and `_set_sat`: for `x ≥ 0` and a denominator
`d ≥ δ > 0`, `min(1, x/(d+e))` (code, `e = ε`) and `min(1, x/d)` (published) differ by at most `e/δ`.
(`_clip_color` has its own, `scale_add_near`; both rest on `div_sub_div_add`.) -/
theorem min_div_add_near {x d δ e : Rat} (he : 0 ≤ e) (hx : 0 ≤ x) (hδ : 0 < δ) (hd : δ ≤ d) :
    |min 1 (x / (d + e)) - min 1 (x / d)| ≤ e / δ := by
  have hd0 : 0 < d := lt_of_lt_of_le hδ hd
  have hde : 0 < d + e := by linarith
  have hle : x / (d + e) ≤ x / d := div_le_div_of_nonneg_left hx hd0 (by linarith)
  have hed : 0 ≤ e / d := div_nonneg he hd0.le
  have hbound : e / d ≤ e / δ := div_le_div_of_nonneg_left he hδ hd
  rw [abs_sub_comm, abs_of_nonneg (sub_nonneg.mpr (min_le_min le_rfl hle))]
  by_cases h1 : 1 ≤ x / (d + e)
  · rw [min_eq_left h1, min_eq_left (le_trans h1 hle), sub_self]; exact hed.trans hbound
  · have h1' : x / (d + e) ≤ 1 := (not_le.mp h1).le
    rw [min_eq_right h1']
    calc min 1 (x / d) - x / (d + e) ≤ x / d - x / (d + e) :=
          sub_le_sub_right (min_le_right _ _) _
      _ = x / (d + e) * (e / d) := div_sub_div_add hd0 hde
      _ ≤ 1 * (e / d) := mul_le_mul_of_nonneg_right h1' hed
      _ ≤ e / δ := by rw [one_mul]; exact hbound

/-- without the clip, for a quotient that is at most 1 -/
theorem div_add_near {x d δ e : Rat} (he : 0 ≤ e) (hx : 0 ≤ x) (hxd : x ≤ d) (hδ : 0 < δ) (hd : δ ≤ d) :
    |x / (d + e) - x / d| ≤ e / δ := by
  have hd0 : 0 < d := lt_of_lt_of_le hδ hd
  have h := min_div_add_near he hx hδ hd
  rwa [min_eq_right ((div_le_one hd0).mpr hxd),
    min_eq_right ((div_le_one (by linarith)).mpr (by linarith))] at h

/-! ### `offDisc…`: the hypotheses of the `_near_spec` theorems

They exclude only jump sets of the PUBLISHED formulas and ask that a denominator of the published
formula that is not 0 be at least `δ`.  All 8- and 16-bit data satisfy them with `δ = 1/65535`: proved for
the separable modes (`PsdVerif.C12.offDisc_*_of_grid`), not for `offDiscSat`.  `tol δ = ε/δ` is the
resulting bound.  The separable ones all take `δ Cb Cs`; dodge and burn do not depend on `Cb`. -/
def tol (δ : Rat) : Rat := eps / δ
/-- colour dodge: `Cs = 1` (value 1) or `1 - Cs ≥ δ` -/
def offDiscDodge (δ _Cb Cs : Rat) : Prop := Cs = 1 ∨ δ ≤ 1 - Cs
/-- colour burn: `Cs = 0` (value 0) or `Cs ≥ δ` -/
def offDiscBurn (δ _Cb Cs : Rat) : Prop := Cs = 0 ∨ δ ≤ Cs
def offDiscVivid (δ Cb Cs : Rat) : Prop :=
  (Cs ≤ 1 / 2 → offDiscBurn δ Cb (2 * Cs)) ∧ (1 / 2 < Cs → offDiscDodge δ Cb (2 * Cs - 1))
/-- divide: `Cs ≥ δ`, or `Cs = 0` with `Cb ≥ δ` (excluded: `0/0` and `0 < Cb < δ` over black) -/
def offDiscDivide (δ Cb Cs : Rat) : Prop := δ ≤ Cs ∨ (Cs = 0 ∧ δ ≤ Cb)
/-- hard mix: off the jump line `Cb + Cs = 1` (by `δ` on the upper side, where the code's
`0.999999` moves the threshold) -/
def offDiscHardMix (δ Cb Cs : Rat) : Prop := Cb + Cs < 1 ∨ 1 + δ ≤ Cb + Cs
/-- `SetSat`: zero saturation or saturation at least `δ` -/
def offDiscSat (δ : Rat) (c : RGB) : Prop := c.max3 = c.min3 ∨ δ ≤ c.max3 - c.min3

theorem tol_nonneg {δ : Rat} (hδ : 0 < δ) : 0 ≤ tol δ := div_nonneg eps_pos.le hδ.le

/-- doubling the source moves it away from the jumps of burn (at 0) and dodge (at 1) -/
theorem offDiscVivid_of {δ Cb Cs : Rat} (hδ : 0 ≤ δ) (hb : offDiscBurn δ Cb Cs)
    (hd : offDiscDodge δ Cb Cs) : offDiscVivid δ Cb Cs := by
  constructor
  · intro _
    rcases hb with h | h
    · left; rw [h, mul_zero]
    · right; linarith
  · intro _
    rcases hd with h | h
    · left; rw [h]; norm_num
    · right; linarith

theorem grid_step {N k : Nat} (hN : 0 < N) (hN' : N ≤ 65535) (hk : k ≠ 0) :
    (1 : Rat) / 65535 ≤ k / N := by
  have hNq : (0 : Rat) < N := by exact_mod_cast hN
  have hN65 : (N : Rat) ≤ 65535 := by exact_mod_cast hN'
  have hq : (1 : Rat) ≤ k := by exact_mod_cast Nat.one_le_iff_ne_zero.mpr hk
  exact (one_div_le_one_div_of_le hNq hN65).trans (div_le_div_of_nonneg_right hq hNq.le)

/-- two distinct points of a grid `k/N`, `N ≤ 65535`, are at least `1/65535` apart -/
theorem grid_step_sub {N j k : Nat} (hN : 0 < N) (hN' : N ≤ 65535) (hk : k < j) :
    (1 : Rat) / 65535 ≤ j / N - k / N := by
  have h := grid_step hN hN' (Nat.sub_ne_zero_of_lt hk)
  rwa [Nat.cast_sub hk.le, sub_div] at h

end PsdVerif.Blend
