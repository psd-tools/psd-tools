/-
C02 on the payload layer — `struct` formats: what `read_fmt` returns, `write_fmt` accepts.

* same format on both sides: `fmtDec_ok` (the row read satisfies `fmtFits` and `fmtWF` of the format it was read with);
* a (read format, write format) pair: `FT.dec_accepts` / `fmtDec_accepts` (sound) and `FT.accepts_iff` (exact: when the pair
  is not accepting there is an accepted byte string whose value `struct.pack` rejects — signed against unsigned of the same
  width is the case that matters).
-/
import PsdVerif.Lemmas.Payload3Base
import PsdVerif.Lemmas.Lenient1
import PsdVerif.Model.PayloadResave

namespace PsdVerif.Payload3
open PsdVerif.Codec PsdVerif.Payload

/-- the widths `struct` has: `b`, `h`, `i`, `q` -/
def _root_.PsdVerif.Payload.SWidth (w : Nat) : Prop := w = 1 ∨ w = 2 ∨ w = 4 ∨ w = 8

theorem sWidth_of_ok {w : Nat} (h : (FT.s w).ok = true) : SWidth w := by
  simp only [FT.ok, Bool.or_eq_true, beq_iff_eq] at h
  unfold SWidth; omega

theorem natToS_fits {w n : Nat} (hw : SWidth w) (h : n < 256 ^ w) : FitsS w (natToS w n) := by
  rcases hw with rfl | rfl | rfl | rfl <;>
    (simp only [FitsS, natToS, Nat.reducePow, Nat.reduceDiv] at *; split <;> omega)

theorem readS_ok {w : Nat} {d : B} {p : Nat} {z : Int} {p' : Nat} (hw : SWidth w) (h : readS w d p = .ok (z, p')) :
    FitsS w z ∧ p' = p + w ∧ p + w ≤ d.length := by
  unfold readS at h
  split at h
  · rename_i n q hq
    obtain ⟨h1, h2, h3⟩ := readU_ok hq
    cases h
    exact ⟨natToS_fits hw h1, h2, h3⟩
  · cases h

/-- what `struct.unpack` returns for one field: accepted by `struct.pack` for the SAME field, in the form the round-trip
law wants (a `bool` for `?`, all `n` bytes for `ns`), the cursor after the field -/
theorem FT.dec_ok {t : FT} (hok : t.ok = true) {d : B} {p : Nat} {v : FV} {p' : Nat} (h : t.dec d p = .ok (v, p')) :
    t.Fits v ∧ t.WF v ∧ p' = p + t.size ∧ p + t.size ≤ d.length := by
  cases t with
  | u w =>
    simp only [FT.dec] at h
    split at h
    · rename_i n q hq
      obtain ⟨h1, h2, h3⟩ := readU_ok hq
      cases h
      refine ⟨?_, trivial, h2, h3⟩
      simp only [FT.Fits, Int.toNat_natCast]
      exact ⟨by omega, h1⟩
    · cases h
  | s w =>
    simp only [FT.dec] at h
    split at h
    · rename_i z q hq
      obtain ⟨h1, h2, h3⟩ := readS_ok (sWidth_of_ok hok) hq
      cases h
      exact ⟨h1, trivial, h2, h3⟩
    · cases h
  | q =>
    simp only [FT.dec] at h
    split at h
    · rename_i b q hq
      obtain ⟨h2, h3⟩ := readBool_ok hq
      cases h
      refine ⟨trivial, ?_, h2, h3⟩
      simp only [FT.WF]
      cases b <;> simp
    · cases h
  | str n =>
    simp only [FT.dec] at h
    split at h
    · rename_i b q hq
      obtain ⟨h1, h2, h3⟩ := readN_ok hq
      cases h
      exact ⟨trivial, h1, h2, h3⟩
    · cases h

theorem readSkip_ok {n : Nat} {d : B} {p : Nat} {u : Unit} {p' : Nat} (h : readSkip n d p = .ok (u, p')) :
    p' = p + n ∧ p + n ≤ d.length := by
  unfold readSkip at h
  split at h
  · rename_i b q hq
    obtain ⟨_, h2, h3⟩ := readN_ok hq
    cases h
    exact ⟨h2, h3⟩
  · cases h

/-- `read_fmt(fmt, fp)` returns a row that `write_fmt(fp, fmt, *row)` accepts and that the round-trip law covers -/
theorem fmtDec_ok : ∀ (fs : List FI), fs.all FI.ok = true → ∀ {d : B} {p : Nat} {vs : Row} {p' : Nat},
    fmtDec fs d p = .ok (vs, p') → fmtFits fs vs ∧ fmtWF fs vs ∧ p' = p + fmtSize fs
  | [], _, d, p, vs, p', h => by
    simp only [fmtDec] at h
    cases h
    simp only [fmtFits, fmtWF, fmtSize, Nat.add_zero, and_self]
  | .pad n :: fs, hok, d, p, vs, p', h => by
    simp only [List.all_cons, Bool.and_eq_true] at hok
    simp only [fmtDec] at h
    split at h
    · rename_i u q hq
      obtain ⟨h2, h3⟩ := readSkip_ok hq
      obtain ⟨a, b, c⟩ := fmtDec_ok fs hok.2 h
      refine ⟨by simpa only [fmtFits] using a, by simpa only [fmtWF] using b, ?_⟩
      simp only [fmtSize]; omega
    · cases h
  | .fld t :: fs, hok, d, p, vs, p', h => by
    simp only [List.all_cons, Bool.and_eq_true, FI.ok] at hok
    simp only [fmtDec] at h
    split at h
    · rename_i v q hq
      obtain ⟨f1, w1, h2, h3⟩ := FT.dec_ok hok.1 hq
      split at h
      · rename_i vs' q' hq'
        obtain ⟨a, b, c⟩ := fmtDec_ok fs hok.2 hq'
        cases h
        refine ⟨by simp only [fmtFits]; exact ⟨f1, a⟩, by simp only [fmtWF]; exact ⟨w1, b⟩, ?_⟩
        simp only [fmtSize]; omega
      · cases h
    · cases h

theorem rets_fmtDec {fs : List FI} (hok : fs.all FI.ok = true) {d : B} {p : Nat} :
    Rets (fmtDec fs d p) fun r => fmtFits fs r ∧ fmtWF fs r :=
  fun _ _ h => ⟨(fmtDec_ok fs hok h).1, (fmtDec_ok fs hok h).2.1⟩

theorem fmtFits_fld {t : FT} {fs : List FI} {r : Row} (h : fmtFits (.fld t :: fs) r) :
    ∃ v r', r = v :: r' ∧ t.Fits v ∧ fmtFits fs r' := by
  cases r with
  | nil => exact absurd h id
  | cons v r' => exact ⟨v, r', rfl, h⟩

theorem FT.fits_u {w : Nat} {v : FV} (h : (FT.u w).Fits v) : ∃ z, v = .int z ∧ 0 ≤ z ∧ z.toNat < 256 ^ w := by
  cases v with
  | int z => exact ⟨z, rfl, h⟩
  | bytes b => exact absurd h id

theorem pow256_pos (a : Nat) : 0 < 256 ^ a := Nat.pow_pos (by decide)

theorem pow256_le {a b : Nat} (h : a ≤ b) : 256 ^ a ≤ 256 ^ b := Nat.pow_le_pow_right (by decide) h

theorem pow256_lt {a b : Nat} (h : a < b) : 2 * 256 ^ a ≤ 256 ^ b := by
  have h1 : 256 ^ (a + 1) ≤ 256 ^ b := pow256_le h
  rw [Nat.pow_succ] at h1
  have := pow256_pos a
  omega

/-- sound: when the pair is accepting, whatever the reader's field returns, the writer's field packs -/
theorem FT.dec_accepts {r w : FT} (hr : r.ok = true) (hw : w.ok = true) (ha : r.accepts w = true) {d : B} {p : Nat} {v : FV}
    {p' : Nat} (h : r.dec d p = .ok (v, p')) : w.Fits v := by
  obtain ⟨hf, hwf, _, _⟩ := FT.dec_ok hr h
  cases r with
  | u a =>
    cases v with
    | bytes b => simp only [FT.Fits] at hf
    | int z =>
      simp only [FT.Fits] at hf
      cases w with
      | u b =>
        simp only [FT.accepts, decide_eq_true_eq] at ha
        have := pow256_le ha
        exact ⟨hf.1, by omega⟩
      | s b =>
        simp only [FT.accepts, decide_eq_true_eq] at ha
        have := pow256_lt ha
        simp only [FT.Fits, FitsS]
        omega
      | q => trivial
      | str n => simp only [FT.accepts] at ha; cases ha
  | s a =>
    cases v with
    | bytes b => simp only [FT.Fits] at hf
    | int z =>
      simp only [FT.Fits] at hf
      cases w with
      | u b => simp only [FT.accepts] at ha; cases ha
      | s b =>
        simp only [FT.accepts, decide_eq_true_eq] at ha
        have := pow256_le ha
        have := pow256_pos a
        simp only [FT.Fits, FitsS] at hf ⊢
        omega
      | q => trivial
      | str n => simp only [FT.accepts] at ha; cases ha
  | q =>
    cases v with
    | bytes b => simp only [FT.WF] at hwf; simp only [FT.Fits] at hf
    | int z =>
      simp only [FT.WF] at hwf
      cases w with
      | u b =>
        simp only [FT.accepts, decide_eq_true_eq] at ha
        have := pow256_lt (a := 0) ha
        simp only [FT.Fits]
        omega
      | s b =>
        simp only [FT.accepts, decide_eq_true_eq] at ha
        have := pow256_lt (a := 0) ha
        have : (256 : Nat) ^ b = 256 ^ (b - 1) * 256 := by rw [← Nat.pow_succ]; congr 1; omega
        have := pow256_pos (b - 1)
        simp only [FT.Fits, FitsS]
        omega
      | q => trivial
      | str n => simp only [FT.accepts] at ha; cases ha
  | str n =>
    cases v with
    | int z => simp only [FT.Fits] at hf
    | bytes b =>
      cases w with
      | str m => trivial
      | u b => simp only [FT.accepts] at ha; cases ha
      | s b => simp only [FT.accepts] at ha; cases ha
      | q => simp only [FT.accepts] at ha; cases ha

theorem fmtDec_accepts : ∀ (rs ws : List FI), rs.all FI.ok = true → ws.all FI.ok = true → fmtAccepts rs ws = true →
    ∀ {d : B} {p : Nat} {vs : Row} {p' : Nat}, fmtDec rs d p = .ok (vs, p') → fmtFits ws vs ∧ fmtSize rs = fmtSize ws
  | [], [], _, _, _, d, p, vs, p', h => by
    simp only [fmtDec] at h; cases h; exact ⟨rfl, rfl⟩
  | .pad n :: rs, .pad m :: ws, hr, hw, ha, d, p, vs, p', h => by
    simp only [List.all_cons, Bool.and_eq_true] at hr hw
    simp only [fmtAccepts, Bool.and_eq_true, beq_iff_eq] at ha
    simp only [fmtDec] at h
    split at h
    · obtain ⟨a, b⟩ := fmtDec_accepts rs ws hr.2 hw.2 ha.2 h
      exact ⟨by simpa only [fmtFits] using a, by simp only [fmtSize, ha.1, b]⟩
    · cases h
  | .fld r :: rs, .fld w :: ws, hr, hw, ha, d, p, vs, p', h => by
    simp only [List.all_cons, Bool.and_eq_true, FI.ok] at hr hw
    simp only [fmtAccepts, Bool.and_eq_true, beq_iff_eq] at ha
    simp only [fmtDec] at h
    split at h
    · rename_i v q hq
      split at h
      · rename_i vs' q' hq'
        obtain ⟨a, b⟩ := fmtDec_accepts rs ws hr.2 hw.2 ha.2 hq'
        cases h
        exact ⟨by simp only [fmtFits]; exact ⟨FT.dec_accepts hr.1 hw.1 ha.1.2 hq, a⟩, by simp only [fmtSize, ha.1.1, b]⟩
      · cases h
    · cases h
  | [], _ :: _, _, _, ha, _, _, _, _, _ => by simp only [fmtAccepts] at ha; cases ha
  | _ :: _, [], _, _, ha, _, _, _, _, _ => by simp only [fmtAccepts] at ha; cases ha
  | .pad _ :: _, .fld _ :: _, _, _, ha, _, _, _, _, _ => by simp only [fmtAccepts] at ha; cases ha
  | .fld _ :: _, .pad _ :: _, _, _, ha, _, _, _, _, _ => by simp only [fmtAccepts] at ha; cases ha

/-! ### exactness: a pair that is not accepting has an accepted input the writer rejects -/

/-- the bytes on which the reader's field returns its extreme value -/
def FT.extreme : FT → B
  | .u a => beBytes a (256 ^ a - 1)
  | .s a => sT a (-1)
  | .q => [1]
  | .str n => zeros n

/-- ... and, for a signed field, the largest positive one -/
def FT.extremePos : FT → B
  | .s a => sT a (((256 ^ a / 2 : Nat) : Int) - 1)
  | t => t.extreme

theorem FT.dec_extreme {r : FT} (hr : r.ok = true) :
    r.dec r.extreme 0 = .ok ((match r with
      | .u a => .int ((256 ^ a - 1 : Nat) : Int) | .s _ => .int (-1) | .q => .int 1 | .str n => .bytes (zeros n)), r.size) := by
  cases r with
  | u a =>
    have := pow256_pos a
    have h := readU_at (At.self (beBytes a (256 ^ a - 1))) (by omega)
    simp only [FT.dec, FT.extreme, h, FT.size, Nat.zero_add]
  | s a =>
    have hw := sWidth_of_ok hr
    have hz : FitsS a (-1) := by
      rcases hw with rfl | rfl | rfl | rfl <;> decide
    have h := (readS_step (rest := []) (At.self (sT a (-1))).nil_right hz).1
    simp only [FT.dec, FT.extreme, h, FT.size, Nat.zero_add]
  | q => rfl
  | str n =>
    have h := readN_at' (At.self (zeros n)) (length_zeros n)
    simp only [FT.dec, FT.extreme, h, FT.size, Nat.zero_add]

theorem FT.dec_extremePos {a : Nat} (hr : (FT.s a).ok = true) :
    (FT.s a).dec (FT.s a).extremePos 0 = .ok (.int (((256 ^ a / 2 : Nat) : Int) - 1), a) := by
  have hw := sWidth_of_ok hr
  have hz : FitsS a (((256 ^ a / 2 : Nat) : Int) - 1) := by
    rcases hw with rfl | rfl | rfl | rfl <;> decide
  have h := (readS_step (rest := []) (At.self _).nil_right hz).1
  simp only [FT.dec, FT.extremePos, h, Nat.zero_add]

/-- exact: the pair is accepting iff no accepted input makes the writer raise `struct.error`. The witnesses are
`r.extreme` / `r.extremePos`: all bits set (an unsigned field read, a signed one of the same width written: the case of a
`write` that packs with another signedness than `read` unpacks), -1 (signed read, unsigned written), the largest positive
value (signed read, narrower signed written). -/
theorem FT.accepts_iff {r w : FT} (hr : r.ok = true) (hw : w.ok = true) :
    (∀ (d : B) (p : Nat) (v : FV) (p' : Nat), r.dec d p = .ok (v, p') → w.Fits v) ↔ r.accepts w = true := by
  constructor
  · intro hall
    have hx := hall _ _ _ _ (FT.dec_extreme hr)
    cases r with
    | u a =>
      have := pow256_pos a
      cases w with
      | u b =>
        simp only [FT.Fits, Int.toNat_natCast] at hx
        simp only [FT.accepts, decide_eq_true_eq]
        by_cases hab : a ≤ b
        · exact hab
        · have := pow256_lt (a := b) (b := a) (by omega); omega
      | s b =>
        simp only [FT.Fits, FitsS] at hx
        simp only [FT.accepts, decide_eq_true_eq]
        by_cases hab : a < b
        · exact hab
        · have := pow256_le (a := b) (b := a) (by omega); omega
      | q => rfl
      | str n => simp only [FT.Fits] at hx
    | s a =>
      cases w with
      | u b => simp only [FT.Fits] at hx; omega
      | s b =>
        have hp := hall _ _ _ _ (FT.dec_extremePos hr)
        simp only [FT.accepts, decide_eq_true_eq]
        have ha := sWidth_of_ok hr
        have hb := sWidth_of_ok hw
        simp only [FT.Fits, FitsS] at hp
        rcases ha with rfl | rfl | rfl | rfl <;> rcases hb with rfl | rfl | rfl | rfl <;>
          simp only [Nat.reducePow, Nat.reduceDiv] at hp <;> omega
      | q => rfl
      | str n => simp only [FT.Fits] at hx
    | q =>
      cases w with
      | u b =>
        simp only [FT.Fits] at hx
        simp only [FT.accepts, decide_eq_true_eq]
        cases b with
        | zero => simp at hx
        | succ b => omega
      | s b =>
        simp only [FT.accepts, decide_eq_true_eq]
        have hb := sWidth_of_ok hw
        unfold SWidth at hb; omega
      | q => rfl
      | str n => simp only [FT.Fits] at hx
    | str n =>
      cases w with
      | str m => rfl
      | u b => simp only [FT.Fits] at hx
      | s b => simp only [FT.Fits] at hx
      | q => simp only [FT.Fits] at hx
  · intro ha d p v p' h
    exact FT.dec_accepts hr hw ha h

/-- same width, other signedness: never accepting (the shape of a `write` that packs `i` where `read` unpacks `I`) -/
theorem FT.unsigned_signed_not_accepting (a : Nat) : (FT.u a).accepts (.s a) = false ∧ (FT.s a).accepts (.u a) = false := by
  simp [FT.accepts]

theorem FT.accepts_self (t : FT) : t.accepts t = true := by
  cases t <;> simp [FT.accepts]

theorem fmtAccepts_self : ∀ fs : List FI, fmtAccepts fs fs = true
  | [] => rfl
  | .pad n :: fs => by simp only [fmtAccepts, beq_self_eq_true, fmtAccepts_self fs, Bool.and_self]
  | .fld t :: fs => by simp only [fmtAccepts, beq_self_eq_true, FT.accepts_self, fmtAccepts_self fs, Bool.and_self]

end PsdVerif.Payload3
