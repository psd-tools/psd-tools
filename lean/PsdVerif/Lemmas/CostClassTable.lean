/-
C06 — the table of every costed payload class with its shape, the side condition `bodyProgress` for all of them by
`decide`, and the ties of the shapes to the loops of the source (Generated/ReadLoops.lean, regenerated on every run):

* `class_loops_tied`: a class whose `read` / `_read_body` has `c` count-driven loops and `w` `while` loops in the source
  has at least `c` / `w` progress-checked loops of that kind in its model shape (the shape also carries the loops of the
  classes it embeds, hence `≤`);
* `loops_covered`: every count-driven or `while` loop of a reader in `psd/*.py` belongs to a class of the table or to
  one of the skeleton / descriptor readers whose progress is a theorem of its own (`skeletonLoops`).
-/
import PsdVerif.Lemmas.OpenDispatch
import PsdVerif.Model.CostTables

namespace PsdVerif.PayloadCost
open PsdVerif

def allTables : List (String × Sh) :=
  simpleTable ++ resourcesTable ++ effectsTable ++ patternsTable ++ adjustTable ++ filterTable ++ vectorTable ++ descTable

/-- every count-driven loop and every `while` loop of every costed class has a body that consumes ≥ 1 byte when it
succeeds -/
theorem all_body_progress : allTables.all (fun e => e.2.bodyProgress) = true := by decide +kernel

def kindCount (kind : String) (ls : List Loop) : Nat := (ls.filter (fun l => l.kind == kind)).length

/-- the loops of kind `kind` the source has in `cls.read` / `cls._read_body` -/
def astLoops (cls kind : String) : Nat :=
  (Generated.ReadLoops.loops.filter (fun e =>
    (e.2.1 == cls ++ ".read" || e.2.1 == cls ++ "._read_body") && e.2.2.1 == kind)).length

theorem astLoops_eq (cls kind : String) : astLoops cls kind =
    ((Generated.ReadLoops.loops.filter (fun e => e.2.2.1 == kind)).filter
      (fun e => e.2.1 == cls ++ ".read" || e.2.1 == cls ++ "._read_body")).length := by
  rw [List.filter_filter]; rfl

theorem class_loops_tied :
    allTables.all (fun e => decide (astLoops e.1 "count" ≤ kindCount "count" e.2.loops) &&
      decide (astLoops e.1 "while" ≤ kindCount "while" e.2.loops)) = true := by
  -- select the loops of a kind first: the kernel then evaluates that selection once, not once per class
  simp only [astLoops_eq]
  decide +kernel

/-- loops outside the payload classes: (function, kind, bytes an iteration consumes at least, where that is proved) -/
def skeletonLoops : List (String × String × Nat × String) := [
  ("ImageResources._read_body", "while", 11, "Safe.resource_good"),
  ("LayerBlendingRanges._read_body", "while", 8, "Safe.range4_good"),
  ("LayerRecord.read", "count", 2, "Safe.channelInfo_good"),
  ("LayerRecords.read", "count", 34, "Safe.layerRecord_good / OpenCost.layerRecordT_ok"),
  ("TaggedBlocks.read", "while", 12, "Safe.tagged_spec / OpenCost.taggedT_whileItem"),
  ("List.read", "count", 4, "DescriptorCost.taggedC_inv"),
  ("_DescriptorMixin._read_body", "count", 4, "DescriptorCost.keyedC_inv"),
  ("Subpath.read", "count", 26, "PayloadCost.PItem.decFuelC_slack"),
  ("SlicesV6.read", "count", 69, "PayloadCost.SliceV6.decC_weak (quadratic: the body may re-read what is left)"),
  ("CurvesExtraItem.read", "count", 4, "PayloadCost.CurvesExtraItem.sh_cost"),
  ("CurvesExtraMarker.read", "count", 4, "PayloadCost.CurvesExtraMarker.sh_cost"),
  ("FilterEffect._read_body", "count", 4, "PayloadCost.FEBody.decC_cost"),
  ("VirtualMemoryArrayList.read", "count", 4, "PayloadCost.VMAL.decC_cost")]

def isReaderLoop (e : String × String × String × String × String) : Bool :=
  (e.2.2.1 == "count" || e.2.2.1 == "while") && e.1.startsWith "psd/" &&
    !(e.2.1.endsWith ".get_data" || e.2.1.endsWith ".new" || e.2.1.endsWith "._legacy_name")

def ownerCovered (fn : String) : Bool :=
  skeletonLoops.any (fun s => s.1 == fn) ||
    allTables.any (fun t => fn == t.1 ++ ".read" || fn == t.1 ++ "._read_body")

/-- every count-driven or `while` loop of a reader in `psd/*.py` is accounted for -/
theorem loops_covered : (Generated.ReadLoops.loops.filter isReaderLoop).all (fun e => ownerCovered e.2.1) = true := by
  decide +kernel

theorem skeleton_progress : skeletonLoops.all (fun s => decide (1 ≤ s.2.2.1)) = true := by decide

end PsdVerif.PayloadCost
