/-
Layer-tree model: the invariant is preserved by the primitive mutations
(re-listing a container + `_update_layer_metadata`, shrinking a list, allocation).
-/
import PsdVerif.Lemmas.TreeDesc

namespace PsdVerif.TreeSt

theorem le_sum_of_mem (rk : Id → Nat) (l : List Id) (y : Id) (h : y ∈ l) : rk y ≤ (l.map rk).sum := by
  induction l with
  | nil => cases h
  | cons a as ih =>
    simp only [List.map_cons, List.sum_cons]
    rcases List.mem_cons.mp h with e | h'
    · subst e; omega
    · have := ih h'; omega

theorem isLayer_iff {s : State} {x : Id} : s.isLayer x = true ↔ x < s.next ∧ s.kind x ≠ .doc := by
  simp [State.isLayer, State.live]

theorem isGroup_iff {s : State} {x : Id} : s.isGroup x = true ↔ x < s.next ∧ s.cont x = true := by
  simp [State.isGroup, State.live]

theorem checkValid_none {cfg : Cfg} {s : State} {g : Id} (hc : ∀ c, s.children c ≠ [] → s.cont c = true)
    (hself : cfg.itemSelfCheck = true) (xs : List Id) (h : checkValid cfg s g xs = none) :
    ∀ x, x ∈ xs → s.isLayer x = true ∧ x ≠ g ∧ ¬ Reach s x g := by
  induction xs with
  | nil => intro x hx; cases hx
  | cons a as ih =>
    simp only [checkValid, hself, Bool.true_and] at h
    by_cases hl : (!s.isLayer a) = true
    · rw [if_pos hl] at h; cases h
    · rw [if_neg hl] at h
      by_cases hne : (a == g) = true
      · rw [if_pos hne] at h; cases h
      · rw [if_neg hne] at h
        have key : ¬ Reach s a g ∧ checkValid cfg s g as = none := by
          by_cases hcont : s.cont a = true
          · rw [if_pos hcont] at h
            cases hds : desc s a with
            | error e => rw [hds] at h; cases h
            | ok ds =>
              rw [hds] at h
              by_cases hmem : g ∈ ds
              · simp only [hmem, if_true] at h; cases h
              · simp only [hmem, if_false] at h
                exact ⟨fun r => hmem ((mem_desc_iff hc hds g).mpr r), h⟩
          · rw [if_neg hcont] at h
            exact ⟨fun r => hcont (reach_cont hc r), h⟩
        intro x hx
        rcases List.mem_cons.mp hx with e | hx'
        · subst e; exact ⟨by simpa using hl, by simpa using hne, key.1⟩
        · exact ih key.2 x hx'

theorem mem_upd {f : Id → List Id} {g c x : Id} {l : List Id} :
    x ∈ upd f g l c ↔ (if c = g then x ∈ l else x ∈ f c) := by
  unfold upd
  split <;> exact Iff.rfl

/-- **`_update_layer_metadata` on `g`**: its traversal fails and nothing is written, or it writes the document
pointer of everything below `g`, drops the cached boxes below `g` (52bed49), and sets the parent pointer of the
children of `g`. -/
theorem metadata_cases (cfg : Cfg) (s : State) (g : Id) :
    metadata cfg s g = (s, false) ∨
    ∃ ds, desc s g = .ok ds ∧ metadata cfg s g =
      ({ s with
          psd := match s.docOf g with
            | some d => fun y => if y ∈ ds then some d else s.psd y
            | none => s.psd
          cache := if cfg.invalidateOnEdit = true then fun y => if y ∈ ds ∧ s.cont y = true then none else s.cache y
            else s.cache
          parent := fun y => if y ∈ s.children g then some g else s.parent y }, true) := by
  unfold metadata
  cases hd : desc s g with
  | error e => exact .inl rfl
  | ok ds =>
    refine .inr ⟨ds, rfl, ?_⟩
    cases s.docOf g <;> cases cfg.invalidateOnEdit <;> rfl

/-- **Re-listing keeps the invariant.** `s2` is the state after container `g` was re-listed as `l'` — every member an
old child of `g` or a detached layer that passed `_check_valid_layers` — and `_update_layer_metadata` ran: the new
members point to `g`, and everything now below `g` (`R`, kept abstract so that it can be instantiated with membership in
the list `descendants()` returned) has the document of `g`. Then `s2` is well formed. For acyclicity the rank of `g`
and of all its ancestors is raised by `1 + Σ rk l'`, which puts every member of `l'` below `g`; members are not
ancestors of `g` (old children by the invariant, new ones by the check), so the ranks elsewhere still decrease. -/
theorem inv_relist_shape {s s2 : State} (i : Inv s) (g : Id) (l' : List Id) (hg : s.isGroup g = true)
    (hnd : l'.Nodup)
    (hmem : ∀ y, y ∈ l' → y ∈ s.children g ∨ (Detached s y ∧ s.isLayer y = true ∧ y ≠ g ∧ ¬ Reach s y g))
    (hch : s2.children = upd s.children g l') (hk : s2.kind = s.kind) (hn : s2.next = s.next)
    (hpar : ∀ y, s2.parent y = if y ∈ l' then some g else s.parent y)
    (R : Id → Prop) [DecidablePred R] (hR : ∀ y, R y ↔ Reach (setChildren s g l') g y)
    (hpsd : ∀ y, s2.psd y = match s.docOf g with
      | some d => if R y then some d else s.psd y
      | none => s.psd y) : Inv s2 := by
  classical
  obtain ⟨hglive, hgcont⟩ := isGroup_iff.mp hg
  -- memberships of the new state
  have hE : ∀ c x, x ∈ s2.children c ↔ (if c = g then x ∈ l' else x ∈ s.children c) := by
    intro c x
    rw [hch]
    exact mem_upd
  have hE1 : ∀ c x, x ∈ (setChildren s g l').children c ↔ (if c = g then x ∈ l' else x ∈ s.children c) :=
    fun c x => mem_upd
  -- a member of `l'` is not listed by another container
  have hother : ∀ c x, c ≠ g → x ∈ s.children c → x ∉ l' := by
    intro c x hcg hx hxl
    rcases hmem x hxl with h | h
    · exact hcg (i.unique hx h)
    · exact h.1 c hx
  have hlayer : ∀ y, y ∈ l' → y < s.next ∧ s.kind y ≠ .doc := by
    intro y hy
    rcases hmem y hy with h | h
    · exact ⟨(i.live g y h).2, i.layerOnly g y h⟩
    · exact isLayer_iff.mp h.2.1
  have hnoreach : ∀ y, y ∈ l' → y ≠ g ∧ ¬ Reach s y g := by
    intro y hy
    rcases hmem y hy with h | h
    · exact ⟨i.not_self h, fun r => i.no_cycle g (.step h r)⟩
    · exact ⟨h.2.2.1, h.2.2.2⟩
  have hcont2 : ∀ c, s2.cont c = s.cont c := by intro c; simp [State.cont, hk]
  have hdoc2 : ∀ c, s2.docOf c = if s.kind c = .doc then some c else s2.psd c := by
    intro c; simp [State.docOf, hk]
  refine ⟨?_, ?_, ?_, ?_, ?_, ?_, ?_⟩
  · -- live
    intro c x hx
    rw [hn]
    rw [hE] at hx
    split at hx
    · rename_i e; subst e; exact ⟨hglive, (hlayer x hx).1⟩
    · exact i.live c x hx
  · -- contOnly
    intro c hne
    rw [hcont2]
    by_cases e : c = g
    · subst e; exact hgcont
    · apply i.contOnly c
      rw [hch] at hne
      simpa [upd, e] using hne
  · -- layerOnly
    intro c x hx
    rw [hk]
    rw [hE] at hx
    split at hx
    · exact (hlayer x hx).2
    · exact i.layerOnly c x hx
  · -- parentOk
    intro c x hx
    rw [hE] at hx
    rw [hpar]
    split at hx
    · rename_i e; subst e; rw [if_pos hx]
    · rename_i e
      rw [if_neg (hother c x e hx)]
      exact i.parentOk c x hx
  · -- psdOk
    intro c x d' hx hd'
    rw [hE] at hx
    rw [hdoc2] at hd'
    rw [hpsd]
    rw [hpsd] at hd'
    cases hD : s.docOf g with
    | none =>
      simp only [hD] at hd' ⊢
      split at hx
      · rename_i e; subst e
        simp only [State.docOf] at hD
        simp only [hD] at hd'
        cases hd'
      · exact i.psdOk c x d' hx (by simpa [State.docOf] using hd')
    | some d =>
      simp only [hD] at hd' ⊢
      split at hx
      · rename_i e; subst e
        have hRx : R x := (hR x).mpr (.edge ((hE1 c x).mpr (by simpa using hx)))
        rw [if_pos hRx]
        -- the document of `c` is `d`
        by_cases hkd : s.kind c = .doc
        · simp only [hkd, if_true] at hd'
          simp only [State.docOf, hkd, if_true] at hD
          rw [← hD, hd']
        · simp only [hkd, if_false] at hd'
          simp only [State.docOf, hkd, if_false] at hD
          split at hd'
          · exact hd'
          · rw [← hD, hd']
      · rename_i hcg
        have hx1 : x ∈ (setChildren s g l').children c := (hE1 c x).mpr (by simpa [hcg] using hx)
        by_cases hRc : R c
        · have hRx : R x := (hR x).mpr (((hR c).mp hRc).tail hx1)
          rw [if_pos hRx]
          -- `c` is listed in the new state, hence not a document
          have hkc : s.kind c ≠ .doc := by
            obtain ⟨e, he, _⟩ := ((hR c).mp hRc).last
            rw [hE1] at he
            split at he
            · exact (hlayer c he).2
            · exact i.layerOnly e c he
          simp only [hkc, if_false, hRc, if_true] at hd'
          exact hd'
        · have hRx : ¬ R x := by
            intro hRx
            obtain ⟨e, he, hge⟩ := ((hR x).mp hRx).last
            rw [hE1] at he
            split at he
            · exact hother c x hcg hx he
            · rename_i heg
              have := i.unique he hx
              subst this
              cases hge with
              | inl e' => exact heg e'
              | inr r => exact hRc ((hR e).mpr r)
          rw [if_neg hRx]
          simp only [hRc, if_false] at hd'
          exact i.psdOk c x d' hx (by simpa [State.docOf] using hd')
  · -- nodup
    intro c
    rw [hch]
    unfold upd
    split
    · exact hnd
    · exact i.nodup c
  · -- acyclic
    obtain ⟨rk, hrk⟩ := i.acyclic
    let M := 1 + (l'.map rk).sum
    refine ⟨fun z => if z = g ∨ Reach s z g then rk z + M else rk z, ?_⟩
    intro c x hx
    rw [hE] at hx
    split at hx
    · rename_i e; subst e
      have hx' := hnoreach x hx
      have h1 : ¬ (x = c ∨ Reach s x c) := by
        intro h; cases h with
        | inl e => exact hx'.1 e
        | inr r => exact hx'.2 r
      simp only [h1, if_false, true_or, if_true]
      have := le_sum_of_mem rk l' x hx
      show rk x < rk c + (1 + (l'.map rk).sum)
      omega
    · rename_i hcg
      have hlt := hrk c x hx
      by_cases hc : c = g ∨ Reach s c g
      · simp only [hc, if_true]
        split <;> omega
      · have hx' : ¬ (x = g ∨ Reach s x g) := by
          intro h
          apply hc
          cases h with
          | inl e => subst e; exact .inr (.edge hx)
          | inr r => exact .inr (.step hx r)
        simp only [hc, hx', if_false]
        exact hlt

theorem docOf_setChildren (s : State) (g : Id) (l : List Id) (c : Id) : (setChildren s g l).docOf c = s.docOf c := rfl

theorem inv_metadata_relist {cfg : Cfg} {s s2 : State} (i : Inv s) (g : Id) (l' : List Id)
    (hg : s.isGroup g = true) (hnd : l'.Nodup)
    (hmem : ∀ y, y ∈ l' → y ∈ s.children g ∨ (Detached s y ∧ s.isLayer y = true ∧ y ≠ g ∧ ¬ Reach s y g))
    (hm : metadata cfg (setChildren s g l') g = (s2, true)) : Inv s2 := by
  obtain ⟨-, hgcont⟩ := isGroup_iff.mp hg
  rcases metadata_cases cfg (setChildren s g l') g with e | ⟨ds, hds, e⟩
  · rw [e] at hm; cases hm
  · rw [e] at hm
    cases hm
    have hc1 : ∀ c, (setChildren s g l').children c ≠ [] → (setChildren s g l').cont c = true := by
      intro c hne
      show s.cont c = true
      by_cases e : c = g
      · subst e; exact hgcont
      · apply i.contOnly c
        simpa [setChildren, upd, e] using hne
    have hchild : (setChildren s g l').children g = l' := by simp [setChildren, upd]
    refine inv_relist_shape i g l' hg hnd hmem rfl rfl rfl ?_ (fun y => y ∈ ds) (fun y => mem_desc_iff hc1 hds y) ?_
    · intro y
      show (if y ∈ (setChildren s g l').children g then some g else s.parent y) = _
      rw [hchild]
    · intro y
      show (match s.docOf g with
        | some d => fun y => if y ∈ ds then some d else s.psd y
        | none => s.psd) y = _
      cases s.docOf g <;> rfl

theorem inv_finishInsert {cfg : Cfg} {s : State} (i : Inv s) (g : Id) (l' : List Id) (out : Out)
    (hg : s.isGroup g = true) (hnd : l'.Nodup)
    (hmem : ∀ y, y ∈ l' → y ∈ s.children g ∨ (Detached s y ∧ s.isLayer y = true ∧ y ≠ g ∧ ¬ Reach s y g))
    (hne : (finishInsert cfg (setChildren s g l') g out).2 ≠ .error .recursionError) :
    Inv (finishInsert cfg (setChildren s g l') g out).1 := by
  unfold finishInsert at hne ⊢
  split
  · rename_i s2 hm
    rw [hm] at hne
    exact absurd rfl hne
  · rename_i s2 hm
    exact (updateRecord_same cfg s2 g).inv (inv_metadata_relist i g l' hg hnd hmem hm)

/-- shrinking (or permuting within) a list preserves the invariant: stale back pointers of the
removed layers are not constrained -/
theorem inv_shrink {s : State} (i : Inv s) (g : Id) (l' : List Id) (hnd : l'.Nodup)
    (hsub : ∀ y, y ∈ l' → y ∈ s.children g) : Inv (setChildren s g l') := by
  have hE : ∀ c x, x ∈ (setChildren s g l').children c → x ∈ s.children c := by
    intro c x hx
    simp only [setChildren, upd] at hx
    split at hx
    · rename_i e; subst e; exact hsub x hx
    · exact hx
  refine ⟨?_, ?_, ?_, ?_, ?_, ?_, ?_⟩
  · intro c x hx; exact i.live c x (hE c x hx)
  · intro c hne
    obtain ⟨x, hx⟩ := List.exists_mem_of_ne_nil _ hne
    exact i.contOnly c (List.ne_nil_of_mem (hE c x hx))
  · intro c x hx; exact i.layerOnly c x (hE c x hx)
  · intro c x hx; exact i.parentOk c x (hE c x hx)
  · intro c x d hx hd; exact i.psdOk c x d (hE c x hx) hd
  · intro c
    simp only [setChildren, upd]
    split
    · exact hnd
    · exact i.nodup c
  · obtain ⟨rk, hrk⟩ := i.acyclic
    exact ⟨rk, fun c x hx => hrk c x (hE c x hx)⟩

theorem detached_after_erase {s : State} (i : Inv s) {p x : Id} (hx : x ∈ s.children p) :
    Detached (setChildren s p ((s.children p).erase x)) x := by
  intro c hc
  simp only [setChildren, upd] at hc
  split at hc
  · exact (List.Nodup.mem_erase_iff (i.nodup p)).mp hc |>.1 rfl
  · rename_i hcp
    exact hcp (i.unique hc hx)

theorem detached_of_not_listed_by_parent {s : State} (i : Inv s) {x : Id}
    (h : ∀ p, s.parent x = some p → x ∉ s.children p) : Detached s x := by
  intro c hc
  exact h c (i.parentOk c x hc) hc

theorem Inv.next_children {s : State} (i : Inv s) : s.children s.next = [] := by
  cases h : s.children s.next with
  | nil => rfl
  | cons a as => exact absurd (i.live s.next a (by rw [h]; exact List.mem_cons_self ..)).1 (Nat.lt_irrefl _)

theorem alloc_children {s : State} (i : Inv s) (k : Kind) (p : Option Id) (b : BBox) :
    (alloc s k p b).children = s.children := by
  funext c
  show upd s.children s.next [] c = s.children c
  unfold upd
  split
  · rename_i e; rw [e, i.next_children]
  · rfl

theorem inv_alloc {s : State} (i : Inv s) (k : Kind) (p : Option Id) (b : BBox) : Inv (alloc s k p b) := by
  have hE : ∀ c x, x ∈ (alloc s k p b).children c ↔ x ∈ s.children c := by
    intro c x
    rw [alloc_children i]
  have hne : ∀ c x, x ∈ s.children c → c ≠ s.next ∧ x ≠ s.next := by
    intro c x hx
    have := i.live c x hx
    exact ⟨Nat.ne_of_lt this.1, Nat.ne_of_lt this.2⟩
  refine ⟨?_, ?_, ?_, ?_, ?_, ?_, ?_⟩
  · intro c x hx
    have := i.live c x ((hE c x).mp hx)
    exact ⟨Nat.lt_succ_of_lt this.1, Nat.lt_succ_of_lt this.2⟩
  · intro c hne'
    obtain ⟨x, hx⟩ := List.exists_mem_of_ne_nil _ hne'
    have hx' := (hE c x).mp hx
    have := i.contOnly c (List.ne_nil_of_mem hx')
    simpa [alloc, State.cont, upd, (hne c x hx').1] using this
  · intro c x hx
    have hx' := (hE c x).mp hx
    have := i.layerOnly c x hx'
    simpa [alloc, upd, (hne c x hx').2] using this
  · intro c x hx
    have hx' := (hE c x).mp hx
    have := i.parentOk c x hx'
    simpa [alloc, upd, (hne c x hx').2] using this
  · intro c x d hx hd
    have hx' := (hE c x).mp hx
    have h2 := i.psdOk c x d hx'
    have hc := (hne c x hx').1
    have hxn := (hne c x hx').2
    simp only [alloc, State.docOf, upd, hc, hxn, if_false] at hd ⊢
    exact h2 hd
  · intro c
    simp only [alloc, upd]
    split
    · exact List.nodup_nil
    · exact i.nodup c
  · obtain ⟨rk, hrk⟩ := i.acyclic
    exact ⟨rk, fun c x hx => hrk c x ((hE c x).mp hx)⟩

end PsdVerif.TreeSt
