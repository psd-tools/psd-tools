/-
C06 — cost of the typed counting reader (Model/OpenCost.lean), in the potential accounting of Lemmas/SafeCost2.lean
(`Pays a b`: the cost is paid by the bytes the cursor moved over, also when the cursor was moved behind the end of
the data by a `seek`).

Hypotheses on the hooks:

  `HB pl ap bp N`  a payload run on a block `data` that sits in a stream of at most `N` bytes (behind the 12 bytes of its
                   tagged-block header: `len(data) + 12 ≤ N`) costs at most `ap · len(data) + bp`;
  `HR rs ar br N`  the same for an image resource whose block has at most `N` bytes.

The additive constant `bp` of a payload is paid by the twelve header bytes of its tagged block (`bp ≤ 12 · q`), so
the constants of the typed readers do not depend on `bp`: with `a = ap + q`

  tagged block loop   `Pays (3 + a) 30`        layer record        `Pays (8 + a) 106`
  extra data          `Pays (6 + a) 88`        layer info body     `Pays (12 + a) 112`

which is what lets the `Lr16` / `Lr32` recursion close with a coefficient that grows by a CONSTANT per level.

With `noHooks` the typed readers ARE the readers of Model/PsdCost.lean (`…_noHooks`), so the bounds of the skeleton
(`layerRecord_pays`, …, `psd_w_le`) are the case `ap = bp = q = ar = br = 0`.
-/
import PsdVerif.Lemmas.OpenCost1

namespace PsdVerif.OpenCost
open PsdVerif PsdVerif.Codec PsdVerif.Psd PsdVerif.PsdCost PsdVerif.Safe PsdVerif.SafeCost

def HB (pl : BlockHook) (ap bp N : Nat) : Prop :=
  ∀ v key data, data.length + 12 ≤ N → (pl v key data).2.w ≤ ap * data.length + bp

def HR (rs : ResHook) (ar br N : Nat) : Prop := ∀ key data, data.length ≤ N → (rs key data).2.w ≤ ar * data.length + br

theorem HR.anti {rs : ResHook} {ar br N N' : Nat} (h : HR rs ar br N) (hn : N' ≤ N) : HR rs ar br N' :=
  fun key data hd => h key data (by omega)

theorem HB.anti {pl : BlockHook} {ap bp N N' : Nat} (h : HB pl ap bp N) (hn : N' ≤ N) : HB pl ap bp N' :=
  fun v key data hd => h v key data (by omega)

section blocks
variable {pl : BlockHook} {ap bp q : Nat}

theorem readNC4_w (d : B) (p : Nat) : (readNC 4 d p).2.w ≤ 5 := by
  have : (readNC 4 d p).2.w = 1 + min 4 (d.length - p) := rfl
  omega

/-- one tagged block with its payload run: the twelve header bytes are credited `q` each, which pays `bp` -/
theorem taggedT_pays (v pad : Nat) (d : B) (p : Nat) (hb : HB pl ap bp d.length) (hq : bp ≤ 12 * q) :
    Pays (1 + ap + q) 6 d p (TaggedBlock.decT pl v pad d p) := by
  unfold TaggedBlock.decT
  refine PaysCr.bind_or (W := 5) (readNC_paysCr (ap + q) 4 d p) (fun sig p1 h1 => ?_) (by omega)
  have a1 := readN_ok (show readN 4 d p = .ok (sig, p1) from h1)
  dsimp only
  by_cases hs : sig ∈ G.blockSignatures
  · rw [if_pos hs]
    refine Or.inl ?_
    refine PaysCr.bind (readNC_paysCr (ap + q) 4 d p1) fun key p2 h2 => ?_
    have a2 := readN_ok (show readN 4 d p1 = .ok (key, p2) from h2)
    refine PaysCr.bind (readLenBlockC_paysCr (ap + q) 0 (tbLenW v key) pad d p2) fun data p3 h3 => ?_
    have a3 : p2 + 0 + tbLenW v key + data.length ≤ p3 ∧ p3 ≤ d.length := readLenBlockC_ok h3
    have hw := tbLenW_ge v key
    have e1 : (ap + q) * data.length = ap * data.length + q * data.length := Nat.add_mul ..
    have e2 : (ap + q) * 4 ≤ (ap + q) * tbLenW v key := Nat.mul_le_mul_left _ hw
    refine PaysCr.bind_nested (n := ap * data.length + bp) (hb v key data (by omega)) (fun _ _ => ?_) (by omega)
    exact PaysCr.ok _
  · rw [if_neg hs]
    exact Or.inr ⟨readNC4_w d p, PaysCr.ok _⟩

variable (hpl : ∀ v key data, HookOk (pl v key data))
include hpl

theorem taggedT_some (v pad : Nat) {d : B} {p : Nat} {t : TaggedBlock} {p' : Nat}
    (h : (TaggedBlock.decT pl v pad d p).1 = .ok (some t, p')) : p + 12 ≤ p' ∧ p' ≤ d.length := by
  have h1 := (sim_tagged hpl v pad d p).of_ok h
  rw [tagged_fst] at h1
  exact tagged_some v pad h1

theorem taggedT_whileItem (v pad : Nat) (d : B) (p : Nat) (hb : HB pl ap bp d.length) (hq : bp ≤ 12 * q) :
    WhileItem (3 + ap + q) 20 9 d p (TaggedBlock.decT pl v pad d p) := by
  have h := WhileItem.of_paysOpt (j := 2) (k := 12) (bi := 20) (cc := 9) (taggedT_pays v pad d p hb hq)
    (fun t p' hx => taggedT_some hpl v pad hx) (by decide) (by decide)
  rwa [show 1 + ap + q + 2 = 3 + ap + q by omega] at h

theorem taggedLoopT_pays (v pad : Nat) (endPos : Option Nat) (d : B) (p : Nat) (hb : HB pl ap bp d.length) (hq : bp ≤ 12 * q) :
    Pays (3 + ap + q) 30 d p (readWhileC (taggedCondC endPos) (TaggedBlock.decT pl v pad) d p) :=
  readWhileC_pays (cond := taggedCond endPos) (bi := 20) (cc := 9) (fun r => taggedCondC_fst endPos d r)
    (fun r => taggedCondC_w endPos d r) (fun r _ => taggedT_whileItem hpl v pad d r hb hq) p

theorem taggedBlocksT_pays (v pad : Nat) (endPos : Option Nat) (d : B) (p : Nat) (hb : HB pl ap bp d.length) (hq : bp ≤ 12 * q) :
    Pays (3 + ap + q) 30 d p (taggedBlocksDecT pl v pad endPos d p) := by
  unfold taggedBlocksDecT
  refine PaysCr.bind (taggedLoopT_pays hpl v pad endPos d p hb hq) fun items p _ => ?_
  exact PaysCr.ok _

theorem extraT_pays (v : Nat) (d : B) (p : Nat) (hb : HB pl ap bp d.length) (hq : bp ≤ 12 * q) :
    Pays (6 + ap + q) 88 d p (LayerRecord.extraDecT pl v d p) := by
  unfold LayerRecord.extraDecT
  refine PaysCr.bind (mask_pays d p) fun mask p _ => ?_
  refine PaysCr.bind (blendingRanges_pays d p) fun ranges p _ => ?_
  refine PaysCr.bind (readPascalC_pays 4 d p) fun name p _ => ?_
  refine PaysCr.bind (taggedBlocksT_pays hpl v 1 none d p hb hq) fun tbs p _ => ?_
  exact PaysCr.ok _

theorem layerRecordT_pays (v : Nat) (d : B) (p : Nat) (hb : HB pl ap bp d.length) (hq : bp ≤ 12 * q) :
    Pays (8 + ap + q) 106 d p (LayerRecord.decT pl v d p) := by
  unfold LayerRecord.decT
  refine PaysCr.bind (readI32C_pays d p) fun top p _ => ?_
  refine PaysCr.bind (readI32C_pays d p) fun left p _ => ?_
  refine PaysCr.bind (readI32C_pays d p) fun bottom p _ => ?_
  refine PaysCr.bind (readI32C_pays d p) fun right p _ => ?_
  refine PaysCr.bind (readUC_pays 2 d p) fun n p _ => ?_
  refine PaysCr.bind ((readCountC_pays (fun r => channelInfo_iter v d r) n p).weaken (cr' := fun _ => 0)
    (fun _ => Nat.zero_le _) (b' := 3) (by omega)) (fun cis p _ => ?_) (by omega)
  refine PaysCr.bind (readNC_pays 4 d p) fun sig p _ => ?_
  refine PaysCr.bind (readNC_pays 4 d p) fun bm p _ => ?_
  refine PaysCr.bind (readUC_pays 1 d p) fun opacity p _ => ?_
  refine PaysCr.bind (readUC_pays 1 d p) fun clipping p _ => ?_
  refine PaysCr.bind (readUC_pays 1 d p) fun fl p _ => ?_
  refine PaysCr.bind (readLenBlockC_pays (7 + ap + q) 1 4 1 d p) fun data p' hd => ?_
  have hlen : data.length ≤ d.length := by have := readLenBlockC_ok hd; omega
  have e : (7 + ap + q) * data.length = (6 + ap + q) * data.length + data.length := by
    rw [show 7 + ap + q = (6 + ap + q) + 1 by omega, Nat.add_mul, Nat.one_mul]
  refine PaysCr.bind_nested (n := 1 + data.length) (Nat.le_of_eq (enterBlock_w data)) fun _ _ => ?_
  refine PaysCr.bind_nested (n := (6 + ap + q) * data.length + 88) (extraT_pays hpl v data 0 (hb.anti hlen) hq).w_le
    fun ⟨⟨mask, ranges, name, tbs⟩, _⟩ _ => ?_
  dsimp only
  exact PaysCr.ite (fun _ => PaysCr.ok _) (fun _ => PaysCr.error _)

theorem layerRecordT_ok (v : Nat) {d : B} {p : Nat} {r : LayerRecord} {p' : Nat}
    (h : (LayerRecord.decT pl v d p).1 = .ok (r, p')) : p + 34 ≤ p' ∧ p' ≤ d.length := by
  have h1 := (sim_layerRecord hpl v d p).of_ok h
  rw [layerRecord_fst] at h1
  have := (layerRecord_good v d p).of_ok h1
  omega

/-- a record pays for its iteration and leaves 4 for its entry in the channel image loop -/
theorem layerRecordT_iter (v : Nat) (d : B) (p : Nat) (hb : HB pl ap bp d.length) (hq : bp ≤ 12 * q) :
    IterPays (12 + ap + q) 107 4 0 d p (LayerRecord.decT pl v d p) := by
  have h := IterPays.of_pays (a' := 8 + ap + q) (j := 4) (k := 34) (c := 4) (e := 0) (bi := 107)
    (layerRecordT_pays hpl v d p hb hq) (fun r p' hx => layerRecordT_ok hpl v hx) (by omega) (by omega)
  have e : 8 + ap + q + 4 = 12 + ap + q := by omega
  rw [e] at h
  exact h

theorem layerInfoBodyT_pays (v : Nat) (d : B) (p : Nat) (hb : HB pl ap bp d.length) (hq : bp ≤ 12 * q) :
    Pays (12 + ap + q) 112 d p (LayerInfo.bodyDecT pl v d p) := by
  unfold LayerInfo.bodyDecT
  refine PaysCr.bind (readI16C_pays d p) fun count p _ => ?_
  refine PaysCr.bind ((readCountC_pays (fun r => layerRecordT_iter hpl v d r hb hq) count.natAbs p).weaken
    (cr' := fun vs => 4 * vs.length) (fun _ => Nat.le_refl _) (b' := 107) (by omega)) (fun records p _ => ?_)
    (Nat.le_refl _)
  refine PaysCr.bind (channelImage_pays records d p) fun channels p _ => ?_
  exact PaysCr.ok _

theorem layerInfoT_pays (v : Nat) (d : B) (p : Nat) (hb : HB pl ap bp d.length) (hq : bp ≤ 12 * q) :
    Pays (12 + ap + q) 113 d p (LayerInfo.decT pl v d p) := by
  unfold LayerInfo.decT
  refine PaysCr.bind (readUC_pays _ d p) fun length p1 _ => ?_
  dsimp only
  refine PaysCr.bind (a' := 12 + ap + q) (b₁ := 112) (cr := fun _ => 0) ?_ fun li p2 _ => ?_
  · refine PaysCr.ite (fun _ => PaysCr.ok _) (fun _ => ?_)
    refine PaysCr.bind (layerInfoBodyT_pays hpl v d p1 hb hq) fun li p _ => ?_
    exact PaysCr.ok _
  · dsimp only
    refine PaysCr.ite (fun hle => ?_) (fun _ => PaysCr.error _)
    exact PaysCr.ite (fun _ => PaysCr.error _) (fun _ => PaysCr.ok _ hle)

theorem layerAndMaskBodyT_pays (v endPos : Nat) (d : B) (p : Nat) (hb : HB pl ap bp d.length) (hq : bp ≤ 12 * q) :
    Pays (12 + ap + q) 183 d p (LayerAndMask.bodyDecT pl v endPos d p) := by
  unfold LayerAndMask.bodyDecT
  refine PaysCr.bind (layerInfoT_pays hpl v d p hb hq) fun li p _ => ?_
  dsimp only
  refine PaysCr.ite (fun _ => ?_) (fun _ => PaysCr.ok _)
  refine PaysCr.bind (globalMask_pays d p) fun glm p _ => ?_
  refine PaysCr.bind (taggedBlocksT_pays hpl v 4 (some endPos) d p hb hq) fun tbs p _ => ?_
  exact PaysCr.ok _

theorem layerAndMaskT_spend (v : Nat) (d : B) (p : Nat) (hb : HB pl ap bp d.length) (hq : bp ≤ 12 * q) :
    Spend (12 + ap + q) 184 d p (LayerAndMask.decT pl v d p) := by
  unfold LayerAndMask.decT
  refine Spend.bind (readUC_pays _ d p) fun length p1 _ => ?_
  dsimp only
  refine Spend.bind_free ?_ (fun ⟨x, _⟩ => ?_)
  · split
    · exact (PaysCr.ok (cr := fun _ => 0) (a := 12 + ap + q) (b := 183) (d := d) (p := p1) (q := p1) _).spend
    · exact (layerAndMaskBodyT_pays hpl v _ d p1 hb hq).spend
  · dsimp only
    split <;> rfl

end blocks

section resources
variable {rs : ResHook} {ar br j : Nat}

theorem resourceT_pays (d : B) (p : Nat) (hr : HR rs ar br d.length) : Pays (1 + ar) (9 + br) d p (Resource.decT rs d p) := by
  unfold Resource.decT
  refine PaysCr.bind (readNC_pays 4 d p) fun sig p _ => ?_
  refine PaysCr.bind (readUC_pays 2 d p) fun key p _ => ?_
  refine PaysCr.bind (readPascalC_pays 2 d p) fun name p _ => ?_
  refine PaysCr.bind (readLenBlockC_pays ar 0 4 2 d p) fun data p hd => ?_
  have hlen : data.length ≤ d.length := by have := readLenBlockC_ok hd; omega
  refine PaysCr.bind_nested (n := ar * data.length + br) (hr key data hlen) fun _ _ => ?_
  exact PaysCr.ite (fun _ => PaysCr.ok _) (fun _ => PaysCr.error _)

variable (hrs : ∀ key data, HookOk (rs key data))
include hrs

theorem resourceT_ok {d : B} {p : Nat} {r : Resource} {p' : Nat} (h : (Resource.decT rs d p).1 = .ok (r, p')) :
    p + 11 ≤ p' ∧ p' ≤ d.length := by
  have h1 := (sim_resource hrs d p).of_ok h
  rw [resource_fst] at h1
  have := (resource_good d p).of_ok h1
  omega

/-- `hj`: a resource that was read consumed ≥ 11 bytes, and `j` more per byte makes them pay the iteration's constants -/
theorem resourcesLoopT_pays (d : B) (p : Nat) (hr : HR rs ar br d.length) (hj : 15 + br ≤ j * 11) :
    Pays (1 + ar + j) (15 + br + 6) d p (readWhileC (isReadableC 4) (optItemC (Resource.decT rs)) d p) :=
  readWhileC_pays (cond := isReadable 4) (bi := 15 + br) (cc := 5) (fun r => isReadableC_fst 4 d r) (fun r => isReadableC_w 4 d r)
    (fun r _ => WhileItem.of_pays (a' := 1 + ar) (j := j) (k := 11) (resourceT_pays d r hr)
      (fun v p' hx => resourceT_ok hrs hx) (by omega) (by omega)) p

theorem resourcesT_pays (d : B) (p : Nat) (hr : HR rs ar br d.length) (hj : 15 + br ≤ j * 11) :
    Pays (3 + ar + j) (26 + br) d p (resourcesDecT rs d p) := by
  unfold resourcesDecT
  have e0 : 2 + ar + j + 1 = 3 + ar + j := by omega
  refine PaysCr.bind (readLenBlockC_pays (2 + ar + j) 0 4 1 d p) fun data p hd => ?_
  have hlen : data.length ≤ d.length := by have := readLenBlockC_ok hd; omega
  have e : (2 + ar + j) * data.length = (1 + ar + j) * data.length + data.length := by
    rw [show 2 + ar + j = (1 + ar + j) + 1 by omega, Nat.add_mul, Nat.one_mul]
  refine PaysCr.bind_nested (n := 1 + data.length) (Nat.le_of_eq (enterBlock_w data)) fun _ _ => ?_
  refine PaysCr.bind_nested (n := (1 + ar + j) * data.length + (15 + br + 6)) (resourcesLoopT_pays hrs data 0 (hr.anti hlen) hj).w_le
    fun ⟨items, _⟩ _ => ?_
  exact PaysCr.ok _

end resources

/-- everything `PSD.readT` spends on `b`, whatever its outcome: `A` covers the coefficients of the two sections that run
payload classes. 224 = 8 + 4 + 26 + 184 + 2: the constants of the header, the colour mode data, the resources (`+ br`), layer
and mask information, and the image data; the `+ 1` in `A + 1` is the read of the image data after the one backward seek -/
theorem psdT_spend {pl : BlockHook} {rs : ResHook} {ap bp q ar br j A : Nat} (b : B)
    (hpl : ∀ v key data, HookOk (pl v key data)) (hrs : ∀ key data, HookOk (rs key data))
    (hb : HB pl ap bp b.length) (hq : bp ≤ 12 * q) (hr : HR rs ar br b.length) (hj : 15 + br ≤ j * 11)
    (hA₁ : 12 + ap + q ≤ A) (hA₂ : 3 + ar + j ≤ A) :
    (PSD.readT pl rs b 0).2.w ≤ (A + 1) * b.length + (224 + br) := by
  have hs : Spend A (224 + br + b.length) b 0 (PSD.readT pl rs b 0) := by
    unfold PSD.readT
    refine Spend.bind (header_pays b 0) fun header p1 _ => ?_
    refine Spend.bind (colorMode_pays b p1) fun cmd p2 _ => ?_
    refine Spend.bind (resourcesT_pays hrs b p2 hr hj) (fun res p3 _ => ?_) hA₂
    refine Spend.bind_spend (n := b.length + 2)
      (Nat.le_trans (layerAndMaskT_spend hpl header.version b p3 hb hq)
        (Nat.add_le_add_right (Nat.mul_le_mul_right _ hA₁) 184))
      (fun ⟨lm, p4⟩ _ => ?_) (by omega)
    have hi := (imageData_pays b p4).spend
    refine Nat.le_trans (m := pot 1 b p4 + 2) ?_ (by rw [pot_one]; omega)
    show Spend 1 2 b p4 _
    exact Spend.bind_free hi (fun ⟨img, p⟩ => rfl)
  unfold Spend pot at hs
  rw [Nat.add_mul, Nat.one_mul]
  simp only [Nat.sub_zero] at hs
  omega

/-! ### without hooks: the reader of Model/PsdCost.lean -/

theorem plOf_noHooks (v : Nat) (key data : B) : plOf noHooks 0 v key data = CE.ok () := rfl
theorem rsOf_noHooks (key : Nat) (data : B) : rsOf noHooks key data = CE.ok () := rfl

theorem tagged_noHooks (v pad : Nat) : TaggedBlock.decT (plOf noHooks 0) v pad = PsdCost.TaggedBlock.decC v pad := by
  funext d p
  simp only [TaggedBlock.decT, PsdCost.TaggedBlock.decC, plOf_noHooks, ok_bind]

theorem taggedBlocks_noHooks (v pad : Nat) (e : Option Nat) :
    taggedBlocksDecT (plOf noHooks 0) v pad e = taggedBlocksDecC v pad e := by
  funext d p
  simp only [taggedBlocksDecT, taggedBlocksDecC, tagged_noHooks]

theorem layerRecord_noHooks (v : Nat) : LayerRecord.decT (plOf noHooks 0) v = PsdCost.LayerRecord.decC v := by
  funext d p
  simp only [LayerRecord.decT, PsdCost.LayerRecord.decC, LayerRecord.extraDecT, PsdCost.LayerRecord.extraDecC,
    taggedBlocks_noHooks]

theorem layerInfo_noHooks (v : Nat) : LayerInfo.decT (plOf noHooks 0) v = PsdCost.LayerInfo.decC v := by
  funext d p
  simp only [LayerInfo.decT, PsdCost.LayerInfo.decC, LayerInfo.bodyDecT, PsdCost.LayerInfo.bodyDecC, layerRecord_noHooks]

theorem layerAndMask_noHooks (v : Nat) : LayerAndMask.decT (plOf noHooks 0) v = PsdCost.LayerAndMask.decC v := by
  funext d p
  simp only [LayerAndMask.decT, PsdCost.LayerAndMask.decC, LayerAndMask.bodyDecT, PsdCost.LayerAndMask.bodyDecC,
    layerInfo_noHooks, taggedBlocks_noHooks]

theorem resource_noHooks : Resource.decT (rsOf noHooks) = PsdCost.Resource.decC := by
  funext d p
  simp only [Resource.decT, PsdCost.Resource.decC, rsOf_noHooks, ok_bind]

theorem resources_noHooks : resourcesDecT (rsOf noHooks) = resourcesDecC := by
  funext d p
  simp only [resourcesDecT, resourcesDecC, resource_noHooks]

theorem psd_noHooks : PSD.readT (plOf noHooks 0) (rsOf noHooks) = PsdCost.PSD.readC := by
  funext d p
  simp only [PSD.readT, PsdCost.PSD.readC, resources_noHooks, layerAndMask_noHooks]

theorem noHooks_plOk (v : Nat) (key data : B) : HookOk (plOf noHooks 0 v key data) := fun h => by cases h
theorem noHooks_rsOk (key : Nat) (data : B) : HookOk (rsOf noHooks key data) := fun h => by cases h
theorem noHooks_HB (N : Nat) : HB (plOf noHooks 0) 0 0 N := fun _ _ _ _ => Nat.zero_le _
theorem noHooks_HR (N : Nat) : HR (rsOf noHooks) 0 0 N := fun _ _ _ => Nat.zero_le _

end PsdVerif.OpenCost

namespace PsdVerif.SafeCost
open PsdVerif PsdVerif.Codec PsdVerif.Psd PsdVerif.PsdCost PsdVerif.OpenCost

/-! the bounds of the skeleton reader are those of the typed reader at `ap = bp = q = 0`, `ar = br = 0`, `j = 2` -/

theorem taggedBlocks_pays (v pad : Nat) (endPos : Option Nat) (d : B) (p : Nat) :
    Pays 3 30 d p (taggedBlocksDecC v pad endPos d p) := by
  rw [← taggedBlocks_noHooks]
  exact taggedBlocksT_pays (q := 0) noHooks_plOk v pad endPos d p (noHooks_HB _) (Nat.zero_le _)

theorem layerRecord_pays (v : Nat) (d : B) (p : Nat) : Pays 8 106 d p (PsdCost.LayerRecord.decC v d p) := by
  rw [← layerRecord_noHooks]
  exact layerRecordT_pays (q := 0) noHooks_plOk v d p (noHooks_HB _) (Nat.zero_le _)

theorem layerInfo_pays (v : Nat) (d : B) (p : Nat) : Pays 12 113 d p (PsdCost.LayerInfo.decC v d p) := by
  rw [← layerInfo_noHooks]
  exact layerInfoT_pays (q := 0) noHooks_plOk v d p (noHooks_HB _) (Nat.zero_le _)

/-- `LayerAndMaskInformation.read` ends with `fp.seek(end_pos)`, possibly BACKWARDS: only what was spent
is bounded, not the potential left -/
theorem layerAndMask_spend (v : Nat) (d : B) (p : Nat) : Spend 12 184 d p (PsdCost.LayerAndMask.decC v d p) := by
  rw [← layerAndMask_noHooks]
  exact layerAndMaskT_spend (q := 0) noHooks_plOk v d p (noHooks_HB _) (Nat.zero_le _)

theorem resources_pays (d : B) (p : Nat) : Pays 5 26 d p (resourcesDecC d p) := by
  rw [← resources_noHooks]
  exact resourcesT_pays (j := 2) noHooks_rsOk d p (noHooks_HR _) (by decide)

theorem psd_w_le (b : B) : (PsdCost.PSD.readC b 0).2.w ≤ 13 * b.length + 224 := by
  rw [← psd_noHooks]
  exact psdT_spend (q := 0) (j := 2) (A := 12) b noHooks_plOk noHooks_rsOk (noHooks_HB _) (Nat.zero_le _) (noHooks_HR _)
    (by decide) (by decide) (by decide)

end PsdVerif.SafeCost
