/-
Layer-tree model: a state property kept by the primitive mutations is kept by every operation, under the
guard of the inserting operations and while the interpreter's recursion limit is not hit. The invariant
`Inv` (C10) and "well formed with fresh caches" (C14) are the two instances; the argument follows the shapes
of Lemmas/TreeStep.lean.
-/
import PsdVerif.Lemmas.TreeStep

namespace PsdVerif.TreeSt

/-- `P` is at least as strong as `Inv` and kept by the primitive mutations, each under the side conditions
under which it keeps `Inv` (the insertions need the repaired `_check_valid_layers`). -/
structure Kept (cfg : Cfg) (P : State → Prop) : Prop where
  self : cfg.itemSelfCheck = true
  inv : ∀ {s : State}, P s → Inv s
  read : ∀ (s : State) (x : Id), P s → P (obsBbox s x).1
  relist : ∀ {s : State} (g : Id) (l' : List Id) (out : Out), P s → s.isGroup g = true → l'.Nodup →
    (∀ y, y ∈ l' → y ∈ s.children g ∨ (Detached s y ∧ s.isLayer y = true ∧ y ≠ g ∧ ¬ Reach s y g)) →
    (finishInsert cfg (setChildren s g l') g out).2 ≠ recErr → P (finishInsert cfg (setChildren s g l') g out).1
  shrink : ∀ {s : State} (k : Id) (l' : List Id) (o : Out), P s → k < s.next → l'.Nodup →
    (∀ y, y ∈ l' → y ∈ s.children k) → P (finishRemove cfg (setChildren s k l') k o).1
  record : ∀ {s : State} (k : Id), P s → P (updateRecord cfg s k)
  newObject : ∀ {s : State} (k : Kind) (p : Option Id) (b : BBox), P s → P (alloc s k p b)
  setVisible : ∀ {s : State} (x : Id) (v : Bool), P s → P (opSetVisible cfg s x v).1
  setOffset : ∀ {s : State} (x : Id) (h : Bool) (v : Int), P s → P (opSetOffset cfg s x h v).1
  setBlocks : ∀ {s : State} (b : Id → List Nat), P s → P { s with blocks := b }

namespace Kept
variable {cfg : Cfg} {P : State → Prop} (K : Kept cfg P)
include K

theorem declined {s : State} {r : State × Out} (h : P s) (d : Declined s r) : P r.1 := by
  cases d with
  | raised e => exact h
  | refused q => exact refuse_keeps K.read q h

theorem spliced {s : State} {g : Id} {xs : List Id} {r : State × Out} (h : P s) (hg : s.isGroup g = true)
    (hdet : ∀ x, x ∈ xs → Detached s x) (hnd : xs.Nodup) (sp : Spliced cfg s g xs r) (hne : r.2 ≠ recErr) : P r.1 := by
  obtain ⟨l', ⟨lo, hi, hlh, rfl⟩, hchk, rfl⟩ := sp
  have hv := checkValid_none (K.inv h).contOnly K.self xs hchk
  refine K.relist g _ _ h hg ?_ ?_ hne
  · exact nodup_splice _ xs hlh ((K.inv h).nodup g) hnd (fun y hy hyl => hdet y hy g hyl)
  · intro y hy
    exact (mem_splice hy).imp_right fun hx => ⟨hdet y hx, hv y hx⟩

theorem shrunk {s : State} {g : Id} {r : State × Out} (h : P s) (hg : g < s.next) (sh : Shrunk cfg s g r) : P r.1 := by
  obtain ⟨l', o, hsub, -, rfl⟩ := sh
  exact K.shrink g l' o h hg (hsub.nodup ((K.inv h).nodup g)) (fun y hy => hsub.subset hy)

theorem keeps_method {s : State} {op : Op} {g : Id} (ht : op.target = some g) (h : P s) (hgd : Guard s op)
    (hne : (step cfg s op).2 ≠ recErr) : P (step cfg s op).1 := by
  rcases step_method_cases cfg s ht with d | ⟨hg, sp | sh⟩
  · exact K.declined h d
  · exact K.spliced h hg hgd.args.1 hgd.args.2 sp hne
  · exact K.shrunk h (isGroup_iff.mp hg).1 sh

theorem keeps_remove {s : State} (h : P s) {g x : Id} (hx : x ∈ s.children g) : P (opRemove cfg s g x).1 :=
  (opRemove_cases cfg s g x).elim (K.declined h) fun sh => K.shrunk h ((K.inv h).live g x hx).1 ⟨_, _, sh.2⟩

theorem keeps_append {s : State} (h : P s) {g x : Id} (hg : s.isGroup g = true) (hdet : Detached s x)
    (hne : (opAppend cfg s g x).2 ≠ recErr) : P (opAppend cfg s g x).1 :=
  (opAppend_cases cfg s g x).elim (K.declined h) fun sp =>
    K.spliced h hg (forall_mem_single hdet) (nodup_single x) ⟨_, sp⟩ hne

theorem keeps_insert {s : State} (h : P s) {g x : Id} (k : Int) (hg : s.isGroup g = true) (hdet : Detached s x)
    (hne : (opInsert cfg s g k x).2 ≠ recErr) : P (opInsert cfg s g k x).1 :=
  (opInsert_cases cfg s g k x).elim (K.declined h) fun sp =>
    K.spliced h hg (forall_mem_single hdet) (nodup_single x) ⟨_, sp⟩ hne

theorem keeps_leaveParent {s : State} (h : P s) (x : Id) : P (leaveParent cfg s x).1 := by
  rcases leaveParent_cases cfg s x with e | ⟨p, hx, e⟩
  · rw [e]; exact h
  · rw [e]; exact K.keeps_remove h hx

theorem keeps_moveToGroup {s : State} (h : P s) (x g : Id) (hne : (opMoveToGroup cfg s x g).2 ≠ recErr) :
    P (opMoveToGroup cfg s x g).1 := by
  rcases opMoveToGroup_cases cfg s x g with d | ⟨-, hg, -, -, e⟩
  · exact K.declined h d
  · rw [e] at hne ⊢
    exact andThen_keeps (fun _ => K.keeps_leaveParent h x)
      (fun h1 => K.keeps_append h1 (by rw [(leaveParent_grows cfg s x g []).frame.isGroup]; exact hg) (detached_leaveParent (K.inv h) x)) hne

theorem keeps_moveUp {s : State} (h : P s) (x : Id) (k : Int) (hne : (opMoveUp cfg s x k).2 ≠ recErr) :
    P (opMoveUp cfg s x k).1 := by
  rcases opMoveUp_cases cfg s x k with d | ⟨p, -, hp, hcp, hx, e⟩
  · exact K.declined h d
  · rw [e] at hne ⊢
    have i := K.inv h
    exact andThen_keeps (fun _ => K.keeps_remove h hx) (fun h1 => K.keeps_insert h1 _
      (by rw [(opRemove_grows cfg s p x p []).frame.isGroup]; exact isGroup_iff.mpr ⟨(i.live p x hx).1, hcp⟩)
      (detached_opRemove i hx)) hne

theorem keeps_deleteLayer {s : State} (h : P s) (x : Id) : P (opDeleteLayer cfg s x).1 := by
  rcases opDeleteLayer_cases cfg s x with d | e | ⟨p, -, e⟩
  · exact K.declined h d
  · rw [e]
    unfold warnRepr
    have h1 := reprAll_keeps K.read [x] h
    split <;> (rename_i heq; rw [heq] at h1; exact h1)
  · rw [e]
    refine K.record p ?_
    unfold detach
    split
    · rename_i hx; exact K.keeps_remove h hx
    · exact h

theorem keeps_moveAll (n : Id) {s : State} (h : P s) (xs : List Id) (hne : (moveAll cfg n s xs).2 ≠ recErr) :
    P (moveAll cfg n s xs).1 := by
  induction xs generalizing s with
  | nil => exact h
  | cons x xs ih =>
    simp only [moveAll] at hne ⊢
    by_cases h1 : (opMoveToGroup cfg s x n).2.isError = true
    · rw [if_pos h1] at hne ⊢
      exact K.keeps_moveToGroup h x n hne
    · rw [if_neg h1] at hne ⊢
      exact ih (K.keeps_moveToGroup h x n (ne_rec_of_not_isError h1)) hne

theorem keeps_newGroup {s : State} (h : P s) (p : Option Id) (hne : (opNewGroup cfg s p).2 ≠ recErr) :
    P (opNewGroup cfg s p).1 := by
  unfold opNewGroup at hne ⊢
  have h1 := K.newObject .group none BBox.zero h
  cases p with
  | none => exact h1
  | some p =>
    simp only at hne ⊢
    split at hne
    · rename_i hg
      rw [if_pos hg]
      exact andThen_keeps (r1 := (alloc s .group none BBox.zero, Out.none))
        (k := fun s' => opMoveToGroup cfg s' s.next p) (o := .id s.next) (fun _ => h1)
        (fun h1 => K.keeps_moveToGroup h1 s.next p) hne
    · rename_i hg
      rw [if_neg hg]
      exact h1

theorem keeps_glBody {s : State} (h : P s) (par : Option Id) (xs : List Id) (hall : ∀ x, x ∈ xs → s.isLayer x = true)
    (hne : (glBody cfg s par xs).2 ≠ recErr) : P (glBody cfg s par xs).1 := by
  rw [glBody_eq] at hne ⊢
  refine andThen_keeps (K.keeps_moveAll s.next (K.newObject .group none BBox.zero h) xs) ?_ hne
  intro h2 hne2
  cases par with
  | none => exact h2
  | some q =>
    simp only at hne2 ⊢
    split
    · rename_i hq
      rw [if_pos hq] at hne2
      exact K.keeps_append h2 (by rw [(moveAll_grows cfg s.next _ xs).frame.isGroup]; exact alloc_isGroup hq _ _ _)
        (moveAll_new_detached (K.inv h) hall) hne2
    · exact h2

theorem keeps_groupLayers (hpre : cfg.groupLayersPrecheck = true) {s : State} (h : P s) (xs : List Id) (p : Option Id)
    (hne : (opGroupLayers cfg s xs p).2 ≠ recErr) : P (opGroupLayers cfg s xs p).1 := by
  unfold opGroupLayers at hne ⊢
  cases xs with
  | nil => exact h
  | cons x0 rest =>
    simp only at hne ⊢
    by_cases h0 : (!s.isLayer x0) = true
    · rw [if_pos h0]; exact h
    · rw [if_neg h0] at hne ⊢
      cases hp : glPre cfg s (glParent cfg s p x0) (x0 :: rest) with
      | some r => exact K.declined h (.refused r)
      | none =>
        simp only [hp] at hne ⊢
        exact K.keeps_glBody h _ _ (glPre_none_layers hpre hp) hne

/-- **Every operation keeps `P`**, under the guard and below the recursion limit. -/
theorem keeps_step (hpre : cfg.groupLayersPrecheck = true) {s : State} (op : Op) (h : P s) (hg : Guard s op) (hne : (step cfg s op).2 ≠ recErr) :
    P (step cfg s op).1 := by
  cases op with
  | append g x => exact K.keeps_method rfl h hg hne
  | extend g xs => exact K.keeps_method rfl h hg hne
  | insert g k x => exact K.keeps_method rfl h hg hne
  | remove g x => exact K.keeps_method rfl h hg hne
  | pop g k => exact K.keeps_method rfl h hg hne
  | clear g => exact K.keeps_method rfl h hg hne
  | setitem g k x => exact K.keeps_method rfl h hg hne
  | setslice g a b xs => exact K.keeps_method rfl h hg hne
  | delitem g k => exact K.keeps_method rfl h hg hne
  | delslice g a b => exact K.keeps_method rfl h hg hne
  | deleteLayer x => exact K.keeps_deleteLayer h x
  | moveToGroup x g => exact K.keeps_moveToGroup h x g hne
  | moveUp x k => exact K.keeps_moveUp h x k hne
  | moveDown x k => exact K.keeps_moveUp h x (-k) hne
  | newGroup p => exact K.keeps_newGroup h p hne
  | groupLayers xs p => exact K.keeps_groupLayers hpre h xs p hne
  | newLayer p bx => exact K.newObject _ _ _ h
  | newDoc bx => exact K.newObject _ _ _ h
  | setVisible x v => exact K.setVisible x v h
  | setLeft x v => exact K.setOffset x true v h
  | setTop x v => exact K.setOffset x false v h
  | setAttr x =>
    simp only [step, Op.target]
    split <;> exact h
  | setBlocks x ks =>
    simp only [step, Op.target]
    split
    · exact h
    · exact K.setBlocks _ h
  | observe o => exact observe_keeps K.read o h

end Kept

theorem SameTree.struct_with {s s1 : State} (h : SameTree s s1) (c : Id → Option BBox) (v : Id → Bool) (b : Id → BBox) :
    SameStruct s { s1 with cache := c, visible := v, box := b } :=
  ⟨h.next, h.kind, h.children, h.parent, h.psd⟩

theorem opSetVisible_struct (cfg : Cfg) (s : State) (x : Id) (v : Bool) : SameStruct s (opSetVisible cfg s x v).1 := by
  have h1 := invUp_same cfg s x
  unfold opSetVisible
  by_cases hl : (!s.isLayer x) = true
  · rw [if_pos hl]; exact (SameTree.refl s).toStruct
  · rw [if_neg hl]
    simp only
    by_cases hb : (cfg.invalidateBelow && (invUp cfg s x).cont x) = true
    · rw [if_pos hb]
      cases desc (invUp cfg s x) x with
      | error e => exact h1.toStruct
      | ok ds => exact h1.struct_with _ _ _
    · rw [if_neg hb]; exact h1.struct_with _ _ _

theorem opSetOffset_struct (cfg : Cfg) (s : State) (x : Id) (h : Bool) (v : Int) :
    SameStruct s (opSetOffset cfg s x h v).1 := by
  unfold opSetOffset
  split
  · exact (SameTree.refl s).toStruct
  · exact (invUp_same cfg s x).struct_with _ _ _

theorem inv_opSetVisible {cfg : Cfg} {s : State} (i : Inv s) (x : Id) (v : Bool) : Inv (opSetVisible cfg s x v).1 :=
  (opSetVisible_struct cfg s x v).inv i

theorem inv_opSetOffset {cfg : Cfg} {s : State} (i : Inv s) (x : Id) (h : Bool) (v : Int) :
    Inv (opSetOffset cfg s x h v).1 :=
  (opSetOffset_struct cfg s x h v).inv i

theorem inv_opRemove {cfg : Cfg} {s : State} (i : Inv s) (g x : Id) : Inv (opRemove cfg s g x).1 := by
  rcases opRemove_cases cfg s g x with d | ⟨-, hsub, -, e⟩
  · exact d.same.inv i
  · rw [e]
    exact (updateRecord_same cfg _ g).inv (inv_shrink i g _ (hsub.nodup (i.nodup g)) (fun y hy => hsub.subset hy))

theorem inv_leaveParent {cfg : Cfg} {s : State} (i : Inv s) (x : Id) : Inv (leaveParent cfg s x).1 := by
  rcases leaveParent_cases cfg s x with e | ⟨p, -, e⟩
  · rw [e]; exact i
  · rw [e]; exact inv_opRemove i p x

theorem Kept.ofInv {cfg : Cfg} (hself : cfg.itemSelfCheck = true) : Kept cfg Inv where
  self := hself
  inv := id
  read := fun s x i => (obsBbox_same s x).inv i
  relist := fun g l' out i hg hnd hmem hne => inv_finishInsert i g l' out hg hnd hmem hne
  shrink := fun k l' _ i _ hnd hsub => (updateRecord_same cfg _ k).inv (inv_shrink i k l' hnd hsub)
  record := fun k i => (updateRecord_same cfg _ k).inv i
  newObject := fun k p b i => inv_alloc i k p b
  setVisible := fun x v i => inv_opSetVisible i x v
  setOffset := fun x h v i => inv_opSetOffset i x h v
  setBlocks := fun b i => (sameTree_blocks _ b).inv i

end PsdVerif.TreeSt
