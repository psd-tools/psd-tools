/-
C02 on the payload layer — `DecOK` / `DecOKIf` for the payload classes of Model/PayloadSimple.lean, PayloadEffects,
PayloadPatterns, PayloadLinked, PayloadDescWrap (the "2" of the file name: the classes modelled second, units 2-6 of
Props/C01Payload.lean; Lemmas/PayloadResave3.lean has units 7-10, modelled third, and comes first in the import order only
because `readSized_ok` is stated there): the element classes of base.py with their fallbacks, colours,
the fixed-layout tagged-block payloads, metadata settings, annotations, the effects layer, patterns, linked layers, the
descriptor wrappers. Side conditions (`…If`): the lengths the writer derives for re-encoded blocks.

A reader that is a plain sequence of reads is followed line by line with `Rets` (Lemmas/Rets.lean, primitives in Lemmas/Lenient1.lean); where a
branch needs the equations of the reads, `bind_ok` peels one `←` off the `do` block and `ok_of_ite` one guard.
-/
import PsdVerif.Lemmas.PayloadResaveDesc
import PsdVerif.Model.PayloadSimple
import PsdVerif.Model.PayloadEffects
import PsdVerif.Model.PayloadPatterns
import PsdVerif.Model.PayloadLinked
import PsdVerif.Model.PayloadDescWrap

namespace PsdVerif.Payload
open PsdVerif.Codec PsdVerif.Payload.PCodec PsdVerif.Payload3

/-- `try: a except IOError: b`: whatever comes back came from one of the two readers -/
theorem orElseIO_inv {α : Type} {a b : R α} {d : B} {p : Nat} {r : α × Nat} (h : orElseIO a b d p = .ok r) :
    a d p = .ok r ∨ b d p = .ok r := by
  unfold orElseIO at h
  split at h
  · exact Or.inr h
  · exact Or.inl h

theorem EmptyElement.decOK : DecOK EmptyElement.codec := fun _ _ _ _ _ => ⟨trivial, trivial⟩
theorem NumericElement.decOK : DecOK NumericElement.codec := fun _ _ _ _ _ => ⟨trivial, trivial⟩
theorem IntegerElement.decOK : DecOK IntegerElement.codec :=
  fun d p v p' h => ⟨trivial, (readU_ok (show readU 4 d p = .ok (v, p') from h)).1⟩

theorem readH2x_ok {d : B} {p : Nat} {v : Nat} {p' : Nat} (h : readH2x d p = .ok (v, p')) : FitsU 2 v := by
  revert v p'
  show Rets (readH2x d p) _
  exact rets_readU.bind fun _ _ hv => Rets.skip fun _ _ => Rets.ok hv

/-- the fallback `H` for a payload without the filler: the value is re-written with the filler (4 bytes) -/
theorem ShortIntegerElement.decOK : DecOK ShortIntegerElement.codec := by
  intro d p v p' h
  rcases orElseIO_inv (show orElseIO readH2x (readU 2) d p = .ok (v, p') from h) with h | h
  · exact ⟨trivial, readH2x_ok h⟩
  · exact ⟨trivial, (readU_ok h).1⟩

theorem readB3x_ok {d : B} {p : Nat} {v : Nat} {p' : Nat} (h : readB3x d p = .ok (v, p')) : FitsU 1 v := by
  revert v p'
  show Rets (readB3x d p) _
  exact rets_readU.bind fun _ _ hv => Rets.skip fun _ _ => Rets.ok hv

theorem ByteElement.decOK : DecOK ByteElement.codec := by
  intro d p v p' h
  rcases orElseIO_inv (show orElseIO readB3x (readU 1) d p = .ok (v, p') from h) with h | h
  · exact ⟨trivial, readB3x_ok h⟩
  · exact ⟨trivial, (readU_ok h).1⟩

theorem BooleanElement.decOK : DecOK BooleanElement.codec := fun _ _ _ _ _ => ⟨trivial, trivial⟩

theorem Color.readValue_ok {lab : Bool} {d : B} {p : Nat} {z : Int} {p' : Nat} (h : Color.readValue lab d p = .ok (z, p')) :
    Color.valueFits lab z := by
  unfold Color.readValue at h
  unfold Color.valueFits
  split at h
  · rename_i hl
    rw [if_pos hl]
    exact (readI16_ok h).1
  · rename_i hl
    rw [if_neg hl]
    split at h
    · rename_i n q hn
      cases h
      have := (readU_ok hn).1
      have e : (256 : Nat) ^ 2 = 65536 := by decide
      omega
    · cases h

theorem rets_color {d : B} {p : Nat} : Rets (Color.dec d p) Color.Fits :=
  rets_readU.bind fun _ _ id => (rets_readCount fun _ _ e => Color.readValue_ok e).bind fun _ _ vs => Rets.ok ⟨id, vs⟩

theorem Color.decOK : DecOK Color.codec := fun _ _ => rets_color.mono fun _ h => ⟨trivial, h⟩

/-- `Bytes`: `fp.read(4)` is lenient -/
theorem BytesElement.decOK : DecOK BytesElement.codec :=
  fun d p v p' h => ⟨(readUpTo_ok (show readUpTo 4 d p = .ok (v, p') from h)).1, trivial⟩

theorem SheetColorSetting.decOK : DecOK SheetColorSetting.codec := fun d p =>
  show Rets (SheetColorSetting.codec.dec d p) _ from
  rets_readU.bind fun _ _ v => Rets.skip fun _ _ => Rets.guard fun hm => Rets.ok ⟨hm, v⟩

theorem ReferencePoint.decOK : DecOK ReferencePoint.codec := fun d p =>
  show Rets (ReferencePoint.codec.dec d p) _ from
  Rets.skip fun _ _ => Rets.skip fun _ _ => Rets.ok ⟨trivial, rfl⟩

theorem SectionDividerSetting.decOK : DecOK SectionDividerSetting.codec := by
  intro d p v p' h
  change SectionDividerSetting.dec d p = _ at h
  unfold SectionDividerSetting.dec at h
  obtain ⟨⟨kind, p1⟩, e1, h⟩ := bind_ok h
  obtain ⟨hkind, h⟩ := ok_of_ite h
  obtain ⟨⟨tail, p2⟩, e2, h⟩ := bind_ok h
  obtain ⟨⟨sub, p3⟩, e3, h⟩ := bind_ok h
  cases h
  have hk := (readU_ok e1).1
  -- the sub type is a 4-byte number
  have hsub : Psd.optFits 4 sub := by
    rcases condItem_ok e3 with ⟨_, n, rfl, hn⟩ | ⟨_, rfl⟩
    · exact (readU_ok hn).1
    · trivial
  split at e2
  · obtain ⟨⟨s, q1⟩, _, e2⟩ := bind_ok e2
    obtain ⟨hsig, e2⟩ := ok_of_ite e2
    obtain ⟨⟨b, q2⟩, _, e2⟩ := bind_ok e2
    obtain ⟨hbm, e2⟩ := ok_of_ite e2
    cases e2
    refine ⟨⟨hkind, hsig, hbm⟩, hk, ?_⟩
    simp only [SectionDividerSetting.hasTail]
    split
    · exact hsub
    · trivial
  · cases e2
    rcases condItem_ok e3 with ⟨hc, _⟩ | ⟨_, rfl⟩
    · cases hc
    · exact ⟨⟨hkind, rfl⟩, hk, by simp only [SectionDividerSetting.hasTail]⟩

theorem UserMask.decOK : DecOK UserMask.codec := fun d p =>
  show Rets (UserMask.codec.dec d p) _ from
  rets_color.bind fun _ _ c => rets_readU.bind fun _ _ op => rets_readU.bind fun _ _ fl => Rets.skip fun _ _ =>
  Rets.ok ⟨trivial, c, op, fl⟩

theorem FilterMask.decOK : DecOK FilterMask.codec := fun d p =>
  show Rets (FilterMask.codec.dec d p) _ from
  rets_color.bind fun _ _ c => rets_readU.bind fun _ _ op => Rets.ok ⟨trivial, c, op⟩

theorem ChannelBlendingRestrictionsSetting.decOK : DecOK ChannelBlendingRestrictionsSetting.codec :=
  fun d p vs p' h => ⟨trivial, readWhile_all (fun e => (readU_ok e).1)
    (show readWhile (isReadable 4) (Codec.optItem (readU 4)) d p = .ok (vs, p') from h)⟩

theorem PixelSourceData2.decOK (pad : Nat) (hp : pad = 1 ∨ pad = 2 ∨ pad = 4) : DecOK (PixelSourceData2.codec pad) :=
  fun d p vs p' h => ⟨hp, readWhile_all readLenBlock_ok
    (show readWhile (isReadable 8) (Codec.optItem (readLenBlock 0 8 1)) d p = .ok (vs, p') from h)⟩

/-- the side condition of a metadata item: the length of the re-encoded payload (a descriptor is written with padding 4)
fits the 4-byte length field -/
def MetadataSetting.ResaveOK (tb : Descriptor.Tables) (x : MetadataSetting) : Prop :=
  FitsU 4 (MetadataSetting.dataT tb x.data).length

theorem MetadataSetting.decOKIf (tb : Descriptor.Tables) (ht : Descriptor.TermsFour tb) :
    DecOKIf (MetadataSetting.codec tb) (MetadataSetting.ResaveOK tb) := by
  intro d p v p' h hl
  change MetadataSetting.dec tb d p = _ at h
  unfold MetadataSetting.dec at h
  obtain ⟨⟨sig, p1⟩, _, h⟩ := bind_ok h
  obtain ⟨hsig, h⟩ := ok_of_ite h
  obtain ⟨⟨key, p2⟩, e2, h⟩ := bind_ok h
  obtain ⟨⟨cos, p3⟩, _, h⟩ := bind_ok h
  obtain ⟨_, _, h⟩ := bind_ok h
  obtain ⟨⟨data, p5⟩, _, h⟩ := bind_ok h
  obtain ⟨x, e6, h⟩ := bind_ok h
  cases h
  have hkey := (readN_ok e2).1
  unfold MetadataSetting.typedData at e6
  split at e6
  · rename_i hint
    split at e6
    · rename_i n q hn
      cases e6
      exact ⟨⟨hsig, hkey, hint⟩, (readU_ok hn).1, hl⟩
    · cases e6
  · rename_i hint
    split at e6
    · rename_i hdesc
      split at e6
      · rename_i blk q hb
        cases e6
        obtain ⟨f, w⟩ := Descriptor.Block.dec_resavable ht data 0 blk q hb
        exact ⟨⟨hsig, hkey, hint, hdesc, w⟩, f, hl⟩
      · cases e6
    · rename_i hdesc
      cases e6
      exact ⟨⟨hsig, hkey, hint, hdesc⟩, trivial, hl⟩

theorem MetadataSettings.decOKIf (tb : Descriptor.Tables) (ht : Descriptor.TermsFour tb) :
    DecOKIf (MetadataSettings.codec tb) (fun xs => ∀ x ∈ xs, MetadataSetting.ResaveOK tb x) := fun d p =>
  show Rets ((MetadataSettings.codec tb).dec d p) _ from
  rets_readU.bind fun _ _ n => (rets_readCount fun {d q} => MetadataSetting.decOKIf tb ht d q).mono fun _ xs hl =>
    ⟨fun x hx => (xs.2 x hx (hl x hx)).1, xs.1 ▸ n, fun x hx => (xs.2 x hx (hl x hx)).2⟩

/-- the side condition of an annotation: the length the writer derives (`len(data) + 12`) fits its field -/
def Annotation.ResaveOK (a : Annotation) : Prop := FitsU 4 (a.data.length + 12)

theorem Annotation.decOKIf : DecOKIf Annotation.codec Annotation.ResaveOK := fun d p =>
  show Rets (Annotation.dec d p) _ from
  Rets.skip fun _ _ =>
  rets_readU.bind fun _ _ isOpen =>
  rets_readU.bind fun _ _ flags =>
  rets_readU.bind fun _ _ ob =>
  (rets_readCount rets_readI32).bind fun _ _ icon =>
  (rets_readCount rets_readI32).bind fun _ _ popup =>
  rets_color.bind fun _ _ color =>
  rets_readPascal.bind fun _ _ author =>
  rets_readPascal.bind fun _ _ name =>
  rets_readPascal.bind fun _ _ modDate =>
  Rets.skip fun _ _ =>
  Rets.skip fun _ _ =>
  rets_readLenBlock.bind fun _ _ data =>
  Rets.guard fun valid => Rets.ok fun hl =>
    ⟨valid, isOpen, flags, ob, icon, popup, color, author, name, modDate, hl, data⟩

theorem Annotations.readItems_ok : ∀ (n : Nat) {d : B} {p : Nat} {xs : List Annotation} {p' : Nat},
    Annotations.readItems n d p = .ok (xs, p') →
      xs.length ≤ n ∧ ∀ a ∈ xs, ∃ (c : B) (q q' : Nat), Annotation.dec c q = .ok (a, q')
  | 0, _, _, _, _, h => by cases h; exact ⟨Nat.le_refl _, fun a ha => by cases ha⟩
  | n + 1, d, p, xs, p', h => by
    unfold Annotations.readItems at h
    obtain ⟨⟨len, p1⟩, _, h⟩ := bind_ok h
    dsimp only at h
    split at h
    · obtain ⟨⟨chunk, p2⟩, _, h⟩ := bind_ok h
      obtain ⟨⟨a, p3⟩, e3, h⟩ := bind_ok h
      obtain ⟨⟨as, p4⟩, e4, h⟩ := bind_ok h
      cases h
      obtain ⟨hl, hi⟩ := Annotations.readItems_ok n e4
      refine ⟨Nat.succ_le_succ hl, fun b hb => ?_⟩
      rcases List.mem_cons.1 hb with rfl | hb
      · exact ⟨chunk, 0, p3, e3⟩
      · exact hi b hb
    · obtain ⟨hl, hi⟩ := Annotations.readItems_ok n h
      exact ⟨Nat.le_succ_of_le hl, hi⟩

def Annotations.ResaveOK (x : Annotations) : Prop := ∀ a ∈ x.items, a.ResaveOK ∧ FitsU 4 (a.encT.length + 4)

/-- items whose declared length is 4 or less are skipped by the reader and not written back; the count is re-derived -/
theorem Annotations.decOKIf : DecOKIf Annotations.codec Annotations.ResaveOK := fun d p =>
  show Rets (Annotations.dec d p) _ from
  rets_readU.bind fun _ _ major =>
  rets_readU.bind fun _ _ minor =>
  rets_readU.bind fun count _ hcount =>
  Rets.bind (fun _ _ e => Annotations.readItems_ok count e) fun items _ hitems =>
  Rets.ok fun hl =>
    have hall : ∀ a ∈ items, a.Valid ∧ a.Fits := fun a ha =>
      let ⟨c, q, q', hq⟩ := hitems.2 a ha
      Annotation.decOKIf c q a q' hq (hl a ha).1
    ⟨fun a ha => (hall a ha).1, major, minor, Nat.lt_of_le_of_lt hitems.1 hcount, fun a ha => ⟨(hall a ha).2, (hl a ha).2⟩⟩

theorem readBlendMode_ok {d : B} {p : Nat} {b : B} {p' : Nat} (h : readBlendMode d p = .ok (b, p')) :
    b ∈ Psd.G.blendModes ∧ b.length = 4 := by
  unfold readBlendMode at h
  split at h
  · rename_i x q hx
    obtain ⟨hm, h⟩ := ok_of_ite h
    cases h
    exact ⟨hm, (readN_ok hx).1⟩
  · cases h

theorem rets_blendMode {d : B} {p : Nat} : Rets (readBlendMode d p) (· ∈ Psd.G.blendModes) :=
  fun _ _ h => (readBlendMode_ok h).1

theorem CommonStateInfo.decOK : DecOK CommonStateInfo.codec := fun d p =>
  show Rets (CommonStateInfo.codec.dec d p) _ from
  rets_readU.bind fun _ _ ver => rets_readU.bind fun _ _ vis => Rets.skip fun _ _ => Rets.ok ⟨trivial, ver, vis⟩

theorem ShadowInfo.decOK : DecOK ShadowInfo.codec := fun d p =>
  show Rets (ShadowInfo.dec d p) _ from
  rets_readU.bind fun _ _ version =>
  rets_readU.bind fun _ _ blur =>
  rets_readU.bind fun _ _ intensity =>
  rets_readI32.bind fun _ _ angle =>
  rets_readU.bind fun _ _ distance =>
  rets_color.bind fun _ _ color =>
  Rets.skip fun _ _ =>
  rets_blendMode.bind fun _ _ bm =>
  rets_readU.bind fun _ _ enabled =>
  rets_readU.bind fun _ _ uga =>
  rets_readU.bind fun _ _ opacity =>
  rets_color.bind fun _ _ native =>
  Rets.ok ⟨bm, version, blur, intensity, angle, distance, color, enabled, uga, opacity, native⟩

theorem rets_glowBody {d : B} {p : Nat} : Rets (GlowBody.dec d p) fun x => x.Fits ∧ x.blendMode ∈ Psd.G.blendModes :=
  rets_readU.bind fun _ _ version =>
  rets_readU.bind fun _ _ blur =>
  rets_readU.bind fun _ _ intensity =>
  rets_color.bind fun _ _ color =>
  Rets.skip fun _ _ =>
  rets_blendMode.bind fun _ _ bm =>
  rets_readU.bind fun _ _ enabled =>
  rets_readU.bind fun _ _ opacity =>
  Rets.ok ⟨⟨version, blur, intensity, color, enabled, opacity⟩, bm⟩

theorem OuterGlowInfo.decOK : DecOK OuterGlowInfo.codec := fun d p =>
  show Rets (OuterGlowInfo.dec d p) _ from
  rets_glowBody.bind fun _ _ hb => (rets_condItem rets_color).bind fun native _ hn => Rets.ok (by
    obtain ⟨fb, wb⟩ := hb
    cases native with
    | none => exact ⟨⟨wb, fun h2 => Bool.noConfusion (hn.1.2 h2), fun hs => Bool.noConfusion hs⟩, fb, trivial⟩
    | some c => exact ⟨⟨wb, fun _ => rfl, fun _ => hn.1.1 rfl⟩, fb, hn.2 c rfl⟩)

theorem InnerGlowInfo.decOK : DecOK InnerGlowInfo.codec := fun d p =>
  show Rets (InnerGlowInfo.dec d p) _ from
  rets_glowBody.bind fun _ _ hb => Rets.ite
    (fun hv => rets_readU.bind fun _ _ invert => rets_color.bind fun _ _ native =>
      Rets.ok ⟨⟨hb.2, fun h2 => absurd hv (Nat.not_le.2 h2)⟩, hb.1, fun _ => ⟨⟨rfl, invert⟩, ⟨rfl, native⟩⟩⟩)
    (fun hv => Rets.ok ⟨⟨hb.2, fun _ => ⟨rfl, rfl⟩⟩, hb.1, fun h2 => absurd h2 hv⟩)

theorem BevelInfo.decOK : DecOK BevelInfo.codec := fun d p =>
  show Rets (BevelInfo.dec d p) _ from
  rets_readU.bind fun version _ hversion =>
  rets_readI32.bind fun _ _ angle =>
  rets_readU.bind fun _ _ depth =>
  rets_readU.bind fun _ _ blur =>
  Rets.skip fun _ _ =>
  Rets.skip fun _ _ =>
  Rets.guard fun _ =>
  Rets.skip fun _ _ =>
  Rets.skip fun _ _ =>
  Rets.guard fun _ =>
  rets_color.bind fun _ _ hc =>
  rets_color.bind fun _ _ sc =>
  rets_readU.bind fun _ _ style =>
  rets_readU.bind fun _ _ ho =>
  rets_readU.bind fun _ _ so =>
  rets_readU.bind fun _ _ en =>
  rets_readU.bind fun _ _ uga =>
  rets_readU.bind fun _ _ dir =>
  -- the real colours are there exactly from version 2 on
  Rets.bind (P := fun (x : Option Color × Option Color) => (version < 2 → x.1 = none ∧ x.2 = none) ∧
      (version ≥ 2 → (x.1.isSome ∧ optColorFits x.1) ∧ (x.2.isSome ∧ optColorFits x.2)))
    (Rets.ite
      (fun hv => rets_color.bind fun _ _ a => rets_color.bind fun _ _ b =>
        Rets.ok ⟨fun h2 => absurd hv (Nat.not_le.2 h2), fun _ => ⟨⟨rfl, a⟩, ⟨rfl, b⟩⟩⟩)
      (fun hv => Rets.ok ⟨fun _ => ⟨rfl, rfl⟩, fun h2 => absurd h2 hv⟩)) fun _ _ real =>
  Rets.guard fun valid =>
  Rets.ok ⟨⟨valid, real.1⟩, hversion, angle, depth, blur, hc, sc, style, ho, so, en, uga, dir, real.2⟩

theorem SolidFillInfo.decOK : DecOK SolidFillInfo.codec := fun d p =>
  show Rets (SolidFillInfo.dec d p) _ from
  rets_readU.bind fun _ _ version =>
  Rets.skip fun _ _ =>
  Rets.skip fun _ _ =>
  Rets.guard fun _ =>
  rets_color.bind fun _ _ color =>
  rets_readU.bind fun _ _ opacity =>
  rets_readU.bind fun _ _ enabled =>
  rets_color.bind fun _ _ native =>
  Rets.guard fun bm => Rets.ok ⟨bm, version, color, opacity, enabled, native⟩

theorem Effect.decAs_ok {c : EffectClass} {data : B} {e : Effect} (h : Effect.decAs c data = .ok e) :
    e.cls = c ∧ e.WF ∧ e.Fits := by
  unfold Effect.decAs at h
  cases c <;> obtain ⟨⟨x, q⟩, hr, rfl⟩ := map_ok h
  · exact ⟨rfl, CommonStateInfo.decOK data 0 x q hr⟩
  · exact ⟨rfl, ShadowInfo.decOK data 0 x q hr⟩
  · exact ⟨rfl, OuterGlowInfo.decOK data 0 x q hr⟩
  · exact ⟨rfl, InnerGlowInfo.decOK data 0 x q hr⟩
  · exact ⟨rfl, BevelInfo.decOK data 0 x q hr⟩
  · exact ⟨rfl, SolidFillInfo.decOK data 0 x q hr⟩

theorem EffectsLayer.itemDec_ok {d : B} {p : Nat} {kv : B × Effect} {p' : Nat} (h : EffectsLayer.itemDec d p = .ok (kv, p')) :
    classOfKey kv.1 = some kv.2.cls ∧ kv.2.WF ∧ kv.2.Fits := by
  unfold EffectsLayer.itemDec at h
  obtain ⟨_, _, h⟩ := bind_ok h
  obtain ⟨⟨key, p2⟩, _, h⟩ := bind_ok h
  dsimp only at h
  split at h
  · cases h
  · rename_i c hc
    obtain ⟨⟨data, p3⟩, _, h⟩ := bind_ok h
    obtain ⟨e, he, h⟩ := bind_ok h
    cases h
    obtain ⟨h1, h2, h3⟩ := Effect.decAs_ok he
    exact ⟨by rw [h1]; exact hc, h2, h3⟩

/-- the length field of every re-encoded effect info (each is a few dozen bytes) -/
def EffectsLayer.LenFits (x : EffectsLayer) : Prop := ∀ kv ∈ x.items, FitsU 4 kv.2.encT.length

theorem EffectsLayer.decOKIf : DecOKIf EffectsLayer.codec EffectsLayer.LenFits := fun d p =>
  show Rets (EffectsLayer.dec d p) _ from
  rets_readU.bind fun _ _ version =>
  rets_readU.bind fun _ _ count =>
  (rets_readCount fun _ _ e => EffectsLayer.itemDec_ok e).bind fun items _ hitems =>
  Rets.ok fun hl =>
    have hall := fun kv hkv => hitems.2 kv (mem_odict (fun (kv : B × Effect) => kv.1) items kv hkv)
    ⟨⟨fun kv hkv => ⟨(hall kv hkv).1, (hall kv hkv).2.1⟩, nodup_odict _ _⟩, version,
      Nat.lt_of_le_of_lt (hitems.1 ▸ length_odict_le _ items) count, fun kv hkv => ⟨(hall kv hkv).2.2, hl kv hkv⟩⟩

/-- the length field of the re-encoded pixel block (a declared length below 23 makes the reader take everything that
follows: `fp.read(negative)`) -/
def VMA.LenFits (x : VMA) : Prop := ∀ c, x.content = some c → FitsU 4 c.bodyT.length

theorem VMA.decOKIf : DecOKIf VMA.codec VMA.LenFits := fun d p =>
  show Rets (VMA.dec d p) _ from
  rets_readU.bind fun _ _ iw => Rets.ite
    (fun h0 => Rets.ok fun _ => ⟨trivial, iw, fun hne => absurd h0 hne⟩)
    fun h0 => Rets.skip fun _ _ => Rets.ite
      (fun _ => Rets.ok fun _ => ⟨trivial, iw, fun _ => trivial⟩)
      fun _ =>
        rets_readU.bind fun _ _ depth =>
        (rets_readCount rets_readU).bind fun _ _ rect =>
        rets_readU.bind fun _ _ pd =>
        rets_readU.bind fun _ _ comp =>
        Rets.skip fun _ _ =>
        Rets.guard fun hcomp => Rets.ok fun hl => ⟨⟨h0, hcomp⟩, iw, fun _ => ⟨depth, rect, pd, comp, hl _ rfl⟩⟩

def VMAL.LenFits (x : VMAL) : Prop := (∀ c ∈ x.channels, VMA.LenFits c) ∧ FitsU 4 x.bodyT.length

theorem VMAL.decOKIf : DecOKIf VMAL.codec VMAL.LenFits := fun d p =>
  show Rets (VMAL.dec d p) _ from
  rets_readU.bind fun _ _ version =>
  Rets.guard fun hv =>
  Rets.skip fun data _ =>
  (rets_readCount rets_readU).bind fun _ _ rect =>
  rets_readU.bind fun n _ hn =>
  (rets_readCount fun {d q} => VMA.decOKIf d q).bind fun chans _ hch =>
  Rets.ok fun hl =>
    have hc2 : 2 ≤ chans.length ∧ FitsU 4 (chans.length - 2) := by
      simp only [FitsU, hch.1] at hn ⊢
      omega
    ⟨⟨hv, fun c hc => (hch.2 c hc (hl.1 c hc)).1⟩, version, rect, hc2, fun c hc => (hch.2 c hc (hl.1 c hc)).2, hl.2⟩

theorem Pattern.decOKIf : DecOKIf Pattern.codec (fun x => VMAL.LenFits x.data) := fun d p =>
  show Rets (Pattern.dec d p) _ from
  rets_readU.bind fun _ _ version =>
  Rets.guard fun hv =>
  rets_readU.bind fun mode _ hmode' =>
  Rets.guard fun hmode =>
  (rets_readCount rets_readI16).bind fun _ _ point =>
  Rets.bind (fun _ _ e => readUStr_ok e) fun _ _ name =>
  rets_readPascal.bind fun _ _ pid =>
  Rets.guard fun hascii =>
  Rets.bind (P := fun t => Pattern.tableWF (decide (mode = GP.colorModeIndexed)) t ∧ Pattern.tableFits t)
    (Rets.ite
      (fun hidx => (rets_readCount (rets_readCount rets_readU)).bind fun _ _ rows => Rets.skip fun _ _ =>
        Rets.ok ⟨⟨decide_eq_true hidx, rows.1⟩, rows.2⟩)
      (fun hidx => Rets.ok ⟨decide_eq_false hidx, trivial⟩)) fun _ _ table =>
  Rets.bind (VMAL.decOKIf d _) fun _ _ data =>
  Rets.ok fun hl => ⟨⟨hv, hmode, ⟨name.1, name.2.1⟩, hascii, table.1, (data hl).1⟩, version, hmode', point, name.2.2, pid,
    table.2, (data hl).2⟩

def Patterns.LenFits (xs : List Pattern) : Prop := ∀ x ∈ xs, VMAL.LenFits x.data ∧ FitsU 4 x.encT.length

theorem Patterns.decOKIf : DecOKIf Patterns.codec Patterns.LenFits := by
  intro d p xs p' h hl
  simp only [Patterns.codec] at h
  have hall : ∀ x ∈ xs, x.WF ∧ x.Fits := by
    intro x hx
    obtain ⟨q, q', _, hq⟩ := readWhile_ok h x hx
    obtain ⟨⟨data, p1⟩, _, hq⟩ := bind_ok hq
    obtain ⟨⟨y, p2⟩, ey, hq⟩ := bind_ok hq
    cases hq
    exact Pattern.decOKIf _ 0 _ _ ey (hl _ hx).1
  exact ⟨fun x hx => (hall x hx).1, fun x hx => ⟨(hall x hx).2, (hl x hx).2⟩⟩

section descwrap
variable (tb : Descriptor.Tables)

theorem SmartObjectLayerData.decOK (ht : Descriptor.TermsFour tb) (pad : Nat) :
    DecOK (SmartObjectLayerData.codec tb pad) := fun d p =>
  show Rets (SmartObjectLayerData.dec tb d p) _ from
  Rets.skip fun _ _ =>
  rets_readU.bind fun _ _ version =>
  (Descriptor.Block.dec_resavable ht).rets.bind fun _ _ data =>
  Rets.guard fun valid => Rets.ok ⟨⟨valid, data.2⟩, version, data.1⟩

theorem PlacedLayerData.decOK (ht : Descriptor.TermsFour tb) (pad : Nat) :
    DecOK (PlacedLayerData.codec tb pad) := fun d p =>
  show Rets (PlacedLayerData.dec tb d p) _ from
  rets_readN.bind fun _ _ kind =>
  rets_readU.bind fun _ _ version =>
  rets_readPascal.bind fun _ _ uuid =>
  rets_readU.bind fun _ _ page =>
  rets_readU.bind fun _ _ total =>
  rets_readU.bind fun _ _ aa =>
  rets_readU.bind fun _ _ lt =>
  (rets_readCount (P := fun _ => True) fun _ _ _ => trivial).bind fun _ _ tr =>
  (Descriptor.Block2.dec_resavable ht).rets.bind fun _ _ warp =>
  Rets.guard fun valid => Rets.ok ⟨⟨valid, kind, warp.2⟩, version, uuid, page, total, aa, lt, tr.1, warp.1⟩

theorem TypeToolObjectSetting.decOK (ht : Descriptor.TermsFour tb) (pad : Nat) :
    DecOK (TypeToolObjectSetting.codec tb pad) := fun d p =>
  show Rets (TypeToolObjectSetting.dec tb d p) _ from
  rets_readU.bind fun _ _ version =>
  (rets_readCount (P := fun _ => True) fun _ _ _ => trivial).bind fun _ _ tr =>
  rets_readU.bind fun _ _ tv =>
  (Descriptor.Block.dec_resavable ht).rets.bind fun _ _ text =>
  rets_readU.bind fun _ _ wv =>
  (Descriptor.Block.dec_resavable ht).rets.bind fun _ _ warp =>
  rets_readI32.bind fun _ _ l =>
  rets_readI32.bind fun _ _ t =>
  rets_readI32.bind fun _ _ r =>
  rets_readI32.bind fun _ _ b =>
  Rets.guard fun valid => Rets.ok ⟨⟨valid, text.2, warp.2⟩, version, tr.1, tv, text.1, wv, warp.1, l, t, r, b⟩

end descwrap

namespace LinkedLayer
variable (tb : Descriptor.Tables)

theorem readTs_ok {d : B} {p : Nat} {t : Timestamp} {p' : Nat} (h : readTs d p = .ok (t, p')) : tsFits t := by
  revert t p'
  show Rets (readTs d p) _
  exact rets_readU.bind fun _ _ y => (rets_readCount rets_readU).bind fun _ _ fs => Rets.skip fun _ _ => Rets.ok ⟨y, fs⟩

/-- what the kind branch sets, kind by kind -/
structure KindOK (kind : B) (version datasize : Nat) (k : KindPart) : Prop where
  lf : ∀ b, k.linkedFile = some b → b.Fits tb ∧ b.WF tb
  ext : kind = GP.linkedExternal → k.linkedFile.isSome ∧ (version > 3 → tsReq k.timestamp) ∧
      (k.filesize.isSome ∧ Psd.optFits 8 k.filesize) ∧ (version > 2 → k.data.isSome) ∧ (version ≤ 3 → k.timestamp = none) ∧
      (version ≤ 2 → k.data = none)
  notExt : kind ≠ GP.linkedExternal → k.linkedFile = none ∧ k.timestamp = none ∧ k.filesize = none
  dat : kind = GP.linkedData → k.data.isSome
  notDat : kind ≠ GP.linkedData → kind ≠ GP.linkedExternal → k.data = none
  len : ∀ b, k.data = some b → b.length ≤ datasize

theorem kinds_distinct : GP.linkedExternal ≠ GP.linkedData ∧ GP.linkedAlias ≠ GP.linkedData ∧ GP.linkedAlias ≠ GP.linkedExternal := by
  decide

theorem kindDec_ok (ht : Descriptor.TermsFour tb) {kind : B} {version datasize : Nat} {d : B} {p : Nat} {k : KindPart} {p' : Nat}
    (h : kindDec tb kind version datasize d p = .ok (k, p')) : KindOK tb kind version datasize k := by
  unfold kindDec at h
  obtain ⟨⟨k0, p0⟩, e0, h⟩ := bind_ok h
  dsimp only at h
  by_cases hext : kind = GP.linkedExternal
  · -- EXTERNAL: everything is set by the first branch, the data branch is not taken
    have hnd : ¬ kind = GP.linkedData := fun hd => kinds_distinct.1 (hext.symm.trans hd)
    rw [if_neg hnd] at h
    cases h
    rw [if_pos hext] at e0
    obtain ⟨⟨lf, p1⟩, e1, e0⟩ := bind_ok e0
    obtain ⟨⟨ts, p2⟩, e2, e0⟩ := bind_ok e0
    obtain ⟨⟨fsz, p3⟩, e3, e0⟩ := bind_ok e0
    obtain ⟨⟨dt, p4⟩, e4, e0⟩ := bind_ok e0
    cases e0
    have hts : (version > 3 → tsReq ts) ∧ (version ≤ 3 → ts = none) := by
      rcases condItem_ok e2 with ⟨_, t, rfl, et⟩ | ⟨hv, rfl⟩
      · exact ⟨fun _ => readTs_ok et, fun hle => by omega⟩
      · exact ⟨fun hgt => absurd hgt hv, fun _ => rfl⟩
    have hdt : (version > 2 → dt.isSome) ∧ (version ≤ 2 → dt = none) ∧ (∀ b, dt = some b → b.length ≤ datasize) := by
      rcases condItem_ok e4 with ⟨_, t, rfl, et⟩ | ⟨hv, rfl⟩
      · exact ⟨fun _ => rfl, fun hle => by omega, fun b hb => by cases hb; exact readSized_ok et⟩
      · exact ⟨fun hgt => absurd hgt hv, fun _ => rfl, fun b hb => by cases hb⟩
    exact {
      lf := fun b hb => by cases hb; exact Descriptor.Block.dec_resavable ht d _ _ _ e1
      ext := fun _ => ⟨rfl, hts.1, ⟨rfl, (readU_ok e3).1⟩, hdt.1, hts.2, hdt.2.1⟩
      notExt := fun hne => absurd hext hne
      dat := fun hd => absurd hd hnd
      notDat := fun _ hne => absurd hext hne
      len := hdt.2.2 }
  · rw [if_neg hext] at e0
    have hnone : k0 = ⟨none, none, none, none⟩ := by
      split at e0
      · obtain ⟨_, _, e0⟩ := bind_ok e0
        cases e0; rfl
      · cases e0; rfl
    subst hnone
    split at h
    · rename_i hd
      obtain ⟨⟨dt, p1⟩, _, h⟩ := bind_ok h
      obtain ⟨hl, h⟩ := ok_of_ite h
      cases h
      exact {
        lf := fun b hb => by cases hb
        ext := fun he => absurd he hext
        notExt := fun _ => ⟨rfl, rfl, rfl⟩
        dat := fun _ => rfl
        notDat := fun hne _ => absurd hd hne
        len := fun b hb => by cases hb; exact Nat.le_of_eq hl }
    · rename_i hd
      cases h
      exact {
        lf := fun b hb => by cases hb
        ext := fun he => absurd he hext
        notExt := fun _ => ⟨rfl, rfl, rfl⟩
        dat := fun he => absurd he hd
        notDat := fun _ _ => rfl
        len := fun b hb => by cases hb }

theorem tailDec_ok {version : Nat} {d : B} {p : Nat} {r : Option Str × Option UInt64 × Option Nat} {p' : Nat}
    (h : tailDec version d p = .ok (r, p')) :
    (r.1.isSome ↔ version ≥ 5) ∧ (r.2.1.isSome ↔ version ≥ 6) ∧ (r.2.2.isSome ↔ version ≥ 7) ∧ strWF r.1 ∧ optUStrFits r.1 ∧
      Psd.optFits 1 r.2.2 := by
  unfold tailDec at h
  obtain ⟨⟨cid, p1⟩, e1, h⟩ := bind_ok h
  obtain ⟨⟨mt, p2⟩, e2, h⟩ := bind_ok h
  obtain ⟨⟨ls, p3⟩, e3, h⟩ := bind_ok h
  cases h
  refine ⟨condItem_isSome e1, condItem_isSome e2, condItem_isSome e3, ?_, ?_, ?_⟩
  · rcases condItem_ok e1 with ⟨_, s, rfl, es⟩ | ⟨_, rfl⟩
    · exact ⟨(readUStr_ok es).1, (readUStr_ok es).2.1⟩
    · trivial
  · rcases condItem_ok e1 with ⟨_, s, rfl, es⟩ | ⟨_, rfl⟩
    · exact (readUStr_ok es).2.2
    · trivial
  · rcases condItem_ok e3 with ⟨_, n, rfl, en⟩ | ⟨_, rfl⟩
    · exact (readU_ok en).1
    · trivial

theorem decOK (ht : Descriptor.TermsFour tb) (pad : Nat) : DecOK (codec tb pad) := by
  intro d p v p' h
  change dec tb d p = _ at h
  unfold dec at h
  obtain ⟨⟨kind, p1⟩, _, h⟩ := bind_ok h
  obtain ⟨hkind, h⟩ := ok_of_ite h
  obtain ⟨⟨version, p2⟩, e2, h⟩ := bind_ok h
  obtain ⟨hver, h⟩ := ok_of_ite h
  obtain ⟨⟨uuid, p3⟩, e3, h⟩ := bind_ok h
  obtain ⟨⟨filename, p4⟩, e4, h⟩ := bind_ok h
  obtain ⟨⟨filetype, p5⟩, e5, h⟩ := bind_ok h
  obtain ⟨⟨creator, p6⟩, e6, h⟩ := bind_ok h
  obtain ⟨⟨datasize, p7⟩, e7, h⟩ := bind_ok h
  obtain ⟨⟨flag, p8⟩, _, h⟩ := bind_ok h
  obtain ⟨⟨openFile, p9⟩, e9, h⟩ := bind_ok h
  obtain ⟨⟨k, p10⟩, e10, h⟩ := bind_ok h
  obtain ⟨⟨⟨cid, mt, ls⟩, p11⟩, e11, h⟩ := bind_ok h
  obtain ⟨⟨data, p12⟩, e12, h⟩ := bind_ok h
  cases h
  obtain ⟨s1, s2, s3⟩ := readUStr_ok e4
  have hds := (readU_ok e7).1
  obtain ⟨t1, t2, t3, t4, t5, t6⟩ := tailDec_ok e11
  have K := kindDec_ok tb ht e10
  -- the open-file descriptor
  have hof : optBlockFits tb openFile ∧ optBlockWF tb openFile := by
    rcases condItem_ok e9 with ⟨_, b, rfl, eb⟩ | ⟨_, rfl⟩
    · exact Descriptor.Block.dec_resavable ht d _ _ _ eb
    · exact ⟨trivial, trivial⟩
  have hlf : optBlockFits tb k.linkedFile ∧ optBlockWF tb k.linkedFile := by
    cases hk : k.linkedFile with
    | none => exact ⟨trivial, trivial⟩
    | some b => exact K.lf b hk
  -- the data as the last step leaves it
  have hdata : (kind = GP.linkedExternal → version = 2 → data.isSome) ∧
      (¬ (kind = GP.linkedExternal ∧ version = 2) → data = k.data) ∧ (∀ b, data = some b → b.length ≤ datasize) := by
    split at e12
    · rename_i hc
      unfold Codec.optItem at e12
      split at e12
      · rename_i b q hb
        cases e12
        exact ⟨fun _ _ => rfl, fun hn => absurd hc hn, fun b' hb' => by cases hb'; exact readSized_ok hb⟩
      · cases e12
    · rename_i hc
      cases e12
      exact ⟨fun he hv => absurd ⟨he, hv⟩ hc, fun _ => rfl, K.len⟩
  have hdl : FitsU 8 (dataLen ⟨kind, version, uuid, filename, filetype, creator, k.filesize, openFile, k.linkedFile, k.timestamp,
      data, cid, mt, ls⟩) := by
    simp only [dataLen, FitsU] at hds ⊢
    cases hd : data with
    | none => simp only; omega
    | some b => have := hdata.2.2 b hd; simp only; omega
  refine ⟨⟨hkind, hver, ⟨(readN_ok e5).1, (readN_ok e6).1⟩, ⟨s1, s2⟩, hof.2, hlf.2, ?_, ?_, ?_, t1, t2, t3, t4⟩,
    (readU_ok e2).1, readPascal_ok e3, s3, hdl, hof.1, ?_, ?_, t5, t6⟩
  · -- external: which fields a version has
    intro he
    have he' : kind = GP.linkedExternal := eq_of_beq he
    obtain ⟨_, _, _, _, e5, e6⟩ := K.ext he'
    refine ⟨e5, fun hv1 => ?_⟩
    have hv1' : version = 1 := hv1
    show data = none
    rw [hdata.2.1 (fun hc => by omega)]
    exact e6 (by omega)
  · intro he
    have he' : kind ≠ GP.linkedExternal := ne_of_beq_false he
    exact K.notExt he'
  · intro ha
    have ha' : kind = GP.linkedAlias := eq_of_beq ha
    have h1 : kind ≠ GP.linkedExternal := fun e => kinds_distinct.2.2 (ha'.symm.trans e)
    have h2 : kind ≠ GP.linkedData := fun e => kinds_distinct.2.1 (ha'.symm.trans e)
    show data = none
    rw [hdata.2.1 (fun hc => h1 hc.1)]
    exact K.notDat h2 h1
  · intro he
    have he' : kind = GP.linkedExternal := eq_of_beq he
    obtain ⟨e1, e2, e3, e4, _, _⟩ := K.ext he'
    refine ⟨⟨e1, hlf.1⟩, e2, e3, fun hv => ?_⟩
    have hv' : version > 1 := hv
    show data.isSome = true
    by_cases hv2 : version = 2
    · exact hdata.1 he' hv2
    · rw [hdata.2.1 (fun hc => hv2 hc.2)]
      exact e4 (by omega)
  · intro hd
    have hd' : kind = GP.linkedData := eq_of_beq hd
    have h1 : kind ≠ GP.linkedExternal := fun e => kinds_distinct.1 (e.symm.trans hd')
    show data.isSome = true
    rw [hdata.2.1 (fun hc => h1 hc.1)]
    exact K.dat hd'

end LinkedLayer

/-- the side condition of the linked layers: the 8-byte length field of every re-encoded item -/
def LinkedLayers.ResaveOK (tb : Descriptor.Tables) (xs : List LinkedLayer) : Prop :=
  ∀ x ∈ xs, FitsU 8 (x.encT tb 1).length

theorem LinkedLayers.decOKIf (tb : Descriptor.Tables) (ht : Descriptor.TermsFour tb) :
    DecOKIf (LinkedLayers.codec tb) (LinkedLayers.ResaveOK tb) := by
  intro d p xs p' h hl
  simp only [LinkedLayers.codec] at h
  have hall : ∀ x ∈ xs, x.WF tb ∧ x.Fits tb := by
    intro x hx
    obtain ⟨q, q', _, hq⟩ := readWhile_ok h x hx
    obtain ⟨⟨data, p1⟩, _, hq⟩ := bind_ok hq
    obtain ⟨⟨y, p2⟩, ey, hq⟩ := bind_ok hq
    cases hq
    exact LinkedLayer.decOK tb ht 1 _ 0 _ _ ey
  exact ⟨fun x hx => (hall x hx).1, fun x hx => ⟨(hall x hx).2, hl x hx⟩⟩

end PsdVerif.Payload
