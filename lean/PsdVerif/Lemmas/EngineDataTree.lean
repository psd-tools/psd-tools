/-
Lemmas for C18: the token stream of the two writers (`Toks (write …) (tokensOf …)`).
Core Lean only.
-/
import PsdVerif.Lemmas.EngineDataScalars

namespace PsdVerif.EngineData

theorem scalarOK (hf : FloatOK) (s : Scalar) (h : wfScalar s = true) : ScalarOK s := by
  cases s with
  | str s => exact ⟨Or.inl ⟨_, rfl⟩, classify_strBytes _, valueOfToken_strBytes s h⟩
  | bool b => exact ⟨Or.inr (plain_bool b), classify_bool b, value_bool b⟩
  | int i =>
    refine ⟨Or.inr (plain_writeInt i), classify_writeInt i, ?_⟩
    simp [valueOfToken, tyOf, wScalar, intOfToken_writeInt]
  | flt d => exact hf d h
  | prop n => cases h
  | tag r => cases h

theorem Toks_scalar (hf : FloatOK) (s : Scalar) (h : wfScalar s = true) {m : BL} {ts}
    (hm : Sep m) (ht : Toks m ts) : Toks (wScalar s ++ m) ((wScalar s, tyOf s) :: ts) := by
  have ok := scalarOK hf s h
  rcases ok.tok with ⟨u, hu⟩ | hp
  · have := ok.cls
    rw [hu] at this ⊢
    have e : tyOf s = .string := by
      rw [classify_strBytes] at this; injection this with this; exact this.symm
    rw [e]; exact Toks_str ht
  · exact Toks_plain hp ok.cls hm ht

theorem div_ind (i : Option Nat) : ∀ b ∈ ind i, isDiv b = true := by
  cases i with
  | none => intro b hb; simp [ind] at hb; subst hb; decide
  | some n => intro b hb; simp [ind] at hb; rw [hb.2]; decide

theorem div_nl (i : Option Nat) : ∀ b ∈ nl i, isDiv b = true := by
  cases i with
  | none => intro b hb; simp [nl] at hb
  | some n => intro b hb; simp [nl] at hb; subst hb; decide

theorem plain_LL : Plain [0x3C, 0x3C] := ⟨by decide, by decide, by decide⟩
theorem plain_GG : Plain [0x3E, 0x3E] := ⟨by decide, by decide, by decide⟩
theorem plain_LB : Plain [0x5B] := ⟨by decide, by decide, by decide⟩
theorem plain_RB : Plain [0x5D] := ⟨by decide, by decide, by decide⟩

theorem Sep_append {x y : BL} (hx : Sep x) (hy : Sep y) : Sep (x ++ y) := by
  rcases hx with rfl | ⟨b, t, rfl, hb⟩
  · simpa using hy
  · exact Or.inr ⟨b, t ++ y, rfl, hb⟩

theorem Sep_ws_cons {w : BL} (b : UInt8) (x : BL) (hw : ∀ c ∈ w, isDiv c = true) (hb : isDiv b = true) :
    Sep (w ++ b :: x) := by
  cases w with
  | nil => exact Sep_cons b x hb
  | cons a w => exact Or.inr ⟨a, w ++ b :: x, rfl, hw a (by simp)⟩

theorem Sep_ind_none (x : BL) : Sep (ind none ++ x) := Sep_cons 0x20 x (by decide)

theorem dictFrame_head (indent : Option Nat) (body tail : BL) : Sep (dictFrame indent body ++ tail) := by
  unfold dictFrame
  cases indent with
  | none => simp [ind, nl]; exact Sep_cons _ _ (by decide)
  | some n =>
    cases n with
    | zero => simp [ind, nl]; exact Sep_cons _ _ (by decide)
    | succ n => simp [ind, nl]; exact Sep_cons _ _ (by decide)

theorem dictFrame_toks (indent : Option Nat) (body tail : BL) (tb ts : List (BL × Tok))
    (hb : indent.isSome = true ∨ Sep body)
    (H : ∀ tail' ts', (indent.isSome = true ∨ Sep tail') → Toks tail' ts' → Toks (body ++ tail') (tb ++ ts'))
    (hs : Sep tail) (ht : Toks tail ts) :
    Toks (dictFrame indent body ++ tail) (tLL :: (tb ++ tGG :: ts)) := by
  unfold dictFrame
  simp only [List.append_assoc]
  have hend : Toks (ind indent ++ ([0x3E, 0x3E] ++ tail)) (tGG :: ts) :=
    Toks_ws (div_ind indent) (Toks_plain plain_GG (by decide) hs ht)
  have hendSep : indent.isSome = true ∨ Sep (ind indent ++ ([0x3E, 0x3E] ++ tail)) := by
    cases indent with
    | none => exact Or.inr (Sep_ind_none _)
    | some n => exact Or.inl rfl
  have hbody := H _ _ hendSep hend
  have hmid : Toks (nl indent ++ (body ++ (ind indent ++ ([0x3E, 0x3E] ++ tail)))) (tb ++ tGG :: ts) :=
    Toks_ws (div_nl indent) hbody
  have hmidSep : Sep (nl indent ++ (body ++ (ind indent ++ ([0x3E, 0x3E] ++ tail)))) := by
    cases indent with
    | none =>
      simp only [nl, List.nil_append]
      rcases hb with hb | hb
      · cases hb
      · exact Sep_append hb (Sep_ind_none _)
    | some n => exact Sep_cons _ _ (by decide)
  have h1 : Toks ([0x3C, 0x3C] ++ (nl indent ++ (body ++ (ind indent ++ ([0x3E, 0x3E] ++ tail)))))
      (tLL :: (tb ++ tGG :: ts)) := Toks_plain plain_LL (by decide) hmidSep hmid
  apply Toks_ws (by intro b hb; split at hb <;> simp at hb; subst hb; decide)
  exact Toks_ws (div_nl indent) (Toks_ws (div_ind indent) h1)

theorem wPairs_sep_none (items : List (BL × Val)) : Sep (wPairs none items) := by
  cases items with
  | nil => exact Sep_nil
  | cons p t =>
    obtain ⟨k, v⟩ := p
    simp only [wPairs, inner, ind, List.append_assoc, List.cons_append, List.nil_append]
    exact Sep_cons _ _ (by decide)

theorem wAsItem_sep (indent : Option Nat) (v : Val) (x : BL) : Sep (wAsItem indent v ++ x) := by
  cases v with
  | dict items => rw [wAsItem]; exact dictFrame_head _ _ _
  | list elems => rw [wAsItem]; exact Sep_cons _ _ (by decide)
  | sc s => rw [wAsItem]; exact Sep_cons _ _ (by decide)

theorem wAsValue_sep (indent : Option Nat) (v : Val) (x : BL) : Sep (wAsValue indent v ++ x) := by
  cases v with
  | dict items => rw [wAsValue]; exact dictFrame_head _ _ _
  | list elems => rw [wAsValue]; exact Sep_cons _ _ (by decide)
  | sc s => rw [wAsValue]; exact Sep_cons _ _ (by decide)

theorem wElems_sep (indent : Option Nat) (elems : List Val) : Sep (wElems indent elems) := by
  cases elems with
  | nil => exact Sep_nil
  | cons v t => rw [wElems]; exact wAsItem_sep _ _ _

/-- `dictFrame_toks` around the pairs of a dictionary: they start cleanly when nothing is indented. -/
theorem dictFrame_pairs_toks (j : Option Nat) (items : List (BL × Val)) (tail : BL) (ts : List (BL × Tok))
    (H : ∀ tail' ts', (j.isSome = true ∨ Sep tail') → Toks tail' ts' →
      Toks (wPairs j items ++ tail') (tokPairs items ++ ts'))
    (hs : Sep tail) (ht : Toks tail ts) :
    Toks (dictFrame j (wPairs j items) ++ tail) (tLL :: (tokPairs items ++ tGG :: ts)) := by
  refine dictFrame_toks j _ tail _ ts ?_ H hs ht
  cases j with
  | none => exact Or.inr (wPairs_sep_none items)
  | some n => exact Or.inl rfl

theorem listFrame_toks (indent : Option Nat) (elems : List Val) (tail : BL) (ts : List (BL × Tok))
    (H : ∀ tail' ts', Sep tail' → Toks tail' ts' → Toks (wElems indent elems ++ tail') (tokElems elems ++ ts'))
    (hs : Sep tail) (ht : Toks tail ts) :
    Toks (listFrame indent (wElems indent elems) ++ tail) (tLB :: (tokElems elems ++ tRB :: ts)) := by
  unfold listFrame
  simp only [List.append_assoc]
  have hclose : Toks ([0x5D] ++ tail) (tRB :: ts) := Toks_plain plain_RB (by decide) hs ht
  have hendSep : Sep ((match indent with
      | none => [0x20]
      | some n => (0x0A : UInt8) :: List.replicate n 0x09) ++ ([0x5D] ++ tail)) := by
    cases indent with
    | none => exact Sep_cons _ _ (by decide)
    | some n => exact Sep_cons _ _ (by decide)
  have hend : Toks ((match indent with
      | none => [0x20]
      | some n => (0x0A : UInt8) :: List.replicate n 0x09) ++ ([0x5D] ++ tail)) (tRB :: ts) := by
    apply Toks_ws _ hclose
    cases indent with
    | none => intro b hb; simp at hb; subst hb; decide
    | some n =>
      intro b hb; simp at hb
      rcases hb with rfl | ⟨_, rfl⟩ <;> decide
  have hbody := H _ _ hendSep hend
  exact Toks_plain plain_LB (by decide) (Sep_append (wElems_sep _ _) hendSep) hbody

mutual
theorem toks_value (hf : FloatOK) (indent : Option Nat) (v : Val) (h : wfVal v = true) (tail : BL)
    (ts : List (BL × Tok)) (hs : Sep tail) (ht : Toks tail ts) :
    Toks (wAsValue indent v ++ tail) (tokVal v ++ ts) := by
  match v with
  | .dict items =>
    rw [wAsValue, tokVal]
    simp only [List.cons_append, List.append_assoc]
    rw [wfVal] at h
    exact dictFrame_pairs_toks (inner indent) items tail ts (toks_pairs hf (inner indent) items h) hs ht
  | .list elems =>
    rw [wAsValue, tokVal]
    simp only [List.cons_append, List.append_assoc]
    rw [wfVal] at h
    apply Toks_div (by decide)
    split
    · exact listFrame_toks _ elems tail ts (toks_elems hf _ elems h) hs ht
    · exact listFrame_toks _ elems tail ts (toks_elems hf _ elems h) hs ht
  | .sc s =>
    rw [wAsValue, tokVal]
    rw [wfVal] at h
    simp only [List.cons_append]
    exact Toks_div (by decide) (Toks_scalar hf s h hs ht)

theorem toks_pairs (hf : FloatOK) (indent : Option Nat) (items : List (BL × Val)) (h : wfPairs items = true)
    (tail : BL) (ts : List (BL × Tok)) (hs : indent.isSome = true ∨ Sep tail) (ht : Toks tail ts) :
    Toks (wPairs indent items ++ tail) (tokPairs items ++ ts) := by
  match items with
  | [] => simpa [wPairs, tokPairs] using ht
  | (k, v) :: t =>
    rw [wPairs, tokPairs]
    rw [wfPairs] at h
    simp only [Bool.and_eq_true] at h
    obtain ⟨⟨⟨hk, _⟩, hv⟩, hT⟩ := h
    simp only [List.append_assoc, List.cons_append]
    have hrest := toks_pairs hf indent t hT tail ts hs ht
    have hnl : Toks (nl indent ++ (wPairs indent t ++ tail)) (tokPairs t ++ ts) := Toks_ws (div_nl indent) hrest
    have hnlSep : Sep (nl indent ++ (wPairs indent t ++ tail)) := by
      cases indent with
      | none =>
        simp only [nl, List.nil_append]
        rcases hs with hs | hs
        · cases hs
        · exact Sep_append (wPairs_sep_none t) hs
      | some n => exact Sep_cons _ _ (by decide)
    have hval := toks_value hf indent v hv _ _ hnlSep hnl
    apply Toks_ws (div_ind _)
    have := Toks_plain (plain_key k hk) (classify_key k hk) (wAsValue_sep indent v _) hval
    simpa using this

theorem toks_item (hf : FloatOK) (indent : Option Nat) (v : Val) (h : wfVal v = true) (tail : BL)
    (ts : List (BL × Tok)) (hs : Sep tail) (ht : Toks tail ts) :
    Toks (wAsItem indent v ++ tail) (tokVal v ++ ts) := by
  match v with
  | .dict items =>
    rw [wAsItem, tokVal]
    simp only [List.cons_append, List.append_assoc]
    rw [wfVal] at h
    exact dictFrame_pairs_toks indent items tail ts (toks_pairs hf indent items h) hs ht
  | .list elems =>
    rw [wAsItem, tokVal]
    simp only [List.cons_append, List.append_assoc]
    rw [wfVal] at h
    apply Toks_div (by decide)
    exact listFrame_toks _ elems tail ts (toks_elems hf _ elems h) hs ht
  | .sc s =>
    rw [wAsItem, tokVal]
    rw [wfVal] at h
    simp only [List.cons_append]
    exact Toks_div (by decide) (Toks_scalar hf s h hs ht)

theorem toks_elems (hf : FloatOK) (indent : Option Nat) (elems : List Val) (h : wfElems elems = true)
    (tail : BL) (ts : List (BL × Tok)) (hs : Sep tail) (ht : Toks tail ts) :
    Toks (wElems indent elems ++ tail) (tokElems elems ++ ts) := by
  match elems with
  | [] => simpa [wElems, tokElems] using ht
  | v :: t =>
    rw [wElems, tokElems]
    rw [wfElems] at h
    simp only [Bool.and_eq_true] at h
    simp only [List.append_assoc]
    have hrest := toks_elems hf indent t h.2 tail ts hs ht
    have hsep : Sep (wElems indent t ++ tail) := Sep_append (wElems_sep _ _) hs
    exact toks_item hf indent v h.1 _ _ hsep hrest
end

/-- The token stream of what either writer produces, followed by anything that starts cleanly. -/
theorem toks_writeT_append (hf : FloatOK) (l : Layout) (t : Tree) (h : wfPairs t = true) (rest : BL)
    (ts : List (BL × Tok)) (hs : Sep rest) (hr : Toks rest ts) :
    Toks (writeT l t ++ rest) (tokensOf l t ++ ts) := by
  cases l with
  | indented =>
    have := dictFrame_pairs_toks (some 0) t rest ts (toks_pairs hf (some 0) t h) hs hr
    simpa [writeT, tokensOf] using this
  | compact =>
    have := toks_pairs hf none t h rest ts (Or.inr hs) hr
    simpa [writeT, tokensOf] using this

theorem toks_writeT (hf : FloatOK) (l : Layout) (t : Tree) (h : wfPairs t = true) :
    Toks (writeT l t) (tokensOf l t) := by
  simpa using toks_writeT_append hf l t h [] [] Sep_nil Toks_nil

end PsdVerif.EngineData
