/-
C06 — safety of the skeleton reader, part 2: one `Good` lemma per reader of `Model/Psd.lean` that does
not seek (the minimal advance `k` is what the later cost proofs use), the three `while` loops never
exhaust their fuel.
-/
import PsdVerif.Lemmas.Safe1
import PsdVerif.Lemmas.CodecPsd1

namespace PsdVerif.Safe
open PsdVerif PsdVerif.Codec PsdVerif.Psd

theorem header_good (d : B) (p : Nat) : Good 26 d p (Header.dec d p) := by
  unfold Header.dec
  refine Good.bind (readN_good 4 d p) fun sig p _ => ?_
  refine Good.bind (readU_good 2 d p) fun version p _ => ?_
  refine Good.bind (readN_good 6 d p) fun _ p _ => ?_
  refine Good.bind (readU_good 2 d p) fun channels p _ => ?_
  refine Good.bind (readU_good 4 d p) fun height p _ => ?_
  refine Good.bind (readU_good 4 d p) fun width p _ => ?_
  refine Good.bind (readU_good 2 d p) fun depth p _ => ?_
  refine Good.bind (readU_good 2 d p) fun cm p _ => ?_
  exact Good.ite (fun _ => Good.ok_self _) (fun _ => Good.error value_mem)

theorem colorMode_good (d : B) (p : Nat) : Good 4 d p (colorModeDec d p) :=
  (readLenBlock_good 0 4 1 d p).weaken

theorem resource_good (d : B) (p : Nat) : Good 11 d p (Resource.dec d p) := by
  unfold Resource.dec
  refine Good.bind (readN_good 4 d p) fun sig p _ => ?_
  refine Good.bind (readU_good 2 d p) fun key p _ => ?_
  refine Good.bind (readPascal_good 2 d p) fun name p _ => ?_
  refine Good.bind (readLenBlock_good 0 4 2 d p) fun data p _ => ?_
  exact Good.ite (fun _ => Good.ok_self _) (fun _ => Good.error value_mem)

/-- the `while is_readable(fp, 4)` loop of `ImageResources.read` -/
theorem resourcesLoop_good (d : B) (p : Nat) : Good 0 d p (readWhile (isReadable 4) (optItem Resource.dec) d p) :=
  readWhile_good (fun _ h => isReadable_lt (by decide) h)
    (fun q => optItem_good ((resource_good d q).weaken))
    (fun q a q' h => by
      obtain ⟨a', _, h'⟩ := optItem_ok h
      have := (resource_good d q).of_ok h'
      omega) p

theorem resources_good (d : B) (p : Nat) : Good 4 d p (resourcesDec d p) := by
  unfold resourcesDec
  refine Good.bind (readLenBlock_good 0 4 1 d p) fun data p _ => ?_
  refine Good.bind_nested (resourcesLoop_good data 0).errIn fun ⟨items, _⟩ _ => ?_
  exact Good.ok_self _

/-- `TaggedBlock.read`: a block (≥ 12 bytes, inside the stream), or `None` with the cursor restored -/
def TaggedSpec (d : B) (p : Nat) (r : Except Err (Option TaggedBlock × Nat)) : Prop :=
  match r with
  | .ok (some _, p') => p + 12 ≤ p' ∧ p' ≤ d.length
  | .ok (none, p') => p' = p
  | .error e => e ∈ ordinary


theorem tagged_spec (v pad : Nat) (d : B) (p : Nat) : TaggedSpec d p (TaggedBlock.dec v pad d p) := by
  unfold TaggedBlock.dec
  cases h1 : readN 4 d p with
  | error e => exact (readN_good 4 d p).errIn e h1
  | ok x =>
    obtain ⟨sig, p1⟩ := x
    have a1 := readN_ok h1
    simp only [bind, Except.bind]
    split
    · cases h2 : readN 4 d p1 with
      | error e => exact (readN_good 4 d p1).errIn e h2
      | ok y =>
        obtain ⟨key, p2⟩ := y
        have a2 := readN_ok h2
        simp only
        cases h3 : readLenBlock 0 (tbLenW v key) pad d p2 with
        | error e => exact (readLenBlock_good 0 (tbLenW v key) pad d p2).errIn e h3
        | ok z =>
          obtain ⟨data, p3⟩ := z
          have a3 := readLenBlock_ok h3
          have := tbLenW_ge v key
          simp only [TaggedSpec]
          omega
    · rfl

theorem tagged_good (v pad : Nat) (d : B) (p : Nat) : Good 0 d p (TaggedBlock.dec v pad d p) := by
  have s := tagged_spec v pad d p
  cases h : TaggedBlock.dec v pad d p with
  | error e => rw [h] at s; exact s
  | ok x =>
    obtain ⟨o, p'⟩ := x
    rw [h] at s
    cases o with
    | none => simp only [TaggedSpec] at s; exact ⟨by omega, by omega⟩
    | some t => simp only [TaggedSpec] at s; exact ⟨by omega, by omega⟩

theorem tagged_some (v pad : Nat) {d : B} {p : Nat} {t : TaggedBlock} {p' : Nat}
    (h : TaggedBlock.dec v pad d p = .ok (some t, p')) : p + 12 ≤ p' ∧ p' ≤ d.length := by
  have s := tagged_spec v pad d p
  rw [h] at s; exact s

/-- the `while is_readable(fp, 8) and fp.tell() < end_pos` loop of `TaggedBlocks.read` -/
theorem taggedLoop_good (v pad : Nat) (endPos : Option Nat) (d : B) (p : Nat) :
    Good 0 d p (readWhile (taggedCond endPos) (TaggedBlock.dec v pad) d p) :=
  readWhile_good (fun _ h => taggedCond_lt h) (fun q => tagged_good v pad d q)
    (fun q a q' h => by have := tagged_some v pad h; omega) p

theorem taggedBlocks_good (v pad : Nat) (endPos : Option Nat) (d : B) (p : Nat) :
    Good 0 d p (taggedBlocksDec v pad endPos d p) := by
  unfold taggedBlocksDec
  refine Good.bind (taggedLoop_good v pad endPos d p) fun items p _ => ?_
  exact Good.ok_self _

theorem readOpt_good (c : Bool) (w : Nat) (d : B) (p : Nat) : Good 0 d p (readOpt c w d p) := by
  unfold readOpt
  split
  · have g := readU_good w d p
    split
    · rename_i n q hq
      exact (g.weaken (Nat.zero_le _)).of_ok hq
    · rename_i e he
      exact g.errIn e he
  · exact Good.ok_self _

theorem maskParameters_good (d : B) (p : Nat) : Good 1 d p (MaskParameters.dec d p) := by
  unfold MaskParameters.dec
  refine Good.bind (readU_good 1 d p) fun ps p _ => ?_
  refine Good.bind (readOpt_good _ 1 d p) fun a p _ => ?_
  refine Good.bind (readOpt_good _ 8 d p) fun b p _ => ?_
  refine Good.bind (readOpt_good _ 1 d p) fun c p _ => ?_
  refine Good.bind (readOpt_good _ 8 d p) fun e p _ => ?_
  exact Good.ok_self _

theorem maskReal_good (d : B) (p : Nat) : Good 18 d p (MaskReal.dec d p) := by
  unfold MaskReal.dec
  refine Good.bind (readU_good 1 d p) fun fl p _ => ?_
  refine Good.bind (readU_good 1 d p) fun bg p _ => ?_
  refine Good.bind (readI32_good d p) fun top p _ => ?_
  refine Good.bind (readI32_good d p) fun left p _ => ?_
  refine Good.bind (readI32_good d p) fun bottom p _ => ?_
  refine Good.bind (readI32_good d p) fun right p _ => ?_
  exact Good.ok_self _

theorem maskBody_good (length : Nat) (d : B) (p : Nat) : Good 18 d p (MaskData.bodyDec length d p) := by
  unfold MaskData.bodyDec
  refine Good.bind (readI32_good d p) fun top p _ => ?_
  refine Good.bind (readI32_good d p) fun left p _ => ?_
  refine Good.bind (readI32_good d p) fun bottom p _ => ?_
  refine Good.bind (readI32_good d p) fun right p _ => ?_
  refine Good.bind (readU_good 1 d p) fun bg p _ => ?_
  refine Good.bind (readU_good 1 d p) fun fl p _ => ?_
  refine Good.bind (k₁ := 0)
    (Good.ite (fun _ => optItem_good ((maskReal_good d p).weaken)) (fun _ => Good.ok_self _)) fun real p _ => ?_
  refine Good.bind (k₁ := 0)
    (Good.ite (fun _ => optItem_good ((maskParameters_good d p).weaken)) (fun _ => Good.ok_self _)) fun ps p _ => ?_
  exact Good.ok_self _

theorem mask_good (d : B) (p : Nat) : Good 4 d p (maskDec d p) := by
  unfold maskDec
  refine Good.bind (readLenBlock_good 0 4 1 d p) fun data p _ => ?_
  refine Good.ite (fun _ => Good.ok_self _) (fun _ => ?_)
  refine Good.bind_nested (maskBody_good data.length data 0).errIn fun ⟨m, _⟩ _ => ?_
  exact Good.ok_self _

theorem range4_good (d : B) (p : Nat) : Good 8 d p (Range4.dec d p) := by
  unfold Range4.dec
  refine Good.bind (readU_good 2 d p) fun a p _ => ?_
  refine Good.bind (readU_good 2 d p) fun b p _ => ?_
  refine Good.bind (readU_good 2 d p) fun c p _ => ?_
  refine Good.bind (readU_good 2 d p) fun e p _ => ?_
  exact Good.ok_self _

/-- the `while is_readable(fp, 8)` loop of `LayerBlendingRanges.read` -/
theorem rangesLoop_good (d : B) (p : Nat) : Good 0 d p (readWhile (isReadable 8) (optItem Range4.dec) d p) :=
  readWhile_good (fun _ h => isReadable_lt (by decide) h)
    (fun q => optItem_good ((range4_good d q).weaken))
    (fun q a q' h => by
      obtain ⟨a', _, h'⟩ := optItem_ok h
      have := (range4_good d q).of_ok h'
      omega) p

theorem blendingRanges_good (d : B) (p : Nat) : Good 4 d p (BlendingRanges.dec d p) := by
  unfold BlendingRanges.dec
  refine Good.bind (readLenBlock_good 0 4 1 d p) fun data p _ => ?_
  refine Good.ite (fun _ => Good.ok_self _) (fun _ => ?_)
  refine Good.bind_nested (range4_good data 0).errIn fun ⟨comp, q⟩ _ => ?_
  refine Good.bind_nested (rangesLoop_good data q).errIn fun ⟨chans, _⟩ _ => ?_
  exact Good.ok_self _

theorem channelInfo_good (v : Nat) (d : B) (p : Nat) : Good 2 d p (ChannelInfo.dec v d p) := by
  unfold ChannelInfo.dec
  refine Good.bind (readI16_good d p) fun id p _ => ?_
  refine Good.bind (readU_good (secW v) d p) fun len p _ => ?_
  exact Good.ite (fun _ => Good.ok_self _ (by omega)) (fun _ => Good.error value_mem)

theorem extra_good (v : Nat) (d : B) (p : Nat) : Good 9 d p (LayerRecord.extraDec v d p) := by
  unfold LayerRecord.extraDec
  refine Good.bind (mask_good d p) fun mask p _ => ?_
  refine Good.bind (blendingRanges_good d p) fun ranges p _ => ?_
  refine Good.bind (readPascal_good 4 d p) fun name p _ => ?_
  refine Good.bind (taggedBlocks_good v 1 none d p) fun tbs p _ => ?_
  exact Good.ok_self _

theorem layerRecord_good (v : Nat) (d : B) (p : Nat) : Good 34 d p (LayerRecord.dec v d p) := by
  unfold LayerRecord.dec
  refine Good.bind (readI32_good d p) fun top p _ => ?_
  refine Good.bind (readI32_good d p) fun left p _ => ?_
  refine Good.bind (readI32_good d p) fun bottom p _ => ?_
  refine Good.bind (readI32_good d p) fun right p _ => ?_
  refine Good.bind (readU_good 2 d p) fun n p _ => ?_
  refine Good.bind (readCount_good (fun q => channelInfo_good v d q) n p) fun cis p _ => ?_
  refine Good.bind (readN_good 4 d p) fun sig p _ => ?_
  refine Good.bind (readN_good 4 d p) fun bm p _ => ?_
  refine Good.bind (readU_good 1 d p) fun opacity p _ => ?_
  refine Good.bind (readU_good 1 d p) fun clipping p _ => ?_
  refine Good.bind (readU_good 1 d p) fun fl p _ => ?_
  refine Good.bind (readLenBlock_good 1 4 1 d p) fun data p _ => ?_
  refine Good.bind_nested (extra_good v data 0).errIn fun ⟨⟨mask, ranges, name, tbs⟩, _⟩ _ => ?_
  exact Good.ite (fun _ => Good.ok_self _) (fun _ => Good.error value_mem)

theorem channelData_good (ciLength : Nat) (d : B) (p : Nat) : Good 2 d p (ChannelData.dec ciLength d p) := by
  unfold ChannelData.dec
  refine Good.bind (readU_good 2 d p) fun comp p _ => ?_
  refine Good.ite (fun _ => ?_) (fun _ => Good.error value_mem)
  refine Good.bind (readPy_good _ d p) fun data p _ => ?_
  exact Good.ok_self _

theorem channelList_good (cis : List ChannelInfo) (d : B) (p : Nat) : Good 0 d p (channelListDec cis d p) :=
  readFor_good cis (fun ci _ q => (channelData_good ci.length d q).weaken) p

theorem channelImage_good (records : List LayerRecord) (d : B) (p : Nat) : Good 0 d p (channelImageDec records d p) :=
  readFor_good records (fun r _ q => channelList_good r.channelInfo d q) p

theorem layerInfoBody_good (v : Nat) (d : B) (p : Nat) : Good 2 d p (LayerInfo.bodyDec v d p) := by
  unfold LayerInfo.bodyDec
  refine Good.bind (readI16_good d p) fun count p _ => ?_
  refine Good.bind (readCount_good (fun q => layerRecord_good v d q) count.natAbs p) fun records p _ => ?_
  refine Good.bind (channelImage_good records d p) fun channels p _ => ?_
  exact Good.ok_self _

/-- `GlobalLayerMaskInfo.read` rewinds to its start on a block shorter than 13 bytes: still `Good 0` -/
theorem globalMask_good (d : B) (p : Nat) : Good 0 d p (GlobalLayerMaskInfo.dec d p) := by
  unfold GlobalLayerMaskInfo.dec
  refine Good.bind_or (readLenBlock_good 0 4 1 d p) fun data p1 _ => ?_
  dsimp only
  by_cases h0 : data.length = 0
  · rw [if_pos h0]; exact Or.inl (Good.ok_self _)
  · rw [if_neg h0]
    by_cases h13 : data.length < 13
    · rw [if_pos h13]; exact Or.inr (Good.ok_self _)
    · rw [if_neg h13]
      refine Or.inl ?_
      refine Good.bind_nested (readCount_good (fun q => readU_good 2 data q) 5 0).errIn fun ⟨cs, q⟩ _ => ?_
      refine Good.bind_nested (readU_good 2 data q).errIn fun ⟨opacity, q⟩ _ => ?_
      refine Good.bind_nested (readU_good 1 data q).errIn fun ⟨kind, _⟩ _ => ?_
      exact Good.ite (fun _ => Good.ok_self _) (fun _ => Good.error value_mem)

theorem imageData_good (d : B) (p : Nat) : Good 2 d p (ImageData.dec d p) := by
  unfold ImageData.dec
  refine Good.bind (readU_good 2 d p) fun comp p _ => ?_
  refine Good.ite (fun _ => ?_) (fun _ => Good.error value_mem)
  refine Good.bind (readAll_good d p) fun data p _ => ?_
  exact Good.ok_self _

/-- `ImageData.read` ends with `fp.read()`: the cursor is at the end of the stream -/
theorem imageData_end {d : B} {p : Nat} {v : ImageData} {p' : Nat} (h : ImageData.dec d p = .ok (v, p')) :
    p' = d.length := by
  unfold ImageData.dec at h
  obtain ⟨⟨comp, p1⟩, h1, h⟩ := bind_ok h
  have a1 := readU_ok h1
  dsimp only at h
  split at h
  · obtain ⟨⟨data, p2⟩, h2, h⟩ := bind_ok h
    have a2 := readAll_ok h2
    cases h
    omega
  · cases h

end PsdVerif.Safe
