/-
C06 — the bound for `openC` (Model/OpenMain.lean): the concrete hooks satisfy `Hooks.Ok` / `Hooks.Bound`, so the
theorems of Lemmas/OpenCost3.lean apply with explicit numbers.

  classes of tagged_blocks.TYPES     ≤ 1867 · len + 1853   (the largest: `Patterns`, whose 256 × 3 colour table is a
                                                            constant loop; engine data 65 · len + 22; TySh 70 · len + 56)
  classes of image_resources.TYPES   ≤ (62 + 4 · len) · len + 63   (`Slices`: quadratic)
  q = 155: the twelve header bytes of a tagged block pay the additive 1853 of its payload (12 · 155 ≥ 1853)
  j = 8:   the eleven bytes a resource consumes at least pay its iteration's constants, 15 + 63 ≤ 8 · 11 (`resourcesLoopT_pays`)

  ticks + bytes of `openC D b`  ≤  (2105 + 4 · n + 168 · min D (n / 12)) · n + 287,   n = len(b), with
  2105 = 13 + 1867 + 155 + 62 + 8,   168 = 13 + 155 (per nesting level: 13 for the copy, 155 for the constant again),
  287 = 224 + 63 (224: the constants of the five sections of the skeleton, `psdT_spend`).
-/
import PsdVerif.Model.OpenMain
import PsdVerif.Lemmas.OpenDispatch
import PsdVerif.Lemmas.EngineDataCost
import PsdVerif.Lemmas.TyShCost

namespace PsdVerif.OpenCost
open PsdVerif PsdVerif.Codec PsdVerif.PsdCost PsdVerif.PayloadCost PsdVerif.Safe PsdVerif.SafeCost

theorem engineRunner_RB : RB 1867 1853 engineRunner := by
  intro data
  have h := EngineDataCost.runEngineData_bound data
  have : 65 * data.length ≤ 1867 * data.length := Nat.mul_le_mul_right _ (by decide)
  exact ⟨by show (EngineDataCost.runEngineData data).2.w ≤ _; omega, h.2⟩

theorem tyshRun_RB : RB 1867 1853 tyshRun := by
  intro data
  have h := tyshRunner_bound (engine := engineRunner) (A := 65) (Bc := 22)
    (fun raw => (EngineDataCost.runEngineData_bound raw).1) tables data
  have : (4 + 1 + 65) * data.length ≤ 1867 * data.length := Nat.mul_le_mul_right _ (by decide)
  exact ⟨by show (tyshRunner tables engineRunner data).2.w ≤ _; omega, h.2⟩

theorem hooks_ok : hooks.Ok := mkHooks_ok tables engineRunner_RB tyshRun_RB

theorem hooks_bound : hooks.Bound 1867 1853 62 63 4 := mkHooks_bound tables engineRunner_RB tyshRun_RB

/-- ticks + bytes of the whole modelled reader on ANY byte string, whatever its outcome -/
theorem openC_cost (D : Nat) (b : B) :
    (openC D b).2.w ≤ (2105 + 4 * b.length + 168 * min D (b.length / 12)) * b.length + 287 := by
  exact open_cost (q := 155) (j := 8) hooks_ok hooks_bound (by decide) (by decide) D b

/-- 18 = 14 + 4: 168 per level and byte with a level every twelve bytes, and `Slices` -/
theorem openC_cost_quadratic (D : Nat) (b : B) :
    (openC D b).2.w ≤ 18 * b.length * b.length + 2105 * b.length + 287 :=
  open_cost_quadratic (q := 155) (j := 8) (c := 14) hooks_ok hooks_bound (by decide) (by decide) (by decide) D b

theorem openC_cost_limit (D : Nat) (b : B) :
    (openC D b).2.w ≤ (2105 + 4 * b.length + 168 * D) * b.length + 287 := by
  exact open_cost_limit (q := 155) (j := 8) hooks_ok hooks_bound (by decide) (by decide) D b

/-- the outcome of the skeleton, or an exception other than `Err.other` -/
theorem openC_sim (D : Nat) (b : B) : Sim (openC D b).1 (Psd.PSD.read b 0) := open_sim hooks_ok D b

theorem openC_never_other (D : Nat) (b : B) : (openC D b).1 ≠ .error .other := open_never_other hooks_ok D b

end PsdVerif.OpenCost
