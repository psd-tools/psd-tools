/-
Helper lemmas for C05: the decoder models (`decLoopPy`, `decLoopC`).
Core Lean only.
-/
import PsdVerif.Lemmas.Rle

namespace PsdVerif.Rle

/-- One turn of `rle.decode`'s loop at a literal header; `decLoopPy_noop`, `decLoopPy_run` and `decLoopPy_end`
are the other three cases. Every proof about the loop goes through these four equations. -/
theorem decLoopPy_lit {e : Bytes} {size i j : Nat} {out : List UInt8} (h : i < e.size)
    (hb : e[i].toNat < 128) :
    decLoopPy e size i j out =
      if i + 1 + 1 + e[i].toNat > e.size ∨ j + 1 + e[i].toNat > size then .error .valueError
      else decLoopPy e size (i + 1 + 1 + e[i].toNat) (j + 1 + e[i].toNat)
        (out ++ (e.extract (i + 1) (i + 1 + 1 + e[i].toNat)).toList) := by
  rw [decLoopPy, dif_pos h]
  simp only [show ¬ e[i].toNat > 128 by omega, hb, if_true, if_false]

theorem decLoopPy_noop {e : Bytes} {size i j : Nat} {out : List UInt8} (h : i < e.size)
    (hb : e[i].toNat = 128) : decLoopPy e size i j out = decLoopPy e size (i + 1) j out := by
  rw [decLoopPy, dif_pos h]
  simp only [hb, Nat.lt_irrefl, if_false]

theorem decLoopPy_run {e : Bytes} {size i j : Nat} {out : List UInt8} (h : i < e.size)
    (hb : e[i].toNat > 128) :
    decLoopPy e size i j out =
      if j + 1 + (256 - e[i].toNat) > size then .error .valueError
      else decLoopPy e size (i + 1 + 1) (j + 1 + (256 - e[i].toNat))
        (match e[i + 1]? with
          | some b => out ++ List.replicate (1 + (256 - e[i].toNat)) b
          | none => out) := by
  rw [decLoopPy, dif_pos h]
  simp only [hb, if_true]
  rfl

theorem decLoopPy_end {e : Bytes} {size i j : Nat} {out : List UInt8} (h : ¬ i < e.size) :
    decLoopPy e size i j out =
      if size ≠ 0 ∧ out.length ≠ size then .error .valueError else .ok out := by
  rw [decLoopPy, dif_neg h]

theorem drop_cons_inv {d : Bytes} {i : Nat} {b : UInt8} {t : List UInt8}
    (h : d.toList.drop i = b :: t) : ∃ hi : i < d.size, d[i] = b ∧ d.toList.drop (i + 1) = t := by
  have hi : i < d.size := Nat.lt_of_not_le fun hle => by
    rw [List.drop_eq_nil_of_le (by simpa using hle)] at h; cases h
  rw [drop_eq_cons d i hi] at h
  cases h
  exact ⟨hi, rfl, rfl⟩

/-- The `k + 1` bytes of a literal chunk at `i`. -/
theorem literal_at (d : Bytes) (i k : Nat) (h : i + 1 + k ≤ d.size) :
    (d.toList.drop i).take (k + 1) = (d.extract i (i + 1 + k)).toList ∧
    (d.toList.drop i).drop (k + 1) = d.toList.drop (i + 1 + k) ∧
    (d.extract i (i + 1 + k)).toList.length = k + 1 := by
  have hl : (d.extract i (i + 1 + k)).toList.length = k + 1 := by
    rw [extract_length d i (i + 1 + k) h]; omega
  rw [drop_extract d i (i + 1 + k) (by omega)]
  exact ⟨List.take_left' hl, List.drop_left' hl, hl⟩

/-- The pure-Python decoder accepts every stream the specification decoder expands,
when asked for exactly the expanded size (no-op headers included). -/
theorem decLoopPy_complete (e : Bytes) (size : Nat) : ∀ i, i ≤ e.size →
    ∀ (j : Nat) (out rest : List UInt8), specDec (e.toList.drop i) = some rest →
      j = out.length → size = out.length + rest.length →
      decLoopPy e size i j out = .ok (out ++ rest) := by
  refine induction_from_end e.size (fun i ih h _ j out rest hs hj hsz => ?_)
    (fun i h _ j out rest hs hj hsz => ?_)
  · rw [drop_eq_cons e i h, specDec_cons] at hs
    by_cases c1 : e[i].toNat < 128
    · rw [if_pos c1] at hs
      split at hs
      · rename_i hlen
        rw [List.length_drop, Array.length_toList] at hlen
        obtain ⟨rest', hr', rfl⟩ := Option.map_eq_some_iff.mp hs
        obtain ⟨htake, hdrop, hl⟩ := literal_at e (i + 1) e[i].toNat (by omega)
        rw [htake, List.length_append, hl] at hsz
        rw [hdrop] at hr'
        rw [decLoopPy_lit h c1, if_neg (by omega),
          ih _ (by omega) (by omega) _ _ rest' hr' (by rw [List.length_append, hl]; omega)
            (by rw [List.length_append, hl]; omega),
          htake, List.append_assoc]
      · cases hs
    · rw [if_neg c1] at hs
      by_cases c2 : e[i].toNat = 128
      · rw [if_pos c2] at hs
        rw [decLoopPy_noop h c2]
        exact ih (i + 1) (Nat.lt_succ_self i) h j out rest hs hj hsz
      · rw [if_neg c2] at hs
        split at hs
        · cases hs
        · rename_i b t' hd
          obtain ⟨rest', hr', rfl⟩ := Option.map_eq_some_iff.mp hs
          obtain ⟨hi1, rfl, rfl⟩ := drop_cons_inv hd
          rw [List.length_append, List.length_replicate] at hsz
          have hlt := UInt8.toNat_lt e[i]
          rw [decLoopPy_run h (by omega), if_neg (by omega), Array.getElem?_eq_getElem hi1]
          show decLoopPy e size _ _ (out ++ _) = _
          rw [ih _ (Nat.lt_succ_of_lt (Nat.lt_succ_self i)) hi1 _ _ rest' hr'
              (by rw [List.length_append, List.length_replicate]; omega)
              (by rw [List.length_append, List.length_replicate]; omega),
            List.append_assoc, show 1 + (256 - e[i].toNat) = 257 - e[i].toNat by omega]
  · rw [List.drop_eq_nil_of_le (by simpa using h), specDec] at hs
    cases hs
    rw [decLoopPy_end (Nat.not_lt.mpr h), if_neg (by rw [hsz]; simp), List.append_nil]

/-- `rle.decode` with its one-byte special case: every stream the specification decoder expands is
accepted at the expanded size. -/
theorem decPy_complete (e : Bytes) (row : List UInt8) (h : specDec e.toList = some row) :
    decPy e row.length = .ok row := by
  unfold decPy
  split
  · rename_i h1
    obtain ⟨x, rfl⟩ := eq_singleton_of_size h1
    simp only [List.getElem_toArray, List.getElem_cons_zero]
    change specDec [x] = some row at h
    rw [specDec_cons] at h
    by_cases c : x = 128
    · subst c
      have hz : (128 : UInt8).toNat = 128 := rfl
      simp [hz, specDec] at h
      subst h; simp
    · exfalso
      have hx : x.toNat ≠ 128 := fun hc => c (by
        apply UInt8.toNat_inj.mp; simpa using hc)
      by_cases c1 : x.toNat < 128
      · simp [c1] at h
      · simp [c1, hx] at h
  · exact decLoopPy_complete e row.length 0 (Nat.zero_le _) 0 [] row h rfl (Nat.zero_add _).symm

/-- Invariant of the pure-Python decoder loop: `len(result) ≤ j ≤ size`; hence an
accepted stream has exactly `size` bytes. -/
theorem decLoopPy_exact (e : Bytes) (size i j : Nat) (out r : List UInt8)
    (h1 : out.length ≤ j) (h2 : j ≤ size) (hr : decLoopPy e size i j out = .ok r) :
    r.length = size := by
  fun_induction decLoopPy e size i j out
  · cases hr
  · rename_i i0 j0 out0 hlt bit i1 hb n hg out1 ih
    refine ih ?_ (by omega) hr
    simp only [out1]
    split
    · rw [List.length_append, List.length_replicate]; omega
    · omega
  · cases hr
  · rename_i i0 j0 out0 hlt bit i1 hb hb2 hg ih
    refine ih ?_ (by omega) hr
    rw [List.length_append, extract_length e i1 (i1 + 1 + bit) (by omega)]; omega
  · rename_i ih
    exact ih h1 h2 hr
  · cases hr
  · rename_i hc
    cases hr
    omega

/-- Embedding of a Python outcome into the C outcome type (what `Impl.dec .python` does inline). -/
def toC : Except Err (List UInt8) → CRes
  | .ok r => .ok r
  | .error x => .err x

theorem Impl.dec_python (e : Bytes) (n : Nat) : Impl.python.dec e n = toC (decPy e n) := by
  show (match decPy e n with | .ok r => CRes.ok r | .error x => CRes.err x) = toC (decPy e n)
  cases decPy e n <;> rfl

/-- Overwriting `src.length` cells at `off` (`fill_n`, `copy_n`) keeps the length and extends the
prefix `buf[:off]` by `src`. -/
theorem overwrite_take (buf src : List UInt8) (off : Nat) (h : off + src.length ≤ buf.length) :
    (buf.take off ++ src ++ buf.drop (off + src.length)).length = buf.length ∧
    (buf.take off ++ src ++ buf.drop (off + src.length)).take (off + src.length) = buf.take off ++ src := by
  constructor
  · simp only [List.length_append, List.length_take, List.length_drop]; omega
  · exact List.take_left' (by rw [List.length_append, List.length_take]; omega)

/-- The Cython decoder loop, started in a state that matches the Python loop's
(`result = buf[:j]`, `len(buf) = size`, `j ≤ size`), ends like the Python loop: same
bytes or same exception, never an out-of-bounds buffer access, never `IndexError`. -/
theorem decLoopC_agree (e : Bytes) (size i j : Nat) (buf out : List UInt8)
    (hout : out = buf.take j) (hbuf : buf.length = size) (hj : j ≤ size) :
    decLoopC e size i j buf = toC (decLoopPy e size i j out) := by
  have hol : out.length = j := by rw [hout, List.length_take]; omega
  fun_induction decLoopC e size i j buf generalizing out
  · -- replicate header, rejected by the C guard
    rename_i i0 j0 buf0 hlt bit i1 hb n hg
    rw [decLoopPy_run hlt hb]
    split
    · rfl
    · have hnone : e[i0 + 1]? = none := Array.getElem?_eq_none (by omega)
      simp only [hnone]
      rw [decLoopPy_end (by omega), if_pos (by omega)]; rfl
  · -- `data[i]` out of range behind the guard: impossible
    rename_i i0 j0 buf0 hlt bit i1 hb n hg hnone
    have := Array.getElem?_eq_none_iff.mp hnone
    omega
  · -- fill_n out of bounds: impossible
    rename_i i0 j0 buf0 hlt bit i1 hb n hg b hsome hfill
    unfold fillN at hfill
    split at hfill
    · cases hfill
    · omega
  · rename_i i0 j0 buf0 hlt bit i1 hb n hg b hsome buf' hfill ih
    unfold fillN at hfill
    split at hfill
    · rename_i hle
      cases hfill
      have hf := overwrite_take buf0 (List.replicate (1 + n) b) j0 (by rw [List.length_replicate]; exact hle)
      rw [List.length_replicate] at hf
      rw [decLoopPy_run hlt hb, if_neg (by omega), show e[i0 + 1]? = some b from hsome]
      exact ih _ (by rw [hout, show j0 + 1 + n = j0 + (1 + n) by omega, hf.2]) (by omega) (by omega)
        (by rw [List.length_append, List.length_replicate]; omega)
    · cases hfill
  · -- literal header rejected
    rename_i i0 j0 buf0 hlt bit i1 hb hb2 hg
    rw [decLoopPy_lit hlt hb2, if_pos hg]; rfl
  · -- copy_n out of bounds: impossible
    rename_i i0 j0 buf0 hlt bit i1 hb hb2 hg hi1 hcopy
    have hl := extract_length e i1 (i1 + 1 + bit) (by omega)
    unfold copyN at hcopy
    split at hcopy
    · cases hcopy
    · omega
  · rename_i i0 j0 buf0 hlt bit i1 hb hb2 hg hi1 buf' hcopy ih
    have hl := extract_length e i1 (i1 + 1 + bit) (by omega)
    unfold copyN at hcopy
    split at hcopy
    · rename_i hle
      cases hcopy
      have hf := overwrite_take buf0 _ j0 hle
      rw [decLoopPy_lit hlt hb2, if_neg hg]
      exact ih _ (by rw [hout, show j0 + 1 + bit = j0 + (e.extract i1 (i1 + 1 + bit)).toList.length by omega, hf.2])
        (by omega) (by omega) (by rw [List.length_append, hl]; omega)
    · cases hcopy
  · -- `&data[i]` out of range behind the guard: impossible
    rename_i i0 j0 buf0 hlt bit i1 hb hb2 hg hi1
    omega
  · -- no-op header
    rename_i i0 j0 buf0 hlt bit i1 hb hb2 ih
    rw [decLoopPy_noop hlt (by omega)]
    exact ih out hout hbuf hj hol
  · rename_i i0 j0 buf0 hlt hc
    rw [decLoopPy_end hlt, if_pos (by omega)]; rfl
  · rename_i i0 j0 buf0 hlt hc
    rw [decLoopPy_end hlt, if_neg (by omega), hout]
    by_cases hz : size = 0
    · cases List.eq_nil_of_length_eq_zero (hbuf.trans hz)
      rw [List.take_nil]; rfl
    · rw [show j0 = buf0.length by omega, List.take_length]; rfl

end PsdVerif.Rle
