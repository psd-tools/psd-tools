/-
C06 — linear cost of the counting interpreter: one `Pays a b` lemma per reader of the skeleton that hands no
block to a payload class. The readers that do (tagged blocks, layer records, layer info, image resources, the whole
file) are bounded in Lemmas/OpenCost2.lean for arbitrary hooks; the skeleton is the case "no hooks", and its bounds
(`SafeCost.layerRecord_pays`, …, `SafeCost.psd_w_le`) are stated there, at the end, where they can be instantiated.
The coefficient grows with the nesting depth of `io.BytesIO` copies (main stream → extra block of a layer
record → mask / blending-ranges block), which is a constant of the skeleton.
-/
import PsdVerif.Lemmas.SafeCost3

namespace PsdVerif.SafeCost
open PsdVerif PsdVerif.Codec PsdVerif.Psd PsdVerif.PsdCost PsdVerif.Safe

theorem PaysCr.w_le {β : Type} {a b : Nat} {d : B} {p : Nat} {x : CE (β × Nat)} {cr : β → Nat}
    (h : PaysCr a b d p x cr) : x.2.w ≤ a * d.length + b := by
  have h1 := h.spend
  unfold Spend at h1
  have : pot a d p ≤ a * d.length := Nat.mul_le_mul_left a (by omega)
  omega

/-- a step whose cost is bounded outright (used for what follows the backward seek) -/
theorem Spend.bind_spend {α γ : Type} {a b b₁ n : Nat} {d : B} {p : Nat} {m : CE γ} {f : γ → CE α}
    (hm : Spend a b₁ d p m) (hf : ∀ y, m.1 = .ok y → (f y).2.w ≤ n) (hb : b₁ + n ≤ b := by omega) :
    Spend a b d p (m >>= f) := by
  unfold Spend at hm ⊢
  cases hm1 : m.1 with
  | error e' =>
    rw [bind_err' hm1]
    show m.2.w ≤ _
    omega
  | ok y =>
    rw [bind_ok' hm1]
    have := hf y hm1
    show (m.2 + (f y).2).w ≤ _
    rw [w_add]
    omega

theorem header_pays (d : B) (p : Nat) : Pays 1 8 d p (PsdCost.Header.decC d p) := by
  unfold PsdCost.Header.decC
  refine PaysCr.bind (readNC_pays 4 d p) fun sig p _ => ?_
  refine PaysCr.bind (readUC_pays 2 d p) fun version p _ => ?_
  refine PaysCr.bind (readNC_pays 6 d p) fun _ p _ => ?_
  refine PaysCr.bind (readUC_pays 2 d p) fun channels p _ => ?_
  refine PaysCr.bind (readUC_pays 4 d p) fun height p _ => ?_
  refine PaysCr.bind (readUC_pays 4 d p) fun width p _ => ?_
  refine PaysCr.bind (readUC_pays 2 d p) fun depth p _ => ?_
  refine PaysCr.bind (readUC_pays 2 d p) fun cm p _ => ?_
  dsimp only
  exact PaysCr.ite (fun _ => PaysCr.ok _) (fun _ => PaysCr.error _)

theorem colorMode_pays (d : B) (p : Nat) : Pays 1 4 d p (colorModeDecC d p) := readLenBlockC_pays0 0 4 1 d p

theorem taggedCondC_w (endPos : Option Nat) (d : B) (p : Nat) : (taggedCondC endPos d p).2.w ≤ 9 := by
  unfold taggedCondC
  rw [bind_ok' (isReadableC_fst 8 d p)]
  show ((isReadableC 8 d p).2 + (CE.ok _ : CE Bool).2).w ≤ 9
  rw [w_add, ok_w]
  have := isReadableC_w 8 d p
  omega

theorem readOptC_pays (c : Bool) (w : Nat) (d : B) (p : Nat) : Pays 1 1 d p (readOptC c w d p) := by
  unfold readOptC
  split
  · refine PaysCr.bind (readUC_pays w d p) fun n p' _ => ?_
    exact PaysCr.ok _
  · exact PaysCr.ok _

theorem maskParameters_pays (d : B) (p : Nat) : Pays 1 5 d p (PsdCost.MaskParameters.decC d p) := by
  unfold PsdCost.MaskParameters.decC
  refine PaysCr.bind (readUC_pays 1 d p) fun ps p _ => ?_
  refine PaysCr.bind (readOptC_pays _ 1 d p) fun a p _ => ?_
  refine PaysCr.bind (readOptC_pays _ 8 d p) fun b p _ => ?_
  refine PaysCr.bind (readOptC_pays _ 1 d p) fun c p _ => ?_
  refine PaysCr.bind (readOptC_pays _ 8 d p) fun e p _ => ?_
  exact PaysCr.ok _

theorem maskReal_pays (d : B) (p : Nat) : Pays 1 6 d p (PsdCost.MaskReal.decC d p) := by
  unfold PsdCost.MaskReal.decC
  refine PaysCr.bind (readUC_pays 1 d p) fun fl p _ => ?_
  refine PaysCr.bind (readUC_pays 1 d p) fun bg p _ => ?_
  refine PaysCr.bind (readI32C_pays d p) fun top p _ => ?_
  refine PaysCr.bind (readI32C_pays d p) fun left p _ => ?_
  refine PaysCr.bind (readI32C_pays d p) fun bottom p _ => ?_
  refine PaysCr.bind (readI32C_pays d p) fun right p _ => ?_
  exact PaysCr.ok _

theorem maskBody_pays (length : Nat) (d : B) (p : Nat) : Pays 1 17 d p (PsdCost.MaskData.bodyDecC length d p) := by
  unfold PsdCost.MaskData.bodyDecC
  refine PaysCr.bind (readI32C_pays d p) fun top p _ => ?_
  refine PaysCr.bind (readI32C_pays d p) fun left p _ => ?_
  refine PaysCr.bind (readI32C_pays d p) fun bottom p _ => ?_
  refine PaysCr.bind (readI32C_pays d p) fun right p _ => ?_
  refine PaysCr.bind (readUC_pays 1 d p) fun bg p _ => ?_
  refine PaysCr.bind (readUC_pays 1 d p) fun fl p _ => ?_
  refine PaysCr.bind (b₁ := 6)
    (PaysCr.ite (fun _ => optItemC_pays (maskReal_pays d p)) (fun _ => PaysCr.ok _)) fun real p _ => ?_
  refine PaysCr.bind (b₁ := 5)
    (PaysCr.ite (fun _ => optItemC_pays (maskParameters_pays d p)) (fun _ => PaysCr.ok _)) fun ps p _ => ?_
  exact PaysCr.ok _

theorem mask_pays (d : B) (p : Nat) : Pays 3 22 d p (maskDecC d p) := by
  unfold maskDecC
  refine PaysCr.bind (readLenBlockC_pays 2 0 4 1 d p) fun data p _ => ?_
  dsimp only
  refine PaysCr.ite (fun _ => PaysCr.ok _) (fun _ => ?_)
  refine PaysCr.bind_nested (n := 1 + data.length) (Nat.le_of_eq (enterBlock_w data)) fun _ _ => ?_
  refine PaysCr.bind_nested (n := 1 * data.length + 17) (maskBody_pays data.length data 0).w_le fun ⟨m, _⟩ _ => ?_
  exact PaysCr.ok _

theorem range4_pays (d : B) (p : Nat) : Pays 1 4 d p (PsdCost.Range4.decC d p) := by
  unfold PsdCost.Range4.decC
  refine PaysCr.bind (readUC_pays 2 d p) fun a p _ => ?_
  refine PaysCr.bind (readUC_pays 2 d p) fun b p _ => ?_
  refine PaysCr.bind (readUC_pays 2 d p) fun c p _ => ?_
  refine PaysCr.bind (readUC_pays 2 d p) fun e p _ => ?_
  exact PaysCr.ok _

theorem rangesLoop_pays (d : B) (p : Nat) :
    Pays 3 24 d p (readWhileC (isReadableC 8) (optItemC PsdCost.Range4.decC) d p) :=
  readWhileC_pays (cond := isReadable 8) (bi := 14) (cc := 9) (fun q => isReadableC_fst 8 d q) (fun q => isReadableC_w 8 d q)
    (fun q _ => WhileItem.of_pays (a' := 1) (j := 2) (range4_pays d q) (Good.inside (range4_fst d q) (range4_good d q))
      (by decide) (by decide)) p

theorem blendingRanges_pays (d : B) (p : Nat) : Pays 6 33 d p (PsdCost.BlendingRanges.decC d p) := by
  unfold PsdCost.BlendingRanges.decC
  refine PaysCr.bind (readLenBlockC_pays 5 0 4 1 d p) fun data p _ => ?_
  dsimp only
  refine PaysCr.ite (fun _ => PaysCr.ok _) (fun _ => ?_)
  refine PaysCr.bind_nested (n := 1 + data.length) (Nat.le_of_eq (enterBlock_w data)) fun _ _ => ?_
  refine PaysCr.bind_nested (n := 1 * data.length + 4) (range4_pays data 0).w_le fun ⟨comp, q⟩ _ => ?_
  refine PaysCr.bind_nested (n := 3 * data.length + 24) (rangesLoop_pays data q).w_le fun ⟨chans, _⟩ _ => ?_
  exact PaysCr.ok _

theorem channelInfo_pays (v : Nat) (d : B) (p : Nat) : Pays 1 2 d p (PsdCost.ChannelInfo.decC v d p) := by
  unfold PsdCost.ChannelInfo.decC
  refine PaysCr.bind (readI16C_pays d p) fun id p _ => ?_
  refine PaysCr.bind (readUC_pays _ d p) fun len p _ => ?_
  dsimp only
  exact PaysCr.ite (fun _ => PaysCr.ok _) (fun _ => PaysCr.error _)

theorem channelInfo_iter (v : Nat) (d : B) (p : Nat) : IterPays 3 3 0 0 d p (PsdCost.ChannelInfo.decC v d p) :=
  IterPays.of_pays (a' := 1) (j := 2) (channelInfo_pays v d p)
    (Good.inside (channelInfo_fst v d p) (channelInfo_good v d p)) (by decide) (by decide)

theorem channelData_pays (ciLength : Nat) (d : B) (p : Nat) : Pays 1 2 d p (PsdCost.ChannelData.decC ciLength d p) := by
  unfold PsdCost.ChannelData.decC
  refine PaysCr.bind (readUC_pays 2 d p) fun comp p _ => ?_
  dsimp only
  refine PaysCr.ite (fun _ => ?_) (fun _ => PaysCr.error _)
  refine PaysCr.bind (readPyC_pays _ d p) fun data p _ => ?_
  exact PaysCr.ok _

theorem channelData_iter (ciLength : Nat) (d : B) (p : Nat) :
    IterPays 3 3 0 0 d p (PsdCost.ChannelData.decC ciLength d p) :=
  IterPays.of_pays (a' := 1) (j := 2) (channelData_pays ciLength d p)
    (Good.inside (channelData_fst ciLength d p) (channelData_good ciLength d p)) (by decide) (by decide)

theorem channelList_pays (cis : List ChannelInfo) (d : B) (p : Nat) : Pays 3 3 d p (channelListDecC cis d p) := by
  unfold channelListDecC
  exact (readForC_pays cis (fun ci _ q => channelData_iter ci.length d q) p).weaken (fun _ => Nat.zero_le _) (by omega)

theorem channelImage_pays (rs : List LayerRecord) (d : B) (p : Nat) :
    Pays 3 (4 + 4 * rs.length) d p (channelImageDecC rs d p) := by
  unfold channelImageDecC
  exact (readForC_pays rs (fun r _ q => IterPays.of_pays0 (channelList_pays r.channelInfo d q)) p).weaken
    (fun _ => Nat.zero_le _) (Nat.le_refl _)

/-- `GlobalLayerMaskInfo.read`, including the rewind of a block shorter than 13 bytes -/
theorem globalMask_pays (d : B) (p : Nat) : Pays 6 40 d p (PsdCost.GlobalLayerMaskInfo.decC d p) := by
  unfold PsdCost.GlobalLayerMaskInfo.decC
  refine PaysCr.bind_or (W := 30) (readLenBlockC_pays 5 0 4 1 d p) fun data p1 h1 => ?_
  dsimp only
  by_cases h0 : data.length = 0
  · rw [if_pos h0]; exact Or.inl (PaysCr.ok _)
  · rw [if_neg h0]
    by_cases h13 : data.length < 13
    · rw [if_pos h13]
      refine Or.inr ⟨?_, PaysCr.ok _⟩
      have hp : readLenBlock 0 4 1 d p = .ok (data, p1) := by rw [← readLenBlockC_fst]; exact h1
      have a1 := readLenBlock_adv_le hp
      have a2 := Safe.readLenBlock_ok hp
      have h2 := (readLenBlockC_pays0 0 4 1 d p).of_ok h1
      rw [pot_one, pot_one] at h2
      omega
    · rw [if_neg h13]
      refine Or.inl ?_
      have hit : ∀ q, IterPays 2 2 0 0 data q (readUC 2 data q) := fun q =>
        IterPays.of_pays (a' := 1) (j := 1) (readUC_pays 2 data q)
          (Good.inside (readUC_fst 2 data q) (readU_good 2 data q)) (by decide) (by decide)
      refine PaysCr.bind_nested (n := 1 + data.length) (Nat.le_of_eq (enterBlock_w data)) fun _ _ => ?_
      refine PaysCr.bind_nested (n := 2 * data.length + (2 + 0 * 5)) (readCountC_pays hit 5 0).w_le fun ⟨cs, q⟩ _ => ?_
      refine PaysCr.bind_nested (n := 1 * data.length + 1) (readUC_pays 2 data q).w_le fun ⟨opacity, q⟩ _ => ?_
      refine PaysCr.bind_nested (n := 1 * data.length + 1) (readUC_pays 1 data q).w_le fun ⟨kind, _⟩ _ => ?_
      dsimp only
      exact PaysCr.ite (fun _ => PaysCr.ok _) (fun _ => PaysCr.error _)

theorem imageData_pays (d : B) (p : Nat) : Pays 1 2 d p (PsdCost.ImageData.decC d p) := by
  unfold PsdCost.ImageData.decC
  refine PaysCr.bind (readUC_pays 2 d p) fun comp p _ => ?_
  dsimp only
  refine PaysCr.ite (fun _ => ?_) (fun _ => PaysCr.error _)
  refine PaysCr.bind (readAllC_pays d p) fun data p _ => ?_
  exact PaysCr.ok _

end PsdVerif.SafeCost
