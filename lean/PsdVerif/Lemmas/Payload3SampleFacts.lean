/-
C01 payload classes, third batch — the facts about the sample document of Lemmas/Payload3Samples.lean that
Props/C01Payload3.lean quotes (`typed_samples_wf` and the example after it): its clauses, and that no section of the writer raises.
-/
import PsdVerif.Lemmas.Payload3Samples

namespace PsdVerif.Payload3.Samples

theorem resDoc_writes :
    ResPSD.WF rtb 4 resDoc ∧ ResPSD.payloadFits rtb resDoc ∧ (resDoc.flat rtb).flat.writeError 4 = none ∧
      (resDoc.flat rtb).payloadFits := by decide +kernel

end PsdVerif.Payload3.Samples
