/-
C01 payload classes — the laws of the filter effects of Model/Payload3Filter.lean.
-/
import PsdVerif.Lemmas.Payload3Resources
import PsdVerif.Model.Payload3Filter

namespace PsdVerif.Payload3
open PsdVerif.Codec

/-- `compression = read_fmt("H", f)[0]; data = f.read()` on the stream of a length block -/
theorem readU2_nested (c : Nat) (data : B) (hc : FitsU 2 c) :
    readU 2 (beBytes 2 c ++ data) 0 = .ok (c, 2) ∧ (beBytes 2 c ++ data).drop 2 = data := by
  have h := readU_step (At.self (beBytes 2 c ++ data)) hc
  refine ⟨by simpa using h.1, ?_⟩
  have : (beBytes 2 c).length = 2 := length_beBytes 2 c
  rw [← this, List.drop_left']
  rfl

namespace FEChannel

theorem encP_eq (x : FEChannel) : x.encP = (x.encT, x.encT.length) := by
  obtain ⟨iw, c⟩ := x
  unfold encP encT
  by_cases h0 : iw = 0
  · simp only [h0, if_true, wBytes_eq, List.append_nil]
  · simp only [h0, if_false]
    cases c with
    | none =>
      have e := wLenBlock_eq 0 8 1 []
      simp only [List.length_nil] at e
      simp only [contentT, wNil, wBytes_eq, e, wSeq_eq]
    | some cd =>
      obtain ⟨c, data⟩ := cd
      simp only [contentT, wBytes_eq, wSeq_eq, wLenBlock_eq]

theorem dec_step {x : FEChannel} (hwf : codec.WF x) (hf : x.Fits) {d : B} {p : Nat} {rest : B} (h : At d p (x.encT ++ rest)) :
    dec d p = .ok (x, p + x.encT.length) ∧ At d (p + x.encT.length) rest := by
  refine ⟨?_, h.right⟩
  obtain ⟨iw, c⟩ := x
  obtain ⟨fiw, fc⟩ := hf
  have hwf : iw = 0 → c = none := hwf
  simp only at fiw fc
  unfold encT at h ⊢
  by_cases h0 : iw = 0
  · have hc := hwf h0
    subst hc
    simp only [h0, if_true, List.append_nil] at h ⊢
    obtain ⟨e1, _⟩ := readU_step h (by decide)
    simp only [dec, bind, Except.bind, e1, if_true, length_beBytes]
  · simp only [h0, if_false, List.append_assoc] at h ⊢
    obtain ⟨e1, h1⟩ := readU_step h fiw
    cases c with
    | none =>
      have e2 := readLenBlock_at (skip := 0) (w := 8) (pad := 1) (body := []) h1.left (by decide) (by decide)
      simp only [contentT] at e2 ⊢
      simp only [dec, bind, Except.bind, e1, if_neg h0, e2, List.length_nil, if_true, List.length_append, length_beBytes, Nat.add_assoc]
    | some cd =>
      obtain ⟨c, data⟩ := cd
      have fcc := fc h0
      simp only [contentFits] at fcc
      have hl : (contentT (some (c, data))).length = 2 + data.length := by
        simp only [contentT, List.length_append, length_beBytes]
      have e2 := readLenBlock_at (skip := 0) (w := 8) (pad := 1) h1.left (by rw [hl]; exact fcc.2) (by decide)
      obtain ⟨e3, e4⟩ := readU2_nested c data fcc.1
      have hne : ¬ (contentT (some (c, data))).length = 0 := by omega
      simp only [dec, bind, Except.bind, e1, if_neg h0, e2, if_neg hne]
      simp only [contentT, e3, e4, List.length_append, length_beBytes, Nat.add_assoc]

theorem rt : codec.RtAnywhere := fun _ hwf hf _ _ h => (dec_step hwf hf h.nil_right).1
theorem count : codec.Count := encP_eq
theorem tight : Tight codec := fun _ _ => rfl

end FEChannel

namespace FEExtra

theorem encP_eq (x : FEExtra) : x.encP = (x.encT, x.encT.length) := by
  unfold encP encT
  by_cases h0 : x.isWritten = 0
  · simp only [h0, if_true, wBytes_eq, List.append_nil]
  · simp only [h0, if_false, wBytes_eq, wSeq_eq, wLenBlock_eq, List.append_assoc]

theorem rt : codec.RtAnywhere := by
  intro x hwf hf d p h
  obtain ⟨iw, rect, comp, data⟩ := x
  obtain ⟨fiw, fc⟩ := hf
  have hwf : iw = 0 → (rect = defaultRect ∧ comp = 0 ∧ data = []) := hwf
  simp only at fiw fc
  simp only [codec, encT] at h ⊢
  by_cases h0 : iw = 0
  · obtain ⟨rfl, rfl, rfl⟩ := hwf h0
    simp only [h0, if_true, List.append_nil] at h ⊢
    have e1 := readU_at h (by decide : 0 < 256 ^ 1)
    simp only [dec, bind, Except.bind, e1, if_true, length_beBytes]
  · simp only [h0, if_false] at h ⊢
    obtain ⟨f1, f2, f3⟩ := fc h0
    obtain ⟨e1, h1⟩ := readU_step h fiw
    obtain ⟨e2, h2⟩ := fmt_step' (fs := s4x4) rfl f1 (fmtWF_of_plain _ _ rfl) h1
    have hl : (beBytes 2 comp ++ data).length = 2 + data.length := by simp only [List.length_append, length_beBytes]
    have e3 := readLenBlock_at (skip := 0) (w := 8) (pad := 1) h2 (by rw [hl]; exact f3) (by decide)
    obtain ⟨e4, e5⟩ := readU2_nested comp data f2
    simp only [dec, bind, Except.bind, e1, if_neg h0, e2, e3, e4, e5]
    simp only [List.length_append, length_beBytes, Nat.add_assoc]

theorem count : codec.Count := encP_eq
theorem tight : Tight codec := fun _ _ => rfl
theorem ge : ∀ v, codec.Fits v → 1 ≤ (codec.encT v).length := by
  intro v _
  simp only [codec, encT, List.length_append, length_beBytes]; omega

end FEExtra

namespace FEBody

theorem rt : codec.RtAnywhere := by
  intro v hwf hf d p h
  obtain ⟨rect, dm, chs⟩ := v
  obtain ⟨hn, hw⟩ := hwf
  obtain ⟨f1, f2, f3⟩ := hf
  simp only at hn hw f1 f2 f3
  simp only [codec] at h ⊢
  obtain ⟨e1, h1⟩ := fmt_step' (fs := s4x4) rfl f1 (fmtWF_of_plain _ _ rfl) h
  obtain ⟨e2, h2⟩ := fmt_step' (fs := [U 4, U 4]) rfl f2 (fmtWF_of_plain _ _ rfl) h1
  have e3 := readCount_at FEChannel.dec FEChannel.encT chs
    (fun c hc d p hat => (FEChannel.dec_step (hw c hc) (f3 c hc) hat.nil_right).1) h2
  rw [hn] at e3
  simp only [bind, Except.bind, e1, e2, e3]
  simp only [List.length_append, Nat.add_assoc]

theorem count : codec.Count := by
  intro v
  simp only [codec]
  rw [wList_eq _ FEChannel.encT v.2.2 (fun c _ => FEChannel.encP_eq c)]
  simp only [wBytes_eq, wSeq_eq]

theorem tight : Tight codec := fun _ _ => rfl

end FEBody

namespace FilterEffect

theorem rt : codec.RtAtEnd :=
  seq_rt_end (checked_rt (pascal_rt 1)) (checked_tight (pascal_tight 1 1)) (seq_rt_end (checked_rt (rec_rt _ rfl)) (checked_tight (rec_tight _))
    (seq_rt_end (blocked_rt 8 1 FEBody.rt.atEnd FEBody.tight (by decide)) (blocked_tight 8 1)
      (optTail_rt FEExtra.rt.atEnd FEExtra.tight FEExtra.ge)))

theorem count : codec.Count :=
  seq_count (checked_count (pascal_count 1 1)) (seq_count (checked_count (rec_count _))
    (seq_count (blocked_count 8 1 FEBody.count) (optTail_count FEExtra.count)))

theorem tight : Tight codec := seq_tight (seq_tight (seq_tight (fun _ _ => rfl)))

end FilterEffect

namespace FilterEffects

theorem rt : codec.RtAtEnd :=
  seq_rt_end (checked_rt (rec_rt _ rfl)) (checked_tight (rec_tight _))
    (whileR_rt 8 1 (blocked_rt 8 4 FilterEffect.rt FilterEffect.tight (by decide)) (blocked_tight 8 4) (blocked_ge 8 4)
      (by decide) (by decide))

theorem count : codec.Count :=
  seq_count (checked_count (rec_count _)) (whileR_count 8 1 (blocked_count 8 4 FilterEffect.count))

end FilterEffects

end PsdVerif.Payload3
