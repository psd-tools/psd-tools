/-
C02 on the payload layer — `DecOK` for the classes of Model/Payload3*.lean (modelled third: the "3") that do not contain a
descriptor: image-resource payloads (unit 7 of Props/C01Payload3.lean), adjustments (unit 8), vector data (unit 9), filter effects (unit 10). The flat ones are instances of the
combinator laws of Lemmas/PayloadResave.lean; the hand-written readers are inverted step by step.
(The classes that hold a descriptor - slices, descriptor resources, ColorLookup, VectorStrokeContentSetting - are in
Lemmas/PayloadResaveDesc.lean.)
-/
import PsdVerif.Lemmas.PayloadResave
import PsdVerif.Lemmas.Payload3Resources
import PsdVerif.Lemmas.Payload3Adjust
import PsdVerif.Lemmas.Payload3Curves
import PsdVerif.Lemmas.Payload3Vector
import PsdVerif.Lemmas.Payload3Filter

namespace PsdVerif.Payload3
open PsdVerif.Codec PsdVerif.Payload

theorem AlphaIdentifiers.decOK : DecOK AlphaIdentifiers.codec := whileR_decOK 4 1 (rec_decOK _ rfl)
theorem AlphaNamesPascal.decOK : DecOK AlphaNamesPascal.codec := whileR_decOK 1 1 (pascal_decOK 1 1)
theorem AlphaNamesUnicode.decOK : DecOK AlphaNamesUnicode.codec := whileR_decOK 1 1 ustr_decOK
theorem AlphaChannel.decOK : DecOK AlphaChannel.codec := checked_decOK (rec_decOK _ rfl)
theorem DisplayInfo.decOK : DecOK DisplayInfo.codec := seq_decOK (rec_decOK _ rfl) (whileR_decOK 13 1 AlphaChannel.decOK)
theorem Byte.decOK : DecOK Byte.codec := rec_decOK _ rfl
theorem GridGuidesInfo.decOK : DecOK GridGuidesInfo.codec := seq_decOK (rec_decOK _ rfl) (counted_decOK 4 (rec_decOK _ rfl))
theorem HalftoneScreen.decOK : DecOK HalftoneScreen.codec := rec_decOK _ rfl
theorem HalftoneScreens.decOK : DecOK HalftoneScreens.codec := whileR_decOK 18 1 HalftoneScreen.decOK
theorem Integer.decOK : DecOK Integer.codec := rec_decOK _ rfl
theorem LayerGroupEnabledIDs.decOK : DecOK LayerGroupEnabledIDs.codec := whileR_decOK 1 1 (rec_decOK _ rfl)
theorem LayerGroupInfo.decOK : DecOK LayerGroupInfo.codec := whileR_decOK 2 1 (rec_decOK _ rfl)
theorem LayerSelectionIDs.decOK : DecOK LayerSelectionIDs.codec := counted_decOK 2 (rec_decOK _ rfl)
theorem ShortInteger.decOK : DecOK ShortInteger.codec := rec_decOK _ rfl
theorem PascalString.decOK : DecOK PascalString.codec := pascal_decOK 1 2
theorem PixelAspectRatio.decOK : DecOK PixelAspectRatio.codec := rec_decOK _ rfl
theorem PrintFlagsInfo.decOK : DecOK PrintFlagsInfo.codec := rec_decOK _ rfl
theorem PrintScale.decOK : DecOK PrintScale.codec := checked_decOK (rec_decOK _ rfl)
theorem ResolutionInfo.decOK : DecOK ResolutionInfo.codec := rec_decOK _ rfl
theorem TransferFunction.decOK : DecOK TransferFunction.codec := seq_decOK (rec_decOK _ rfl) (rec_decOK _ rfl)
theorem TransferFunctions.decOK : DecOK TransferFunctions.codec := whileR_decOK 28 1 TransferFunction.decOK
theorem URLItem.decOK : DecOK URLItem.codec := seq_decOK (rec_decOK _ rfl) ustr_decOK
theorem URLList.decOK : DecOK URLList.codec := counted_decOK 4 URLItem.decOK
theorem VersionInfo.decOK : DecOK VersionInfo.codec :=
  seq_decOK (rec_decOK _ rfl) (seq_decOK ustr_decOK (seq_decOK ustr_decOK (rec_decOK _ rfl)))

/-- `PrintFlags`: eight flags, the ninth when a byte is left -/
theorem PrintFlags.decOK : DecOK PrintFlags.codec := fun d p =>
  show Rets (PrintFlags.dec d p) _ from
  (rets_fmtDec rfl).bind fun _ _ fl => Rets.ite
    (fun _ => (rets_fmtDec rfl).bind fun _ _ pf => Rets.ok ⟨⟨fl.2, pf.2⟩, fl.1, pf.1⟩)
    (fun _ => Rets.ok ⟨⟨fl.2, trivial⟩, fl.1, trivial⟩)

theorem readSized_ok {n : Nat} {d : B} {p : Nat} {x : B} {p' : Nat} (h : readSized n d p = .ok (x, p')) : x.length ≤ n := by
  unfold readSized readPy at h
  have hn : ¬ ((n : Int) < 0) := by omega
  rw [if_neg hn] at h
  split at h
  · cases h
  · simp only [Int.toNat_natCast] at h
    exact (readUpTo_ok h).1

/-- `ThumbnailResource`: `fp.read(size)` is lenient; the writer stores the length of what was read -/
theorem Thumbnail.decOK : DecOK Thumbnail.codec := fun d p =>
  show Rets (Thumbnail.dec d p) _ from
  (rets_fmtDec rfl).bind fun _ _ head =>
  rets_readU.bind fun _ _ size =>
  (rets_fmtDec rfl).bind fun _ _ tail =>
  Rets.bind (fun _ _ e => readSized_ok e) fun _ _ data =>
  Rets.ok ⟨trivial, head.1, Nat.lt_of_le_of_lt data size, tail.1⟩

theorem BrightnessContrast.decOK : DecOK BrightnessContrast.codec := rec_decOK _ rfl
theorem ColorBalance.decOK : DecOK ColorBalance.codec :=
  padded_decOK 4 (seq_decOK (rec_decOK _ rfl) (seq_decOK (rec_decOK _ rfl) (seq_decOK (rec_decOK _ rfl) (rec_decOK _ rfl))))
theorem ChannelMixer.decOK : DecOK ChannelMixer.codec :=
  checked_decOK (seq_decOK (rec_decOK _ rfl) (seq_decOK (rec_decOK _ rfl) tailBytes_decOK))
theorem Exposure.decOK (pad : Nat) : DecOK (Exposure.codec pad) := padded_decOK pad (rec_decOK _ rfl)
theorem HueSaturation.decOK : DecOK HueSaturation.codec :=
  padded_decOK 4 (seq_decOK (checked_decOK (rec_decOK _ rfl))
    (seq_decOK (rec_decOK _ rfl) (seq_decOK (rec_decOK _ rfl) (exactly_decOK 6 (seq_decOK (rec_decOK _ rfl) (rec_decOK _ rfl))))))
theorem LevelRecord.decOK : DecOK LevelRecord.codec := rec_decOK _ rfl
theorem SelectiveColor.decOK : DecOK SelectiveColor.codec :=
  checked_decOK (seq_decOK (rec_decOK _ rfl) (exactly_decOK 10 (rec_decOK _ rfl)))
theorem ColorStop.decOK : DecOK ColorStop.codec := rec_decOK _ rfl
theorem TransparencyStop.decOK : DecOK TransparencyStop.codec := rec_decOK _ rfl

/-- `Levels`: 29 records, the optional `Lvls` trailer; a trailer whose count is below 29 is re-written with the count 29 -/
theorem Levels.decOK : DecOK Levels.codec := by
  intro d p v p' h
  change Levels.dec d p = _ at h
  unfold Levels.dec at h
  obtain ⟨⟨version, p1⟩, e1, h⟩ := bind_ok h
  obtain ⟨hv2, h⟩ := ok_of_ite h
  obtain ⟨⟨items, p2⟩, e2, h⟩ := bind_ok h
  obtain ⟨⟨x, p3⟩, e3, h⟩ := bind_ok h
  obtain ⟨hmem, h⟩ := ok_of_ite h
  cases h
  have hv := (readU_ok e1).1
  have recs := fun {d q r q'} (e : fmtDec LevelRecord.fmt d q = .ok (r, q')) => (fmtDec_ok LevelRecord.fmt rfl e).1
  obtain ⟨hlen, hfi⟩ := readCount_all recs e2
  split at e3
  · obtain ⟨⟨sig, q1⟩, _, e3⟩ := bind_ok e3
    obtain ⟨⟨ev, q2⟩, eb, e3⟩ := bind_ok e3
    obtain ⟨_, e3⟩ := ok_of_ite e3
    obtain ⟨hev, e3⟩ := ok_of_ite e3
    obtain ⟨⟨count, q3⟩, ec, e3⟩ := bind_ok e3
    obtain ⟨⟨more, q4⟩, em, e3⟩ := bind_ok e3
    cases e3
    obtain ⟨hlen2, hfi2⟩ := readCount_all recs em
    have hcnt := (readU_ok ec).1
    have ht : (items ++ more).take 29 = items := List.take_left' hlen
    have hdr : (items ++ more).drop 29 = more := List.drop_left' hlen
    refine ⟨⟨hmem, hv2, by simp only [List.length_append]; omega, hev⟩, hv, ?_, (readU_ok eb).1, ?_, ?_⟩
    · simp only [ht]; exact hfi
    · simp only [FitsU, List.length_append] at hcnt ⊢; omega
    · simp only [Levels.extraItems, hdr]; exact hfi2
  · cases e3
    have ht : items.take 29 = items := by rw [← hlen, List.take_length]
    exact ⟨⟨hmem, hv2, by simp only [hlen]; omega, hlen⟩, hv, by simp only [ht]; exact hfi, trivial⟩

theorem PhotoFilter.decOK : DecOK PhotoFilter.codec := by
  intro d p v p' h
  change PhotoFilter.dec d p = _ at h
  unfold PhotoFilter.dec at h
  obtain ⟨⟨version, p1⟩, e1, h⟩ := bind_ok h
  obtain ⟨hmem, h⟩ := ok_of_ite h
  obtain ⟨⟨xc, p2⟩, e2, h⟩ := bind_ok h
  obtain ⟨⟨tail, p3⟩, e3, h⟩ := bind_ok h
  cases h
  have hv := (readU_ok e1).1
  have ft := (fmtDec_ok PhotoFilter.tailFmt rfl e3).1
  split at e2
  · rename_i h3
    split at e2
    · rename_i r q hr
      cases e2
      exact ⟨⟨hmem, by simp only [if_pos h3]⟩, hv, by simp only [if_pos h3]; exact (fmtDec_ok PhotoFilter.xyzFmt rfl hr).1, ft⟩
    · cases e2
  · rename_i h3
    split at e2
    · rename_i r q hr
      cases e2
      exact ⟨⟨hmem, by simp only [if_neg h3]⟩, hv, by simp only [if_neg h3]; exact (fmtDec_ok PhotoFilter.colorFmt rfl hr).1, ft⟩
    · cases e2

theorem GradientMap.head_decOK : DecOK GradientMap.head := fun d p =>
  show Rets (GradientMap.head.dec d p) _ from
  (rets_fmtDec rfl).bind fun _ _ fh => Rets.guard fun hmem => Rets.ite
    (fun h3 => rets_readN.bind fun _ _ m => Rets.ok ⟨⟨hmem, by simp only [if_pos h3]; exact m⟩, fh.1⟩)
    (fun h3 => Rets.ok ⟨⟨hmem, by simp only [if_neg h3]⟩, fh.1⟩)

theorem GradientMap.decOK : DecOK GradientMap.codec :=
  padded_decOK 4 (checked_decOK
    (seq_decOK GradientMap.head_decOK (seq_decOK ustr_decOK (seq_decOK (counted_decOK 2 ColorStop.decOK)
      (seq_decOK (counted_decOK 2 TransparencyStop.decOK) (seq_decOK (checked_decOK (rec_decOK _ rfl))
        (seq_decOK (rec_decOK _ rfl) (seq_decOK (rec_decOK _ rfl) (seq_decOK (rec_decOK _ rfl)
          (seq_decOK (rec_decOK _ rfl) (rec_decOK _ rfl)))))))))))

theorem fmtDecE_inv {fs : List FI} {d : B} {p : Nat} {r : Row} {p' : Nat} (h : fmtDecE fs d p = .ok (r, p')) :
    fmtDec fs d p = .ok (r, p') := by
  unfold fmtDecE at h
  split at h
  · rename_i x hx; cases h; exact hx
  · cases h

theorem readCountE_inv {α : Type} {item : RE α} {n : Nat} {d : B} {p : Nat} {xs : List α} {p' : Nat}
    (h : readCountE item n d p = .ok (xs, p')) : xs.length = n ∧ ∀ x ∈ xs, ∃ q q', item d q = .ok (x, q') := by
  induction n generalizing p xs p' with
  | zero => cases h; exact ⟨rfl, by intro x hx; cases hx⟩
  | succ n ih =>
    unfold readCountE at h
    split at h
    · cases h
    · rename_i a1 q1 ha
      split at h
      · cases h
      · rename_i as q2 hb
        cases h
        obtain ⟨h1, h2⟩ := ih hb
        refine ⟨congrArg (· + 1) h1, fun x hx => ?_⟩
        rcases List.mem_cons.1 hx with rfl | hx
        · exact ⟨p, q1, ha⟩
        · exact h2 x hx

theorem row2_shape {w1 w2 : Nat} {r : Row} (hf : fmtFits [U w1, U w2] r) :
    ∃ a b : Int, r = [.int a, .int b] ∧ (0 ≤ a ∧ a.toNat < 256 ^ w1) ∧ (0 ≤ b ∧ b.toNat < 256 ^ w2) := by
  obtain ⟨_, _, rfl, h1, g1⟩ := fmtFits_fld hf
  obtain ⟨_, _, rfl, h2, g2⟩ := fmtFits_fld g1
  obtain ⟨a, rfl, ha⟩ := FT.fits_u h1
  obtain ⟨b, rfl, hb⟩ := FT.fits_u h2
  obtain rfl : _ = [] := g2
  exact ⟨a, b, rfl, ha, hb⟩

theorem CurvesExtraItem.decE_inv {isMap : Bool} {d : B} {p : Nat} {x : CurvesExtraItem} {p' : Nat}
    (h : CurvesExtraItem.decE isMap d p = .ok (x, p')) : x.Fits ∧ Curves.itemWF isMap x := by
  unfold CurvesExtraItem.decE at h
  split at h
  · rename_i hm
    split at h
    · cases h
    · rename_i c q hc
      split at h
      · cases h
      · rename_i r q1 hr
        cases h
        exact ⟨⟨(fmtDec_ok [U 2] rfl (fmtDecE_inv hc)).1, (fmtDec_ok mapFmt mapFmt_ok (fmtDecE_inv hr)).1⟩, hm⟩
  · rename_i hm
    split at h
    · cases h
    · rename_i hh q hc
      split at h
      · cases h
      · rename_i ps q1 hr
        cases h
        obtain ⟨hl, hitems⟩ := readCountE_inv hr
        obtain ⟨a, b, rfl, ha, hb⟩ := row2_shape (fmtDec_ok [U 2, U 2] rfl (fmtDecE_inv hc)).1
        refine ⟨⟨?_, ?_, fun x hx => ?_⟩, by simp only [Curves.itemWF]; simpa using hm⟩
        · simp only [List.take, fmtFits, FT.Fits, U]; exact ⟨ha, trivial⟩
        · simp only [Row.int, List.getD, FV.toInt, List.getElem?_cons_succ, List.getElem?_cons_zero, Option.getD_some] at hl
          simp only [FitsU, hl]
          exact hb.2
        · obtain ⟨q, q', hq⟩ := hitems x hx
          exact (fmtDec_ok pairFmt rfl (fmtDecE_inv hq)).1

theorem CurvesExtraMarker.decE_inv {isMap : Bool} {d : B} {p : Nat} {m : CurvesExtraMarker} {p' : Nat}
    (h : CurvesExtraMarker.decE isMap d p = .ok (m, p')) :
    m.Fits ∧ m.version ∈ G3.curvesExtraVersions ∧ ∀ i ∈ m.items, Curves.itemWF isMap i := by
  unfold CurvesExtraMarker.decE at h
  split at h
  · cases h
  · rename_i hh q hc
    obtain ⟨_, h⟩ := ok_of_ite h
    split at h
    · cases h
    · rename_i items q1 hr
      obtain ⟨hver, h⟩ := ok_of_ite h
      cases h
      obtain ⟨hl, hitems⟩ := readCountE_inv hr
      obtain ⟨_, _, rfl, _, f1⟩ := fmtFits_fld (fmtDec_ok CurvesExtraMarker.hdrFmt rfl (fmtDecE_inv hc)).1
      obtain ⟨_, _, rfl, h2, f2⟩ := fmtFits_fld f1
      obtain ⟨_, _, rfl, h3, _⟩ := fmtFits_fld f2
      obtain ⟨v, rfl, hv⟩ := FT.fits_u h2
      obtain ⟨c, rfl, hcnt⟩ := FT.fits_u h3
      simp only [Row.int, List.getD, FV.toInt, List.getElem?_cons_succ, List.getElem?_cons_zero, Option.getD_some] at hl hver ⊢
      refine ⟨⟨hv.2, ?_, fun i hi => ?_⟩, hver, fun i hi => ?_⟩
      · simp only [FitsU, hl]; exact hcnt.2
      · obtain ⟨q, q', hq⟩ := hitems i hi
        exact (CurvesExtraItem.decE_inv hq).1
      · obtain ⟨q, q', hq⟩ := hitems i hi
        exact (CurvesExtraItem.decE_inv hq).2

theorem Curves.curveDec_ok {d : B} {p : Nat} {c : List Row} {p' : Nat} (h : Curves.curveDec d p = .ok (c, p')) :
    (FitsU 2 c.length ∧ listFits (fmtFits pairFmt) c) ∧ 2 ≤ c.length ∧ c.length ≤ 19 := by
  unfold Curves.curveDec at h
  obtain ⟨⟨n, p1⟩, _, h⟩ := bind_ok h
  obtain ⟨hn, h⟩ := ok_of_ite h
  obtain ⟨hl, hf⟩ := readCount_all (fun e => (fmtDec_ok pairFmt rfl e).1) h
  refine ⟨⟨?_, hf⟩, by omega, by omega⟩
  simp only [FitsU, hl]; omega

theorem Curves.dataDec_ok {isMap : Bool} {count : Nat} {d : B} {p : Nat} {x : CurveData} {p' : Nat}
    (h : Curves.dataDec isMap count d p = .ok (x, p')) :
    Curves.dataFits isMap x ∧ Curves.dataLen x = count ∧
      (∀ cs, x = .curves cs → ∀ c ∈ cs, 2 ≤ c.length ∧ c.length ≤ 19) := by
  unfold Curves.dataDec at h
  split at h
  · rename_i hm
    split at h
    · rename_i ms q hr
      cases h
      obtain ⟨hl, hf⟩ := readCount_all (fun e => (fmtDec_ok mapFmt mapFmt_ok e).1) hr
      exact ⟨⟨hm, hf⟩, hl, fun cs hcs => by cases hcs⟩
    · cases h
  · rename_i hm
    split at h
    · rename_i cs q hr
      cases h
      obtain ⟨hl, hc⟩ := readCount_all Curves.curveDec_ok hr
      exact ⟨⟨by simpa using hm, fun c hcm => (hc c hcm).1⟩, hl, fun cs' hcs c hcm => by cases hcs; exact (hc c hcm).2⟩
    · cases h

/-- `Curves`: the flag byte is read as a truth value (any non-zero byte, re-written as 1); for version 1 the optional extra
marker is kept only when its read does not run out of data (otherwise the bytes of the partial marker are dropped) -/
theorem Curves.decOK : DecOK Curves.codec := by
  intro d p v p' h
  change Curves.dec d p = _ at h
  unfold Curves.dec at h
  obtain ⟨⟨mb, p1⟩, _, h⟩ := bind_ok h
  obtain ⟨⟨version, p2⟩, e2, h⟩ := bind_ok h
  obtain ⟨⟨countMap, p3⟩, e3, h⟩ := bind_ok h
  obtain ⟨hver, h⟩ := ok_of_ite h
  obtain ⟨⟨data, p4⟩, e4, h⟩ := bind_ok h
  obtain ⟨⟨extra, p5⟩, e5, h⟩ := bind_ok h
  cases h
  obtain ⟨hdf, hdl, hdc0⟩ := Curves.dataDec_ok e4
  have hdc : (match (generalizing := false) data with
      | .maps _ => True
      | .curves cs => ∀ c ∈ cs, 2 ≤ c.length ∧ c.length ≤ 19) := by
    cases data with
    | maps ms => trivial
    | curves cs => exact hdc0 cs rfl
  have hvf := (readU_ok e2).1
  have hcf := (readU_ok e3).1
  unfold Curves.extraDec at e5
  split at e5
  · rename_i hv1
    split at e5
    · rename_i m q5 hm
      cases e5
      obtain ⟨mf, mv, mi⟩ := CurvesExtraMarker.decE_inv hm
      exact ⟨⟨hver, hdl, hdc, hv1, mv, mi⟩, hvf, hcf, hdf, mf⟩
    · cases e5
      exact ⟨⟨hver, hdl, hdc, trivial⟩, hvf, hcf, hdf, trivial⟩
    · cases e5
  · cases e5
    exact ⟨⟨hver, hdl, hdc, trivial⟩, hvf, hcf, hdf, trivial⟩

theorem PItem.lists_of_mem : ∀ (xs : List PItem), (∀ x ∈ xs, x.WF ∧ x.Fits) → PItem.WFList xs ∧ PItem.FitsList xs
  | [], _ => ⟨by simp only [PItem.WFList], by simp only [PItem.FitsList]⟩
  | x :: xs, h => by
    obtain ⟨a, b⟩ := PItem.lists_of_mem xs (fun y hy => h y (List.mem_cons_of_mem _ hy))
    obtain ⟨c, e⟩ := h x (List.mem_cons_self)
    exact ⟨by simp only [PItem.WFList]; exact ⟨c, a⟩, by simp only [PItem.FitsList]; exact ⟨e, b⟩⟩

/-- a path record, whatever the nesting: the selector read is the selector written, the count of a subpath is the number of
its records -/
theorem PItem.decFuel_ok : ∀ (fuel : Nat) {d : B} {p : Nat} {x : PItem} {p' : Nat},
    PItem.decFuel fuel d p = .ok (x, p') → x.WF ∧ x.Fits
  | 0, _, _, _, _, h => by cases h
  | fuel + 1, d, p, x, p', h => by
    unfold PItem.decFuel at h
    obtain ⟨⟨sel, p1⟩, es, h⟩ := bind_ok h
    have hsel := (readU_ok es).1
    dsimp only at h
    split at h
    · cases h
    · -- fill
      obtain ⟨_, _, h⟩ := bind_ok h
      cases h
      exact ⟨by simp only [PItem.WF], by simp only [PItem.Fits]⟩
    · -- initial
      obtain ⟨⟨r, p2⟩, er, h⟩ := bind_ok h
      cases h
      exact ⟨by simp only [PItem.WF], by simp only [PItem.Fits]; exact (fmtDec_ok initFmt rfl er).1⟩
    · -- clipboard
      obtain ⟨⟨r, p2⟩, er, h⟩ := bind_ok h
      cases h
      exact ⟨by simp only [PItem.WF], by simp only [PItem.Fits]; exact (fmtDec_ok clipFmt rfl er).1⟩
    · -- knot
      rename_i hk
      obtain ⟨⟨r, p2⟩, er, h⟩ := bind_ok h
      cases h
      exact ⟨by simp only [PItem.WF]; exact hk, by simp only [PItem.Fits]; exact ⟨hsel, (fmtDec_ok knotFmt rfl er).1⟩⟩
    · -- subpath
      rename_i hk
      obtain ⟨⟨n, p2⟩, en, h⟩ := bind_ok h
      obtain ⟨⟨hd, p3⟩, eh, h⟩ := bind_ok h
      obtain ⟨⟨it, p4⟩, ei, h⟩ := bind_ok h
      cases h
      obtain ⟨f1, w1, _⟩ := fmtDec_ok subFmt rfl eh
      obtain ⟨hl, hall⟩ := readCount_all (PItem.decFuel_ok fuel) ei
      obtain ⟨wl, fl⟩ := PItem.lists_of_mem _ hall
      have hcnt : FitsU 2 it.length := by simp only [FitsU, hl]; exact (readU_ok en).1
      exact ⟨by simp only [PItem.WF]; exact ⟨hk, w1, wl⟩, by simp only [PItem.Fits]; exact ⟨hsel, hcnt, f1, fl⟩⟩

theorem PItem.decOK : DecOK PItem.codec := fun d p v p' hd =>
  PItem.decFuel_ok (d.length + 1) (show PItem.decFuel (d.length + 1) d p = .ok (v, p') from hd)

theorem Path.items_ok {d : B} {p : Nat} {xs : List PItem} {p' : Nat}
    (hd : readWhile (isReadable 26) (optItem PItem.dec) d p = .ok (xs, p')) : PItem.WFList xs ∧ PItem.FitsList xs :=
  PItem.lists_of_mem _ (readWhile_all (fun {d q x q'} e => PItem.decOK d q x q' e) hd)

/-- `Path` as its callers use it (padding 1 or 4) -/
theorem Path.decOK (pad : Nat) (hp : 0 < pad ∧ pad ≤ 26) : DecOK (Path.codec pad) := by
  intro d p xs p' hd
  obtain ⟨a, b⟩ := Path.items_ok (show readWhile (isReadable 26) (optItem PItem.dec) d p = .ok (xs, p') from hd)
  exact ⟨⟨a, hp⟩, b⟩

theorem VectorMaskSetting.decOK : DecOK VectorMaskSetting.codec := fun d p =>
  show Rets (VectorMaskSetting.dec d p) _ from
  (rets_fmtDec rfl).bind fun _ _ head => Rets.guard fun h3 => Rets.bind (fun _ _ e => Path.items_ok e) fun _ _ path =>
  Rets.ok ⟨⟨h3, path.1⟩, head.1, path.2⟩

/-- the two bytes of the compression are part of the length block: what follows them is shorter than the block -/
theorem fits_drop2 {data : B} (hlen : data.length < 256 ^ 8) (h2 : 0 + 2 ≤ data.length) :
    FitsU 8 (2 + (data.drop 2).length) := by
  simp only [FitsU, List.length_drop]
  omega

theorem FEChannel.decOK : DecOK FEChannel.codec := fun d p =>
  show Rets (FEChannel.dec d p) _ from
  rets_readU.bind fun _ _ iw => Rets.ite
    (fun h0 => Rets.ok ⟨fun _ => rfl, iw, fun hne => absurd h0 hne⟩)
    fun h0 => rets_readLenBlock.bind fun _ _ hlen => Rets.ite
      (fun _ => Rets.ok ⟨fun _ => rfl, iw, fun _ => trivial⟩)
      fun _ => rets_readU_inside.bind fun _ _ c =>
        Rets.ok ⟨fun h => absurd h h0, iw, fun _ => ⟨c.1, fits_drop2 hlen c.2⟩⟩

theorem FEExtra.decOK : DecOK FEExtra.codec := fun d p =>
  show Rets (FEExtra.dec d p) _ from
  rets_readU.bind fun _ _ iw => Rets.ite
    (fun h0 => Rets.ok ⟨fun _ => ⟨rfl, rfl, rfl⟩, iw, fun hne => absurd h0 hne⟩)
    fun h0 =>
      (rets_fmtDec rfl).bind fun _ _ rect =>
      rets_readLenBlock.bind fun _ _ hlen =>
      rets_readU_inside.bind fun _ _ c =>
      Rets.ok ⟨fun h => absurd h h0, iw, fun _ => ⟨rect.1, c.1, fits_drop2 hlen c.2⟩⟩

theorem FEBody.decOK : DecOK FEBody.codec := fun d p =>
  show Rets (FEBody.codec.dec d p) _ from
  (rets_fmtDec rfl).bind fun _ _ rect =>
  (rets_fmtDec rfl).bind fun _ _ dm =>
  (rets_readCount fun {d q} => FEChannel.decOK d q).bind fun _ _ chs =>
  Rets.ok ⟨⟨chs.1, fun c hc => (chs.2 c hc).1⟩, rect.1, dm.1, fun c hc => (chs.2 c hc).2⟩

/-- the side condition of the filter effects: the re-encoded body of every `Q` length block fits its 8-byte length field -/
def FilterEffect.LenFits (v : FilterEffect) : Prop := FitsU 8 (FEBody.codec.encT v.2.2.1).length

theorem FilterEffect.decOKIf : DecOKIf FilterEffect.codec FilterEffect.LenFits :=
  (seq_decOKIf ((checked_decOK (pascal_decOK 1 1)).toIf (fun _ => True))
    (seq_decOKIf ((checked_decOK (rec_decOK _ rfl)).toIf (fun _ => True))
      (seq_decOKIf (blocked_decOKIf 8 1 (FEBody.decOK.toIf (fun _ => True))) ((optTail_decOK FEExtra.decOK).toIf (fun _ => True))))).mono
    (fun _ h => ⟨trivial, trivial, ⟨trivial, h⟩, trivial⟩)

def FilterEffects.LenFits (v : Row × List FilterEffect) : Prop :=
  ∀ e ∈ v.2, FilterEffect.LenFits e ∧ FitsU 8 (FilterEffect.codec.encT e).length

theorem FilterEffects.decOKIf : DecOKIf FilterEffects.codec FilterEffects.LenFits :=
  (seq_decOKIf ((checked_decOK (rec_decOK _ rfl)).toIf (fun _ => True))
    (whileR_decOKIf 8 1 (blocked_decOKIf 8 4 FilterEffect.decOKIf))).mono (fun _ h => ⟨trivial, h⟩)

end PsdVerif.Payload3
