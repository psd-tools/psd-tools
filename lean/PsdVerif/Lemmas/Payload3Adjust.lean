/-
C01 payload classes — the laws of the adjustment payloads of Model/Payload3Adjust.lean.
-/
import PsdVerif.Lemmas.Payload3Resources
import PsdVerif.Model.Payload3Adjust

namespace PsdVerif.Payload3
open PsdVerif.Codec PsdVerif.Payload

/-! ## the flat classes -/

theorem BrightnessContrast.rt : BrightnessContrast.codec.RtAnywhere := rec_rt _ rfl
theorem BrightnessContrast.count : BrightnessContrast.codec.Count := rec_count _

theorem ColorBalance.rt : ColorBalance.codec.RtAnywhere :=
  padded_rt 4 (seq_rt (rec_rt _ rfl) (rec_tight _) (seq_rt (rec_rt _ rfl) (rec_tight _) (seq_rt (rec_rt _ rfl) (rec_tight _) (rec_rt _ rfl))))
theorem ColorBalance.count : ColorBalance.codec.Count :=
  padded_count 4 (seq_count (rec_count _) (seq_count (rec_count _) (seq_count (rec_count _) (rec_count _))))

theorem ChannelMixer.rt : ChannelMixer.codec.RtAtEnd :=
  checked_rt_end (seq_rt_end (rec_rt _ rfl) (rec_tight _) (seq_rt_end (rec_rt _ rfl) (rec_tight _) tailBytes_rt))
theorem ChannelMixer.count : ChannelMixer.codec.Count :=
  checked_count (seq_count (rec_count _) (seq_count (rec_count _) tailBytes_count))

theorem Exposure.rt (pad : Nat) : (Exposure.codec pad).RtAnywhere := padded_rt pad (rec_rt _ rfl)
theorem Exposure.count (pad : Nat) : (Exposure.codec pad).Count := padded_count pad (rec_count _)

theorem HueSaturation.item_rt : HueSaturation.itemCodec.RtAnywhere := seq_rt (rec_rt _ rfl) (rec_tight _) (rec_rt _ rfl)
theorem HueSaturation.item_tight : Tight HueSaturation.itemCodec := seq_tight (rec_tight _)
theorem HueSaturation.item_count : HueSaturation.itemCodec.Count := seq_count (rec_count _) (rec_count _)

theorem HueSaturation.rt : HueSaturation.codec.RtAnywhere :=
  padded_rt 4 (seq_rt (checked_rt (rec_rt _ rfl)) (checked_tight (rec_tight _))
    (seq_rt (rec_rt _ rfl) (rec_tight _) (seq_rt (rec_rt _ rfl) (rec_tight _)
      (exactly_rt 6 HueSaturation.item_rt HueSaturation.item_tight))))
theorem HueSaturation.count : HueSaturation.codec.Count :=
  padded_count 4 (seq_count (checked_count (rec_count _)) (seq_count (rec_count _) (seq_count (rec_count _)
    (exactly_count 6 HueSaturation.item_count))))

theorem LevelRecord.rt : LevelRecord.codec.RtAnywhere := rec_rt _ rfl
theorem LevelRecord.count : LevelRecord.codec.Count := rec_count _

theorem SelectiveColor.rt : SelectiveColor.codec.RtAnywhere :=
  checked_rt (seq_rt (rec_rt _ rfl) (rec_tight _) (exactly_rt 10 (rec_rt _ rfl) (rec_tight _)))
theorem SelectiveColor.count : SelectiveColor.codec.Count :=
  checked_count (seq_count (rec_count _) (exactly_count 10 (rec_count _)))

theorem ColorStop.rt : ColorStop.codec.RtAnywhere := rec_rt _ rfl
theorem ColorStop.count : ColorStop.codec.Count := rec_count _
theorem TransparencyStop.rt : TransparencyStop.codec.RtAnywhere := rec_rt _ rfl
theorem TransparencyStop.count : TransparencyStop.codec.Count := rec_count _

/-! ## rows of records -/

/-- `for _ in range(n): read_fmt(fmt)` over the rows `write_fmt` wrote one after the other -/
theorem rows_step {fs : List FI} (hok : fs.all FI.ok = true) (rows : List Row) (hf : listFits (fmtFits fs) rows)
    (hw : ∀ r ∈ rows, fmtWF fs r) {d : B} {p : Nat} {rest : B} (h : At d p (listT (fmtT fs) rows ++ rest)) :
    readCount (fmtDec fs) rows.length d p = .ok (rows, p + (listT (fmtT fs) rows).length) ∧
      At d (p + (listT (fmtT fs) rows).length) rest :=
  readCount_step (fmtDec fs) (fmtT fs) rows
    (fun r hr _ _ hat => (fmt_step' hok (hf r hr) (hw r hr) hat.nil_right).1) h

theorem rowsP_eq (fs : List FI) (rows : List Row) :
    wList (fun r => wBytes (fmtT fs r)) rows = (listT (fmtT fs) rows, (listT (fmtT fs) rows).length) :=
  wList_eq _ (fmtT fs) rows (fun _ _ => rfl)

theorem plain_rows {fs : List FI}
    (hp : fs.all (fun i => match i with | .fld .q => false | .fld (.str _) => false | _ => true) = true) (rows : List Row) :
    ∀ r ∈ rows, fmtWF fs r := fun r _ => fmtWF_of_plain fs r hp

namespace Levels

theorem encP_eq (x : Levels) : x.encP = (x.encT, x.encT.length) := by
  obtain ⟨v, ev, items⟩ := x
  cases ev with
  | none =>
    simp only [encP, encT, bodyT, trailerT, rowsP_eq]
    simp only [wBytes_eq, wSeq_eq, wPad_eq, List.append_nil]
  | some e =>
    simp only [encP, encT, bodyT, trailerT, rowsP_eq]
    simp only [wBytes_eq, wSeq_eq, wPad_eq, List.append_assoc]

theorem rt : codec.RtAtEnd := by
  intro x hwf hf d p h hend
  obtain ⟨version, ev, items⟩ := x
  obtain ⟨hv, hv2, h29, hev⟩ := hwf
  obtain ⟨f1, f2, f3⟩ := hf
  simp only at hv hv2 h29 hev f1 f2 f3
  subst hv2
  -- the version and the first 29 records, whatever follows
  simp only [codec, encT, bodyT, List.append_assoc] at h hend ⊢
  obtain ⟨e1, h1⟩ := readU_step h f1
  obtain ⟨e2, h2⟩ := rows_step (fs := LevelRecord.fmt) rfl (items.take 29) f2 (plain_rows rfl _) h1
  rw [show (items.take 29).length = 29 by simp only [List.length_take]; omega] at e2
  simp only [List.length_append, length_beBytes, length_zeros] at hend ⊢
  cases ev with
  | none =>
    simp only at hev
    have ht : trailerT ⟨2, none, items⟩ = [] := rfl
    simp only [ht, List.length_nil, Nat.add_zero] at hend ⊢
    have hlt := padAmount_lt (2 + (listT (fmtT LevelRecord.fmt) (items.take 29)).length) 4 (by decide)
    have r6 : isReadable 6 d (p + 2 + (listT (fmtT LevelRecord.fmt) (List.take 29 items)).length) = false :=
      isReadable_false (by omega)
    simp only [dec, bind, Except.bind, e1, if_true, e2, r6, Bool.false_eq_true, if_false, if_pos hv]
    simp only [List.take_of_length_le (Nat.le_of_eq hev), Nat.add_assoc]
  | some e =>
    simp only at hev f3
    subst hev
    obtain ⟨_, f4, f5⟩ := f3
    have ht : trailerT ⟨2, some 3, items⟩ = sigLvls ++ (beBytes 2 3 ++ (beBytes 2 items.length ++
        listT (fmtT LevelRecord.fmt) (extraItems ⟨2, some 3, items⟩))) := rfl
    simp only [ht, List.append_assoc] at h2 hend ⊢
    have r6 : isReadable 6 d (p + 2 + (listT (fmtT LevelRecord.fmt) (List.take 29 items)).length) = true :=
      isReadable_of_at h2 (by simp only [List.length_append, length_beBytes, sigLvls, List.length_cons, List.length_nil]; omega)
    obtain ⟨e3, h3⟩ := readN_step (n := 4) h2 rfl
    obtain ⟨e4, h4⟩ := readU_step h3 (by decide : 3 < 256 ^ 2)
    obtain ⟨e5, h5⟩ := readU_step h4 f4
    obtain ⟨e6, _⟩ := rows_step (fs := LevelRecord.fmt) rfl _ f5 (plain_rows rfl _) h5
    rw [show (extraItems ⟨2, some 3, items⟩).length = items.length - 29 by simp only [extraItems, List.length_drop]] at e6
    have hjoin : items.take 29 ++ extraItems ⟨2, some 3, items⟩ = items := List.take_append_drop 29 items
    simp only [dec, bind, Except.bind, e1, if_true, e2, r6, e3, e4, e5, e6, if_pos hv, hjoin]
    simp only [List.length_append, length_beBytes, sigLvls, List.length_cons, List.length_nil, Except.ok.injEq, Prod.mk.injEq,
      true_and]
    omega

theorem count : codec.Count := encP_eq

end Levels

namespace PhotoFilter

theorem encP_eq (x : PhotoFilter) : x.encP = (x.encT, x.encT.length) := by
  simp only [encP, encT, bodyT]
  split <;> simp only [wBytes_eq, wSeq_eq, wPad_eq, List.append_assoc]

theorem rt : codec.RtAnywhere := by
  intro x hwf hf d p h
  obtain ⟨version, xyz, color, tail⟩ := x
  obtain ⟨hv, hshape⟩ := hwf
  obtain ⟨f1, f2, f3⟩ := hf
  simp only [codec, encT, bodyT, List.append_assoc] at hv hshape f1 f2 f3 h ⊢
  obtain ⟨e1, h1⟩ := readU_step h f1
  by_cases h3 : version = 3
  · simp only [if_pos h3] at f2 hshape h1 ⊢
    obtain ⟨e2, h2⟩ := fmt_step' (fs := xyzFmt) rfl f2 (fmtWF_of_plain _ _ rfl) h1
    obtain ⟨e3, _⟩ := fmt_step' (fs := tailFmt) rfl f3 (fmtWF_of_plain _ _ rfl) h2
    simp only [dec, bind, Except.bind, e1, if_pos hv, if_pos h3, e2, e3, hshape]
    simp only [List.length_append, length_beBytes, Nat.add_assoc]
  · simp only [if_neg h3] at f2 hshape h1 ⊢
    obtain ⟨e2, h2⟩ := fmt_step' (fs := colorFmt) rfl f2 (fmtWF_of_plain _ _ rfl) h1
    obtain ⟨e3, _⟩ := fmt_step' (fs := tailFmt) rfl f3 (fmtWF_of_plain _ _ rfl) h2
    simp only [dec, bind, Except.bind, e1, if_pos hv, if_neg h3, e2, e3, hshape]
    simp only [List.length_append, length_beBytes, Nat.add_assoc]

theorem count : codec.Count := encP_eq

end PhotoFilter

namespace GradientMap

theorem head_rt : head.RtAnywhere := by
  intro v hwf hf d p h
  obtain ⟨hv, hm⟩ := hwf
  simp only [head] at h hf hv hm ⊢
  by_cases h3 : v.1.int 0 = 3
  · simp only [if_pos h3] at h hm ⊢
    rw [packS_of_length hm] at h
    obtain ⟨e1, h⟩ := fmt_step' (fs := headFmt) rfl hf (fmtWF_of_plain _ _ rfl) h
    obtain ⟨e2, _⟩ := readN_step h.nil_right hm
    simp only [bind, Except.bind, e1, if_pos hv, if_pos h3, e2, Nat.add_assoc]
  · simp only [if_neg h3, List.append_nil] at h hm ⊢
    obtain ⟨e1, _⟩ := fmt_step' (fs := headFmt) rfl hf (fmtWF_of_plain _ _ rfl) h.nil_right
    simp only [bind, Except.bind, e1, if_pos hv, if_neg h3, ← hm, Nat.add_zero]

theorem head_tight : Tight head := by
  intro v _
  simp only [head]
  split <;> simp only [List.length_append, length_packS, List.append_nil, Nat.add_zero]

theorem head_count : head.Count := by
  intro v
  simp only [head]
  split <;> simp only [wBytes_eq, wSeq_eq, List.append_nil]

theorem expansion_rt : expansion.RtAnywhere := checked_rt (rec_rt _ rfl)
theorem expansion_tight : Tight expansion := checked_tight (rec_tight _)
theorem expansion_count : expansion.Count := checked_count (rec_count _)

theorem rt : codec.RtAnywhere :=
  padded_rt 4 (checked_rt
    (seq_rt head_rt head_tight (seq_rt ustr_rt ustr_tight (seq_rt (counted_rt 2 ColorStop.rt (rec_tight _)) (counted_tight 2)
      (seq_rt (counted_rt 2 TransparencyStop.rt (rec_tight _)) (counted_tight 2)
        (seq_rt expansion_rt expansion_tight (seq_rt (rec_rt _ rfl) (rec_tight _) (seq_rt (rec_rt _ rfl) (rec_tight _)
          (seq_rt (rec_rt _ rfl) (rec_tight _) (seq_rt (rec_rt _ rfl) (rec_tight _) (rec_rt _ rfl)))))))))))

theorem count : codec.Count :=
  padded_count 4 (checked_count
    (seq_count head_count (seq_count ustr_count (seq_count (counted_count 2 ColorStop.count)
      (seq_count (counted_count 2 TransparencyStop.count) (seq_count expansion_count (seq_count (rec_count _)
        (seq_count (rec_count _) (seq_count (rec_count _) (seq_count (rec_count _) (rec_count _)))))))))))

end GradientMap

namespace ColorLookup
open Descriptor
variable (tb : Descriptor.Tables)

theorem encP_eq (pad : Nat) (b : Block2) : encP tb pad b = (encT tb pad b, (encT tb pad b).length) := by
  simp only [encP, encT, bodyT, bodyW_eq, wBytes_eq, wSeq_eq, wPad_eq, List.append_assoc]

theorem rt (pad : Nat) : (codec tb pad).RtAnywhere := by
  intro b hwf hf d p h
  obtain ⟨hv, hnm, hcid, hnd, hitems⟩ := hwf
  obtain ⟨fv, fdv, fnm, fcid, flen, fitems⟩ := hf
  simp only [codec, encT, bodyT, List.append_assoc] at h ⊢
  obtain ⟨r0, h⟩ := readU_step h fv.2
  have fdv' : b.dataVersion.toNat < 256 ^ 4 := by unfold FitsU32 at fdv; omega
  obtain ⟨r0', h⟩ := readU_step h fdv'
  obtain ⟨r1, _⟩ := readBody_step hnm fnm hcid fcid flen hnd hitems fitems h
  unfold dec
  rw [rbind_ok r0, rbind_ok r0', rbind_ok r1]
  have h16 : b.dataVersion.toNat = 16 := by omega
  simp only [h16, if_true, rpure_eq]
  obtain ⟨ver, dv, nm, cid, items⟩ := b
  simp only at hv fv h16 ⊢
  subst hv
  have e1 : ((ver.toNat : Nat) : Int) = ver := Int.toNat_of_nonneg fv.1
  simp only [e1, List.length_append, length_beBytes, Nat.add_assoc]
  rfl

theorem count (pad : Nat) : (codec tb pad).Count := encP_eq tb pad

end ColorLookup

end PsdVerif.Payload3
