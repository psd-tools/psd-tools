/-
Positional numerals, byte values and one list-length fact, shared by the codec lemmas. Core Lean only.
-/

namespace PsdVerif

/-- Core's `UInt8.toNat_ofNat'` with the modulus written `256`, the form `Nat.mod_mod` and `digit` meet. -/
theorem toNat_ofNat (x : Nat) : (UInt8.ofNat x).toNat = x % 256 := UInt8.toNat_ofNat'

/-- A base-`b` digit of `c` and the digits above it. -/
theorem digit (b c m : Nat) : c / (m * b) * b + c / m % b = c / m := by
  rw [← Nat.div_div_eq_div_mul, Nat.div_add_mod']

theorem length_flatMap_const {α β : Type} (f : α → List β) (c : Nat) :
    ∀ l : List α, (∀ a ∈ l, (f a).length = c) → (l.flatMap f).length = l.length * c := by
  intro l
  induction l with
  | nil => intro _; simp
  | cons a l ih =>
    intro h
    simp only [List.flatMap_cons, List.length_append, List.length_cons]
    rw [h a (by simp), ih (fun x hx => h x (by simp [hx])), Nat.add_mul]; omega

end PsdVerif
