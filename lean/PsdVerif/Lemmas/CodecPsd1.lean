/-
Round-trip and count laws of the skeleton parts: header, colour mode data, image resources,
tagged blocks.
-/
import PsdVerif.Lemmas.Codec
import PsdVerif.Model.Psd

namespace PsdVerif.Psd
open PsdVerif.Codec

/-! ## header -/

theorem Header.fits_of_valid {h : Header} (hv : h.Valid) : h.Fits := by
  obtain ⟨_, h2, ⟨_, h3⟩, ⟨_, h4⟩, ⟨_, h5⟩, h6, h7⟩ := hv
  have a : ∀ x ∈ G.headerVersions, x < 256 ^ 2 := by decide
  have b : G.channelsMax < 256 ^ 2 := by decide
  have c : G.heightMax < 256 ^ 4 := by decide
  have e : G.widthMax < 256 ^ 4 := by decide
  have f : ∀ x ∈ G.headerDepths, x < 256 ^ 2 := by decide
  have g : ∀ x ∈ G.colorModes, x < 256 ^ 2 := by decide
  refine ⟨a _ h2, ?_, ?_, ?_, f _ h6, g _ h7⟩ <;> unfold FitsU <;> omega

theorem Header.length_encT (h : Header) : h.encT.length = 26 := by
  simp [Header.encT, length_pack4s, length_beBytes, length_zeros]

theorem Header.dec_at {h : Header} (hv : h.Valid) {d : B} {p : Nat} (hat : At d p h.encT) :
    Header.dec d p = .ok (h, p + h.encT.length) := by
  obtain ⟨f1, f2, f3, f4, f5, f6⟩ := Header.fits_of_valid hv
  have hs : pack4s h.signature = h.signature := by
    apply pack4s_of_length; rw [hv.1]; decide
  rw [Header.length_encT]
  simp only [Header.encT, List.append_assoc] at hat
  obtain ⟨e1, hat⟩ := readN_step hat (length_pack4s _)
  obtain ⟨e2, hat⟩ := readU_step hat f1
  obtain ⟨e3, hat⟩ := readN_step hat (length_zeros 6)
  obtain ⟨e4, hat⟩ := readU_step hat f2
  obtain ⟨e5, hat⟩ := readU_step hat f3
  obtain ⟨e6, hat⟩ := readU_step hat f4
  obtain ⟨e7, hat⟩ := readU_step hat f5
  have e8 := readU_at hat f6
  simp only [Header.dec, bind, Except.bind, e1, e2, e3, e4, e5, e6, e7, e8, hs]
  rw [if_pos hv]

theorem Header.encP_eq (h : Header) : h.encP = (h.encT, h.encT.length) := rfl

/-! ## colour mode data -/

theorem colorModeDec_at {v : B} (hf : FitsU 4 v.length) {d : B} {p : Nat} (hat : At d p (colorModeT v)) :
    colorModeDec d p = .ok (v, p + (colorModeT v).length) :=
  readLenBlock_at hat hf (by decide)

theorem colorModeP_eq (v : B) : colorModeP v = (colorModeT v, (colorModeT v).length) := by
  simp only [colorModeP, colorModeT, wBytes_eq, wLenBlock_eq]

/-! ## image resources -/

theorem Resource.length_encT (r : Resource) :
    r.encT.length = 4 + 2 + (pascalT 2 r.name).length + (lenBlockT 0 4 2 r.data).length := by
  simp only [Resource.encT, List.length_append, length_pack4s, length_beBytes]

theorem Resource.length_ge (r : Resource) : 11 ≤ r.encT.length := by
  rw [Resource.length_encT, length_pascalT, length_lenBlockT]; omega

theorem Resource.dec_at {r : Resource} (hwf : r.WF) {d : B} {p : Nat} (hat : At d p r.encT) :
    Resource.dec d p = .ok (r, p + r.encT.length) := by
  obtain ⟨hsig, f1, f2, f3⟩ := hwf
  have hl : ∀ s ∈ G.resourceSignatures, s.length = 4 := by decide
  have hs : pack4s r.signature = r.signature := pack4s_of_length (hl _ hsig)
  rw [Resource.length_encT]
  simp only [Resource.encT, List.append_assoc] at hat
  obtain ⟨e1, hat⟩ := readN_step hat (length_pack4s _)
  obtain ⟨e2, hat⟩ := readU_step hat f1
  obtain ⟨e3, hat⟩ := readPascal_step hat f2
  have e4 := readLenBlock_at hat f3 (by decide)
  simp only [Resource.dec, bind, Except.bind, e1, e2, e3, e4, hs]
  rw [if_pos hsig]
  simp only [Nat.add_assoc]

theorem Resource.encP_eq (r : Resource) : r.encP = (r.encT, r.encT.length) := by
  simp only [Resource.encP, Resource.encT, wBytes_eq, wPascal_eq, wLenBlock_eq, wSeq_eq]

theorem resourcesP_eq (rs : List Resource) : resourcesP rs = (resourcesT rs, (resourcesT rs).length) := by
  simp only [resourcesP, resourcesT, resourcesBodyT, wList_eq Resource.encP Resource.encT rs (fun r _ => r.encP_eq),
    wLenBlock_eq]

theorem resourcesDec_at {rs : List Resource} (hwf : resourcesWF rs) {d : B} {p : Nat} (hat : At d p (resourcesT rs)) :
    resourcesDec d p = .ok (rs, p + (resourcesT rs).length) := by
  obtain ⟨hall, hnd, hf⟩ := hwf
  have e1 := readLenBlock_at hat hf (by decide)
  have e2 : readWhile (isReadable 4) (optItem Resource.dec) (resourcesBodyT rs) 0 =
      .ok (rs, 0 + (resourcesBodyT rs).length) :=
    readWhile_isReadable_opt (by decide) (fun r hr _ _ hq => Resource.dec_at (hall r hr) hq)
      (fun r _ => by have := r.length_ge; omega) (At.self _) (by unfold resourcesBodyT; omega)
  unfold resourcesT at e1
  simp only [resourcesDec, bind, Except.bind, resourcesT, e1, e2, odict_of_nodup Resource.key rs hnd]

/-! ## tagged blocks -/

theorem TaggedBlock.length_encT (v pad : Nat) (t : TaggedBlock) :
    (t.encT v pad).length = 4 + 4 + (lenBlockT 0 (tbLenW v t.key) pad t.data).length := by
  simp only [TaggedBlock.encT, List.length_append, length_pack4s]

theorem tbLenW_ge (v : Nat) (k : B) : 4 ≤ tbLenW v k := by unfold tbLenW; split <;> omega

theorem tbLenW_mod (v : Nat) (k : B) (pad : Nat) (hp : pad = 1 ∨ pad = 2 ∨ pad = 4) :
    (0 + tbLenW v k) % pad = 0 := by
  unfold tbLenW; split <;> rcases hp with h | h | h <;> subst h <;> rfl

theorem TaggedBlock.length_ge (v pad : Nat) (t : TaggedBlock) : 12 ≤ (t.encT v pad).length := by
  have := tbLenW_ge v t.key
  rw [TaggedBlock.length_encT, length_lenBlockT]; omega

theorem TaggedBlock.dec_at {v pad : Nat} (hp : pad = 1 ∨ pad = 2 ∨ pad = 4) {t : TaggedBlock} (hwf : t.WF v)
    {d : B} {p : Nat} (hat : At d p (t.encT v pad)) :
    TaggedBlock.dec v pad d p = .ok (some t, p + (t.encT v pad).length) := by
  obtain ⟨hsig, hk, hf⟩ := hwf
  have hl : ∀ s ∈ G.blockSignatures, s.length = 4 := by decide
  have hs : pack4s t.signature = t.signature := pack4s_of_length (hl _ hsig)
  have hk' : pack4s t.key = t.key := pack4s_of_length hk
  rw [TaggedBlock.length_encT]
  simp only [TaggedBlock.encT, List.append_assoc, hs, hk'] at hat
  obtain ⟨e1, hat⟩ := readN_step hat (hl _ hsig)
  obtain ⟨e2, hat⟩ := readN_step hat hk
  have e3 := readLenBlock_at hat hf (tbLenW_mod v t.key pad hp)
  simp only [TaggedBlock.dec, bind, Except.bind, e1, if_pos hsig, e2, e3]
  simp only [Nat.add_assoc]

theorem TaggedBlock.encP_eq (v pad : Nat) (t : TaggedBlock) : t.encP v pad = (t.encT v pad, (t.encT v pad).length) := by
  simp only [TaggedBlock.encP, TaggedBlock.encT, wBytes_eq, wLenBlock_eq, wSeq_eq]

theorem taggedBlocksP_eq (v pad : Nat) (ts : List TaggedBlock) :
    taggedBlocksP v pad ts = (taggedBlocksT v pad ts, (taggedBlocksT v pad ts).length) := by
  simp only [taggedBlocksP, taggedBlocksT,
    wList_eq (TaggedBlock.encP v pad) (TaggedBlock.encT v pad) ts (fun t _ => t.encP_eq v pad)]

/-- inside a block list that ends by `E` the loop of `TaggedBlocks.read` goes on: at least 8 bytes are left and `end_pos`
is not reached -/
theorem taggedCond_inside {endPos : Option Nat} {d bs : B} {q E : Nat} (hq : At d q bs) (h8 : 8 ≤ bs.length)
    (hend : ∀ e, endPos = some e → E ≤ e) (hle : q + bs.length ≤ E) : taggedCond endPos d q = true := by
  unfold taggedCond
  rw [isReadable_of_at hq h8]
  cases hE : endPos with
  | none => rfl
  | some e =>
    have := hend e hE
    simp only [Bool.true_and, decide_eq_true_eq]; omega

/-- `TaggedBlocks.read` returns the written blocks when the loop condition fails right after them:
fewer than 8 bytes left in the stream, or `end_pos` reached. -/
theorem taggedBlocksDec_at {v pad : Nat} (hp : pad = 1 ∨ pad = 2 ∨ pad = 4) {ts : List TaggedBlock}
    (hwf : taggedBlocksWF v ts) (endPos : Option Nat) {d : B} {p : Nat} (hat : At d p (taggedBlocksT v pad ts))
    (hend : ∀ e, endPos = some e → p + (taggedBlocksT v pad ts).length ≤ e)
    (hstop : taggedCond endPos d (p + (taggedBlocksT v pad ts).length) = false) :
    taggedBlocksDec v pad endPos d p = .ok (ts, p + (taggedBlocksT v pad ts).length) := by
  obtain ⟨hall, hnd⟩ := hwf
  have e1 : readWhile (taggedCond endPos) (TaggedBlock.dec v pad) d p =
      .ok (ts, p + (taggedBlocksT v pad ts).length) := by
    apply readWhile_at_le (taggedCond endPos) (TaggedBlock.dec v pad) (TaggedBlock.encT v pad) ts
      (p + (taggedBlocksT v pad ts).length) _ _ hat (Nat.le_refl _) hstop
    · intro t ht q hq hle
      exact ⟨taggedCond_inside hq (Nat.le_trans (by decide) (t.length_ge v pad)) hend hle, TaggedBlock.dec_at hp (hall t ht) hq⟩
    · intro t _; have := t.length_ge v pad; omega
  simp only [taggedBlocksDec, bind, Except.bind, e1, odict_of_nodup TaggedBlock.key ts hnd]

end PsdVerif.Psd
