/-
C06 — linear cost of the counting interpreter: the accounting framework.

Weight `w = ticks + alloc`. Potential `pot a d p = a * (remaining bytes)`. A reader PAYS with coefficient `a`
and constant `b` when

  success at `p'`:  `p ≤ p'`  and  `w + credit + pot a d p' ≤ pot a d p + b`
  failure:          `w ≤ pot a d p + b`

(the cost is kept on failure, so both outcomes are bounded). `credit` is what a reader hands to its
continuation: `readLenBlockC` returns a block `x` having advanced by more than `x.length`, and the nested
run on `x` (`with io.BytesIO(x)`) is paid from that. Budgets subtract along a `do` block.
-/
import PsdVerif.Lemmas.SafeCost1
import PsdVerif.Lemmas.Safe2

namespace PsdVerif.SafeCost
open PsdVerif PsdVerif.Codec PsdVerif.Psd PsdVerif.PsdCost PsdVerif.Safe

def pot (a : Nat) (d : B) (p : Nat) : Nat := a * (d.length - p)

theorem pot_anti (a : Nat) (d : B) {p q : Nat} (h : p ≤ q) : pot a d q ≤ pot a d p :=
  Nat.mul_le_mul_left a (by omega)

theorem pot_add (a j : Nat) (d : B) (p : Nat) : pot (a + j) d p = pot a d p + pot j d p := by
  unfold pot; exact Nat.add_mul ..

/-- moving `k` bytes forward inside the stream releases `a * k` -/
theorem pot_split (a : Nat) (d : B) {p q k : Nat} (hq : q = p + k) (hl : q ≤ d.length) :
    pot a d p = pot a d q + a * k := by
  unfold pot
  rw [← Nat.mul_add]
  congr 1
  omega

theorem pot_one (d : B) (p : Nat) : pot 1 d p = d.length - p := by unfold pot; omega

theorem w_add (x y : Cost) : (x + y).w = x.w + y.w := by
  show (x.ticks + y.ticks) + (x.alloc + y.alloc) = (x.ticks + x.alloc) + (y.ticks + y.alloc)
  omega

theorem w_zero : Cost.zero.w = 0 := rfl

def PaysCr {β : Type} (a b : Nat) (d : B) (p : Nat) (x : CE (β × Nat)) (cr : β → Nat) : Prop :=
  match x.1 with
  | .ok (v, p') => p ≤ p' ∧ x.2.w + cr v + pot a d p' ≤ pot a d p + b
  | .error _ => x.2.w ≤ pot a d p + b

abbrev Pays {β : Type} (a b : Nat) (d : B) (p : Nat) (x : CE (β × Nat)) : Prop := PaysCr a b d p x (fun _ => 0)

def Spend {γ : Type} (a b : Nat) (d : B) (p : Nat) (x : CE γ) : Prop := x.2.w ≤ pot a d p + b

theorem PaysCr.of_ok {β : Type} {a b : Nat} {d : B} {p : Nat} {x : CE (β × Nat)} {cr : β → Nat} {v : β} {p' : Nat}
    (h : PaysCr a b d p x cr) (hx : x.1 = .ok (v, p')) : p ≤ p' ∧ x.2.w + cr v + pot a d p' ≤ pot a d p + b := by
  unfold PaysCr at h; rw [hx] at h; exact h

theorem PaysCr.of_error {β : Type} {a b : Nat} {d : B} {p : Nat} {x : CE (β × Nat)} {cr : β → Nat} {e : Err}
    (h : PaysCr a b d p x cr) (hx : x.1 = .error e) : x.2.w ≤ pot a d p + b := by
  unfold PaysCr at h; rw [hx] at h; exact h

theorem PaysCr.intro {β : Type} {a b : Nat} {d : B} {p : Nat} {x : CE (β × Nat)} {cr : β → Nat}
    (hok : ∀ v p', x.1 = .ok (v, p') → p ≤ p' ∧ x.2.w + cr v + pot a d p' ≤ pot a d p + b)
    (herr : ∀ e, x.1 = .error e → x.2.w ≤ pot a d p + b) : PaysCr a b d p x cr := by
  unfold PaysCr
  cases hx : x.1 with
  | error e => exact herr e hx
  | ok y => obtain ⟨v, p'⟩ := y; exact hok v p' hx

theorem PaysCr.spend {β : Type} {a b : Nat} {d : B} {p : Nat} {x : CE (β × Nat)} {cr : β → Nat}
    (h : PaysCr a b d p x cr) : Spend a b d p x := by
  unfold Spend
  cases hx : x.1 with
  | error e => exact h.of_error hx
  | ok y =>
    obtain ⟨v, p'⟩ := y
    have := h.of_ok hx
    omega

theorem PaysCr.mono {β : Type} {a a' b b' : Nat} {d : B} {p : Nat} {x : CE (β × Nat)} {cr : β → Nat}
    (h : PaysCr a' b' d p x cr) (ha : a' ≤ a) (hb : b' ≤ b) : PaysCr a b d p x cr := by
  obtain ⟨j, rfl⟩ := Nat.exists_eq_add_of_le ha
  refine PaysCr.intro (fun v p' hx => ?_) (fun e hx => ?_)
  · have h1 := h.of_ok hx
    have h2 := pot_anti j d h1.1
    rw [pot_add, pot_add]
    exact ⟨h1.1, by omega⟩
  · have h1 := h.of_error hx
    rw [pot_add]
    omega

theorem PaysCr.weaken {β : Type} {a b b' : Nat} {d : B} {p : Nat} {x : CE (β × Nat)} {cr cr' : β → Nat}
    (h : PaysCr a b d p x cr) (hcr : ∀ v, cr' v ≤ cr v) (hb : b ≤ b') : PaysCr a b' d p x cr' := by
  refine PaysCr.intro (fun v p' hx => ?_) (fun e hx => ?_)
  · have h1 := h.of_ok hx
    have := hcr v
    exact ⟨h1.1, by omega⟩
  · have h1 := h.of_error hx
    omega

theorem PaysCr.ok {β : Type} {a b : Nat} {d : B} {p q : Nat} {cr : β → Nat} (v : β)
    (hq : p ≤ q := by omega) (hc : cr v ≤ b := by omega) : PaysCr a b d p (CE.ok (v, q)) cr := by
  refine PaysCr.intro (fun v' p' hx => ?_) (fun e hx => ?_)
  · cases hx
    have := pot_anti a d hq
    have : (CE.ok (v, q) : CE (β × Nat)).2.w = 0 := rfl
    exact ⟨hq, by omega⟩
  · cases hx

theorem PaysCr.error {β : Type} {a b : Nat} {d : B} {p : Nat} {cr : β → Nat} (e : Err) :
    PaysCr a b d p (CE.error e : CE (β × Nat)) cr := by
  refine PaysCr.intro (fun v' p' hx => ?_) (fun e' hx => ?_)
  · cases hx
  · have : (CE.error e : CE (β × Nat)).2.w = 0 := rfl
    omega

theorem PaysCr.ite {β : Type} {a b : Nat} {d : B} {p : Nat} {cr : β → Nat} {c : Prop} [Decidable c]
    {x y : CE (β × Nat)} (hx : c → PaysCr a b d p x cr) (hy : ¬ c → PaysCr a b d p y cr) :
    PaysCr a b d p (if c then x else y) cr := by
  split
  · exact hx ‹_›
  · exact hy ‹_›

/-- sequencing on the same stream: the continuation gets what is left of the budget plus the credit - or it REWINDS to the
start `p` (`GlobalLayerMaskInfo.read`), and then the first step, of cost at most `W`, is paid from the constant -/
theorem PaysCr.bind_or {α β : Type} {a a' b b₁ W : Nat} {d : B} {p : Nat} {m : CE (β × Nat)} {cr : β → Nat}
    {f : β × Nat → CE (α × Nat)} {cr' : α → Nat} (hm : PaysCr a' b₁ d p m cr)
    (hf : ∀ v p₁, m.1 = .ok (v, p₁) → PaysCr a (b - b₁ + cr v) d p₁ (f (v, p₁)) cr' ∨
      (m.2.w ≤ W ∧ PaysCr a (b - W) d p (f (v, p₁)) cr'))
    (ha : a' ≤ a := by omega) (hb : b₁ ≤ b := by omega) (hW : W ≤ b := by omega) : PaysCr a b d p (m >>= f) cr' := by
  have hm' := hm.mono ha (Nat.le_refl _)
  cases hm1 : m.1 with
  | error e =>
    rw [bind_err' hm1]
    refine PaysCr.intro (fun _ _ hx => by cases hx) (fun _ _ => ?_)
    have := hm'.of_error hm1
    show m.2.w ≤ _
    omega
  | ok y =>
    obtain ⟨v, p₁⟩ := y
    have h1 := hm'.of_ok hm1
    rw [bind_ok' hm1]
    refine PaysCr.intro (fun v' p' hx => ?_) (fun e hx => ?_)
    · show _ ∧ (m.2 + (f (v, p₁)).2).w + _ + _ ≤ _
      rw [w_add]
      rcases hf v p₁ hm1 with h | ⟨hw, h⟩
      · have h2 := h.of_ok hx
        exact ⟨by omega, by omega⟩
      · have h2 := h.of_ok hx
        exact ⟨h2.1, by omega⟩
    · show (m.2 + (f (v, p₁)).2).w ≤ _
      rw [w_add]
      rcases hf v p₁ hm1 with h | ⟨hw, h⟩
      · have h2 := h.of_error hx
        omega
      · have h2 := h.of_error hx
        omega

theorem PaysCr.bind {α β : Type} {a a' b b₁ : Nat} {d : B} {p : Nat} {m : CE (β × Nat)} {cr : β → Nat}
    {f : β × Nat → CE (α × Nat)} {cr' : α → Nat} (hm : PaysCr a' b₁ d p m cr)
    (hf : ∀ v p₁, m.1 = .ok (v, p₁) → PaysCr a (b - b₁ + cr v) d p₁ (f (v, p₁)) cr')
    (ha : a' ≤ a := by omega) (hb : b₁ ≤ b := by omega) : PaysCr a b d p (m >>= f) cr' :=
  PaysCr.bind_or (W := 0) hm (fun v p₁ h => Or.inl (hf v p₁ h)) ha hb (Nat.zero_le _)

/-- a step on another stream (nested run, `enterBlock`, `tick`) that costs at most `n` -/
theorem PaysCr.bind_nested {α γ : Type} {a b n : Nat} {d : B} {p : Nat} {m : CE γ}
    {f : γ → CE (α × Nat)} {cr' : α → Nat} (hm : m.2.w ≤ n)
    (hf : ∀ y, m.1 = .ok y → PaysCr a (b - n) d p (f y) cr') (hb : n ≤ b := by omega) :
    PaysCr a b d p (m >>= f) cr' := by
  cases hm1 : m.1 with
  | error e =>
    rw [bind_err' hm1]
    refine PaysCr.intro (fun _ _ hx => by cases hx) (fun _ _ => ?_)
    show m.2.w ≤ _
    omega
  | ok y =>
    rw [bind_ok' hm1]
    refine PaysCr.intro (fun v' p' hx => ?_) (fun e hx => ?_)
    · have h2 := (hf y hm1).of_ok hx
      show _ ∧ (m.2 + (f y).2).w + _ + _ ≤ _
      rw [w_add]
      exact ⟨h2.1, by omega⟩
    · have h2 := (hf y hm1).of_error hx
      show (m.2 + (f y).2).w ≤ _
      rw [w_add]
      omega

theorem cost_add_assoc (x y z : Cost) : x + y + z = x + (y + z) := by
  show (⟨x.ticks + y.ticks + z.ticks, x.alloc + y.alloc + z.alloc⟩ : Cost) = ⟨x.ticks + (y.ticks + z.ticks), x.alloc + (y.alloc + z.alloc)⟩
  rw [Nat.add_assoc, Nat.add_assoc]

theorem bind_assoc {α β γ : Type} (m : CE γ) (f : γ → CE β) (g : β → CE α) :
    (m >>= f) >>= g = m >>= fun x => f x >>= g := by
  cases hm : m.1 with
  | error e => rw [bind_err' hm, bind_err' (m := (Except.error e, m.2)) rfl, bind_err' hm]
  | ok y =>
    rw [bind_ok' hm, bind_ok' hm]
    cases hf : (f y).1 with
    | error e => rw [bind_err' hf, bind_err' (m := (Except.error e, m.2 + (f y).2)) rfl]
    | ok z => rw [bind_ok' hf, bind_ok' (m := (Except.ok z, m.2 + (f y).2)) rfl, cost_add_assoc]

theorem ok_w {γ : Type} (x : γ) : (CE.ok x : CE γ).2.w = 0 := rfl
theorem tick_w : tick.2.w = 1 := rfl
theorem enterBlock_w (data : B) : (enterBlock data).2.w = 1 + data.length := rfl

/-! ### `Spend`: for the one reader that seeks backwards (`LayerAndMask.decC`) and the top level -/

theorem Spend.bind {α β : Type} {a a' b b₁ : Nat} {d : B} {p : Nat} {m : CE (β × Nat)}
    {f : β × Nat → CE α} (hm : PaysCr a' b₁ d p m (fun _ => 0))
    (hf : ∀ v p₁, m.1 = .ok (v, p₁) → Spend a (b - b₁) d p₁ (f (v, p₁)))
    (ha : a' ≤ a := by omega) (hb : b₁ ≤ b := by omega) : Spend a b d p (m >>= f) := by
  have hm' := hm.mono ha (Nat.le_refl _)
  unfold Spend
  cases hm1 : m.1 with
  | error e' =>
    rw [bind_err' hm1]
    have := hm'.of_error hm1
    show m.2.w ≤ _
    omega
  | ok y =>
    obtain ⟨v, p₁⟩ := y
    rw [bind_ok' hm1]
    have h1 := hm'.of_ok hm1
    have h2 : (f (v, p₁)).2.w ≤ _ := hf v p₁ hm1
    show (m.2 + (f (v, p₁)).2).w ≤ _
    rw [w_add]
    omega

theorem Spend.bind_free {α γ : Type} {a b : Nat} {d : B} {p : Nat} {m : CE γ} {f : γ → CE α}
    (hm : Spend a b d p m) (hf : ∀ y, (f y).2.w = 0) : Spend a b d p (m >>= f) := by
  unfold Spend at hm ⊢
  cases hm1 : m.1 with
  | error e' => rw [bind_err' hm1]; exact hm
  | ok y =>
    rw [bind_ok' hm1]
    show (m.2 + (f y).2).w ≤ _
    rw [w_add, hf y]
    exact hm

theorem prim_pays {β : Type} {r : Except Err (β × Nat)} {bytes : Nat} {d : B} {p : Nat}
    (hok : ∀ v p', r = .ok (v, p') → p' = p + bytes ∧ (p' ≤ d.length ∨ bytes = 0))
    (herr : ∀ e, r = .error e → bytes ≤ d.length - p) : Pays 1 1 d p (prim r bytes) := by
  refine PaysCr.intro (fun v p' hx => ?_) (fun e hx => ?_)
  · have := hok v p' hx
    have hw : (prim r bytes).2.w = 1 + bytes := rfl
    rw [hw, pot_one, pot_one]
    exact ⟨by omega, by omega⟩
  · have := herr e hx
    have hw : (prim r bytes).2.w = 1 + bytes := rfl
    rw [hw, pot_one]
    omega

theorem readNC_pays (n : Nat) (d : B) (p : Nat) : Pays 1 1 d p (readNC n d p) := by
  unfold readNC
  refine prim_pays (fun v p' h => ?_) (fun e h => ?_)
  · have := readN_ok h
    exact ⟨by omega, by omega⟩
  · omega

/-- `read_fmt`: the `n` bytes consumed are credited `c` each at coefficient `c + 1` -/
theorem readNC_paysCr (c n : Nat) (d : B) (p : Nat) : PaysCr (c + 1) 1 d p (readNC n d p) (fun _ => c * n) := by
  refine PaysCr.intro (fun v p' hx => ?_) (fun e hx => ?_)
  · have a := readN_ok (show readN n d p = .ok (v, p') from hx)
    have hw : (readNC n d p).2.w = 1 + min n (d.length - p) := rfl
    rw [hw, pot_split (c + 1) d a.2.1 (by omega), Nat.add_mul]
    exact ⟨by omega, by omega⟩
  · have := (readNC_pays n d p).of_error hx
    have := pot_add c 1 d p
    omega

/-- `fp.read(n)`: what it returns is credited `c` per byte at coefficient `c + 1` -/
theorem readUpToC_pays (c n : Nat) (d : B) (p : Nat) :
    PaysCr (c + 1) 1 d p (readUpToC n d p) (fun x => c * x.length) := by
  refine PaysCr.intro (fun v p' hx => ?_) (fun e hx => ?_)
  · have h : readUpTo n d p = .ok (v, p') := hx
    have a := readUpTo_ok h
    have hw : (readUpToC n d p).2.w = 1 + min n (d.length - p) := rfl
    rw [hw]
    by_cases hl : p' ≤ d.length
    · rw [pot_split (c + 1) d a.2.1 hl, Nat.add_mul]
      exact ⟨by omega, by omega⟩
    · have : v.length = 0 := by omega
      have e0 : c * v.length = 0 := by rw [this]; rfl
      have : p' = p := by omega
      subst this
      exact ⟨Nat.le_refl _, by omega⟩
  · exact absurd hx (readUpTo_ne_error n d p e)

theorem readUpToC_pays0 (n : Nat) (d : B) (p : Nat) : Pays 1 1 d p (readUpToC n d p) :=
  (readUpToC_pays 0 n d p).weaken (fun _ => Nat.zero_le _) (Nat.le_refl _)

theorem readAllC_pays (d : B) (p : Nat) : Pays 1 1 d p (readAllC d p) := by
  unfold readAllC
  refine prim_pays (fun v p' h => ?_) (fun e h => ?_)
  · have := readAll_ok h
    exact ⟨by omega, by omega⟩
  · omega

theorem readPyC_pays (n : Int) (d : B) (p : Nat) : Pays 1 1 d p (readPyC n d p) := by
  unfold readPyC
  split
  · exact readAllC_pays d p
  · split
    · exact (PaysCr.error _)
    · exact readUpToC_pays0 _ d p

theorem isReadableC_w' (n : Nat) (d : B) (p : Nat) : (isReadableC n d p).2.w = 1 + min n (d.length - p) := rfl

theorem isReadableC_w (n : Nat) (d : B) (p : Nat) : (isReadableC n d p).2.w ≤ 1 + n := by
  rw [isReadableC_w']; omega

theorem readUC_pays (w : Nat) (d : B) (p : Nat) : Pays 1 1 d p (readUC w d p) := by
  unfold readUC
  refine PaysCr.bind (readNC_pays w d p) fun bs p' _ => ?_
  exact PaysCr.ok _

theorem readUC_paysCr (c w : Nat) (d : B) (p : Nat) : PaysCr (c + 1) 1 d p (readUC w d p) (fun _ => c * w) := by
  unfold readUC
  refine PaysCr.bind (readNC_paysCr c w d p) fun bs p' _ => ?_
  exact PaysCr.ok _

theorem readI16C_pays (d : B) (p : Nat) : Pays 1 1 d p (readI16C d p) := by
  unfold readI16C
  refine PaysCr.bind (readUC_pays 2 d p) fun n p' _ => ?_
  exact PaysCr.ok _

theorem readI32C_pays (d : B) (p : Nat) : Pays 1 1 d p (readI32C d p) := by
  unfold readI32C
  refine PaysCr.bind (readUC_pays 4 d p) fun n p' _ => ?_
  exact PaysCr.ok _

theorem readPaddingC_pays (size divisor : Nat) (d : B) (p : Nat) : Pays 1 1 d p (readPaddingC size divisor d p) := by
  unfold readPaddingC
  refine PaysCr.bind (readUpToC_pays0 _ d p) fun n p' _ => ?_
  exact PaysCr.ok _

/-- `read_length_block`: four reads; the prefix and the block returned carry a credit of `c` per byte -/
theorem readLenBlockC_paysCr (c skip w pad : Nat) (d : B) (p : Nat) :
    PaysCr (c + 1) 4 d p (readLenBlockC skip w pad d p) (fun x => c * skip + c * w + c * x.length) := by
  unfold readLenBlockC
  refine PaysCr.bind (readNC_paysCr c skip d p) fun _ p0 _ => ?_
  refine PaysCr.bind (readUC_paysCr c w d p0) fun n p1 _ => ?_
  dsimp only
  refine PaysCr.ite (fun _ => PaysCr.error _) (fun _ => ?_)
  refine PaysCr.bind (readUpToC_pays c n d p1) fun x p2 _ => ?_
  dsimp only
  refine PaysCr.ite (fun _ => PaysCr.error _) (fun _ => ?_)
  refine PaysCr.bind (readPaddingC_pays n pad d p2) fun _ p3 _ => ?_
  exact PaysCr.ok _

/-- the block `read_length_block` returned lies inside what it consumed -/
theorem readLenBlockC_ok {skip w pad : Nat} {d : B} {p : Nat} {x : B} {p' : Nat}
    (h : (readLenBlockC skip w pad d p).1 = .ok (x, p')) : p + skip + w + x.length ≤ p' ∧ p' ≤ d.length := by
  rw [readLenBlockC_fst] at h
  exact readLenBlock_ok h

theorem readLenBlockC_pays (c skip w pad : Nat) (d : B) (p : Nat) :
    PaysCr (c + 1) 4 d p (readLenBlockC skip w pad d p) (fun x => c * x.length) :=
  (readLenBlockC_paysCr c skip w pad d p).weaken (fun _ => Nat.le_add_left _ _) (Nat.le_refl _)

theorem readLenBlockC_pays0 (skip w pad : Nat) (d : B) (p : Nat) : Pays 1 4 d p (readLenBlockC skip w pad d p) :=
  (readLenBlockC_pays 0 skip w pad d p).weaken (fun _ => Nat.zero_le _) (Nat.le_refl _)

theorem readPascalC_pays (pad : Nat) (d : B) (p : Nat) : Pays 1 3 d p (readPascalC pad d p) := by
  unfold readPascalC
  refine PaysCr.bind (readUC_pays 1 d p) fun n p1 _ => ?_
  refine PaysCr.bind (readUpToC_pays0 n d p1) fun x p2 _ => ?_
  dsimp only
  refine PaysCr.ite (fun _ => PaysCr.error _) (fun _ => ?_)
  refine PaysCr.bind (readPaddingC_pays _ pad d p2) fun _ p3 _ => ?_
  exact PaysCr.ok _

end PsdVerif.SafeCost
