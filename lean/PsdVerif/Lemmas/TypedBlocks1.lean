/-
C01 (typed documents) — Model/TypedBlocks.lean: the laws of every class of `tagged_blocks.TYPES` collected from the
lemma files of the payload classes (nothing is re-proved: each line is the `rt` / `count` of its class), the law a payload
kit has to satisfy, and - from that law alone - the typed block and the typed block list on what their writers wrote
(`TBlock.dec_at` / `tblocksDec_at` of Lemmas/PayloadLayerInfo1.lean with the kit in place of the `LayerInfoBlock` payload).
-/
import PsdVerif.Lemmas.TypedEngine
import PsdVerif.Lemmas.PayloadLayerInfo2
import PsdVerif.Lemmas.PayloadSimple
import PsdVerif.Lemmas.PayloadEffects
import PsdVerif.Lemmas.PayloadPatterns
import PsdVerif.Lemmas.PayloadLinked
import PsdVerif.Lemmas.PayloadDescWrap
import PsdVerif.Lemmas.Payload3Adjust
import PsdVerif.Lemmas.Payload3Curves
import PsdVerif.Lemmas.Payload3Vector
import PsdVerif.Lemmas.Payload3Filter
import PsdVerif.Lemmas.Payload3Resources
import PsdVerif.Model.TypedBlocks

namespace PsdVerif.Typed
open PsdVerif.Codec PsdVerif.Psd PsdVerif.Payload

/-! ## every registered class: the generic laws -/

theorem TClass.rt (tb : Descriptor.Tables) (pad : Nat) : ∀ c : TClass, (c.codec tb pad).RtAtEnd
  | .annotations => Annotations.rt.atEnd | .brightnessContrast => Payload3.BrightnessContrast.rt.atEnd
  | .byteElement => ByteElement.rt.atEnd | .bytes => BytesElement.rt
  | .channelBlendingRestrictionsSetting => ChannelBlendingRestrictionsSetting.rt | .channelMixer => Payload3.ChannelMixer.rt
  | .colorBalance => Payload3.ColorBalance.rt.atEnd | .colorLookup => (Payload3.ColorLookup.rt tb _).atEnd
  | .curves => Payload3.Curves.rt | .descriptorBlock => (Payload3.DescriptorPayload.rt tb _).atEnd
  | .descriptorBlock2 => (Payload3.Descriptor2Payload.rt tb _).atEnd | .effectsLayer => EffectsLayer.rt.atEnd
  | .emptyElement => EmptyElement.rt.atEnd | .engineData2 => EngineData2.rt | .exposure => (Payload3.Exposure.rt _).atEnd
  | .filterEffects => Payload3.FilterEffects.rt | .filterMask => FilterMask.rt.atEnd | .gradientMap => Payload3.GradientMap.rt.atEnd
  | .hueSaturation => Payload3.HueSaturation.rt.atEnd | .integerElement => IntegerElement.rt.atEnd | .levels => Payload3.Levels.rt
  | .linkedLayers => LinkedLayers.rt tb | .metadataSettings => (MetadataSettings.rt tb).atEnd | .patterns => Patterns.rt
  | .photoFilter => Payload3.PhotoFilter.rt.atEnd | .pixelSourceData2 => PixelSourceData2.rt _
  | .placedLayerData => (PlacedLayerData.rt tb _).atEnd | .protectedSetting => IntegerElement.rt.atEnd
  | .referencePoint => ReferencePoint.rt.atEnd | .sectionDividerSetting => SectionDividerSetting.rt
  | .selectiveColor => Payload3.SelectiveColor.rt.atEnd | .sheetColorSetting => SheetColorSetting.rt.atEnd
  | .shortIntegerElement => ShortIntegerElement.rt.atEnd | .smartObjectLayerData => (SmartObjectLayerData.rt tb _).atEnd
  | .stringElement => (StringElement.rt _ 1).atEnd | .typeToolObjectSetting => (TypeToolTyped.rt tb _).atEnd
  | .userMask => UserMask.rt.atEnd | .vectorMaskSetting => Payload3.VectorMaskSetting.rt
  | .vectorStrokeContentSetting => (Payload3.VectorStrokeContentSetting.rt tb _).atEnd

theorem TClass.count (tb : Descriptor.Tables) (pad : Nat) : ∀ c : TClass, (c.codec tb pad).Count
  | .annotations => Annotations.count | .brightnessContrast => Payload3.BrightnessContrast.count
  | .byteElement => ByteElement.count | .bytes => BytesElement.count
  | .channelBlendingRestrictionsSetting => ChannelBlendingRestrictionsSetting.count | .channelMixer => Payload3.ChannelMixer.count
  | .colorBalance => Payload3.ColorBalance.count | .colorLookup => Payload3.ColorLookup.count tb _
  | .curves => Payload3.Curves.count | .descriptorBlock => Payload3.DescriptorPayload.count tb _
  | .descriptorBlock2 => Payload3.Descriptor2Payload.count tb _ | .effectsLayer => EffectsLayer.count
  | .emptyElement => EmptyElement.count | .engineData2 => EngineData2.count | .exposure => Payload3.Exposure.count _
  | .filterEffects => Payload3.FilterEffects.count | .filterMask => FilterMask.count | .gradientMap => Payload3.GradientMap.count
  | .hueSaturation => Payload3.HueSaturation.count | .integerElement => IntegerElement.count | .levels => Payload3.Levels.count
  | .linkedLayers => LinkedLayers.count tb | .metadataSettings => MetadataSettings.count tb | .patterns => Patterns.count
  | .photoFilter => Payload3.PhotoFilter.count | .pixelSourceData2 => PixelSourceData2.count _
  | .placedLayerData => PlacedLayerData.count tb _ | .protectedSetting => IntegerElement.count
  | .referencePoint => ReferencePoint.count | .sectionDividerSetting => SectionDividerSetting.count
  | .selectiveColor => Payload3.SelectiveColor.count | .sheetColorSetting => SheetColorSetting.count
  | .shortIntegerElement => ShortIntegerElement.count | .smartObjectLayerData => SmartObjectLayerData.count tb _
  | .stringElement => StringElement.count _ 1 | .typeToolObjectSetting => TypeToolTyped.count tb _
  | .userMask => UserMask.count | .vectorMaskSetting => Payload3.VectorMaskSetting.count
  | .vectorStrokeContentSetting => Payload3.VectorStrokeContentSetting.count tb _

/-- no payload reader looks at the padding its writer was given (`frombytes(raw_data, version=version)`) -/
theorem TClass.dec_pad (tb : Descriptor.Tables) (pad : Nat) (c : TClass) : (c.codec tb pad).dec = (c.codec tb 1).dec := by
  cases c <;> rfl

/-! ## the law of a payload kit -/

structure Kit.Law {P : Type} (K : Kit P) : Prop where
  /-- the payload reader, run on exactly the bytes the payload writer emitted, returns the payload as the writer left it -/
  rt : ∀ (version pad : Nat) (key : B) (v : P), K.WF version pad key v → K.Fits version pad v →
    K.dec version key (K.encT version pad v) = .ok (K.refresh v)
  encT_refresh : ∀ (version pad : Nat) (v : P), K.encT version pad (K.refresh v) = K.encT version pad v
  fits_refresh : ∀ (version pad : Nat) (v : P), K.Fits version pad (K.refresh v) ↔ K.Fits version pad v
  count : ∀ (version pad : Nat) (v : P), K.encP version pad v = (K.encT version pad v, (K.encT version pad v).length)

theorem emptyKit_law : emptyKit.Law where
  rt _ _ _ e := nomatch e
  encT_refresh _ _ e := nomatch e
  fits_refresh _ _ e := nomatch e
  count _ _ e := nomatch e

/-! ## the typed block -/

namespace Blk
variable {P : Type} {K : Kit P}

theorem flat_refresh (hK : K.Law) (v pad : Nat) (t : Blk P) : (t.refresh K).flat K v pad = t.flat K v pad := by
  simp only [flat, refresh, hK.encT_refresh]

theorem encT_refresh (hK : K.Law) (v pad : Nat) (t : Blk P) : (t.refresh K).encT K v pad = t.encT K v pad := by
  simp only [encT, flat_refresh hK]

theorem Fits_refresh (hK : K.Law) (v pad : Nat) (t : Blk P) : (t.refresh K).Fits K v pad ↔ t.Fits K v pad := by
  unfold Fits
  rw [flat_refresh hK]
  simp only [refresh, hK.fits_refresh]

theorem enc_refresh (hK : K.Law) (v pad : Nat) (t : Blk P) : (t.refresh K).enc K v pad = t.enc K v pad := by
  unfold enc
  simp only [encT_refresh hK, Fits_refresh hK]

theorem enc_ok {v pad : Nat} {t : Blk P} {bs : B} (h : t.enc K v pad = .ok bs) : t.Fits K v pad ∧ bs = t.encT K v pad := by
  unfold enc at h
  split at h
  · exact ⟨‹_›, by cases h; rfl⟩
  · cases h

theorem encP_eq (hK : K.Law) (v pad : Nat) (t : Blk P) : t.encP K v pad = (t.encT K v pad, (t.encT K v pad).length) := by
  simp only [encP, encT, flat, TaggedBlock.encT, hK.count, wBytes_eq, wLenBlock_eq, wSeq_eq]

/-- `TaggedBlock.read` with the payload dispatch, on what `TaggedBlock.write` wrote -/
theorem dec_at (hK : K.Law) {v pad : Nat} (hp : pad = 1 ∨ pad = 2 ∨ pad = 4) {t : Blk P} (hwf : t.WF K v pad)
    {d : B} {p : Nat} (hat : At d p (t.encT K v pad)) :
    dec K v pad d p = .ok (some (t.refresh K), p + (t.encT K v pad).length) := by
  obtain ⟨⟨hsig, hk, hf⟩, hfit, hpay⟩ := hwf
  have hpl := hK.rt v pad t.key t.data hpay hfit
  simp only [flat] at hsig hk hf
  have hl : ∀ s ∈ G.blockSignatures, s.length = 4 := by decide
  have hs : pack4s t.signature = t.signature := pack4s_of_length (hl _ hsig)
  have hk' : pack4s t.key = t.key := pack4s_of_length hk
  unfold encT at hat ⊢
  rw [TaggedBlock.length_encT]
  simp only [TaggedBlock.encT, flat, List.append_assoc, hs, hk'] at hat ⊢
  obtain ⟨e1, hat⟩ := readN_step hat (hl _ hsig)
  obtain ⟨e2, hat⟩ := readN_step hat hk
  have e3 := readLenBlock_at hat hf (tbLenW_mod v t.key pad hp)
  simp only [dec, bind, Except.bind, e1, if_pos hsig, e2, e3, hpl]
  simp only [refresh, Nat.add_assoc]

theorem length_ge (K : Kit P) (v pad : Nat) (t : Blk P) : 12 ≤ (t.encT K v pad).length :=
  TaggedBlock.length_ge v pad (t.flat K v pad)

end Blk

section blocks
variable {P : Type} {K : Kit P}

theorem map_flat_keys (K : Kit P) (v pad : Nat) (ts : List (Blk P)) :
    (ts.map (Blk.flat K v pad)).map TaggedBlock.key = ts.map Blk.key := by
  simp only [List.map_map]; rfl

theorem blksT_flat (K : Kit P) (v pad : Nat) (ts : List (Blk P)) :
    blksT K v pad ts = taggedBlocksT v pad (ts.map (Blk.flat K v pad)) := by
  unfold blksT taggedBlocksT
  induction ts with
  | nil => rfl
  | cons t ts ih => simp only [listT, List.map_cons, ih, Blk.encT]

theorem map_flat_refresh (hK : K.Law) (v pad : Nat) (ts : List (Blk P)) :
    (ts.map (Blk.refresh K)).map (Blk.flat K v pad) = ts.map (Blk.flat K v pad) := by
  simp only [List.map_map]
  apply List.map_congr_left
  intro t _
  exact Blk.flat_refresh hK v pad t

/-- `TaggedBlocks.read` with the payload dispatch: the skeleton's clauses on the flat view, the payloads' on the blocks -/
theorem blksDec_at (hK : K.Law) {v pad : Nat} (hp : pad = 1 ∨ pad = 2 ∨ pad = 4) {ts : List (Blk P)}
    (hflat : taggedBlocksWF v (ts.map (Blk.flat K v pad))) (hty : blksTyped K v pad ts)
    (endPos : Option Nat) {d : B} {p : Nat} (hat : At d p (blksT K v pad ts))
    (hend : ∀ e, endPos = some e → p + (blksT K v pad ts).length ≤ e)
    (hstop : taggedCond endPos d (p + (blksT K v pad ts).length) = false) :
    blksDec K v pad endPos d p = .ok (ts.map (Blk.refresh K), p + (blksT K v pad ts).length) := by
  obtain ⟨hall0, hnd⟩ := hflat
  have hall : ∀ t ∈ ts, t.WF K v pad := fun t ht =>
    ⟨hall0 _ (List.mem_map_of_mem ht), (hty t ht).1, (hty t ht).2⟩
  have e1 : readWhile (taggedCond endPos) (Blk.dec K v pad) d p =
      .ok (ts.map (Blk.refresh K), p + (blksT K v pad ts).length) := by
    refine readWhile_map_at _ _ (Blk.encT K v pad) (Blk.refresh K) ts hat ?_
      (fun t _ => Nat.le_trans (by decide) (t.length_ge K v pad)) hstop
    intro t ht q hq hle
    exact ⟨taggedCond_inside hq (Nat.le_trans (by decide) (t.length_ge K v pad)) hend hle, Blk.dec_at hK hp (hall t ht) hq⟩
  have hkeys : (ts.map (Blk.refresh K)).map Blk.key = ts.map Blk.key := by
    simp only [List.map_map]; rfl
  have hnd' : (ts.map Blk.key).Nodup := by rw [← map_flat_keys K v pad ts]; exact hnd
  simp only [blksDec, bind, Except.bind, e1, odict_of_nodup Blk.key (ts.map (Blk.refresh K)) (hkeys ▸ hnd')]

end blocks

end PsdVerif.Typed
