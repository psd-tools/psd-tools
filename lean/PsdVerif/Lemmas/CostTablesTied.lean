/-
C06 - the ties of the cost tables (Model/CostTables.lean) to the working tree (Generated/AllocSites.lean,
Generated/ReadLoops.lean, rewritten by harness/extract_c06.py on every run), and what the snapshot says.

That no site allocates a DECLARED size while a file is opened is false of the source (see the head of
Model/CostTables.lean): `utils.read_length_block: fp.read(length)` and `ChannelData.read: fp.read(length)` do, on the
caller's stream; `declared_size_at_open` below pins these two down exactly.
-/
import PsdVerif.Model.CostTables

namespace PsdVerif.CostTables

/-- every allocation from a computed size in src/psd_tools is a site of the snapshot -/
theorem alloc_sites_tied : Generated.AllocSites.sites = CostTables.sites := rfl

/-- every loop, and every `try` outside a loop, of the reading functions is a row of the snapshot -/
theorem read_loops_tied : Generated.ReadLoops.loops = CostTables.loops := rfl

/-- every site has been given a phase and a verdict -/
theorem sites_all_classified : CostTables.sites = CostTables.siteVerdicts.map (·.1) := by rfl

/-- the phases and verdicts are of the vocabulary -/
theorem verdicts_wellformed :
    CostTables.siteVerdicts.all (fun e => ["open", "export", "write", "other"].contains e.2.1 &&
      ["bounded-by-data", "declared-size", "constant"].contains e.2.2) = true := by decide +kernel

/-- the sites that allocate a declared size while a file is being opened: exactly two `fp.read(length)` on the caller's
stream (what they RETURN is bounded by the file; what `io.BufferedReader.read` reserves first is `length`) -/
theorem declared_size_at_open :
    (CostTables.siteVerdicts.filter (fun e => e.2.1 == "open" && e.2.2 == "declared-size")).map (·.1) =
      [("psd/layer_and_mask.py", "ChannelData.read", "read", "length"), ("utils.py", "read_length_block", "read", "length")] := by
  decide +kernel

/-- at phase "open" a declared size is only ever handed to a stream `read` - never to `bytearray`, a repetition, numpy, ... -/
theorem declared_size_at_open_is_stream_read :
    CostTables.siteVerdicts.all (fun e => !(e.2.1 == "open" && e.2.2 == "declared-size") || e.1.2.2.1 == "read") = true := by
  decide +kernel

/-- no count-driven or `while` loop of a reader has a handler that swallows the exception and goes on to the next iteration
(`mentions g "continue"` for `(g.splitOn "continue").length > 1`: `String.splitOn` does not reduce in the kernel) -/
theorem no_swallowing_loop :
    CostTables.loops.all (fun e => !(e.2.2.1 == "count" || e.2.2.1 == "while") ||
      !(mentions e.2.2.2.2 "continue")) = true := by decide +kernel

example : mentions "try:except Exception:continue" "continue" = true ∧ mentions "try:except IOError:raise" "continue" = false ∧
    mentions "" "continue" = false := by decide +kernel

/-- stronger, on the current source: no loop of a reader contains a `try` at all -/
theorem no_guarded_loop : CostTables.loops.all (fun e => e.2.2.1 == "try" || e.2.2.2.2 == "") = true := by decide +kernel

end PsdVerif.CostTables
