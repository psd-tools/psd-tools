/-
C06 — the counting twins of Model/PayloadCostFilter.lean erase to the readers of Model/Payload3Filter.lean and obey the
cost judgement with the constants recorded in their `CC.hand`; the combinator terms are sound by composition.

A nested `with io.BytesIO(data) as f:` run whose block was read from the outer stream is paid by the bytes of the block
and of its frame: the run is an `Inner` judgement on the block (Lemmas/PayloadCostEffects.lean), `Cost.ofInner` turns it
into a step that ends where the block ended, and `Cost.bind_credit` charges it to the read of the block.
-/
import PsdVerif.Model.PayloadCostFilter
import PsdVerif.Lemmas.PayloadCostEffects

namespace PsdVerif.PayloadCost
open PsdVerif PsdVerif.Codec PsdVerif.PsdCost PsdVerif.Payload PsdVerif.Payload3 PsdVerif.Safe PsdVerif.SafeCost

/-- `with io.BytesIO(data) as f: compression = read_fmt("H", f)[0]; data = f.read()`, then the result at `q` -/
theorem compressedBlock_inner {α : Type} (data : B) (q : Nat) (g : Nat × Nat → α) :
    Inner 2 3 data 0 (fun y => y.2 = q)
      (enterBlock data >>= fun _ => readUC 2 data 0 >>= fun x => readAllC data x.2 >>= fun _ =>
        (CE.ok (g x, q) : CE (α × Nat))) := by
  apply Inner.mono
  case h =>
    apply Inner.enter
    cstep Inner.bind (readUC_cost 2)
    cstep Inner.bind readAllC_cost
    exact Inner.ok _ rfl
  all_goals decide

/-! ## FilterEffectChannel -/

theorem FEChannel.decC_fst (d : B) (p : Nat) : (FEChannel.decC d p).1 = FEChannel.dec d p := by
  unfold FEChannel.decC FEChannel.dec
  refine erase_seq (readUC_fst ..) fun iw p => ?_
  refine erase_ite (fun _ => rfl) fun _ => ?_
  refine erase_seq (readLenBlockC_fst ..) fun data p => ?_
  refine erase_ite (fun _ => rfl) fun _ => ?_
  refine erase_ok (enterBlock_fst data) ?_
  refine erase_seq (readUC_fst ..) fun c q => ?_
  exact erase_ok (b := (data.drop q, q + (data.drop q).length)) (readAllC_fst data q) rfl

theorem FEChannel.decC_cost : CostR 3 5 4 FEChannel.decC := by
  intro d p hp
  apply Cost.mono
  case h =>
    unfold FEChannel.decC
    cbind (readUC_cost 4)
    cite
    · cdone
    · apply Cost.bind_credit (c := 2) (a₂ := 0) (b₂ := 0) (k₂ := 0) (readLenBlockC_cost 0 8 1)
      intro data p₁ h1 hp₁
      have l2 := readLenBlockC_ok h1
      dsimp only
      split
      · exact (Cost.ok _ hp₁).mono (Nat.le_refl _) (Nat.zero_le _) (Nat.le_refl _)
      · exact (Cost.ofInner hp₁ (compressedBlock_inner data p₁ _)).mono (Nat.le_refl _) (by omega) (Nat.le_refl _)
  cside

theorem FEChannel.cc_c : FEChannel.cc.c = FEChannel.codec := rfl
theorem FEChannel.cc_sound : FEChannel.cc.Sound := CC.hand_sound FEChannel.decC_fst FEChannel.decC_cost

/-! ## FilterEffectExtra -/

theorem FEExtra.decC_fst (d : B) (p : Nat) : (FEExtra.decC d p).1 = FEExtra.dec d p := by
  unfold FEExtra.decC FEExtra.dec
  refine erase_seq (readUC_fst ..) fun iw p => ?_
  refine erase_ite (fun _ => rfl) fun _ => ?_
  refine erase_seq (fmtDecC_fst ..) fun rect p => ?_
  refine erase_seq (readLenBlockC_fst ..) fun data p => ?_
  refine erase_ok (enterBlock_fst data) ?_
  refine erase_seq (readUC_fst ..) fun c q => ?_
  exact erase_ok (b := (data.drop q, q + (data.drop q).length)) (readAllC_fst data q) rfl

theorem FEExtra.decC_cost : CostR 3 6 1 FEExtra.decC := by
  intro d p hp
  apply Cost.mono
  case h =>
    unfold FEExtra.decC
    cbind (readUC_cost 1)
    cite
    · cdone
    · cbind (fmtDecC_cost s4x4)
      apply Cost.bind_credit (c := 2) (a₂ := 0) (b₂ := 0) (k₂ := 0) (readLenBlockC_cost 0 8 1)
      intro data p₁ h1 hp₁
      have l2 := readLenBlockC_ok h1
      exact (Cost.ofInner hp₁ (compressedBlock_inner data p₁ _)).mono (Nat.le_refl _) (by omega) (Nat.le_refl _)
  cside

theorem FEExtra.cc_c : FEExtra.cc.c = FEExtra.codec := rfl
theorem FEExtra.cc_sound : FEExtra.cc.Sound := CC.hand_sound FEExtra.decC_fst FEExtra.decC_cost

/-! ## FilterEffect -/

theorem FEBody.decC_fst (d : B) (p : Nat) : (FEBody.decC d p).1 = FEBody.codec.dec d p := by
  simp only [FEBody.decC, FEBody.codec, fst_bind, ok_fst, fmtDecC_fst, readCountC_fst FEChannel.decC_fst]

/-- `for _ in range(max_channels + 2)`: every channel consumes its 4-byte flag, so the count does not enter the bound -/
theorem FEBody.decC_cost : CostR 9 8 24 FEBody.decC := by
  intro d p hp
  apply Cost.mono
  case h =>
    unfold FEBody.decC
    cbind (fmtDecC_cost s4x4)
    cbind (fmtDecC_cost [U 4, U 4])
    cbind (readCountC_cost (fun q hq => FEChannel.decC_cost d q hq) (by decide : 1 ≤ 4) _ _ (by assumption))
    cdone
  cside

theorem FEBody.cc_c : FEBody.cc.c = FEBody.codec := rfl
theorem FEBody.cc_sound : FEBody.cc.Sound := CC.hand_sound FEBody.decC_fst FEBody.decC_cost

theorem asciiPascal.cc_c : asciiPascal.cc.c = asciiPascal := rfl
theorem asciiPascal.cc_sound : asciiPascal.cc.Sound := CC.checked_sound (CC.pascal_sound 1 1) _ _ (by decide)

theorem FilterEffect.cc_c : FilterEffect.cc.c = FilterEffect.codec := by
  unfold FilterEffect.cc FilterEffect.codec
  simp only [CC.seq_c, CC.checked_c, CC.blocked_c, CC.optTail_c, CC.fmt_c, asciiPascal.cc_c, FEBody.cc_c, FEExtra.cc_c]
theorem FilterEffect.cc_sound : FilterEffect.cc.Sound :=
  CC.seq_sound asciiPascal.cc_sound (CC.seq_sound (CC.checked_sound (CC.fmt_sound _) _ _ (by decide))
    (CC.seq_sound (CC.blocked_sound 8 1 FEBody.cc_sound) (CC.optTail_sound FEExtra.cc_sound)))

theorem FilterEffects.cc_c : FilterEffects.cc.c = FilterEffects.codec := by
  unfold FilterEffects.cc FilterEffects.codec
  simp only [CC.seq_c, CC.checked_c, CC.whileR_c, CC.blocked_c, CC.fmt_c, FilterEffect.cc_c]
theorem FilterEffects.cc_sound : FilterEffects.cc.Sound :=
  CC.seq_sound (CC.checked_sound (CC.fmt_sound _) _ _ (by decide))
    (CC.whileR_sound 8 1 (CC.blocked_sound 8 4 FilterEffect.cc_sound))

/-! ## the unit -/

def filterTable : List (String × Sh) :=
  [("FilterEffects", FilterEffects.cc.sh), ("FilterEffect", FilterEffect.cc.sh),
   ("FilterEffect._read_body", FEBody.cc.sh), ("FilterEffectChannel", FEChannel.cc.sh),
   ("FilterEffectExtra", FEExtra.cc.sh)]

theorem filter_body_progress : filterTable.all (fun e => e.2.bodyProgress) = true := by decide

end PsdVerif.PayloadCost
