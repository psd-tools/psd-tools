/-
C14 — parent chains of attached layers, and the invalidation climb: it clears the cache of every ancestor.
-/
import PsdVerif.Lemmas.TreeFresh
import PsdVerif.Lemmas.TreeDesc

namespace PsdVerif.TreeSt

/-- below `g`, parent pointers lead back into the subtree of `g` or continue above `g` -/
theorem dep_cases {s : State} (i : Inv s) {g z y : Id} (hz : z = g ∨ Reach s g z) (hy : y = z ∨ UpChain s z y) :
    (y = g ∨ Reach s g y) ∨ UpChain s g y := by
  rcases hy with e | c
  · subst e; exact .inl hz
  · have lister : ∀ a p, (a = g ∨ Reach s g a) → s.kind a ≠ .doc → s.parent a = some p →
        (p = g ∨ Reach s g p) ∨ UpChain s g p := by
      intro a p ha hk hp
      rcases ha with e | r
      · subst e; exact .inr (.base hk hp)
      · obtain ⟨c', hc', hgc⟩ := r.last
        have := i.parentOk c' a hc'
        rw [hp] at this
        cases this
        exact .inl (hgc.elim (fun e => .inl e) (fun r' => .inr r'))
    induction c with
    | base hk hp => exact lister _ _ hz hk hp
    | step _ hk hp ih =>
      rcases ih with hb | hu
      · exact lister _ _ hb hk hp
      · exact .inr (.step hu hk hp)

/-- the parent chain of a layer that is in a document consists of its true ancestors -/
theorem up_is_ancestor {s : State} (i : Inv s) {g y : Id} (ha : Attached s g) (c : UpChain s g y) :
    Reach s y g ∧ Attached s y := by
  have key : ∀ a p, Attached s a → s.kind a ≠ .doc → s.parent a = some p → Reach s p a ∧ Attached s p := by
    intro a p ⟨d, hd, had⟩ hk hp
    rcases had with e | r
    · subst e; exact absurd hd hk
    · obtain ⟨c', hc', hdc⟩ := r.last
      have := i.parentOk c' a hc'
      rw [hp] at this
      cases this
      exact ⟨.edge hc', d, hd, hdc.elim (fun e => .inl e) (fun r' => .inr r')⟩
  induction c with
  | base hk hp => exact key _ _ ha hk hp
  | step _ hk hp ih =>
    have := key _ _ ih.2 hk hp
    exact ⟨this.1.trans ih.1, this.2⟩

/-- the invariants of the loop: the nodes visited so far are distinct live nodes below the current one -/
structure ClimbInv (s : State) (seen : List Id) (x : Id) (f : Nat) : Prop where
  nodup : seen.Nodup
  live : ∀ y, y ∈ seen → y < s.next
  below : ∀ y, y ∈ seen → Reach s x y
  xlive : x < s.next
  fuel : f + seen.length = s.next + 1

theorem ClimbInv.fuel_pos {s : State} (i : Inv s) {seen : List Id} {x : Id} {f : Nat} (c : ClimbInv s seen x f) :
    x ∉ seen ∧ ∃ f', f = f' + 1 := by
  have hx : x ∉ seen := fun h => i.no_cycle x (c.below x h)
  have hnd : (x :: seen).Nodup := List.nodup_cons.mpr ⟨hx, c.nodup⟩
  have hlt : ∀ y, y ∈ x :: seen → y < s.next := by
    intro y hy
    rcases List.mem_cons.mp hy with e | h
    · subst e; exact c.xlive
    · exact c.live y h
  have := length_le_of_nodup_lt s.next (x :: seen) hnd hlt
  simp only [List.length_cons] at this
  have hf := c.fuel
  refine ⟨hx, f - 1, ?_⟩
  omega

theorem ClimbInv.up {s : State} (i : Inv s) {seen : List Id} {x p : Id} {f : Nat} (c : ClimbInv s seen x (f + 1))
    (hx : x ∈ s.children p) : ClimbInv s (x :: seen) p f where
  nodup := List.nodup_cons.mpr ⟨(c.fuel_pos i).1, c.nodup⟩
  live := by
    intro y hy
    rcases List.mem_cons.mp hy with e | h
    · subst e; exact c.xlive
    · exact c.live y h
  below := by
    intro y hy
    rcases List.mem_cons.mp hy with e | h
    · subst e; exact .edge hx
    · exact .step hx (c.below y h)
  xlive := (i.live p x hx).1
  fuel := by have := c.fuel; simp only [List.length_cons]; omega

theorem invUpF_up {cfg : Cfg} (hc : cfg.climbToDoc = true) {s s0 : State} (i : Inv s) (hs : SameTree s s0)
    {seen : List Id} {x p : Id} {f : Nat} (cl : ClimbInv s seen x (f + 1)) (hx : x ∈ s.children p) :
    ∃ s1, SameTree s s1 ∧ invUpF cfg (f + 1) seen s0 x = invUpF cfg f (x :: seen) s1 p := by
  have hk : s0.kind x ≠ .doc := by rw [hs.kind]; exact i.layerOnly _ _ hx
  have hp : s0.parent x = some p := by rw [hs.parent]; exact i.parentOk _ _ hx
  have hcc : s0.cont p = true := by rw [hs.cont]; exact i.contOnly p (List.ne_nil_of_mem hx)
  refine ⟨if s0.cont x = true then clearCache s0 x else s0, ?_, ?_⟩
  · by_cases hcx : s0.cont x = true
    · rw [if_pos hcx]; exact hs.trans (clearCache_same s0 x)
    · rw [if_neg hcx]; exact hs
  · simp only [invUpF, if_neg (cl.fuel_pos i).1, hk, if_false, hp, hcc, hc, Bool.not_true, Bool.and_false, Bool.or_self,
      Bool.false_eq_true]

/-- **The climb clears every ancestor.** From a node `x`, the (repaired) `_invalidate_bbox`
clears the cached box of `x` and of every container `x` is listed below. `s0` is the state the
loop has reached (same tree as `s`, some caches already cleared). -/
theorem climb_clears {cfg : Cfg} (hc : cfg.climbToDoc = true) {s : State} (i : Inv s) {g x : Id}
    (hgx : g = x ∨ Reach s g x) (hg : s.cont g = true) :
    ∀ (f : Nat) (seen : List Id) (s0 : State), SameTree s s0 → ClimbInv s seen x f →
      (invUpF cfg f seen s0 x).cache g = none := by
  have start : ∀ (f : Nat) (seen : List Id) (s0 : State), SameTree s s0 → ClimbInv s seen g f →
      (invUpF cfg f seen s0 g).cache g = none := by
    intro f seen s0 hs c
    obtain ⟨hns, f', hf⟩ := c.fuel_pos i
    subst hf
    simp only [invUpF, if_neg hns]
    have hcl : (clearCache s0 g).cache g = none := by simp [clearCache, upd]
    by_cases hk : s0.kind g = .doc
    · rw [if_pos hk]; exact hcl
    · rw [if_neg hk, if_pos (show s0.cont g = true by rw [hs.cont]; exact hg)]
      cases s0.parent g with
      | none => exact hcl
      | some p =>
        simp only
        by_cases hstop : (!s0.cont p || (s0.kind p == .doc && !cfg.climbToDoc)) = true
        · rw [if_pos hstop]; exact hcl
        · rw [if_neg hstop]
          exact ((invUpF_cleared cfg _ _ _ _).cache g).elim id (fun e => e.trans hcl)
  rcases hgx with e | r
  · subst e; exact start
  · have r' := reach_iff_reachT.mp r
    clear r
    induction r' with
    | @edge x hx =>
      intro f seen s0 hs cl
      obtain ⟨f', rfl⟩ := (cl.fuel_pos i).2
      obtain ⟨s1, hs1, e⟩ := invUpF_up hc i hs cl hx
      rw [e]
      exact start _ _ _ hs1 (cl.up i hx)
    | @snoc c x _ hx ih =>
      intro f seen s0 hs cl
      obtain ⟨f', rfl⟩ := (cl.fuel_pos i).2
      obtain ⟨s1, hs1, e⟩ := invUpF_up hc i hs cl hx
      rw [e]
      exact ih _ _ _ hs1 (cl.up i hx)

theorem invUp_clears {cfg : Cfg} (hc : cfg.climbToDoc = true) {s s0 : State} (i : Inv s) (hs : SameTree s s0) {g x : Id}
    (hgx : g = x ∨ Reach s g x) (hg : s.cont g = true) (hx : x < s.next) : (invUp cfg s0 x).cache g = none := by
  unfold invUp
  rw [hs.next]
  refine climb_clears hc i hgx hg _ [] s0 hs ⟨List.nodup_nil, ?_, ?_, hx, ?_⟩
  · intro y h; cases h
  · intro y h; cases h
  · rfl

end PsdVerif.TreeSt
