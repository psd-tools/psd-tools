/-
C02 — what the lenient reader of the file skeleton can return (primitives: Lemmas/Lenient1.lean).

For each reader `X.dec`:  `X.dec_ok : X.dec d p = .ok (v, p') → <everything `X.WF`/`X.Fits` asks of the fields>`, up to
`PSD.read_ok`. Lengths the writer *derives* (the `FitsU w body.length` clauses of `Fits`) are not facts about what was read:
they are collected in `…LenFits` (record, layer info, section, file), the hypothesis of `dec_encodable`, and follow from
`PSD.enc … = .ok _` in `resave_stable_partial`. `LayerRecord.Read v r` is what `LayerRecord.dec` guarantees about a record;
it does not mention `channel_info.length` (the writer overwrites it), so it is invariant under `_update_channel_length`.
The one shape the reader returns and the writer changes is excluded by `…Stable` (a 35-37-byte mask block without real
fields). The two facts C02 is made of:

  `PSD.Read.fits` : what was read can be written, provided the lengths the writer derives are representable;
  `PSD.Read.wf`   : what was read and can be written is well formed (`PSD.WF`, the hypothesis of C01's round
                    trip), provided no layer mask is the unstable shape.
-/
import PsdVerif.Lemmas.CodecPsd3
import PsdVerif.Lemmas.Lenient1

namespace PsdVerif.Psd
open PsdVerif.Codec

theorem Header.dec_ok {d : B} {p : Nat} {h : Header} {p' : Nat} (hd : Header.dec d p = .ok (h, p')) : h.Valid :=
  (show Rets (Header.dec d p) Header.Valid from
    Rets.skip fun _ _ => Rets.skip fun _ _ => Rets.skip fun _ _ => Rets.skip fun _ _ => Rets.skip fun _ _ =>
    Rets.skip fun _ _ => Rets.skip fun _ _ => Rets.skip fun _ _ => Rets.guard fun valid => Rets.ok valid) h p' hd

theorem colorModeDec_ok {d : B} {p : Nat} {v : B} {p' : Nat} (hd : colorModeDec d p = .ok (v, p')) :
    FitsU 4 v.length := readLenBlock_ok hd

theorem Resource.dec_ok {d : B} {p : Nat} {r : Resource} {p' : Nat} (hd : Resource.dec d p = .ok (r, p')) : r.WF :=
  (show Rets (Resource.dec d p) Resource.WF from
    Rets.skip fun _ _ => rets_readU.bind fun _ _ key => rets_readPascal.bind fun _ _ name =>
    rets_readLenBlock.bind fun _ _ data => Rets.guard fun sig => Rets.ok ⟨sig, key, name, data⟩) r p' hd

/-- everything but the derived length of the section -/
theorem resourcesDec_ok {d : B} {p : Nat} {rs : List Resource} {p' : Nat} (hd : resourcesDec d p = .ok (rs, p')) :
    (∀ r ∈ rs, r.WF) ∧ (rs.map Resource.key).Nodup := by
  revert rs p'
  show Rets (resourcesDec d p) _
  exact Rets.skip fun _ _ => (rets_readWhile fun _ _ e => Resource.dec_ok e).bind fun _ _ items =>
    Rets.ok ⟨fun r hr => items r (mem_odict _ _ _ hr), nodup_odict _ _⟩

theorem resourcesDec_wf {d : B} {p : Nat} {rs : List Resource} {p' : Nat} (hd : resourcesDec d p = .ok (rs, p'))
    (hlen : FitsU 4 (resourcesBodyT rs).length) : resourcesWF rs ∧ resourcesFits rs := by
  obtain ⟨h1, h2⟩ := resourcesDec_ok hd
  exact ⟨⟨h1, h2, hlen⟩, fun r hr => (h1 r hr).2, hlen⟩

theorem TaggedBlock.dec_ok {v pad : Nat} {d : B} {p : Nat} {t : TaggedBlock} {p' : Nat}
    (hd : TaggedBlock.dec v pad d p = .ok (some t, p')) : t.WF v := by
  unfold TaggedBlock.dec at hd
  obtain ⟨⟨sig, p1⟩, _, hd⟩ := bind_ok hd
  dsimp only at hd
  split at hd
  · rename_i hs
    obtain ⟨⟨key, p2⟩, e2, hd⟩ := bind_ok hd
    obtain ⟨⟨data, p3⟩, e3, hd⟩ := bind_ok hd
    dsimp only at hd
    cases hd
    exact ⟨hs, (readN_ok e2).1, readLenBlock_ok e3⟩
  · cases hd

theorem taggedBlocksDec_ok {v pad : Nat} {endPos : Option Nat} {d : B} {p : Nat} {ts : List TaggedBlock} {p' : Nat}
    (hd : taggedBlocksDec v pad endPos d p = .ok (ts, p')) : taggedBlocksWF v ts := by
  unfold taggedBlocksDec at hd
  obtain ⟨⟨items, p1⟩, e1, hd⟩ := bind_ok hd
  dsimp only at hd
  cases hd
  refine ⟨?_, nodup_odict _ _⟩
  intro t ht
  obtain ⟨q, q', _, hi⟩ := readWhile_ok e1 t (mem_odict _ _ _ ht)
  exact TaggedBlock.dec_ok hi

theorem taggedBlocksWF_fits {v : Nat} {ts : List TaggedBlock} (h : taggedBlocksWF v ts) : ∀ t ∈ ts, t.Fits v :=
  fun t ht => (h.1 t ht).2.2

theorem readOpt_ok {c : Bool} {w : Nat} {d : B} {p : Nat} {o : Option Nat} {p' : Nat}
    (h : readOpt c w d p = .ok (o, p')) : optFits w o := by
  unfold readOpt at h
  split at h
  · split at h
    · rename_i n q hn
      cases h
      exact (readU_ok hn).1
    · cases h
  · cases h
    trivial

theorem MaskParameters.dec_ok {d : B} {p : Nat} {m : MaskParameters} {p' : Nat}
    (hd : MaskParameters.dec d p = .ok (m, p')) : m.Fits :=
  have opt := fun {c w d p o p'} (e : readOpt c w d p = .ok (o, p')) => readOpt_ok e
  (show Rets (MaskParameters.dec d p) MaskParameters.Fits from
    Rets.skip fun _ _ => Rets.bind (fun _ _ => opt) fun _ _ a => Rets.bind (fun _ _ => opt) fun _ _ b =>
    Rets.bind (fun _ _ => opt) fun _ _ c => Rets.bind (fun _ _ => opt) fun _ _ e => Rets.ok ⟨a, b, c, e⟩) m p' hd

theorem MaskReal.dec_ok {d : B} {p : Nat} {m : MaskReal} {p' : Nat} (hd : MaskReal.dec d p = .ok (m, p')) : m.Fits :=
  (show Rets (MaskReal.dec d p) MaskReal.Fits from
    Rets.skip fun _ _ => rets_readU.bind fun _ _ bg => rets_readI32.bind fun _ _ top => rets_readI32.bind fun _ _ left =>
    rets_readI32.bind fun _ _ bottom => rets_readI32.bind fun _ _ right => Rets.ok ⟨bg, top, left, bottom, right⟩) m p' hd

/-- what `MaskData._read_body(fp, length)` returns: all fields fit, the parameters are there exactly when the flag
says so, the real fields exactly when the block is at least 36 bytes long -/
theorem MaskData.bodyDec_ok {length : Nat} {d : B} {p : Nat} {m : MaskData} {p' : Nat}
    (hd : MaskData.bodyDec length d p = .ok (m, p')) :
    m.Fits ∧ (m.flags.parametersApplied = true ↔ m.parameters.isSome) ∧ (m.real.isSome ↔ length ≥ 36) := by
  unfold MaskData.bodyDec at hd
  obtain ⟨⟨a1, p1⟩, e1, hd⟩ := bind_ok hd
  obtain ⟨⟨a2, p2⟩, e2, hd⟩ := bind_ok hd
  obtain ⟨⟨a3, p3⟩, e3, hd⟩ := bind_ok hd
  obtain ⟨⟨a4, p4⟩, e4, hd⟩ := bind_ok hd
  obtain ⟨⟨bg, p5⟩, e5, hd⟩ := bind_ok hd
  obtain ⟨⟨fl, p6⟩, e6, hd⟩ := bind_ok hd
  obtain ⟨⟨real, p7⟩, e7, hd⟩ := bind_ok hd
  obtain ⟨⟨params, p8⟩, e8, hd⟩ := bind_ok hd
  dsimp only at hd
  cases hd
  have hreal : realFits real := by
    rcases condItem_ok e7 with ⟨_, r, rfl, hr⟩ | ⟨_, rfl⟩
    · exact MaskReal.dec_ok hr
    · trivial
  have hpar : maskParamsFits (MaskFlags.parametersApplied (Flags8.ofNat fl)) params := by
    rcases condItem_ok e8 with ⟨ha, q, rfl, hq⟩ | ⟨ha, rfl⟩
    · rw [ha]; exact MaskParameters.dec_ok hq
    · rw [Bool.eq_false_iff.2 ha]; trivial
  exact ⟨⟨(readI32_ok e1).1, (readI32_ok e2).1, (readI32_ok e3).1, (readI32_ok e4).1, (readU_ok e5).1, hreal, hpar⟩,
    (condItem_isSome e8).symm, condItem_isSome e7⟩

/-- the clause of `MaskData.WF` that the reader does not guarantee: a block shorter than 36 bytes holds no real
fields; when it nevertheless holds both feathers (18 + 17 = 35 bytes) the writer pads it to 36 bytes, which are
then read as real fields -/
def MaskData.Stable (m : MaskData) : Prop := m.real = none → m.unpaddedT.length ≤ 32

instance (m : MaskData) : Decidable m.Stable := by unfold MaskData.Stable; exact inferInstance

def maskStable : Option MaskData → Prop
  | some m => m.Stable
  | none => True

instance (m : Option MaskData) : Decidable (maskStable m) := by
  cases m <;> simp only [maskStable] <;> exact inferInstance

theorem length_optT_le (w : Nat) (o : Option Nat) : (optT w o).length ≤ w := by
  cases o <;> simp [optT, length_beBytes]

theorem MaskParameters.length_encT_le (m : MaskParameters) : m.encT.length ≤ 19 := by
  have h1 := length_optT_le 1 m.userMaskDensity
  have h2 := length_optT_le 8 m.userMaskFeather
  have h3 := length_optT_le 1 m.vectorMaskDensity
  have h4 := length_optT_le 8 m.vectorMaskFeather
  simp only [MaskParameters.encT, List.length_append, length_beBytes]
  omega

theorem MaskData.length_bodyT_le (m : MaskData) : m.bodyT.length ≤ 60 := by
  have hfixed : m.fixedT.length = 18 := by
    simp [MaskData.fixedT, length_i32T, length_beBytes]
  have hreal : m.realT.length ≤ 18 := by
    unfold MaskData.realT
    cases m.real with
    | none => simp
    | some r => simp [MaskReal.encT, length_i32T, length_beBytes]
  have hpar : m.paramsT.length ≤ 19 := by
    unfold MaskData.paramsT maskParamsT
    split
    · exact MaskParameters.length_encT_le _
    · simp
  have hpad := padAmount_lt m.unpaddedT.length 4 (by decide)
  simp only [MaskData.bodyT, MaskData.unpaddedT, List.length_append, length_zeros] at hpad ⊢
  omega

theorem maskDec_fits {d : B} {p : Nat} {m : Option MaskData} {p' : Nat} (hd : maskDec d p = .ok (m, p')) :
    maskFits m ∧ (maskStable m → maskWF m) := by
  revert m p'
  show Rets (maskDec d p) _
  refine Rets.skip fun _ _ => Rets.ite (fun _ => Rets.ok ⟨trivial, fun _ => trivial⟩) fun _ =>
    Rets.bind (fun _ _ e => MaskData.bodyDec_ok e) fun m' _ h => Rets.ok ⟨⟨h.1, ?_⟩, fun hst => ⟨h.1, h.2.1, hst⟩⟩
  have := m'.length_bodyT_le
  have h60 : (60 : Nat) < 256 ^ 4 := by decide
  unfold FitsU; omega

theorem maskDec_ok {d : B} {p : Nat} {m : Option MaskData} {p' : Nat} (hd : maskDec d p = .ok (m, p'))
    (hst : maskStable m) : maskWF m ∧ maskFits m :=
  ⟨(maskDec_fits hd).2 hst, (maskDec_fits hd).1⟩

theorem Range4.dec_ok {d : B} {p : Nat} {r : Range4} {p' : Nat} (hd : Range4.dec d p = .ok (r, p')) : r.Fits :=
  (show Rets (Range4.dec d p) Range4.Fits from
    rets_readU.bind fun _ _ a => rets_readU.bind fun _ _ b => rets_readU.bind fun _ _ c => rets_readU.bind fun _ _ e =>
    Rets.ok ⟨a, b, c, e⟩) r p' hd

def BlendingRanges.Shape (r : BlendingRanges) : Prop :=
  ((r.composite = none ∧ r.channels = none) ∨ (r.composite.isSome ∧ r.channels.isSome)) ∧
  (match r.composite with | some c => c.Fits | none => True) ∧
  (match r.channels with | some cs => ∀ c ∈ cs, c.Fits | none => True)

/-- `LayerBlendingRanges.read` returns `(None, None)` or `(composite, list)`: never one without the other -/
theorem BlendingRanges.dec_ok {d : B} {p : Nat} {r : BlendingRanges} {p' : Nat} (hd : BlendingRanges.dec d p = .ok (r, p')) : r.Shape := by
  revert r p'
  show Rets (BlendingRanges.dec d p) _
  exact Rets.skip fun _ _ => Rets.ite (fun _ => Rets.ok ⟨Or.inl ⟨rfl, rfl⟩, trivial, trivial⟩) fun _ =>
    Rets.bind (fun _ _ e => Range4.dec_ok e) fun _ _ comp =>
    (rets_readWhile fun _ _ e => Range4.dec_ok e).bind fun _ _ chans => Rets.ok ⟨Or.inr ⟨rfl, rfl⟩, comp, chans⟩

theorem BlendingRanges.dec_wf {d : B} {p : Nat} {r : BlendingRanges} {p' : Nat} (hd : BlendingRanges.dec d p = .ok (r, p'))
    (hlen : FitsU 4 r.bodyT.length) : r.WF := by
  obtain ⟨h1, h2, h3⟩ := BlendingRanges.dec_ok hd
  exact ⟨⟨h2, h3, hlen⟩, h1⟩

theorem ChannelInfo.dec_ok {v : Nat} {d : B} {p : Nat} {c : ChannelInfo} {p' : Nat}
    (hd : ChannelInfo.dec v d p = .ok (c, p')) : c.WF v :=
  (show Rets (ChannelInfo.dec v d p) (ChannelInfo.WF v) from
    rets_readI16.bind fun _ _ id => rets_readU.bind fun _ _ len => Rets.guard fun hi => Rets.ok ⟨hi, id, len⟩) c p' hd

structure LayerRecord.Read (v : Nat) (r : LayerRecord) : Prop where
  valid : r.Valid
  rect : FitsI32 r.top ∧ FitsI32 r.left ∧ FitsI32 r.bottom ∧ FitsI32 r.right
  count : FitsU 2 r.channelInfo.length
  ids : ∀ c ∈ r.channelInfo, c.id ∈ G.channelIds ∧ FitsI16 c.id
  opacity : FitsU 1 r.opacity
  clipping : FitsU 1 r.clipping
  maskFits : maskFits r.maskData
  maskWF : maskStable r.maskData → maskWF r.maskData
  ranges : r.blendingRanges.Shape
  name : r.name.length < 256
  tbs : taggedBlocksWF v r.taggedBlocks

theorem LayerRecord.rets_extra {v : Nat} {d : B} {p : Nat} :
    Rets (LayerRecord.extraDec v d p) fun x => maskFits x.1 ∧ (maskStable x.1 → maskWF x.1) ∧ x.2.1.Shape ∧
      x.2.2.1.length < 256 ∧ taggedBlocksWF v x.2.2.2 :=
  Rets.bind (fun _ _ e => maskDec_fits e) fun _ _ m =>
  Rets.bind (fun _ _ e => BlendingRanges.dec_ok e) fun _ _ rg =>
  rets_readPascal.bind fun _ _ nm =>
  Rets.bind (fun _ _ e => taggedBlocksDec_ok e) fun _ _ ts => Rets.ok ⟨m.1, m.2, rg, nm, ts⟩

theorem LayerRecord.dec_ok {v : Nat} {d : B} {p : Nat} {r : LayerRecord} {p' : Nat}
    (hd : LayerRecord.dec v d p = .ok (r, p')) : LayerRecord.Read v r :=
  (show Rets (LayerRecord.dec v d p) (LayerRecord.Read v) from
    rets_readI32.bind fun _ _ top =>
    rets_readI32.bind fun _ _ left =>
    rets_readI32.bind fun _ _ bottom =>
    rets_readI32.bind fun _ _ right =>
    rets_readU.bind fun _ _ n =>
    (rets_readCount fun _ _ e => ChannelInfo.dec_ok e).bind fun _ _ cis =>
    Rets.skip fun _ _ =>
    Rets.skip fun _ _ =>
    rets_readU.bind fun _ _ opacity =>
    rets_readU.bind fun _ _ clipping =>
    Rets.skip fun _ _ =>
    Rets.skip fun _ _ =>
    LayerRecord.rets_extra.bind fun _ _ x =>
    Rets.guard fun valid => Rets.ok
      ⟨valid, ⟨top, left, bottom, right⟩, cis.1 ▸ n, fun c hc => ⟨(cis.2 c hc).1, (cis.2 c hc).2.1⟩, opacity, clipping,
        x.1, x.2.1, x.2.2.1, x.2.2.2.1, x.2.2.2.2⟩) r p' hd

def LayerRecord.LenFits (v : Nat) (r : LayerRecord) : Prop :=
  FitsU 4 r.blendingRanges.bodyT.length ∧ FitsU 4 (r.extraT v).length ∧ ∀ c ∈ r.channelInfo, FitsU (secW v) c.length

instance (v : Nat) (r : LayerRecord) : Decidable (r.LenFits v) := by unfold LayerRecord.LenFits; exact inferInstance

theorem LayerRecord.Read.fits {v : Nat} {r : LayerRecord} (h : LayerRecord.Read v r) (hl : r.LenFits v) : r.Fits v := by
  obtain ⟨l1, l2, l3⟩ := hl
  exact ⟨h.rect.1, h.rect.2.1, h.rect.2.2.1, h.rect.2.2.2, h.count, fun c hc => ⟨(h.ids c hc).2, l3 c hc⟩, h.opacity,
    h.clipping, h.maskFits, ⟨h.ranges.2.1, h.ranges.2.2, l1⟩, h.name, taggedBlocksWF_fits h.tbs, l2⟩

theorem LayerRecord.Read.wf {v : Nat} {r : LayerRecord} (h : LayerRecord.Read v r) (hf : r.Fits v)
    (hst : maskStable r.maskData) : r.WF v :=
  ⟨h.valid, hf, fun c hc => (h.ids c hc).1, h.maskWF hst, ⟨hf.2.2.2.2.2.2.2.2.2.1, h.ranges.1⟩, h.tbs⟩

/-! ### `_update_channel_length` keeps everything `Read` speaks about -/

theorem mem_refreshCI {cis : List ChannelInfo} {cs : List ChannelData} {c' : ChannelInfo} (h : c' ∈ refreshCI cis cs) :
    ∃ c ∈ cis, c'.id = c.id := by
  induction cis generalizing cs with
  | nil => cases cs <;> simp [refreshCI] at h
  | cons ci cis ih =>
    cases cs with
    | nil => simp only [refreshCI] at h; exact ⟨c', h, rfl⟩
    | cons c0 cs =>
      simp only [refreshCI, List.mem_cons] at h
      rcases h with rfl | h
      · exact ⟨ci, by simp, rfl⟩
      · obtain ⟨c, hc, e⟩ := ih h
        exact ⟨c, by simp [hc], e⟩

theorem LayerRecord.Read.refresh {v : Nat} {r : LayerRecord} (h : LayerRecord.Read v r) (cs : List ChannelData) :
    LayerRecord.Read v { r with channelInfo := refreshCI r.channelInfo cs } where
  valid := h.valid
  rect := h.rect
  count := by show FitsU 2 (refreshCI r.channelInfo cs).length; rw [length_refreshCI]; exact h.count
  ids := by
    intro c' hc'
    obtain ⟨c, hc, e⟩ := mem_refreshCI hc'
    rw [e]; exact h.ids c hc
  opacity := h.opacity
  clipping := h.clipping
  maskFits := h.maskFits
  maskWF := h.maskWF
  ranges := h.ranges
  name := h.name
  tbs := h.tbs

theorem mem_refreshRecords {rs : List LayerRecord} {css : List (List ChannelData)} {r' : LayerRecord}
    (h : r' ∈ refreshRecords rs css) :
    ∃ r ∈ rs, r' = r ∨ ∃ cs, r' = { r with channelInfo := refreshCI r.channelInfo cs } := by
  induction rs generalizing css with
  | nil => cases css <;> simp [refreshRecords] at h
  | cons r rs ih =>
    cases css with
    | nil => simp only [refreshRecords] at h; exact ⟨r', h, Or.inl rfl⟩
    | cons c0 css =>
      simp only [refreshRecords, List.mem_cons] at h
      rcases h with rfl | h
      · exact ⟨r, by simp, Or.inr ⟨c0, rfl⟩⟩
      · obtain ⟨r0, hr0, e⟩ := ih h
        exact ⟨r0, by simp [hr0], e⟩

/-- what was read of a record holds of the record as `_update_channel_length` leaves it; the mask is untouched -/
theorem LayerRecord.Read.of_mem_refresh {v : Nat} {rs : List LayerRecord} {css : List (List ChannelData)} {r' : LayerRecord}
    (hrecs : ∀ r ∈ rs, LayerRecord.Read v r) (hr' : r' ∈ refreshRecords rs css) :
    LayerRecord.Read v r' ∧ ∃ r ∈ rs, r'.maskData = r.maskData := by
  obtain ⟨r, hr, e⟩ := mem_refreshRecords hr'
  rcases e with rfl | ⟨cs, rfl⟩
  · exact ⟨hrecs r' hr, r', hr, rfl⟩
  · exact ⟨(hrecs r hr).refresh cs, r, hr, rfl⟩

theorem ChannelData.dec_ok {n : Nat} {d : B} {p : Nat} {c : ChannelData} {p' : Nat}
    (hd : ChannelData.dec n d p = .ok (c, p')) : c.WF ∧ c.Fits :=
  (show Rets (ChannelData.dec n d p) (fun c => c.WF ∧ c.Fits) from
    rets_readU.bind fun _ _ comp => Rets.guard fun hc => Rets.skip fun _ _ => Rets.ok ⟨hc, comp⟩) c p' hd

theorem channelListDec_ok {cis : List ChannelInfo} {d : B} {p : Nat} {cs : List ChannelData} {p' : Nat}
    (hd : channelListDec cis d p = .ok (cs, p')) : cis.length = cs.length ∧ ∀ c ∈ cs, c.WF ∧ c.Fits := by
  unfold channelListDec at hd
  induction cis generalizing p cs p' with
  | nil => simp only [readFor] at hd; cases hd; exact ⟨rfl, by intro c hc; cases hc⟩
  | cons ci cis ih =>
    simp only [readFor] at hd
    split at hd
    · cases hd
    · rename_i a p1 ha
      split at hd
      · cases hd
      · rename_i as p2 has
        cases hd
        obtain ⟨h1, h2⟩ := ih has
        refine ⟨by simp [h1], ?_⟩
        intro c hc
        rcases List.mem_cons.1 hc with rfl | hc
        · exact ChannelData.dec_ok ha
        · exact h2 c hc

theorem channelImageDec_ok {rs : List LayerRecord} {d : B} {p : Nat} {css : List (List ChannelData)} {p' : Nat}
    (hd : channelImageDec rs d p = .ok (css, p')) :
    shapesAgree rs css ∧ ∀ cs ∈ css, ∀ c ∈ cs, c.WF ∧ c.Fits := by
  unfold channelImageDec at hd
  induction rs generalizing p css p' with
  | nil => simp only [readFor] at hd; cases hd; exact ⟨trivial, by intro cs hcs; cases hcs⟩
  | cons r rs ih =>
    simp only [readFor] at hd
    split at hd
    · cases hd
    · rename_i a p1 ha
      split at hd
      · cases hd
      · rename_i as p2 has
        cases hd
        obtain ⟨h1, h2⟩ := ih has
        obtain ⟨g1, g2⟩ := channelListDec_ok ha
        refine ⟨⟨g1, h1⟩, ?_⟩
        intro cs hcs
        rcases List.mem_cons.1 hcs with rfl | hcs
        · exact g2
        · exact h2 cs hcs

def LayerInfo.Read (v : Nat) (li : LayerInfo) : Prop :=
  FitsI16 li.layerCount ∧
  if li.layerCount = 0 then li.records = none ∧ li.channels = none
  else ∃ rs css, li.records = some rs ∧ li.channels = some css ∧ li.layerCount.natAbs = rs.length ∧
    shapesAgree rs css ∧ (∀ r ∈ rs, LayerRecord.Read v r) ∧ ∀ cs ∈ css, ∀ c ∈ cs, ChannelData.WF c ∧ c.Fits

theorem LayerInfo.bodyDec_ok {v : Nat} {d : B} {p : Nat} {li : LayerInfo} {p' : Nat}
    (hd : LayerInfo.bodyDec v d p = .ok (li, p')) : LayerInfo.Read v li.normCount0 := by
  revert li p'
  show Rets (LayerInfo.bodyDec v d p) _
  refine rets_readI16.bind fun count _ hcount => (rets_readCount fun _ _ e => LayerRecord.dec_ok e).bind fun rs _ hrs =>
    Rets.bind (fun _ _ e => channelImageDec_ok e) fun css _ hcss => Rets.ok ?_
  unfold LayerInfo.normCount0 LayerInfo.Read
  by_cases h0 : count = 0
  · rw [if_pos h0]
    exact ⟨by decide, by simp⟩
  · rw [if_neg h0]
    simp only [h0, if_false]
    exact ⟨hcount, rs, css, rfl, rfl, hrs.1.symm, hcss.1, hrs.2, hcss.2⟩

theorem LayerInfo.dec_ok {v : Nat} {d : B} {p : Nat} {li : LayerInfo} {p' : Nat}
    (hd : LayerInfo.dec v d p = .ok (li, p')) : LayerInfo.Read v li := by
  revert li p'
  show Rets (LayerInfo.dec v d p) _
  refine Rets.skip fun _ _ => Rets.bind (P := LayerInfo.Read v) (Rets.ite (fun _ => Rets.ok ⟨by decide, by simp⟩) fun _ _ _ e => ?_)
    fun _ _ hli => Rets.guard fun _ => Rets.ite (fun _ => Rets.error) fun _ => Rets.ok hli
  split at e
  · cases e
    exact LayerInfo.bodyDec_ok ‹_›
  · cases e

/-- no mask of a record is the block without real fields that holds both feathers -/
def LayerInfo.Stable (li : LayerInfo) : Prop :=
  match li.records with
  | some rs => ∀ r ∈ rs, maskStable r.maskData
  | none => True

instance (li : LayerInfo) : Decidable li.Stable := by
  unfold LayerInfo.Stable; cases li.records <;> simp only <;> exact inferInstance

/-- the derived lengths of the layer info, on the object as the writer leaves it -/
def LayerInfo.LenFits (v pad : Nat) (li : LayerInfo) : Prop :=
  if li.layerCount = 0 then True
  else (match li.refresh.records with
        | some rs => ∀ r ∈ rs, LayerRecord.LenFits v r
        | none => True) ∧ FitsU (secW v) (li.refresh.bodyT v pad).length

instance (v pad : Nat) (li : LayerInfo) : Decidable (li.LenFits v pad) := by
  unfold LayerInfo.LenFits
  split
  · exact inferInstance
  · cases li.refresh.records <;> simp only <;> exact inferInstance

/-- the shape of a layer info that was read with `layer_count ≠ 0`, and of its refreshed form -/
theorem LayerInfo.Read.shape {v : Nat} {li : LayerInfo} (h : LayerInfo.Read v li) (h0 : li.layerCount ≠ 0) :
    ∃ r0 rs0 c0 css0, li = ⟨li.layerCount, some (r0 :: rs0), some (c0 :: css0)⟩ ∧
      li.refresh = ⟨li.layerCount, some (refreshRecords (r0 :: rs0) (c0 :: css0)), some (c0 :: css0)⟩ ∧
      li.layerCount.natAbs = (r0 :: rs0).length ∧ shapesAgree (r0 :: rs0) (c0 :: css0) ∧
      (∀ r ∈ r0 :: rs0, LayerRecord.Read v r) ∧ (∀ cs ∈ c0 :: css0, ∀ c ∈ cs, ChannelData.WF c ∧ c.Fits) := by
  obtain ⟨n, rs, css⟩ := li
  obtain ⟨_, h⟩ := h
  simp only at h0
  simp only [h0, if_false] at h
  obtain ⟨rs', css', e1, e2, hcount, hshape, hrecs, hch⟩ := h
  change rs = some rs' at e1
  change css = some css' at e2
  change n.natAbs = rs'.length at hcount
  subst e1 e2
  cases rs' with
  | nil => simp at hcount; exact absurd hcount h0
  | cons r0 rs0 =>
    cases css' with
    | nil => simp [shapesAgree] at hshape
    | cons c0 css0 =>
      refine ⟨r0, rs0, c0, css0, rfl, ?_, hcount, hshape, hrecs, hch⟩
      simp [LayerInfo.refresh, h0]

theorem LayerInfo.Read.fits {v pad : Nat} {li : LayerInfo} (h : LayerInfo.Read v li) (hl : li.LenFits v pad) :
    li.Fits v pad := by
  unfold LayerInfo.Fits
  by_cases h0 : li.layerCount = 0
  · simp [h0]
  · simp only [h0, if_false]
    unfold LayerInfo.LenFits at hl
    simp only [h0, if_false] at hl
    obtain ⟨r0, rs0, c0, css0, _, href, _, _, hrecs, hch⟩ := h.shape h0
    rw [href] at hl ⊢
    obtain ⟨hl1, hl2⟩ := hl
    simp only at hl1
    refine ⟨h.1, ?_, ?_, hl2⟩
    · show ∀ r' ∈ refreshRecords (r0 :: rs0) (c0 :: css0), LayerRecord.Fits v r'
      exact fun r' hr' => (LayerRecord.Read.of_mem_refresh hrecs hr').1.fits (hl1 r' hr')
    · show ∀ cs ∈ c0 :: css0, ∀ c ∈ cs, ChannelData.Fits c
      intro cs hcs c hc
      exact (hch cs hcs c hc).2

theorem LayerInfo.Read.wf {v pad : Nat} {li : LayerInfo} (h : LayerInfo.Read v li) (hf : li.Fits v pad)
    (hst : li.Stable) : li.WF v pad := by
  unfold LayerInfo.WF
  by_cases h0 : li.layerCount = 0
  · have := h.2
    simp only [h0, if_true] at this ⊢
    exact this
  · simp only [h0, if_false]
    unfold LayerInfo.Fits at hf
    simp only [h0, if_false] at hf
    obtain ⟨r0, rs0, c0, css0, hli, href, hcount, hshape, hrecs, hch⟩ := h.shape h0
    have hst' : ∀ r ∈ r0 :: rs0, maskStable r.maskData := by
      rw [hli] at hst
      exact hst
    rw [href] at hf
    rw [hli]
    simp only
    rw [← hli, href]
    refine ⟨hcount, hshape, ?_, fun cs hcs c hc => (hch cs hcs c hc).1, hf⟩
    intro r' hr'
    obtain ⟨hread, r, hr, e⟩ := LayerRecord.Read.of_mem_refresh hrecs hr'
    exact hread.wf (hf.2.1 r' hr') (e ▸ hst' r hr)

theorem glmDefault_wf : glmDefault.WF := by decide

theorem GlobalLayerMaskInfo.dec_ok {d : B} {p : Nat} {g : GlobalLayerMaskInfo} {p' : Nat}
    (hd : GlobalLayerMaskInfo.dec d p = .ok (g, p')) : g.WF :=
  (show Rets (GlobalLayerMaskInfo.dec d p) GlobalLayerMaskInfo.WF from
    Rets.skip fun _ _ => Rets.ite (fun _ => Rets.ok glmDefault_wf) fun _ => Rets.ite (fun _ => Rets.ok glmDefault_wf) fun _ =>
      (rets_readCount rets_readU).bind fun _ _ cs =>
      rets_readU.bind fun _ _ opacity =>
      rets_readU.bind fun _ _ kind =>
      Rets.guard fun hk => Rets.ok ⟨hk, ⟨cs.1, cs.2, opacity, kind⟩, fun h => by cases h⟩) g p' hd

def LayerAndMask.Read (v : Nat) (x : LayerAndMask) : Prop :=
  match x.layerInfo with
  | none => x.globalMask = none ∧ x.taggedBlocks = none
  | some li =>
      LayerInfo.Read v li ∧ optProp GlobalLayerMaskInfo.WF x.globalMask ∧
      (∃ ts, x.taggedBlocks = some ts ∧ taggedBlocksWF v ts) ∧
      (x.globalMask = none → x.taggedBlocks = some [])

theorem LayerAndMask.Read.of_none {v : Nat} {x : LayerAndMask} (h : LayerAndMask.Read v x) (hli : x.layerInfo = none) :
    x.globalMask = none ∧ x.taggedBlocks = none := by
  unfold LayerAndMask.Read at h
  rwa [hli] at h

theorem LayerAndMask.Read.of_some {v : Nat} {x : LayerAndMask} {li : LayerInfo} (h : LayerAndMask.Read v x)
    (hli : x.layerInfo = some li) :
    LayerInfo.Read v li ∧ optProp GlobalLayerMaskInfo.WF x.globalMask ∧
      (∃ ts, x.taggedBlocks = some ts ∧ taggedBlocksWF v ts) ∧ (x.globalMask = none → x.taggedBlocks = some []) := by
  unfold LayerAndMask.Read at h
  rwa [hli] at h

theorem taggedBlocksWF_nil (v : Nat) : taggedBlocksWF v [] := by
  unfold taggedBlocksWF
  exact ⟨fun t ht => (by cases ht), List.nodup_nil⟩

theorem LayerAndMask.bodyDec_ok {v endPos : Nat} {d : B} {p : Nat} {x : LayerAndMask} {p' : Nat}
    (hd : LayerAndMask.bodyDec v endPos d p = .ok (x, p')) : LayerAndMask.Read v x :=
  (show Rets (LayerAndMask.bodyDec v endPos d p) (LayerAndMask.Read v) from
    Rets.bind (fun _ _ e => LayerInfo.dec_ok e) fun _ _ li => Rets.ite
      (fun _ => Rets.bind (fun _ _ e => GlobalLayerMaskInfo.dec_ok e) fun _ _ g =>
        Rets.bind (fun _ _ e => taggedBlocksDec_ok e) fun ts _ hts => Rets.ok ⟨li, g, ⟨ts, rfl, hts⟩, fun h => by cases h⟩)
      (fun _ => Rets.ok ⟨li, trivial, ⟨[], rfl, taggedBlocksWF_nil v⟩, fun _ => rfl⟩)) x p' hd

theorem LayerAndMask.dec_ok {v : Nat} {d : B} {p : Nat} {x : LayerAndMask} {p' : Nat}
    (hd : LayerAndMask.dec v d p = .ok (x, p')) : LayerAndMask.Read v x := by
  revert x p'
  show Rets (LayerAndMask.dec v d p) _
  exact Rets.skip fun _ _ =>
    Rets.bind (P := LayerAndMask.Read v) (Rets.ite (fun _ => Rets.ok ⟨rfl, rfl⟩) fun _ _ _ e => LayerAndMask.bodyDec_ok e)
      fun _ _ hx => Rets.ite (fun _ => Rets.error) fun _ => Rets.ok hx

def LayerAndMask.Stable (x : LayerAndMask) : Prop := optProp LayerInfo.Stable x.layerInfo

instance (x : LayerAndMask) : Decidable x.Stable := by unfold LayerAndMask.Stable; exact inferInstance

def LayerAndMask.LenFits (v pad : Nat) (x : LayerAndMask) : Prop :=
  optProp (LayerInfo.LenFits v pad) x.layerInfo ∧ FitsU (secW v) (x.bodyT v pad).length

instance (v pad : Nat) (x : LayerAndMask) : Decidable (x.LenFits v pad) := by
  unfold LayerAndMask.LenFits; exact inferInstance

theorem LayerAndMask.Read.fits {v pad : Nat} {x : LayerAndMask} (h : LayerAndMask.Read v x) (hl : x.LenFits v pad) :
    x.Fits v pad := by
  obtain ⟨li, g, ts⟩ := x
  obtain ⟨hl1, hl2⟩ := hl
  unfold LayerAndMask.Read at h
  cases li with
  | none =>
    obtain ⟨rfl, rfl⟩ := h
    exact ⟨trivial, trivial, trivial, hl2⟩
  | some li =>
    obtain ⟨h1, h2, ⟨ts', e, h3⟩, _⟩ := h
    simp only at e
    subst e
    refine ⟨h1.fits hl1, ?_, taggedBlocksWF_fits h3, hl2⟩
    cases g with
    | none => trivial
    | some g => exact h2.2.1

theorem LayerAndMask.Read.wf {v pad : Nat} {x : LayerAndMask} (h : LayerAndMask.Read v x) (hf : x.Fits v pad)
    (hst : x.Stable) : x.WF v pad := by
  obtain ⟨li, g, ts⟩ := x
  unfold LayerAndMask.Read at h
  refine ⟨hf, ?_⟩
  cases li with
  | none => exact h
  | some li =>
    obtain ⟨h1, h2, ⟨ts', e, h3⟩, h4⟩ := h
    simp only at e
    subst e
    exact ⟨h1.wf hf.1 hst, h2, h3, h4⟩

theorem ImageData.dec_ok {d : B} {p : Nat} {i : ImageData} {p' : Nat} (hd : ImageData.dec d p = .ok (i, p')) :
    i.WF ∧ i.Fits ∧ p' = d.length := by
  unfold ImageData.dec at hd
  obtain ⟨⟨comp, p1⟩, e1, hd⟩ := bind_ok hd
  dsimp only at hd
  split at hd
  · rename_i hc
    obtain ⟨⟨data, p2⟩, e2, hd⟩ := bind_ok hd
    dsimp only at hd
    cases hd
    obtain ⟨_, h2, h3⟩ := readU_ok e1
    obtain ⟨g1, g2⟩ := readAll_ok e2
    exact ⟨hc, (readU_ok e1).1, by omega⟩
  · cases hd

structure PSD.Read (x : PSD) : Prop where
  header : x.header.Valid
  colorMode : FitsU 4 x.colorModeData.length
  resources : (∀ r ∈ x.resources, r.WF) ∧ (x.resources.map Resource.key).Nodup
  lam : LayerAndMask.Read x.header.version x.layerAndMask
  image : x.imageData.WF ∧ x.imageData.Fits

theorem PSD.read_ok {b : B} {p : Nat} {x : PSD} {p' : Nat} (hd : PSD.read b p = .ok (x, p')) :
    PSD.Read x ∧ p' = b.length := by
  unfold PSD.read at hd
  obtain ⟨⟨h, p1⟩, e1, hd⟩ := bind_ok hd
  obtain ⟨⟨cmd, p2⟩, e2, hd⟩ := bind_ok hd
  obtain ⟨⟨res, p3⟩, e3, hd⟩ := bind_ok hd
  obtain ⟨⟨lm, p4⟩, e4, hd⟩ := bind_ok hd
  obtain ⟨⟨img, p5⟩, e5, hd⟩ := bind_ok hd
  dsimp only at hd
  cases hd
  obtain ⟨i1, i2, i3⟩ := ImageData.dec_ok e5
  exact ⟨⟨Header.dec_ok e1, colorModeDec_ok e2, resourcesDec_ok e3, LayerAndMask.dec_ok e4, i1, i2⟩, i3⟩


def PSD.Stable (x : PSD) : Prop := x.layerAndMask.Stable

instance (x : PSD) : Decidable x.Stable := by unfold PSD.Stable; exact inferInstance

/-- the lengths `PSD.write` derives from the data it holds are representable in their length fields -/
def PSD.LenFits (pad : Nat) (x : PSD) : Prop :=
  FitsU 4 (resourcesBodyT x.resources).length ∧ x.layerAndMask.LenFits x.header.version pad

instance (pad : Nat) (x : PSD) : Decidable (x.LenFits pad) := by unfold PSD.LenFits; exact inferInstance

theorem PSD.writeError_none {pad : Nat} {x : PSD} (hv : x.header.Valid) (f1 : x.Fits₁) (f2 : x.Fits₂ pad) :
    x.writeError pad = none := by
  have hle : ∀ n ∈ G.headerVersions, ¬ 2 < n := by decide
  unfold PSD.writeError
  rw [if_neg (not_not_intro f1), if_neg (hle _ hv.2.1), if_neg (not_not_intro f2)]

theorem PSD.Read.fits {pad : Nat} {x : PSD} (h : PSD.Read x) (hl : x.LenFits pad) : x.Fits₁ ∧ x.Fits₂ pad :=
  ⟨⟨Header.fits_of_valid h.header, h.colorMode, fun r hr => (h.resources.1 r hr).2, hl.1⟩,
   h.lam.fits hl.2, h.image.2⟩

theorem PSD.Read.enc_ok {pad : Nat} {x : PSD} (h : PSD.Read x) (hl : x.LenFits pad) :
    PSD.enc pad x = .ok (x.encT pad) := by
  obtain ⟨f1, f2⟩ := h.fits hl
  unfold PSD.enc
  rw [PSD.writeError_none h.header f1 f2]

/-- a well-formed document is written without error -/
theorem PSD.WF.writeError_none {pad : Nat} {x : PSD} (h : x.WF pad) : x.writeError pad = none := by
  obtain ⟨hh, hc, ⟨hr, _, hrl⟩, hl, hi⟩ := h
  have himg : ∀ n ∈ G.imageCompressions, FitsU 2 n := by decide
  exact PSD.writeError_none hh ⟨Header.fits_of_valid hh, hc, fun r hr' => (hr r hr').2, hrl⟩ ⟨hl.1, himg _ hi⟩

theorem PSD.fits_of_enc {pad : Nat} {x : PSD} {s : B} (h : PSD.enc pad x = .ok s) : x.Fits₁ ∧ x.Fits₂ pad := by
  unfold PSD.enc at h
  split at h
  · cases h
  · rename_i he
    unfold PSD.writeError at he
    split at he
    · cases he
    · rename_i f1
      split at he
      · cases he
      · split at he
        · cases he
        · rename_i f2
          exact ⟨Decidable.not_not.1 f1, Decidable.not_not.1 f2⟩

theorem PSD.Read.wf {pad : Nat} {x : PSD} (h : PSD.Read x) (f1 : x.Fits₁) (f2 : x.Fits₂ pad) (hst : x.Stable) :
    x.WF pad :=
  ⟨h.header, h.colorMode, ⟨h.resources.1, h.resources.2, f1.2.2.2⟩, h.lam.wf f2.1 hst, h.image.1⟩

/-! ### the derived lengths are part of `Fits` -/

theorem LayerRecord.lenFits_of_fits {v : Nat} {r : LayerRecord} (h : r.Fits v) : r.LenFits v :=
  ⟨h.2.2.2.2.2.2.2.2.2.1.2.2, h.2.2.2.2.2.2.2.2.2.2.2.2, fun c hc => (h.2.2.2.2.2.1 c hc).2⟩

theorem LayerInfo.lenFits_of_fits {v pad : Nat} {li : LayerInfo} (h : li.Fits v pad) : li.LenFits v pad := by
  unfold LayerInfo.Fits at h
  unfold LayerInfo.LenFits
  split
  · trivial
  · rename_i h0
    rw [if_neg h0] at h
    obtain ⟨_, h2, _, h4⟩ := h
    refine ⟨?_, h4⟩
    cases hr : li.refresh.records with
    | none => trivial
    | some rs =>
      rw [hr] at h2
      exact fun r hr' => LayerRecord.lenFits_of_fits (h2 r hr')

theorem LayerAndMask.lenFits_of_fits {v pad : Nat} {x : LayerAndMask} (h : x.Fits v pad) : x.LenFits v pad := by
  obtain ⟨h1, _, _, h4⟩ := h
  refine ⟨?_, h4⟩
  cases hli : x.layerInfo with
  | none => trivial
  | some li =>
    rw [hli] at h1
    exact LayerInfo.lenFits_of_fits h1

theorem PSD.lenFits_of_fits {pad : Nat} {x : PSD} (f1 : x.Fits₁) (f2 : x.Fits₂ pad) : x.LenFits pad :=
  ⟨f1.2.2.2, LayerAndMask.lenFits_of_fits f2.1⟩

end PsdVerif.Psd
