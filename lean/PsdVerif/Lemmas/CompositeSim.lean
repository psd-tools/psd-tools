/-
Indistinguishable compositor states (`Sim`): one step, the group result and the start of a group respect it.
-/
import PsdVerif.Lemmas.Composite

namespace PsdVerif.Composite

/-- Two compositor states that no later step and no result can tell apart: equal bookkeeping,
equal colour wherever the accumulated alpha is not zero, equal backdrop colour wherever the
backdrop alpha is not zero. (The published model leaves colour under zero coverage undefined;
the code fills it with 1.0 or leaves what was there.) -/
structure Sim (s t : PState) : Prop where
  sg : s.sg = t.sg
  ag : s.ag = t.ag
  a : s.a = t.a
  a0 : s.a0 = t.a0
  c : t.a ≠ 0 → s.c = t.c
  c0 : t.a0 ≠ 0 → s.c0 = t.c0

theorem Sim.refl (s : PState) : Sim s s := ⟨rfl, rfl, rfl, rfl, fun _ => rfl, fun _ => rfl⟩

theorem Sim.symm {s t : PState} (h : Sim s t) : Sim t s :=
  ⟨h.sg.symm, h.ag.symm, h.a.symm, h.a0.symm, fun ha => (h.c (by rw [← h.a]; exact ha)).symm,
    fun ha => (h.c0 (by rw [← h.a0]; exact ha)).symm⟩

theorem Sim.trans {r s t : PState} (h1 : Sim r s) (h2 : Sim s t) : Sim r t :=
  ⟨h1.sg.trans h2.sg, h1.ag.trans h2.ag, h1.a.trans h2.a, h1.a0.trans h2.a0,
    fun ha => (h1.c (by rw [h2.a]; exact ha)).trans (h2.c ha),
    fun ha => (h1.c0 (by rw [h2.a0]; exact ha)).trans (h2.c0 ha)⟩

/-- `Same` is `Sim` with the backdrop colour literally kept -/
theorem Same.of_sim {s t : PState} (h : Sim s t) (h0 : s.c0 = t.c0) : Same s t :=
  ⟨h.sg, h.ag, h.a, h.a0, h0, fun ha ch => congrFun (h.c ha) ch⟩

theorem Same.sim {s t : PState} (h : Same s t) : Sim s t :=
  ⟨h.sg, h.ag, h.a, h.a0, fun ha => funext (h.c ha), fun _ => h.c0⟩

/-- sources that cannot be told apart: same shape and alpha, same colour where alpha is not zero -/
structure SrcSim (color color' : Color) (shape alpha : Rat) : Prop where
  c : alpha ≠ 0 → color = color'

theorem Sim.backdrop {s t : PState} (h : Sim s t) (knockout : Bool) :
    (backdrop s knockout).2 = (backdrop t knockout).2 ∧
      ((backdrop t knockout).2 ≠ 0 → (backdrop s knockout).1 = (backdrop t knockout).1) := by
  cases knockout
  · exact ⟨h.a, h.c⟩
  · exact ⟨h.a0, h.c0⟩

/-- what is multiplied by zero may differ -/
theorem mul_congr_of_ne_zero {a x y : Rat} (h : a ≠ 0 → x = y) : a * x = a * y := by
  by_cases ha : a = 0
  · rw [ha, zero_mul, zero_mul]
  · rw [h ha]

/-- One step respects `Sim`; in fact the new colours are *equal*: every colour that could differ enters
`stepNum` multiplied by the alpha under which it is undefined. -/
theorem applySource_sim (bl : Color → Color → Color) {s t : PState} (h : Sim s t)
    {color color' : Color} {shape alpha : Rat} (hc : alpha ≠ 0 → color = color') (ko : Bool) :
    Sim (applySource bl s color shape alpha ko) (applySource bl t color' shape alpha ko) := by
  have hag : (applySource bl s color shape alpha ko).ag = (applySource bl t color' shape alpha ko).ag := by
    unfold applySource; simp only; rw [h.ag, h.a0]
  have ha : (applySource bl s color shape alpha ko).a = (applySource bl t color' shape alpha ko).a := by
    unfold applySource; simp only; rw [h.ag, h.a0]
  refine ⟨by simp [h.sg], hag, ha, by simp [h.a0], fun _ => ?_, fun h0 => by simpa using h.c0 (by simpa using h0)⟩
  funext ch
  obtain ⟨ea, ec⟩ := h.backdrop ko
  have e1 : t.a * s.c ch = t.a * t.c ch := mul_congr_of_ne_zero fun h0 => by rw [h.c h0]
  have e2 : (backdrop t ko).2 * (backdrop s ko).1 ch = (backdrop t ko).2 * (backdrop t ko).1 ch :=
    mul_congr_of_ne_zero fun h0 => by rw [ec h0]
  have e3 : alpha * ((1 - (backdrop t ko).2) * color ch + (backdrop t ko).2 * bl (backdrop s ko).1 color ch)
      = alpha * ((1 - (backdrop t ko).2) * color' ch + (backdrop t ko).2 * bl (backdrop t ko).1 color' ch) :=
    mul_congr_of_ne_zero fun hal => by
      rw [hc hal, mul_congr_of_ne_zero (a := (backdrop t ko).2) fun h0 => by rw [ec h0]]
  rw [applySource_c, applySource_c, ha]
  unfold stepNum
  rw [h.a, ea, e1, e2, e3]

theorem applySource_zero_sim (bl : Color → Color → Color) (st : PState) (hst : Inv st) (color : Color) (ko : Bool) :
    Sim (applySource bl st color 0 0 ko) st := by
  have hag : (applySource bl st color 0 0 ko).ag = st.ag := by cases ko <;> simp
  have ha : (applySource bl st color 0 0 ko).a = st.a := by
    show union st.a0 (applySource bl st color 0 0 ko).ag = st.a
    rw [hag, hst.a_eq]
  refine ⟨by simp, hag, ha, rfl, ?_, fun _ => rfl⟩
  intro hne
  funext ch
  have hnum : stepNum bl st color 0 0 ko ch = st.c ch * st.a := by unfold stepNum; ring
  rw [applySource_c, ha, hnum]
  exact clip_divide_self (hst.c ch) hne

/-- the value `finish` returns for a group is the same for indistinguishable states, wherever the
group painted something -/
theorem finishColor_sim {s t : PState} (h : Sim s t) (ht : Inv t) (hag : t.ag ≠ 0) :
    finishColor s = finishColor t := by
  funext ch
  unfold finishColor
  have hta : t.a ≠ 0 := by
    rw [ht.a_eq, union_eq]
    obtain ⟨z0, z1⟩ := ht.a0; obtain ⟨g0, g1⟩ := ht.ag
    have hpos : 0 < t.ag := lt_of_le_of_ne g0 (Ne.symm hag)
    have := mul_nonneg (sub_nonneg.2 g1) z0
    linarith
  rw [h.c hta, h.ag, h.a0]
  by_cases h0 : t.a0 = 0
  · simp [h0, divide, hag]
  · rw [h.c0 h0]

theorem init_sim {c c' : Color} {a : Rat} (iso : Bool) (h : a ≠ 0 → c = c') :
    Sim (PState.init c a iso) (PState.init c' a iso) := by
  unfold PState.init
  cases iso <;> simp only [Bool.false_eq_true, if_false, if_true]
  · exact ⟨rfl, rfl, rfl, rfl, h, h⟩
  · exact ⟨rfl, rfl, rfl, rfl, fun hne => absurd rfl hne, fun hne => absurd rfl hne⟩

end PsdVerif.Composite
