/-
C06 — safety of the skeleton reader, part 3: the readers that seek (`LayerInfo.dec`,
`LayerAndMask.bodyDec`, `LayerAndMask.dec`), the whole file, and the header validators.
-/
import PsdVerif.Lemmas.Safe2
import PsdVerif.Lemmas.CodecPsd1

namespace PsdVerif.Safe
open PsdVerif PsdVerif.Codec PsdVerif.Psd

theorem bind_error_left {α β : Type} {m : Except Err β} {f : β → Except Err α} {e : Err} (h : m = .error e) :
    (m >>= f) = .error e := by
  subst h; rfl

/-! ## the seeking readers: exception classes -/

theorem layerInfo_errIn (v : Nat) (d : B) (p : Nat) : ErrIn (LayerInfo.dec v d p) := by
  unfold LayerInfo.dec
  refine ErrIn.bind (readU_good _ d p).errIn fun ⟨length, p1⟩ _ => ?_
  have hm : ErrIn (if length = 0 then (.ok (⟨0, none, none⟩, p1) : Except Err (LayerInfo × Nat)) else
      match LayerInfo.bodyDec v d p1 with
      | .ok (li, p) => .ok (li.normCount0, p)
      | .error e => .error e) := by
    split
    · exact ErrIn.ok _
    · have g := layerInfoBody_good v d p1
      split
      · exact ErrIn.ok _
      · rename_i e he
        exact ErrIn.error (g.errIn e he)
  refine ErrIn.bind hm fun ⟨li, p2⟩ _ => ?_
  dsimp only
  split
  · split
    · exact ErrIn.error overflow_mem
    · exact ErrIn.ok _
  · exact ErrIn.error assertion_mem

theorem layerAndMaskBody_errIn (v endPos : Nat) (d : B) (p : Nat) : ErrIn (LayerAndMask.bodyDec v endPos d p) := by
  unfold LayerAndMask.bodyDec
  refine ErrIn.bind (layerInfo_errIn v d p) fun ⟨li, p1⟩ _ => ?_
  dsimp only
  split
  · refine ErrIn.bind (globalMask_good d p1).errIn fun ⟨glm, p2⟩ _ => ?_
    refine ErrIn.bind (taggedBlocks_good v 4 (some endPos) d p2).errIn fun ⟨tbs, p3⟩ _ => ?_
    exact ErrIn.ok _
  · exact ErrIn.ok _

theorem layerAndMask_errIn (v : Nat) (d : B) (p : Nat) : ErrIn (LayerAndMask.dec v d p) := by
  unfold LayerAndMask.dec
  refine ErrIn.bind (readU_good _ d p).errIn fun ⟨length, p1⟩ _ => ?_
  have hm : ErrIn (if length = 0 then (.ok (⟨none, none, none⟩, p1) : Except Err (LayerAndMask × Nat)) else
      LayerAndMask.bodyDec v (p1 + length) d p1) := by
    split
    · exact ErrIn.ok _
    · exact layerAndMaskBody_errIn v _ d p1
  refine ErrIn.bind hm fun ⟨x, _⟩ _ => ?_
  dsimp only
  split
  · exact ErrIn.error overflow_mem
  · exact ErrIn.ok _

theorem psd_errIn (d : B) (p : Nat) : ErrIn (PSD.read d p) := by
  unfold PSD.read
  refine ErrIn.bind (header_good d p).errIn fun ⟨header, p1⟩ _ => ?_
  refine ErrIn.bind (colorMode_good d p1).errIn fun ⟨cmd, p2⟩ _ => ?_
  refine ErrIn.bind (resources_good d p2).errIn fun ⟨res, p3⟩ _ => ?_
  refine ErrIn.bind (layerAndMask_errIn header.version d p3) fun ⟨lm, p4⟩ _ => ?_
  refine ErrIn.bind (imageData_good d p4).errIn fun ⟨img, p5⟩ _ => ?_
  exact ErrIn.ok _

/-! ## the seeking readers: where the cursor ends (`fp.seek(end_pos)`, whatever the stream holds) -/

theorem layerInfo_cursor {v : Nat} {d : B} {p : Nat} {li : LayerInfo} {p' : Nat}
    (h : LayerInfo.dec v d p = .ok (li, p')) :
    ∃ n, readU (secW v) d p = .ok (n, p + secW v) ∧ p' = p + secW v + n ∧ ¬ overflows p' d := by
  unfold LayerInfo.dec at h
  obtain ⟨⟨n, p1⟩, h1, h⟩ := bind_ok h
  obtain ⟨⟨li', p2⟩, _, h⟩ := bind_ok h
  have a1 := readU_ok h1
  simp only at h
  split at h
  · split at h
    · cases h
    · rename_i hov
      cases h
      refine ⟨n, ?_, by omega, hov⟩
      rw [h1, a1.1]
  · cases h

theorem layerAndMask_cursor {v : Nat} {d : B} {p : Nat} {x : LayerAndMask} {p' : Nat}
    (h : LayerAndMask.dec v d p = .ok (x, p')) :
    ∃ n, readU (secW v) d p = .ok (n, p + secW v) ∧ p' = p + secW v + n ∧ ¬ overflows p' d := by
  unfold LayerAndMask.dec at h
  obtain ⟨⟨n, p1⟩, h1, h⟩ := bind_ok h
  obtain ⟨⟨x', p2⟩, _, h⟩ := bind_ok h
  have a1 := readU_ok h1
  simp only at h
  split at h
  · cases h
  · rename_i hov
    cases h
    refine ⟨n, ?_, by omega, hov⟩
    rw [h1, a1.1]

/-- a position behind the end of a real stream (shorter than `2^63`) stays below `sys.maxsize + 1` -/
theorem lt_pyMaxSize_of_not_overflows {n : Nat} {d : B} (h : ¬ overflows n d) (hd : d.length < pyMaxSize) :
    n < pyMaxSize := by
  unfold overflows at h; omega

/-- a section that ends behind the end of the stream makes the next reader of `PSD.read` fail -/
theorem imageData_behind_end {d : B} {p : Nat} (h : d.length < p) : ImageData.dec d p = .error .ioError := by
  unfold ImageData.dec
  rw [readU_short (by omega)]; rfl

/-- an accepted file: the five section readers succeeded one after the other -/
theorem psd_ok_inv {b : B} {v : PSD} {p : Nat} (h : PSD.read b 0 = .ok (v, p)) :
    ∃ p1 p2 p3 p4, Header.dec b 0 = .ok (v.header, p1) ∧ colorModeDec b p1 = .ok (v.colorModeData, p2) ∧
      resourcesDec b p2 = .ok (v.resources, p3) ∧
      LayerAndMask.dec v.header.version b p3 = .ok (v.layerAndMask, p4) ∧ ImageData.dec b p4 = .ok (v.imageData, p) := by
  unfold PSD.read at h
  obtain ⟨⟨header, p1⟩, h1, h⟩ := bind_ok h
  obtain ⟨⟨cmd, p2⟩, h2, h⟩ := bind_ok h
  obtain ⟨⟨res, p3⟩, h3, h⟩ := bind_ok h
  obtain ⟨⟨lm, p4⟩, h4, h⟩ := bind_ok h
  obtain ⟨⟨img, p5⟩, h5, h⟩ := bind_ok h
  cases h
  exact ⟨p1, p2, p3, p4, h1, h2, h3, h4, h5⟩

theorem psd_cursor {b : B} {v : PSD} {p : Nat} (h : PSD.read b 0 = .ok (v, p)) : p = b.length := by
  obtain ⟨_, _, _, _, _, _, _, _, h5⟩ := psd_ok_inv h
  exact imageData_end h5

/-- … and the layer-and-mask section it read ended inside the file -/
theorem psd_section_inside {b : B} {v : PSD} {p : Nat} (h : PSD.read b 0 = .ok (v, p)) :
    ∃ p3 p4, LayerAndMask.dec v.header.version b p3 = .ok (v.layerAndMask, p4) ∧ p4 + 2 ≤ b.length := by
  obtain ⟨_, _, p3, p4, _, _, _, h4, h5⟩ := psd_ok_inv h
  refine ⟨p3, p4, h4, ?_⟩
  have := (imageData_good b p4).of_ok h5
  have := imageData_end h5
  omega

/-- the seven header fields as they lie in the stream at offset `p` (format `4sH6xHIIHH`) -/
def headerRaw (d : B) (p : Nat) : Header :=
  ⟨(d.drop p).take 4, beVal ((d.drop (p + 4)).take 2), beVal ((d.drop (p + 4 + 2 + 6)).take 2),
   beVal ((d.drop (p + 4 + 2 + 6 + 2)).take 4), beVal ((d.drop (p + 4 + 2 + 6 + 2 + 4)).take 4),
   beVal ((d.drop (p + 4 + 2 + 6 + 2 + 4 + 4)).take 2), beVal ((d.drop (p + 4 + 2 + 6 + 2 + 4 + 4 + 2)).take 2)⟩

/-- with 26 bytes available the header reader is: extract the fields, run the validators -/
theorem header_dec_eq {d : B} {p : Nat} (h : p + 26 ≤ d.length) :
    Header.dec d p = if (headerRaw d p).Valid then .ok (headerRaw d p, p + 26) else .error .valueError := by
  unfold Header.dec
  rw [readN_eq (n := 4) (p := p) (by omega)]
  simp only [bind, Except.bind]
  rw [readU_eq (w := 2) (p := p + 4) (by omega)]
  simp only
  rw [readN_eq (n := 6) (p := p + 4 + 2) (by omega)]
  simp only
  rw [readU_eq (w := 2) (p := p + 4 + 2 + 6) (by omega)]
  simp only
  rw [readU_eq (w := 4) (p := p + 4 + 2 + 6 + 2) (by omega)]
  simp only
  rw [readU_eq (w := 4) (p := p + 4 + 2 + 6 + 2 + 4) (by omega)]
  simp only
  rw [readU_eq (w := 2) (p := p + 4 + 2 + 6 + 2 + 4 + 4) (by omega)]
  simp only
  rw [readU_eq (w := 2) (p := p + 4 + 2 + 6 + 2 + 4 + 4 + 2) (by omega)]
  have e : p + 4 + 2 + 6 + 2 + 4 + 4 + 2 + 2 = p + 26 := by omega
  rw [e]
  rfl

/-- a read followed by something that raises `IOError` whenever the read succeeded raises `IOError` -/
theorem short_readN {α : Type} {n : Nat} {d : B} {p : Nat} {f : B × Nat → Except Err α}
    (hf : p + n ≤ d.length → f ((d.drop p).take n, p + n) = .error .ioError) :
    (readN n d p >>= f) = .error .ioError := by
  by_cases hk : p + n ≤ d.length
  · rw [readN_eq hk]; exact hf hk
  · rw [readN_short (by omega)]; rfl

theorem short_readU {α : Type} {w : Nat} {d : B} {p : Nat} {f : Nat × Nat → Except Err α}
    (hf : p + w ≤ d.length → f (beVal ((d.drop p).take w), p + w) = .error .ioError) :
    (readU w d p >>= f) = .error .ioError := by
  by_cases hk : p + w ≤ d.length
  · rw [readU_eq hk]; exact hf hk
  · rw [readU_short (by omega)]; rfl

/-- fewer than 26 bytes: one of the eight reads of `4sH6xHIIHH` fails (the validators are never reached) -/
theorem header_short' {d : B} {p : Nat} (h : d.length < p + 26) : Header.dec d p = .error .ioError := by
  unfold Header.dec
  refine short_readN fun _ => short_readU fun _ => short_readN fun _ => short_readU fun _ => short_readU fun _ =>
    short_readU fun _ => short_readU fun _ => short_readU fun _ => ?_
  omega

theorem header_valid_of_ok {d : B} {p : Nat} {h : Header} {p' : Nat} (hd : Header.dec d p = .ok (h, p')) :
    h.Valid ∧ p' = p + 26 ∧ p + 26 ≤ d.length ∧ h = headerRaw d p := by
  by_cases hl : p + 26 ≤ d.length
  · rw [header_dec_eq hl] at hd
    split at hd
    · cases hd
      exact ⟨‹_›, rfl, hl, rfl⟩
    · cases hd
  · rw [header_short' (by omega)] at hd
    cases hd

theorem header_accepts' {h : Header} (hv : h.Valid) (rest : B) : Header.dec (h.encT ++ rest) 0 = .ok (h, 26) := by
  have hat : At (h.encT ++ rest) 0 h.encT := ⟨[], rest, by simp, rfl⟩
  have := Header.dec_at hv hat
  rw [Header.length_encT] at this
  exact this

theorem psd_of_header_error {b : B} {p : Nat} {e : Err} (h : Header.dec b p = .error e) : PSD.read b p = .error e := by
  unfold PSD.read
  exact bind_error_left h

end PsdVerif.Safe
