/-
C06 — the counting twins of Model/PayloadCostSimple.lean erase to the readers of Model/PayloadSimple.lean and obey
the cost judgement with the constants recorded in their `CC.hand`.
-/
import PsdVerif.Model.PayloadCostSimple
import PsdVerif.Lemmas.PayloadCost2

namespace PsdVerif.PayloadCost
open PsdVerif PsdVerif.Codec PsdVerif.PsdCost PsdVerif.Payload PsdVerif.Payload3 PsdVerif.Safe PsdVerif.SafeCost

/-- a hand-written class is sound when its twin erases and costs what its `CC.hand` says -/
theorem CC.hand_sound {α : Type} {c : PCodec α} {decC : RC α} {name : String} {a b k : Nat} {loops : List Loop}
    (he : ∀ d p, (decC d p).1 = c.dec d p) (hc : CostR a b k decC) : (CC.hand c decC name a b k loops).Sound :=
  fun _ => ⟨he, hc⟩

/-! ### erasure of the extra primitives -/

theorem readF64C_fst (d : B) (p : Nat) : (readF64C d p).1 = readF64 d p := by
  unfold readF64C readF64
  rw [bind_fst, readUC_fst]
  cases readU 8 d p <;> rfl

theorem readBoolC_fst (d : B) (p : Nat) : (readBoolC d p).1 = Payload.readBool d p := by
  unfold readBoolC Payload.readBool
  rw [bind_fst, readUC_fst]
  cases readU 1 d p <;> rfl

theorem readSC_fst (w : Nat) (d : B) (p : Nat) : (readSC w d p).1 = readS w d p := by
  unfold readSC readS
  rw [bind_fst, readUC_fst]
  cases readU w d p <;> rfl

theorem readSkipC_fst (n : Nat) (d : B) (p : Nat) : (readSkipC n d p).1 = readSkip n d p := by
  unfold readSkipC readSkip
  rw [bind_fst, readNC_fst]
  cases readN n d p <;> rfl

theorem readSizedC_fst (n : Nat) (d : B) (p : Nat) : (readSizedC n d p).1 = readSized n d p := readPyC_fst _ d p

theorem readBool_err_len {d : B} {p : Nat} {e : Err} (h : Payload.readBool d p = .error e) : d.length < p + 1 := by
  unfold Payload.readBool at h
  split at h
  · cases h
  · rename_i e' h'; exact readU_err_len h'

/-- `read_fmt("<field>nx")` as the models have it (the field, then `n` pad bytes): it fails only when fewer than its
`n₁ + n₂` bytes are left -/
theorem padded_err_len {α : Type} {r : R α} {n₁ n₂ : Nat}
    (hok : ∀ {d p v p'}, r d p = .ok (v, p') → p' = p + n₁) (herr : ∀ {d p e}, r d p = .error e → d.length < p + n₁)
    {d : B} {p : Nat} {e : Err}
    (h : (do let (v, p) ← r d p; let (_, p) ← readSkip n₂ d p; .ok (v, p) : Except Err (α × Nat)) = .error e) :
    d.length - p ≤ n₁ + n₂ - 1 := by
  cases h1 : r d p with
  | error e1 => have := herr h1; omega
  | ok y =>
    obtain ⟨v, p1⟩ := y
    have a1 := hok h1
    rw [h1] at h
    simp only [bind, Except.bind] at h
    cases h2 : readSkip n₂ d p1 with
    | ok z => rw [h2] at h; cases h
    | error e2 => have := readSkip_err_len h2; omega

/-! ## base.py -/

theorem EmptyElement.cc_c : EmptyElement.cc.c = EmptyElement.codec := rfl
theorem NumericElement.cc_c : NumericElement.cc.c = NumericElement.codec := rfl
theorem IntegerElement.cc_c : IntegerElement.cc.c = IntegerElement.codec := rfl
theorem ShortIntegerElement.cc_c : ShortIntegerElement.cc.c = ShortIntegerElement.codec := rfl
theorem Color.cc_c : Color.cc.c = Color.codec := rfl
theorem SheetColorSetting.cc_c : SheetColorSetting.cc.c = SheetColorSetting.codec := rfl
theorem ChannelBlendingRestrictionsSetting.cc_c :
    ChannelBlendingRestrictionsSetting.cc.c = ChannelBlendingRestrictionsSetting.codec := rfl

theorem EmptyElement.cc_sound : EmptyElement.cc.Sound :=
  CC.hand_sound (fun _ _ => rfl) (fun _ _ hp => Cost.ok _ hp)

theorem NumericElement.cc_sound : NumericElement.cc.Sound :=
  CC.hand_sound readF64C_fst (fun _ _ _ => readF64C_cost)

theorem IntegerElement.cc_sound : IntegerElement.cc.Sound :=
  CC.hand_sound (readUC_fst 4) (fun _ _ _ => readUC_cost 4)

theorem readH2xC_fst (d : B) (p : Nat) : (readH2xC d p).1 = readH2x d p := by
  simp only [readH2xC, readH2x, fst_bind, ok_fst, readUC_fst, readSkipC_fst]

theorem readH2xC_cost : CostR 1 2 4 readH2xC := by
  intro d p hp
  apply Cost.mono
  case h =>
    unfold readH2xC
    cbind (readUC_cost 2)
    cbind (readSkipC_cost 2)
    cdone
  cside

theorem readH2xC_fail_w {d : B} {p : Nat} {e : Err} (hp : p ≤ d.length) (h : (readH2xC d p).1 = .error e) :
    (readH2xC d p).2.w ≤ 5 :=
  fail_w_le 3 (readH2xC_cost d p hp) h
    (padded_err_len (r := readU 2) (fun h => (Safe.readU_ok h).1) readU_err_len (readH2xC_fst d p ▸ h))

theorem ShortIntegerElement.cc_sound : ShortIntegerElement.cc.Sound := by
  refine CC.hand_sound (orElseIOC_fst readH2xC_fst (readUC_fst 2)) (fun d p hp => ?_)
  exact (orElseIOC_cost (readH2xC_cost d p hp) (fun e h => readH2xC_fail_w hp h) (readUC_cost 2)).mono
    (by decide) (by decide) (by decide)

theorem readB3xC_fst (d : B) (p : Nat) : (readB3xC d p).1 = readB3x d p := by
  simp only [readB3xC, readB3x, fst_bind, ok_fst, readUC_fst, readSkipC_fst]

theorem readB3xC_cost : CostR 1 2 4 readB3xC := by
  intro d p hp
  apply Cost.mono
  case h =>
    unfold readB3xC
    cbind (readUC_cost 1)
    cbind (readSkipC_cost 3)
    cdone
  cside

theorem readB3xC_fail_w {d : B} {p : Nat} {e : Err} (hp : p ≤ d.length) (h : (readB3xC d p).1 = .error e) :
    (readB3xC d p).2.w ≤ 5 :=
  fail_w_le 3 (readB3xC_cost d p hp) h
    (padded_err_len (r := readU 1) (fun h => (Safe.readU_ok h).1) readU_err_len (readB3xC_fst d p ▸ h))

theorem ByteElement.cc_c : ByteElement.cc.c = ByteElement.codec := rfl

theorem ByteElement.cc_sound : ByteElement.cc.Sound := by
  refine CC.hand_sound (orElseIOC_fst readB3xC_fst (readUC_fst 1)) (fun d p hp => ?_)
  exact (orElseIOC_cost (readB3xC_cost d p hp) (fun e h => readB3xC_fail_w hp h) (readUC_cost 1)).mono
    (by decide) (by decide) (by decide)

theorem readBool3xC_fst (d : B) (p : Nat) : (readBool3xC d p).1 = readBool3x d p := by
  simp only [readBool3xC, readBool3x, fst_bind, ok_fst, readBoolC_fst, readSkipC_fst]

theorem readBool3xC_cost : CostR 1 2 4 readBool3xC := by
  intro d p hp
  apply Cost.mono
  case h =>
    unfold readBool3xC
    cbind readBoolC_cost
    cbind (readSkipC_cost 3)
    cdone
  cside

theorem readBool3xC_fail_w {d : B} {p : Nat} {e : Err} (hp : p ≤ d.length) (h : (readBool3xC d p).1 = .error e) :
    (readBool3xC d p).2.w ≤ 5 :=
  fail_w_le 3 (readBool3xC_cost d p hp) h
    (padded_err_len (r := Payload.readBool) (fun h => (readBool_ok h).1) readBool_err_len (readBool3xC_fst d p ▸ h))

theorem BooleanElement.cc_c : BooleanElement.cc.c = BooleanElement.codec := rfl

theorem BooleanElement.cc_sound : BooleanElement.cc.Sound := by
  refine CC.hand_sound (orElseIOC_fst readBool3xC_fst readBoolC_fst) (fun d p hp => ?_)
  exact (orElseIOC_cost (readBool3xC_cost d p hp) (fun e h => readBool3xC_fail_w hp h) readBoolC_cost).mono
    (by decide) (by decide) (by decide)

theorem StringElement.cc_c (pw pr : Nat) : (StringElement.cc pw pr).c = StringElement.codec pw pr := rfl

/-- `pr ≠ 0`: the paddings the containers pass are 1 and 4 (with `padding=0` Python's `read_padding` divides by zero) -/
theorem StringElement.cc_sound (pw pr : Nat) (h : pr ≠ 0) : (StringElement.cc pw pr).Sound :=
  CC.hand_sound (readUStrC_fst pr) (fun _ _ hp => readUStrC_cost pr h hp)

/-! ## color.py -/

theorem Color.readValueC_fst (lab : Bool) (d : B) (p : Nat) : (Color.readValueC lab d p).1 = Color.readValue lab d p := by
  unfold Color.readValueC Color.readValue
  split
  · exact readI16C_fst d p
  · rw [bind_fst, readUC_fst]
    cases readU 2 d p <;> rfl

theorem Color.readValueC_cost (lab : Bool) : CostR 1 1 2 (Color.readValueC lab) := by
  intro d p hp
  unfold Color.readValueC
  split
  · exact readI16C_cost
  · exact Cost.map (g := fun (n : Nat) => (n : Int)) (readUC_cost 2)

theorem Color.decC_fst (d : B) (p : Nat) : (Color.decC d p).1 = Color.dec d p := by
  unfold Color.decC Color.dec
  refine erase_seq (readUC_fst ..) fun id p => ?_
  refine erase_seq (readCountC_fst (Color.readValueC_fst _) ..) fun vs p => ?_
  rfl

theorem Color.decC_cost : CostR 1 9 10 Color.decC := by
  intro d p hp
  apply Cost.mono
  case h =>
    unfold Color.decC
    cbind (readUC_cost 2)
    cbind (readCountC_cost_fixed (fun q hq => Color.readValueC_cost _ d q hq) 4 _ (by assumption))
    cdone
  cside

theorem Color.cc_sound : Color.cc.Sound := CC.hand_sound Color.decC_fst Color.decC_cost

/-! ## tagged_blocks.py -/

theorem SheetColorSetting.decC_fst (d : B) (p : Nat) : (SheetColorSetting.decC d p).1 = SheetColorSetting.codec.dec d p := by
  simp only [SheetColorSetting.decC, SheetColorSetting.codec, fst_bind, ok_fst, error_fst, ite_fst, readUC_fst,
    readSkipC_fst]

theorem SheetColorSetting.decC_cost : CostR 1 2 8 SheetColorSetting.decC := by
  intro d p hp
  apply Cost.mono
  case h =>
    unfold SheetColorSetting.decC
    cbind (readUC_cost 2)
    cbind (readSkipC_cost 6)
    celse
    cdone
  cside

theorem SheetColorSetting.cc_sound : SheetColorSetting.cc.Sound :=
  CC.hand_sound SheetColorSetting.decC_fst SheetColorSetting.decC_cost

theorem ChannelBlendingRestrictionsSetting.cc_sound : ChannelBlendingRestrictionsSetting.cc.Sound := by
  refine CC.hand_sound (fun d p => readWhileC_fst (isReadableC_fst 4) (optItemC_fst (readUC_fst 4)) d p) (fun d p hp => ?_)
  exact (readWhileC_cost 4 (fun q _ => optItemC_cost (readUC_cost 4)) (by decide) p hp).mono (by decide) (by decide) (by decide)

theorem BytesElement.cc_c : BytesElement.cc.c = BytesElement.codec := rfl

theorem BytesElement.cc_sound : BytesElement.cc.Sound :=
  CC.hand_sound (readUpToC_fst 4) (fun _ _ hp => readUpToC_cost 4 hp)

theorem ReferencePoint.decC_fst (d : B) (p : Nat) : (ReferencePoint.decC d p).1 = ReferencePoint.codec.dec d p := by
  simp only [ReferencePoint.decC, ReferencePoint.codec, fst_bind, ok_fst, readF64C_fst]

theorem ReferencePoint.decC_cost : CostR 1 2 16 ReferencePoint.decC := by
  intro d p hp
  apply Cost.mono
  case h =>
    unfold ReferencePoint.decC
    cbind readF64C_cost
    cbind readF64C_cost
    cdone
  cside

theorem ReferencePoint.cc_c : ReferencePoint.cc.c = ReferencePoint.codec := rfl

theorem ReferencePoint.cc_sound : ReferencePoint.cc.Sound :=
  CC.hand_sound ReferencePoint.decC_fst ReferencePoint.decC_cost

theorem SectionDividerSetting.decC_fst (d : B) (p : Nat) :
    (SectionDividerSetting.decC d p).1 = SectionDividerSetting.dec d p := by
  unfold SectionDividerSetting.decC SectionDividerSetting.dec
  refine erase_seq (readUC_fst ..) fun kind p => ?_
  refine erase_ite (fun _ => ?_) fun _ => rfl
  refine erase_ok (isReadableC_fst 8 d p) ?_
  refine erase_seq (erase_ite (fun _ => ?_) fun _ => rfl) fun tail p' => ?_
  · refine erase_seq (readNC_fst ..) fun sig p => ?_
    refine erase_ite (fun _ => ?_) fun _ => rfl
    refine erase_seq (readNC_fst ..) fun bm p => ?_
    exact erase_ite (fun _ => rfl) fun _ => rfl
  · refine erase_ok (b := (tail.1.isSome && isReadable 4 d p')) ?_ ?_
    · cases tail.1.isSome <;> rfl
    · exact erase_seq (erase_ite (fun _ => optItemC_fst (readUC_fst 4) d p') fun _ => rfl) fun sub p => rfl

theorem SectionDividerSetting.decC_cost : CostR 1 18 4 SectionDividerSetting.decC := by
  intro d p hp
  apply Cost.mono
  case h =>
    unfold SectionDividerSetting.decC
    cbind (readUC_cost 4)
    celse
    apply Cost.step (n := 9)
    case hm => rw [isReadableC_w']; omega
    case hne => intro h; cases h
    case hf =>
      intro r _
      apply Cost.bind
      · cite
        · cbind (readNC_cost 4)
          celse
          cbind (readNC_cost 4)
          celse
          cdone
        · cdone
      · intro tail p' _ _
        dsimp only
        apply Cost.step (n := 5)
        case hm =>
          split
          · rw [isReadableC_w']; omega
          · exact Nat.zero_le _
        case hne => split <;> (intro h; cases h)
        case hf =>
          intro r2 _
          apply Cost.bind
          · cite
            · exact optItemC_cost (readUC_cost 4)
            · cdone
          · intro _ _ _ _
            dsimp only
            cdone
  cside

theorem SectionDividerSetting.cc_c : SectionDividerSetting.cc.c = SectionDividerSetting.codec := rfl

theorem SectionDividerSetting.cc_sound : SectionDividerSetting.cc.Sound :=
  CC.hand_sound SectionDividerSetting.decC_fst SectionDividerSetting.decC_cost

theorem UserMask.decC_fst (d : B) (p : Nat) : (UserMask.decC d p).1 = UserMask.codec.dec d p := by
  simp only [UserMask.decC, UserMask.codec, fst_bind, ok_fst, Color.decC_fst, readUC_fst, readSkipC_fst]

theorem UserMask.decC_cost : CostR 1 12 14 UserMask.decC := by
  intro d p hp
  apply Cost.mono
  case h =>
    unfold UserMask.decC
    cbind (Color.decC_cost d p hp)
    cbind (readUC_cost 2)
    cbind (readUC_cost 1)
    cbind (readSkipC_cost 1)
    cdone
  cside

theorem UserMask.cc_c : UserMask.cc.c = UserMask.codec := rfl
theorem UserMask.cc_sound : UserMask.cc.Sound := CC.hand_sound UserMask.decC_fst UserMask.decC_cost

theorem FilterMask.decC_fst (d : B) (p : Nat) : (FilterMask.decC d p).1 = FilterMask.codec.dec d p := by
  simp only [FilterMask.decC, FilterMask.codec, fst_bind, ok_fst, Color.decC_fst, readUC_fst]

theorem FilterMask.decC_cost : CostR 1 10 12 FilterMask.decC := by
  intro d p hp
  apply Cost.mono
  case h =>
    unfold FilterMask.decC
    cbind (Color.decC_cost d p hp)
    cbind (readUC_cost 2)
    cdone
  cside

theorem FilterMask.cc_c : FilterMask.cc.c = FilterMask.codec := rfl
theorem FilterMask.cc_sound : FilterMask.cc.Sound := CC.hand_sound FilterMask.decC_fst FilterMask.decC_cost

theorem PixelSourceData2.cc_c (pad : Nat) : (PixelSourceData2.cc pad).c = PixelSourceData2.codec pad := rfl

theorem PixelSourceData2.cc_sound (pad : Nat) : (PixelSourceData2.cc pad).Sound := by
  refine CC.hand_sound (fun d p => readWhileC_fst (isReadableC_fst 8) (optItemC_fst (readLenBlockC_fst 0 8 1)) d p)
    (fun d p hp => ?_)
  exact (readWhileC_cost 8 (fun q hq => optItemC_cost (readLenBlockC_cost 0 8 1 hq)) (by decide) p hp).mono
    (by decide) (by decide) (by decide)

/-! ### Annotations / Annotation -/

theorem Annotation.decC_fst (d : B) (p : Nat) : (Annotation.decC d p).1 = Annotation.dec d p := by
  unfold Annotation.decC Annotation.dec
  refine erase_seq (readNC_fst ..) fun kind p => ?_
  refine erase_seq (readUC_fst ..) fun isOpen p => ?_
  refine erase_seq (readUC_fst ..) fun flags p => ?_
  refine erase_seq (readUC_fst ..) fun ob p => ?_
  refine erase_seq (readCountC_fst readI32C_fst ..) fun icon p => ?_
  refine erase_seq (readCountC_fst readI32C_fst ..) fun popup p => ?_
  refine erase_seq (Color.decC_fst ..) fun color p => ?_
  refine erase_seq (readPascalC_fst ..) fun author p => ?_
  refine erase_seq (readPascalC_fst ..) fun name p => ?_
  refine erase_seq (readPascalC_fst ..) fun modDate p => ?_
  refine erase_seq (readUC_fst ..) fun _ p => ?_
  refine erase_seq (readNC_fst ..) fun marker p => ?_
  refine erase_seq (readLenBlockC_fst ..) fun data p => ?_
  exact erase_ite (fun _ => rfl) fun _ => rfl

theorem Annotation.decC_cost : CostR 1 44 65 Annotation.decC := by
  intro d p hp
  apply Cost.mono
  case h =>
    unfold Annotation.decC
    cbind (readNC_cost 4)
    cbind (readUC_cost 1)
    cbind (readUC_cost 1)
    cbind (readUC_cost 2)
    cbind (readCountC_cost_fixed (fun q hq => readI32C_cost) 4 _ (by assumption))
    cbind (readCountC_cost_fixed (fun q hq => readI32C_cost) 4 _ (by assumption))
    cbind (Color.decC_cost d _ (by assumption))
    cbind (readPascalC_cost 2)
    cbind (readPascalC_cost 2)
    cbind (readPascalC_cost 2)
    cbind (readUC_cost 4)
    cbind (readNC_cost 4)
    cbind (readLenBlockC_cost 0 4 1)
    celse
    cdone
  cside

theorem Annotation.cc_c : Annotation.cc.c = Annotation.codec := rfl
theorem Annotation.cc_sound : Annotation.cc.Sound := CC.hand_sound Annotation.decC_fst Annotation.decC_cost

theorem Annotations.readItemsC_fst (n : Nat) (d : B) (p : Nat) :
    (Annotations.readItemsC n d p).1 = Annotations.readItems n d p := by
  induction n generalizing p with
  | zero => rfl
  | succ n ih =>
    unfold Annotations.readItemsC Annotations.readItems
    refine erase_ok tick_fst ?_
    refine erase_seq (readUC_fst ..) fun len p => ?_
    refine erase_ite (fun _ => ?_) fun _ => ih p
    refine erase_seq (readUpToC_fst ..) fun chunk p => ?_
    refine erase_ok (enterBlock_fst chunk) ?_
    refine erase_seq (Annotation.decC_fst chunk 0) fun a _ => ?_
    refine erase_seq (ih p) fun as p => ?_
    rfl

/-- `for _ in range(count)`: an iteration that succeeds consumed the 4 bytes of its length field, which pay for the
iteration, the nested stream and the constant of `Annotation.read`: the bound does not mention `count` -/
theorem Annotations.readItemsC_cost (n : Nat) {d : B} (p : Nat) (hp : p ≤ d.length) :
    Cost 13 2 0 d p (Annotations.readItemsC n d p) := by
  induction n generalizing p with
  | zero => exact (Cost.ok _ hp).mono (by decide) (by decide) (Nat.le_refl _)
  | succ n ih =>
    unfold Annotations.readItemsC
    apply Cost.tick
    refine Cost.bind_le (b₂ := fun _ _ => 48) (k₂ := 0) (readUC_cost 4) (fun len p₁ _ hp₁ => ?_)
      (fun _ p₁ _ h _ => by omega) (by decide) (Nat.le_refl _) (Nat.le_refl 13) (Nat.zero_le _)
    dsimp only
    split
    · refine (Cost.bind_credit (c := 2) (a₂ := 13) (b₂ := 47) (k₂ := 0) (readUpToC_cost _ hp₁)
        fun chunk p₂ h2 hp₂ => ?_).mono (by decide) (by decide) (Nat.zero_le _)
      have hl := readUpToC_ok h2
      refine (Cost.enter (Annotation.decC_cost chunk 0 (Nat.zero_le _)) fun y _ => Cost.map (ih p₂ hp₂)).mono
        (Nat.le_refl _) (by omega) (Nat.le_refl _)
    · exact (ih p₁ hp₁).mono (Nat.le_refl _) (by decide) (Nat.le_refl _)

theorem Annotations.decC_fst (d : B) (p : Nat) : (Annotations.decC d p).1 = Annotations.dec d p := by
  simp only [Annotations.decC, Annotations.dec, fst_bind, ok_fst, readUC_fst, Annotations.readItemsC_fst]

theorem Annotations.decC_cost : CostR 13 5 8 Annotations.decC := by
  intro d p hp
  apply Cost.mono
  case h =>
    unfold Annotations.decC
    cbind (readUC_cost 2)
    cbind (readUC_cost 2)
    cbind (readUC_cost 4)
    cbind (Annotations.readItemsC_cost _ _ (by assumption))
    cdone
  cside

theorem Annotations.cc_c : Annotations.cc.c = Annotations.codec := rfl
theorem Annotations.cc_sound : Annotations.cc.Sound := CC.hand_sound Annotations.decC_fst Annotations.decC_cost

/-! ## the table of the unit -/

def simpleTable : List (String × Sh) := [
  ("EmptyElement", EmptyElement.cc.sh),
  ("NumericElement", NumericElement.cc.sh),
  ("IntegerElement", IntegerElement.cc.sh),
  ("ShortIntegerElement", ShortIntegerElement.cc.sh),
  ("ByteElement", ByteElement.cc.sh),
  ("BooleanElement", BooleanElement.cc.sh),
  ("StringElement", (StringElement.cc 1 1).sh),
  ("Color", Color.cc.sh),
  ("Bytes", BytesElement.cc.sh),
  ("SheetColorSetting", SheetColorSetting.cc.sh),
  ("ReferencePoint", ReferencePoint.cc.sh),
  ("SectionDividerSetting", SectionDividerSetting.cc.sh),
  ("UserMask", UserMask.cc.sh),
  ("FilterMask", FilterMask.cc.sh),
  ("ChannelBlendingRestrictionsSetting", ChannelBlendingRestrictionsSetting.cc.sh),
  ("PixelSourceData2", (PixelSourceData2.cc 1).sh),
  ("Annotation", Annotation.cc.sh),
  ("Annotations", Annotations.cc.sh)]

theorem simple_body_progress : simpleTable.all (fun e => e.2.bodyProgress) = true := by decide

end PsdVerif.PayloadCost
