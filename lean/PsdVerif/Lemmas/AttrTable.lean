/-
Lemmas about the machine of `Model/AttrTable.lean`: what a run of a setter's effects keeps, what `okPath`,
`refusesAll`, `refuseFirst`, `covered` guarantee about it, and what `save` writes when the cache is fresh.
-/
import PsdVerif.Model.AttrTable

namespace PsdVerif.AttrTable

theorem store_has (s : St) (l : Loc) (v : Nat) (x : Loc) : (s.store l v).has x = s.has x := by
  cases x <;> rfl

theorem store_mem_same (s : St) (l : Loc) (v : Nat) : (s.store l v).mem l = v := by
  simp [St.store]

theorem store_mem_ne (s : St) (l x : Loc) (v : Nat) (h : x ≠ l) : (s.store l v).mem x = s.mem x := by
  simp [St.store, h]

theorem has_of_key (s : St) (p : Loc) (k : String) (h : p.key = some k) : s.has p = s.present k := by
  cases p <;> simp [Loc.key] at h
  subst h; rfl

theorem has_of_nokey (s : St) (p : Loc) (h : p.key = none) : s.has p = true := by
  cases p <;> simp [Loc.key] at h <;> rfl

theorem replace_mem_same (s : St) (k a : String) (v : Nat) : (s.replaceBlock k a v).mem (.block k a) = v := by
  simp [St.replaceBlock]

theorem replace_mem_ne (s : St) (k a : String) (v : Nat) (x : Loc) (h : x.key ≠ some k) :
    (s.replaceBlock k a v).mem x = s.mem x := by
  have : x ≠ .block k a := by
    intro e; subst e; exact h rfl
  simp [St.replaceBlock, this]

theorem replace_has_ne (s : St) (k a : String) (v : Nat) (x : Loc) (h : x.key ≠ some k) :
    (s.replaceBlock k a v).has x = s.has x := by
  cases x <;> try rfl
  rename_i k' a'
  have : k' ≠ k := by
    intro e; subst e; exact h rfl
  simp [St.has, St.replaceBlock, this]

theorem dropEnc_has (s : St) (k : String) (x : Loc) : (s.dropEnc k).has x = s.has x := by
  cases x <;> rfl

theorem touches_write (l x : Loc) (w : WVal) (gs : List Guard) (via : List String)
    (h : (Eff.write l w gs via).touches x = false) : x ≠ l := by
  intro e; subst e; simp [Eff.touches] at h

theorem touches_replace (k a : String) (x : Loc) (w : WVal) (gs : List Guard) (via : List String)
    (h : (Eff.replace k a w gs via).touches x = false) : x.key ≠ some k := by
  intro e; simp [Eff.touches, e] at h

theorem untouched_kept (r : Row) (v : Nat) (i : Inst) (x : Loc) :
    ∀ (es : List Eff) (s : St), (∀ e ∈ es, e.touches x = false) →
      (runEffs r v i es s).st.mem x = s.mem x ∧ (runEffs r v i es s).st.has x = s.has x := by
  intro es
  induction es with
  | nil => intro s _; exact ⟨rfl, rfl⟩
  | cons e es ih =>
    intro s h
    have hrest : ∀ e' ∈ es, e'.touches x = false := fun e' he' => h e' (List.mem_cons_of_mem _ he')
    have he := h e (List.mem_cons_self ..)
    cases e with
    | refuse _ gs | ret gs =>
      simp only [runEffs]; split
      · exact ⟨rfl, rfl⟩
      · exact ih s hrest
    | write l w gs via =>
      have hne := touches_write l x w gs via he
      simp only [runEffs]; split
      · split
        · have := ih (s.store l (wval i v l w)) hrest
          rw [store_mem_ne _ _ _ _ hne, store_has] at this
          exact this
        · exact ⟨rfl, rfl⟩
      · exact ih s hrest
    | replace k a w gs via =>
      have hne := touches_replace k a x w gs via he
      simp only [runEffs]; split
      · have := ih (s.replaceBlock k a (wval i v (.block k a) w)) hrest
        rw [replace_mem_ne _ _ _ _ _ hne, replace_has_ne _ _ _ _ _ hne] at this
        exact this
      · exact ih s hrest
    | invalidate k gs =>
      simp only [runEffs]; split
      · have := ih (s.dropEnc k) hrest
        rw [dropEnc_has] at this
        exact this
      · exact ih s hrest
    | call | other => simp only [runEffs]; exact ih s hrest

theorem noClobber_kept (r : Row) (v : Nat) (i : Inst) (p : Loc) (es : List Eff) (s : St)
    (h : noClobber p es = true) :
    (runEffs r v i es s).st.mem p = s.mem p ∧ (runEffs r v i es s).st.has p = s.has p := by
  apply untouched_kept
  intro e he
  have := List.all_eq_true.mp h e he
  simpa using this

theorem firstPresent_congr (s s' : St) :
    ∀ ls : List Loc, (∀ x ∈ ls, s'.has x = s.has x) → firstPresent s' ls = firstPresent s ls := by
  intro ls
  induction ls with
  | nil => intro _; rfl
  | cons l ls ih =>
    intro h
    simp only [firstPresent, h l (List.mem_cons_self ..)]
    rw [ih (fun x hx => h x (List.mem_cons_of_mem _ hx))]

theorem firstPresent_mem (s : St) : ∀ (ls : List Loc) (p : Loc), firstPresent s ls = some p → p ∈ ls := by
  intro ls
  induction ls with
  | nil => intro p h; simp [firstPresent] at h
  | cons l ls ih =>
    intro p h
    simp only [firstPresent] at h
    split at h
    · simp at h; subst h; exact List.mem_cons_self ..
    · exact List.mem_cons_of_mem _ (ih p h)

theorem get_congr (s s' : St) (r : Row)
    (h : ∀ x ∈ r.reads, s'.mem x = s.mem x ∧ s'.has x = s.has x) : get s' r = get s r := by
  unfold get
  rw [firstPresent_congr s s' r.reads (fun x hx => (h x hx).2)]
  cases hf : firstPresent s r.reads with
  | none => rfl
  | some p => simp [(h p (firstPresent_mem s _ p hf)).1]

theorem stored_holds (s : St) (r : Row) (v : Nat) (i : Inst) (gs : List Guard)
    (hs : gs.any Guard.isStored = true) (hh : holds s r v i gs = true) : get s r = some v := by
  obtain ⟨g, hg, hst⟩ := List.any_eq_true.mp hs
  have he := List.all_eq_true.mp hh g hg
  simp only [Guard.isStored, Bool.and_eq_true, beq_iff_eq, Bool.not_eq_true'] at hst
  simp only [evalG, hst.1, hst.2] at he
  simpa using he

theorem presence_fails (s : St) (r : Row) (v : Nat) (i : Inst) (p : Loc) (gs : List Guard)
    (hp : presenceOnly p gs = true) (hh : holds s r v i gs = false) : s.has p = false := by
  obtain ⟨g, hg, he⟩ := List.all_eq_false.mp hh
  have hpg := List.all_eq_true.mp hp g hg
  simp only [Bool.and_eq_true, Bool.not_eq_true'] at hpg
  cases hk : g.kind with
  | free => simp [hk] at hpg
  | stored => simp [hk] at hpg
  | present k =>
    simp only [hk, beq_iff_eq] at hpg
    simp only [evalG, hk, hpg.1] at he
    rw [has_of_key s p k hpg.2]
    simpa using he

/-- An accepted run of effects with `okPath p` ends with the argument at `p`, or left early under a test that says the
getter already returns it (the second disjunct). `s'.has p` is needed because the write may sit under "the block of `p`
exists": when that test fails nothing is written, and then the block is still absent afterwards. -/
theorem okPath_sound (r : Row) (v : Nat) (i : Inst) (p : Loc) :
    ∀ (es : List Eff) (s s' : St), okPath p es = true → runEffs r v i es s = .ok s' → s'.has p = true →
      s'.mem p = v ∨ get s' r = some v := by
  intro es
  induction es with
  | nil => intro s s' h; simp [okPath] at h
  | cons e es ih =>
    intro s s' hok hrun hp
    cases e with
    | refuse ex gs =>
      simp only [okPath] at hok
      simp only [runEffs] at hrun
      split at hrun
      · cases hrun
      · exact ih s s' hok hrun hp
    | ret gs =>
      simp only [okPath, Bool.and_eq_true] at hok
      simp only [runEffs] at hrun
      split at hrun
      · rename_i hh
        cases hrun
        exact Or.inr (stored_holds _ r v i gs hok.1 hh)
      · exact ih s s' hok.2 hrun hp
    | write l w gs via =>
      simp only [okPath, Bool.or_eq_true, Bool.and_eq_true, beq_iff_eq] at hok
      simp only [runEffs] at hrun
      rcases hok with ⟨⟨⟨hl, hw⟩, hpo⟩, hnc⟩ | hok
      · subst hl; subst hw
        split at hrun
        · split at hrun
          · have hk := noClobber_kept r v i l es (s.store l (wval i v l .arg)) hnc
            rw [hrun] at hk
            left
            simpa [Out.st, store_mem_same, wval] using hk.1
          · cases hrun
        · rename_i hh
          have hk := noClobber_kept r v i l es s hnc
          rw [hrun] at hk
          have := presence_fails s r v i l gs hpo (by simpa using hh)
          simp only [Out.st] at hk
          rw [hk.2, this] at hp
          cases hp
      · split at hrun
        · split at hrun
          · exact ih _ s' hok hrun hp
          · cases hrun
        · exact ih s s' hok hrun hp
    | replace k a w gs via =>
      simp only [okPath, Bool.or_eq_true, Bool.and_eq_true, beq_iff_eq, List.isEmpty_iff] at hok
      simp only [runEffs] at hrun
      rcases hok with ⟨⟨⟨hl, hw⟩, hgs⟩, hnc⟩ | hok
      · subst hl; subst hw; subst hgs
        simp only [holds, List.all_nil, if_true] at hrun
        have hk := noClobber_kept r v i (.block k a) es (s.replaceBlock k a (wval i v (.block k a) .arg)) hnc
        rw [hrun] at hk
        left
        simpa [Out.st, replace_mem_same, wval] using hk.1
      · split at hrun
        · exact ih _ s' hok hrun hp
        · exact ih s s' hok hrun hp
    | invalidate k gs =>
      simp only [okPath] at hok
      simp only [runEffs] at hrun
      split at hrun
      · exact ih _ s' hok hrun hp
      · exact ih s s' hok hrun hp
    | call w gs =>
      simp only [okPath] at hok
      simp only [runEffs] at hrun
      exact ih s s' hok hrun hp
    | other src => simp [okPath] at hok

theorem refusesAll_refuses (r : Row) (v : Nat) (i : Inst) :
    ∀ (es : List Eff) (s : St), refusesAll es = true → ∃ x, runEffs r v i es s = .refused x s := by
  intro es
  induction es with
  | nil => intro s h; simp [refusesAll] at h
  | cons e es ih =>
    intro s h
    cases e with
    | refuse ex gs =>
      cases gs with
      | nil => exact ⟨ex, by simp [runEffs, holds]⟩
      | cons g gs => simp [refusesAll] at h
    | call w gs => simp only [refusesAll] at h; simp only [runEffs]; exact ih s h
    | ret | write | replace | invalidate | other => simp [refusesAll] at h

theorem noRefuse_never (r : Row) (v : Nat) (i : Inst) :
    ∀ (es : List Eff) (s : St) (x : String) (s' : St), noRefuse es = true → runEffs r v i es s ≠ .refused x s' := by
  intro es
  induction es with
  | nil => intro s x s' _ h; simp [runEffs] at h
  | cons e es ih =>
    intro s x s' h
    simp only [noRefuse, List.all_cons, Bool.and_eq_true] at h
    have ih' : ∀ s, runEffs r v i es s ≠ .refused x s' := fun s => ih s x s' h.2
    cases e with
    | refuse ex gs => simp [Eff.isRefuse] at h
    | ret gs =>
      simp only [runEffs]; split
      · simp
      · exact ih' s
    | write l w gs via =>
      simp only [runEffs]; split
      · split
        · exact ih' _
        · simp
      · exact ih' s
    | replace | invalidate => simp only [runEffs]; split <;> exact ih' _
    | call | other => simp only [runEffs]; exact ih' s

theorem refuseFirst_unchanged (r : Row) (v : Nat) (i : Inst) :
    ∀ (es : List Eff) (s : St) (x : String) (s' : St), refuseFirst es = true →
      runEffs r v i es s = .refused x s' → s' = s := by
  intro es
  induction es with
  | nil => intro s x s' _ h; simp [runEffs] at h
  | cons e es ih =>
    intro s x s' hf h
    cases e with
    | refuse ex gs =>
      simp only [refuseFirst] at hf
      simp only [runEffs] at h
      split at h
      · cases h; rfl
      · exact ih s x s' hf h
    | ret gs =>
      simp only [refuseFirst] at hf
      simp only [runEffs] at h
      split at h
      · cases h
      · exact ih s x s' hf h
    | call w gs =>
      simp only [refuseFirst] at hf
      simp only [runEffs] at h
      exact ih s x s' hf h
    -- after a first effect that can write, `refuseFirst` asks that no refusal follows at all
    | write | replace | invalidate | other => exact absurd h (noRefuse_never r v i _ s x s' hf)

/-- the cache of every block whose key is not in `ks` is absent or equal to the memory -/
def FreshE (ks : List String) (s : St) : Prop :=
  ∀ l : Loc, l.isBlock = true → (∀ k ∈ ks, l.key ≠ some k) → s.enc l = none ∨ s.enc l = some (s.mem l)

/-- `Fresh` of the model is `FreshE` with no key excepted, for a writer that keeps a cache -/
theorem fresh_iff (t : Table) (s : St) : Fresh t s ↔ (t.caching = true → FreshE [] s) := by
  unfold Fresh FreshE
  constructor
  · intro h hc l hl _; exact h hc l hl
  · intro h hc l hl; exact h hc l hl (fun _ hk => by cases hk)

theorem FreshE_mono (ks ks' : List String) (s : St) (h : ∀ k ∈ ks, k ∈ ks') (hf : FreshE ks s) : FreshE ks' s :=
  fun l hl hk => hf l hl (fun k hk' => hk k (h k hk'))

theorem FreshE_store_nokey (ks : List String) (s : St) (l : Loc) (v : Nat) (hl : l.key = none)
    (hf : FreshE ks s) : FreshE ks (s.store l v) := by
  intro x hx hk
  have hne : x ≠ l := by
    intro e; subst e; simp [Loc.isBlock, hl] at hx
  have := hf x hx hk
  simpa [St.store, hne] using this

theorem FreshE_store_key (s : St) (l : Loc) (v : Nat) (k : String) (hl : l.key = some k)
    (hf : FreshE [] s) : FreshE [k] (s.store l v) := by
  intro x hx hk
  have hne : x ≠ l := by
    intro e; subst e; exact hk k (List.mem_singleton.mpr rfl) hl
  have := hf x hx (fun _ h => by cases h)
  simpa [St.store, hne] using this

theorem FreshE_dropEnc (ks : List String) (s : St) (k : String) (hf : FreshE ks s) :
    FreshE (ks.filter (· != k)) (s.dropEnc k) := by
  intro x hx hk
  by_cases hxk : x.key = some k
  · left; simp [St.dropEnc, hxk]
  · have := hf x hx (fun k' hk' => by
      by_cases e : k' = k
      · subst e; exact hxk
      · exact hk k' (List.mem_filter.mpr ⟨hk', by simpa using e⟩))
    simpa [St.dropEnc, hxk] using this

theorem FreshE_dropEnc_same (ks : List String) (s : St) (k : String) (hf : FreshE ks s) : FreshE ks (s.dropEnc k) :=
  FreshE_mono _ _ _ (fun _ hk => (List.mem_filter.mp hk).1) (FreshE_dropEnc ks s k hf)

theorem FreshE_replace (ks : List String) (s : St) (k a : String) (v : Nat) (hf : FreshE ks s) :
    FreshE ks (s.replaceBlock k a v) := by
  intro x hx hk
  by_cases hxk : x.key = some k
  · left; simp [St.replaceBlock, hxk]
  · have hne : x ≠ .block k a := by
      intro e; subst e; exact hxk rfl
    simpa [St.replaceBlock, hxk, hne] using hf x hx hk

theorem covered_fresh (r : Row) (v : Nat) (i : Inst) :
    ∀ (es : List Eff) (pend : List String) (s : St), covered pend es = true → FreshE pend s →
      FreshE [] (runEffs r v i es s).st := by
  intro es
  induction es with
  | nil =>
    intro pend s h hf
    simp only [covered, List.isEmpty_iff] at h
    subst h; exact hf
  | cons e es ih =>
    intro pend s h hf
    cases e with
    | refuse _ gs | ret gs =>
      simp only [covered, Bool.and_eq_true, List.isEmpty_iff] at h
      simp only [runEffs]; split
      · rw [← h.1]; exact hf
      · exact ih pend s h.2 hf
    | write l w gs via =>
      simp only [covered] at h
      simp only [runEffs]
      cases hk : l.key with
      | none =>
        simp only [hk] at h
        split
        · rw [has_of_nokey s l hk]; simp only [if_true]
          exact ih pend _ h (FreshE_store_nokey pend s l _ hk hf)
        · exact ih pend s h hf
      | some k =>
        simp only [hk, Bool.and_eq_true, List.isEmpty_iff] at h
        obtain ⟨hp, hc⟩ := h
        subst hp
        split
        · split
          · exact ih [k] _ hc (FreshE_store_key s l _ k hk hf)
          · exact hf
        · exact ih [k] s hc (FreshE_mono [] [k] s (fun _ h => by cases h) hf)
    | replace k a w gs via =>
      simp only [covered] at h
      simp only [runEffs]; split
      · exact ih pend _ h (FreshE_replace pend s k a _ hf)
      · exact ih pend s h hf
    | invalidate k gs =>
      simp only [covered] at h
      simp only [runEffs]
      split at h
      · rename_i hg
        simp only [List.isEmpty_iff] at hg
        subst hg
        simp only [holds, List.all_nil, if_true]
        exact ih _ _ h (FreshE_dropEnc pend s k hf)
      · split
        · exact ih pend _ h (FreshE_dropEnc_same pend s k hf)
        · exact ih pend s h hf
    | call | other => simp only [covered] at h; simp only [runEffs]; exact ih pend s h hf

theorem fileVal_fresh (t : Table) (s : St) (hf : Fresh t s) (l : Loc) : fileVal t s l = s.mem l := by
  unfold fileVal
  split
  · rename_i h
    simp only [Bool.and_eq_true] at h
    rcases hf h.1 l h.2 with e | e <;> simp [e]
  · rfl

theorem save_fresh (t : Table) (s : St) (hf : Fresh t s) : Fresh t (save t s).2 := by
  intro hc l hl
  right
  simp [save, hc, hl, fileVal_fresh t s hf l]

theorem save_mem (t : Table) (s : St) : (save t s).2.mem = s.mem ∧ (save t s).2.present = s.present := ⟨rfl, rfl⟩

theorem reopen_has (s : St) (f : Loc → Nat) (x : Loc) : (reopen s f).has x = s.has x := by
  cases x <;> rfl

theorem get_reopen_save (t : Table) (s : St) (hf : Fresh t s) (r : Row) : get (reopen s (save t s).1) r = get s r :=
  get_congr _ _ r fun x _ => ⟨by simp [reopen, save, fileVal_fresh t s hf x], reopen_has _ _ x⟩

/-- `writerOk` keeps the cache fresh over an edit by a row of the table -/
theorem set_fresh (t : Table) (ht : writerOk t = true) (s : St) (hf : Fresh t s) (r : Row) (hr : r ∈ t.rows)
    (v : Nat) (i : Inst) : Fresh t (set r v i s).st := by
  rw [fresh_iff] at hf ⊢
  intro hc
  simp only [writerOk, Bool.and_eq_true, Bool.or_eq_true] at ht
  rcases ht.2 with he | hcov
  · simp [Table.caching, he] at hc
  · exact covered_fresh r v i r.effs [] s (List.all_eq_true.mp hcov.2 r hr) (hf hc)

theorem tableOk_rowOk {t : Table} (ht : tableOk t = true) {r : Row} (hr : r ∈ t.rows) : rowOk r = true := by
  simp only [tableOk, Bool.and_eq_true] at ht
  exact List.all_eq_true.mp ht.1.1.1.2 r hr

theorem tableOk_writerOk {t : Table} (ht : tableOk t = true) : writerOk t = true := by
  simp only [tableOk, Bool.and_eq_true] at ht
  exact ht.2

end PsdVerif.AttrTable
