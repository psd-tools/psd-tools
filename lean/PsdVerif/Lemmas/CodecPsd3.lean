/-
Round-trip and count laws: channel data, layer info, global layer mask info, the layer and
mask information section, image data, the whole file. The section and the file are proved with their inner readers left
open (`lamRead_at`, `docRead_sections`); the skeleton's readers here, the deep ones (Lemmas/PayloadLayerInfo2.lean) and the
typed ones (Lemmas/Payload3Typed.lean, Lemmas/TypedDoc.lean) are instances.
-/
import PsdVerif.Lemmas.CodecPsd2

namespace PsdVerif.Psd
open PsdVerif PsdVerif.Codec

/-! ## channel data -/

theorem readPy_refreshed (n : Nat) {d : B} {p : Nat} (h : p + n ≤ d.length) :
    readPy (((2 + n : Nat) : Int) - 2) d p = readUpTo n d p := by
  rw [show (((2 + n : Nat) : Int) - 2) = (n : Int) by omega]
  exact readPy_natCast n h

theorem ChannelData.length_encT (c : ChannelData) : c.encT.length = 2 + c.data.length := by
  simp [ChannelData.encT, length_beBytes]

theorem ChannelData.dec_at {c : ChannelData} (hwf : c.WF) {d : B} {p : Nat} (hat : At d p c.encT) :
    ChannelData.dec (2 + c.data.length) d p = .ok (c, p + c.encT.length) := by
  have hc : ∀ x ∈ G.compressions, x < 256 ^ 2 := by decide
  rw [ChannelData.length_encT]
  simp only [ChannelData.encT] at hat
  obtain ⟨e1, hat⟩ := readU_step hat (hc _ hwf)
  have e2 := readUpTo_at hat
  have hwf' : c.compression ∈ G.compressions := hwf
  have e2' := readPy_refreshed c.data.length (d := d) (p := p + 2) hat.bound
  simp only [ChannelData.dec, bind, Except.bind, e1, e2', e2, Nat.add_assoc]
  rw [if_pos hwf']

theorem ChannelData.encP_eq (c : ChannelData) : c.encP = (c.encT, c.encT.length) := by
  simp only [ChannelData.encP, ChannelData.encT, wBytes_eq, wSeq_eq]

theorem channelImageP_eq (css : List (List ChannelData)) :
    channelImageP css = (channelImageT css, (channelImageT css).length) := by
  unfold channelImageP channelImageT
  apply wList_eq
  intro cs _
  exact wList_eq ChannelData.encP ChannelData.encT cs (fun c _ => c.encP_eq)

/-! ### `_update_channel_length` -/

theorem length_refreshCI (cis : List ChannelInfo) (cs : List ChannelData) : (refreshCI cis cs).length = cis.length := by
  induction cis generalizing cs with
  | nil => cases cs <;> simp [refreshCI]
  | cons ci cis ih => cases cs <;> simp [refreshCI, ih]

theorem length_refreshRecords (rs : List LayerRecord) (css : List (List ChannelData)) :
    (refreshRecords rs css).length = rs.length := by
  induction rs generalizing css with
  | nil => cases css <;> simp [refreshRecords]
  | cons r rs ih => cases css <;> simp [refreshRecords, ih]

theorem refreshCI_idem (cis : List ChannelInfo) (cs : List ChannelData) :
    refreshCI (refreshCI cis cs) cs = refreshCI cis cs := by
  induction cis generalizing cs with
  | nil => cases cs <;> simp [refreshCI]
  | cons ci cis ih => cases cs <;> simp [refreshCI, ih]

theorem refreshRecords_idem (rs : List LayerRecord) (css : List (List ChannelData)) :
    refreshRecords (refreshRecords rs css) css = refreshRecords rs css := by
  induction rs generalizing css with
  | nil => cases css <;> simp [refreshRecords]
  | cons r rs ih => cases css <;> simp [refreshRecords, ih, refreshCI_idem]

theorem LayerInfo.refresh_idem (li : LayerInfo) : li.refresh.refresh = li.refresh := by
  obtain ⟨n, rs, css⟩ := li
  unfold LayerInfo.refresh
  by_cases h0 : n = 0
  · simp [h0]
  · rcases rs with _ | _ | ⟨r, rs⟩ <;> rcases css with _ | _ | ⟨c, cs⟩ <;>
      simp [h0, refreshRecords, refreshRecords_idem, refreshCI_idem]

theorem channelListDec_reads (cis : List ChannelInfo) (cs : List ChannelData) (hl : cis.length = cs.length)
    (hwf : ∀ c ∈ cs, ChannelData.WF c) : Reads (channelListDec (refreshCI cis cs)) (channelListT cs) cs := by
  induction cis generalizing cs with
  | nil =>
    cases cs with
    | nil => exact .readFor_nil _
    | cons _ _ => simp at hl
  | cons ci cis ih =>
    cases cs with
    | nil => simp at hl
    | cons c cs =>
      exact .readFor_cons (fun _ _ h => ChannelData.dec_at (hwf c (by simp)) h)
        (ih cs (by simpa using hl) fun x hx => hwf x (by simp [hx]))

theorem channelImageDec_reads (rs : List LayerRecord) (css : List (List ChannelData)) (hs : shapesAgree rs css)
    (hwf : ∀ cs ∈ css, ∀ c ∈ cs, ChannelData.WF c) :
    Reads (channelImageDec (refreshRecords rs css)) (channelImageT css) css := by
  induction rs generalizing css with
  | nil =>
    cases css with
    | nil => exact .readFor_nil _
    | cons _ _ => simp [shapesAgree] at hs
  | cons r rs ih =>
    cases css with
    | nil => simp [shapesAgree] at hs
    | cons cs css =>
      simp only [shapesAgree] at hs
      exact .readFor_cons (channelListDec_reads r.channelInfo cs hs.1 (hwf cs (by simp)))
        (ih css hs.2 fun x hx => hwf x (by simp [hx]))

theorem channelImageDec_at (rs : List LayerRecord) (css : List (List ChannelData)) (hs : shapesAgree rs css)
    (hwf : ∀ cs ∈ css, ∀ c ∈ cs, ChannelData.WF c) {d : B} {p : Nat} (hat : At d p (channelImageT css)) :
    channelImageDec (refreshRecords rs css) d p = .ok (css, p + (channelImageT css).length) :=
  channelImageDec_reads rs css hs hwf d p hat

/-! ## layer info -/

theorem secW_pos (v : Nat) : 4 ≤ secW v := by unfold secW; split <;> omega

theorem optListP_eq {α : Type} {f : List α → W} {g : List α → B} (h : ∀ l, f l = (g l, (g l).length))
    (o : Option (List α)) : optListP f o = (optListT g o, (optListT g o).length) := by
  rcases o with _ | _ | ⟨x, xs⟩
  · rfl
  · rfl
  · exact h _

theorem LayerInfo.bodyP_eq (v pad : Nat) (li : LayerInfo) : li.bodyP v pad = (li.bodyT v pad, (li.bodyT v pad).length) := by
  simp only [LayerInfo.bodyP, LayerInfo.bodyT, LayerInfo.bodyUnpaddedT, wBytes_eq, wSeq_eq, wPad_eq,
    optListP_eq fun l => wList_eq (LayerRecord.encP v) (LayerRecord.encT v) l fun r _ => r.encP_eq v,
    optListP_eq channelImageP_eq]

theorem LayerInfo.encP_eq (v pad : Nat) (li : LayerInfo) : li.encP v pad = (li.encT v pad, (li.encT v pad).length) := by
  unfold LayerInfo.encP LayerInfo.encT
  split
  · rfl
  · simp only [LayerInfo.bodyP_eq, wLenBlock_eq]

theorem optListT_some {α : Type} {f : List α → B} (hf : f [] = []) (l : List α) : optListT f (some l) = f l := by
  cases l with
  | nil => rw [hf]; rfl
  | cons _ _ => rfl

/-- also for an empty record or channel list, where `refresh` and `refreshRecords` both leave the records alone -/
theorem LayerInfo.refresh_some {n : Int} (h0 : ¬ n = 0) (rs : List LayerRecord) (css : List (List ChannelData)) :
    (LayerInfo.mk n (some rs) (some css)).refresh = ⟨n, some (refreshRecords rs css), some css⟩ := by
  cases rs <;> cases css <;> simp [LayerInfo.refresh, h0, refreshRecords]

theorem LayerInfo.length_encT_ge (v pad : Nat) (li : LayerInfo) : 4 ≤ (li.encT v pad).length := by
  have := secW_pos v
  unfold LayerInfo.encT
  split
  · rw [length_beBytes]; exact this
  · rw [length_lenBlockT]; omega

/-- `LayerInfo._read_body` on the count, the records and the channel data the writer emitted (channel lengths refreshed),
whatever follows -/
theorem LayerInfo.bodyDec_step {v : Nat} {n : Int} {rs : List LayerRecord} {css : List (List ChannelData)}
    (hcount : n.natAbs = rs.length) (hshape : shapesAgree rs css) (hrecs : ∀ r ∈ refreshRecords rs css, r.WF v)
    (hch : ∀ cs ∈ css, ∀ c ∈ cs, ChannelData.WF c) (g1 : FitsI16 n) {d : B} {p : Nat} {rest : B}
    (hat : At d p (LayerInfo.bodyUnpaddedT v ⟨n, some (refreshRecords rs css), some css⟩ ++ rest)) :
    LayerInfo.bodyDec v d p = .ok (⟨n, some (refreshRecords rs css), some css⟩,
      p + (LayerInfo.bodyUnpaddedT v ⟨n, some (refreshRecords rs css), some css⟩).length) := by
  have hRlen : (refreshRecords rs css).length = n.natAbs := by rw [length_refreshRecords, hcount]
  have e4 := channelImageDec_reads rs css hshape hch
  -- from here on the refreshed records are an opaque list: `simp` must not unfold `refreshRecords` inside the written bytes
  generalize refreshRecords rs css = R at *
  have hun : LayerInfo.bodyUnpaddedT v ⟨n, some R, some css⟩ = i16T n ++ (listT (LayerRecord.encT v) R ++ channelImageT css) := by
    simp only [LayerInfo.bodyUnpaddedT, optListT_some (f := listT (LayerRecord.encT v)) rfl,
      optListT_some (f := channelImageT) rfl, List.append_assoc]
  rw [hun, List.append_assoc, List.append_assoc] at hat
  obtain ⟨e2, hat⟩ := readI16_step hat g1
  obtain ⟨e3, hat⟩ := readCount_step (LayerRecord.dec v) (LayerRecord.encT v) R
    (fun r hr d p h => (LayerRecord.dec_step (hrecs r hr) h.nil_right).1) hat
  rw [hRlen] at e3
  simp only [LayerInfo.bodyDec, bind, Except.bind, e2, e3, e4 _ _ hat.left, hun, List.length_append, length_i16T]
  simp only [Nat.add_assoc]

/-- What `LayerInfo.read` returns for what `LayerInfo.write` wrote: the object as the writer left it
(channel lengths refreshed), cursor at the end of the section. -/
theorem LayerInfo.dec_step {v pad : Nat} {li : LayerInfo} (hwf : li.WF v pad) {d : B} {p : Nat} {rest : B}
    (hat : At d p (li.encT v pad ++ rest)) :
    LayerInfo.dec v d p = .ok (li.refresh, p + (li.encT v pad).length) ∧ At d (p + (li.encT v pad).length) rest := by
  refine ⟨?_, hat.right⟩
  have hat := hat.left
  have hw := secW_pos v
  unfold LayerInfo.WF at hwf
  unfold LayerInfo.encT at hat ⊢
  by_cases h0 : li.layerCount = 0
  · simp only [h0, if_true] at hwf hat ⊢
    have hpos : (0 : Nat) < 256 ^ secW v := Nat.pow_pos (by decide)
    have e1 := readU_at hat hpos
    have hno : ¬ overflows (p + secW v) d :=
      not_overflows_of_le (by have := hat.bound; simp only [length_beBytes] at this; omega)
    obtain ⟨n, rs, css⟩ := li
    simp only at h0 hwf
    obtain ⟨rfl, rfl⟩ := hwf
    subst h0
    simp only [LayerInfo.dec, bind, Except.bind, e1, if_true, LayerInfo.refresh, length_beBytes, Nat.add_zero,
      Nat.le_refl, if_neg hno]
  · simp only [h0, if_false] at hwf hat ⊢
    obtain ⟨n, rs, css⟩ := li
    simp only at h0 hwf hat ⊢
    cases rs with
    | none => simp at hwf
    | some rs =>
      cases css with
      | none => simp at hwf
      | some css =>
        simp only at hwf
        obtain ⟨hcount, hshape, hrecs, hch, hfits⟩ := hwf
        rw [LayerInfo.refresh_some h0] at hat hfits ⊢
        obtain ⟨g1, _, _, g4⟩ := hfits
        simp only at g1
        have hlen : (LayerInfo.bodyT v pad ⟨n, some (refreshRecords rs css), some css⟩).length =
            (LayerInfo.bodyUnpaddedT v ⟨n, some (refreshRecords rs css), some css⟩).length +
              padAmount (LayerInfo.bodyUnpaddedT v ⟨n, some (refreshRecords rs css), some css⟩).length pad := by
          simp only [LayerInfo.bodyT, List.length_append, length_zeros]
        have h2 : 2 ≤ (LayerInfo.bodyUnpaddedT v ⟨n, some (refreshRecords rs css), some css⟩).length := by
          simp only [LayerInfo.bodyUnpaddedT, List.length_append, length_i16T]; omega
        rw [length_lenBlockT, padAmount_one]
        unfold lenBlockT at hat
        have hat := hat.left
        rw [show zeros 0 = [] from rfl, List.nil_append] at hat
        obtain ⟨e1, hat⟩ := readU_step hat g4
        have hno := not_overflows_of_le hat.bound
        have e2 := LayerInfo.bodyDec_step hcount hshape hrecs hch g1 (show At d (p + secW v) (_ ++ zeros _) from hat)
        generalize (LayerInfo.bodyT v pad ⟨n, some (refreshRecords rs css), some css⟩).length = L at e1 hno hlen ⊢
        simp only [LayerInfo.dec, bind, Except.bind, e1, e2, LayerInfo.normCount0, if_neg h0,
          if_neg (show ¬ L = 0 by omega)]
        rw [if_pos (by omega), if_neg hno]
        simp only [Nat.add_zero, Nat.zero_add, Nat.add_assoc]

/-! ## global layer mask info -/

theorem GlobalLayerMaskInfo.bodyP_eq (g : GlobalLayerMaskInfo) : g.bodyP = (g.bodyT, g.bodyT.length) := by
  obtain ⟨o, op, k⟩ := g
  cases o with
  | none => rfl
  | some cs =>
    simp only [GlobalLayerMaskInfo.bodyP, GlobalLayerMaskInfo.bodyT, wBytes_eq, wSeq_eq, wPad_eq, List.append_assoc]

theorem GlobalLayerMaskInfo.encP_eq (g : GlobalLayerMaskInfo) : g.encP = (g.encT, g.encT.length) := by
  simp only [GlobalLayerMaskInfo.encP, GlobalLayerMaskInfo.encT, GlobalLayerMaskInfo.bodyP_eq, wLenBlock_eq]

theorem length_listT_be2 (cs : List Nat) : (listT (beBytes 2) cs).length = 2 * cs.length :=
  length_listT_const (beBytes 2) 2 cs fun v _ => length_beBytes 2 v

theorem GlobalLayerMaskInfo.length_encT (g : GlobalLayerMaskInfo) (hf : g.Fits) :
    g.encT.length = if g.overlayColor.isSome then 20 else 4 := by
  obtain ⟨o, op, k⟩ := g
  cases o with
  | none => simp [GlobalLayerMaskInfo.encT, GlobalLayerMaskInfo.bodyT, length_lenBlockT, padAmount_one]
  | some cs =>
    obtain ⟨h5, _⟩ := hf
    simp [GlobalLayerMaskInfo.encT, GlobalLayerMaskInfo.bodyT, length_lenBlockT, length_listT_be2,
      length_beBytes, length_zeros, h5, padAmount]

theorem GlobalLayerMaskInfo.dec_step {g : GlobalLayerMaskInfo} (hwf : g.WF) {d : B} {p : Nat} {rest : B}
    (hat : At d p (g.encT ++ rest)) :
    GlobalLayerMaskInfo.dec d p = .ok (g, p + g.encT.length) ∧ At d (p + g.encT.length) rest := by
  refine ⟨?_, hat.right⟩
  have hat := hat.left
  obtain ⟨hk, hf, hdef⟩ := hwf
  obtain ⟨o, op, k⟩ := g
  simp only at hk hf hdef
  cases o with
  | none =>
    obtain ⟨rfl, rfl⟩ := hdef rfl
    have e := readLenBlock_at (skip := 0) (w := 4) (pad := 1) (body := []) (d := d) (p := p)
      (by simpa [GlobalLayerMaskInfo.encT, GlobalLayerMaskInfo.bodyT] using hat) (by decide) (by decide)
    simp only [GlobalLayerMaskInfo.dec, bind, Except.bind, e]
    simp [glmDefault, GlobalLayerMaskInfo.encT, GlobalLayerMaskInfo.bodyT]
  | some cs =>
    obtain ⟨h5, hcs, hop, hkf⟩ := hf
    have hbl : (GlobalLayerMaskInfo.bodyT ⟨some cs, op, k⟩).length = 16 := by
      simp [GlobalLayerMaskInfo.bodyT, length_listT_be2, length_beBytes, length_zeros, h5, padAmount]
    have e := readLenBlock_at (skip := 0) (w := 4) (pad := 1) hat (by rw [hbl]; decide) (by decide)
    have hself : At (GlobalLayerMaskInfo.bodyT ⟨some cs, op, k⟩) 0 (listT (beBytes 2) cs ++ (beBytes 2 op ++
        (beBytes 1 k ++ zeros (padAmount (listT (beBytes 2) cs ++ beBytes 2 op ++ beBytes 1 k).length 4)))) := by
      simpa only [GlobalLayerMaskInfo.bodyT, List.append_assoc] using
        At.self (GlobalLayerMaskInfo.bodyT ⟨some cs, op, k⟩)
    unfold GlobalLayerMaskInfo.encT
    generalize GlobalLayerMaskInfo.bodyT ⟨some cs, op, k⟩ = D at *
    obtain ⟨e1, h1⟩ := readCount_step (readU 2) (beBytes 2) cs (fun c hc => readU_reads (hcs c hc)) hself
    rw [h5] at e1
    obtain ⟨e2, h2⟩ := readU_step h1 hop
    obtain ⟨e3, _⟩ := readU_step h2 hkf
    simp only [GlobalLayerMaskInfo.dec, bind, Except.bind, e, if_neg (show ¬ D.length = 0 by omega),
      if_neg (show ¬ D.length < 13 by omega), e1, e2, e3]
    rw [if_pos hk]

/-! ## image data -/

theorem ImageData.encP_eq (i : ImageData) : i.encP = (i.encT, i.encT.length) := by
  simp only [ImageData.encP, ImageData.encT, wBytes_eq, wSeq_eq]

theorem ImageData.length_encT (i : ImageData) : i.encT.length = 2 + i.data.length := by
  simp [ImageData.encT, length_beBytes]

theorem ImageData.dec_at_end {i : ImageData} (hwf : i.WF) {d : B} {p : Nat} (hat : At d p i.encT)
    (hend : p + i.encT.length = d.length) :
    ImageData.dec d p = .ok (i, p + i.encT.length) := by
  have hc : ∀ x ∈ G.imageCompressions, x < 256 ^ 2 := by decide
  have hwf' : i.compression ∈ G.imageCompressions := hwf
  rw [ImageData.length_encT] at hend ⊢
  simp only [ImageData.encT] at hat
  obtain ⟨e1, hat⟩ := readU_step hat (hc _ hwf)
  have e2 := readAll_at_end hat (by omega)
  simp only [ImageData.dec, bind, Except.bind, e1, e2, Nat.add_assoc]
  rw [if_pos hwf']

/-! ## layer and mask information -/

theorem LayerAndMask.bodyP_eq (v pad : Nat) (x : LayerAndMask) :
    x.bodyP v pad = (x.bodyT v pad, (x.bodyT v pad).length) := by
  obtain ⟨li, g, ts⟩ := x
  cases li <;> cases g <;> cases ts <;>
    simp [LayerAndMask.bodyP, LayerAndMask.bodyT, optP, optT', LayerInfo.encP_eq, GlobalLayerMaskInfo.encP_eq,
      taggedBlocksP_eq, wNil, W.seq, Nat.add_assoc]

theorem LayerAndMask.encP_eq (v pad : Nat) (x : LayerAndMask) :
    x.encP v pad = (x.encT v pad, (x.encT v pad).length) := by
  simp only [LayerAndMask.encP, LayerAndMask.encT, LayerAndMask.bodyP_eq, wLenBlock_eq]

/-- the object after `write()` -/
def LayerAndMask.refresh (x : LayerAndMask) : LayerAndMask := { x with layerInfo := x.layerInfo.map LayerInfo.refresh }

theorem LayerAndMask.length_encT (v pad : Nat) (x : LayerAndMask) :
    (x.encT v pad).length = secW v + (x.bodyT v pad).length := by
  simp only [LayerAndMask.encT, length_lenBlockT, padAmount_one]; omega

/-- `LayerAndMaskInformation.read` with the reader of the layer info and the reader of the block list left open. Its
instances: `LayerAndMask.dec` (`LayerAndMask.dec_eq_lamRead`), `DeepLam.dec` (Lemmas/PayloadLayerInfo2.lean), `TLam.dec`
(Lemmas/TypedDoc.lean) -/
def lamRead {L T α : Type} (liDec : R L) (bDec : Option Nat → R (List T))
    (mk : Option L → Option GlobalLayerMaskInfo → Option (List T) → α) (version : Nat) : R α := fun d p => do
  let (length, p) ← readU (secW version) d p
  let endPos := p + length
  let (x, _) ← (if length = 0 then .ok (mk none none none, p) else (do
    let (li, p) ← liDec d p
    if p + 4 ≤ endPos then
      let (glm, p) ← GlobalLayerMaskInfo.dec d p
      let (tbs, p) ← bDec (some endPos) d p
      .ok (mk (some li) (some glm) (some tbs), p)
    else .ok (mk (some li) none (some []), p) : Except Err (α × Nat)))
  if overflows endPos d then .error .overflowError else .ok (x, endPos)

theorem lamRead_empty {L T α : Type} {liDec : R L} {bDec : Option Nat → R (List T)}
    {mk : Option L → Option GlobalLayerMaskInfo → Option (List T) → α} {v : Nat} {d : B} {p : Nat}
    (hat : At d p (lenBlockT 0 (secW v) 1 [])) :
    lamRead liDec bDec mk v d p = .ok (mk none none none, p + (lenBlockT 0 (secW v) 1 []).length) := by
  have hb := hat.bound
  rw [length_lenBlockT, padAmount_one] at hb ⊢
  unfold lenBlockT at hat
  have e1 := readU_at hat.left.left (Nat.pow_pos (by decide))
  have hno : ¬ overflows (p + secW v) d := not_overflows_of_le (by simp only [List.length_nil] at hb; omega)
  simp only [lamRead, bind, Except.bind, e1, List.length_nil, if_true, if_neg hno, Nat.zero_add, Nat.add_zero]

/-- a section with a layer info: the gate before the global mask info looks at the end of the section, the block list ends
there -/
theorem lamRead_at {L T α : Type} {liDec : R L} {bDec : Option Nat → R (List T)}
    {mk : Option L → Option GlobalLayerMaskInfo → Option (List T) → α} {v : Nat} {liT bT : B} {li : L} {ts : List T}
    {g : Option GlobalLayerMaskInfo}
    (hli : ∀ {d : B} {p : Nat} {rest : B}, At d p (liT ++ rest) →
      liDec d p = .ok (li, p + liT.length) ∧ At d (p + liT.length) rest)
    (hpos : 0 < liT.length) (hg : optProp GlobalLayerMaskInfo.WF g)
    (hb : ∀ {d : B} {p : Nat}, At d p bT → bDec (some (p + bT.length)) d p = .ok (ts, p + bT.length))
    (hgt : g = none → bT = [] ∧ ts = [])
    (hfit : FitsU (secW v) (liT ++ (optT' GlobalLayerMaskInfo.encT g ++ bT)).length)
    {d : B} {p : Nat} (hat : At d p (lenBlockT 0 (secW v) 1 (liT ++ (optT' GlobalLayerMaskInfo.encT g ++ bT)))) :
    lamRead liDec bDec mk v d p = .ok (mk (some li) g (some ts),
      p + (lenBlockT 0 (secW v) 1 (liT ++ (optT' GlobalLayerMaskInfo.encT g ++ bT))).length) := by
  have hblen : (liT ++ (optT' GlobalLayerMaskInfo.encT g ++ bT)).length =
      liT.length + (optT' GlobalLayerMaskInfo.encT g).length + bT.length := by
    simp only [List.length_append]; omega
  have hbd := hat.bound
  rw [length_lenBlockT, padAmount_one] at hbd ⊢
  unfold lenBlockT at hat
  simp only [zeros, List.replicate_zero, List.nil_append] at hat
  obtain ⟨e1, hat⟩ := readU_step hat.left hfit
  generalize (liT ++ (optT' GlobalLayerMaskInfo.encT g ++ bT)).length = n at hblen hbd e1 ⊢
  have hno : ¬ overflows (p + secW v + n) d := not_overflows_of_le (by omega)
  have hne : ¬ n = 0 := by omega
  obtain ⟨e2, hat⟩ := hli hat
  cases g with
  | none =>
    obtain ⟨rfl, rfl⟩ := hgt rfl
    simp only [optT', List.length_nil, Nat.add_zero] at hblen
    have hgate : ¬ (p + secW v + liT.length + 4 ≤ p + secW v + n) := by omega
    simp only [lamRead, bind, Except.bind, e1, if_neg hne, e2, if_neg hgate, if_neg hno, Nat.zero_add, Nat.add_zero]
    rw [Nat.add_assoc]
  | some g =>
    simp only [optProp] at hg
    simp only [optT'] at hat hblen
    have hgate : p + secW v + liT.length + 4 ≤ p + secW v + n := by
      have := g.length_encT hg.2.1
      have : 4 ≤ g.encT.length := by rw [this]; split <;> omega
      omega
    obtain ⟨e3, hat⟩ := GlobalLayerMaskInfo.dec_step hg hat
    have e4 := hb hat
    rw [show p + secW v + liT.length + g.encT.length + bT.length = p + secW v + n by omega] at e4
    simp only [lamRead, bind, Except.bind, e1, if_neg hne, e2, if_pos hgate, e3, e4, if_neg hno, Nat.zero_add, Nat.add_zero]
    rw [Nat.add_assoc]

theorem LayerAndMask.dec_eq_lamRead (v : Nat) :
    LayerAndMask.dec v = lamRead (LayerInfo.dec v) (taggedBlocksDec v 4) LayerAndMask.mk v := rfl

/-- `LayerAndMaskInformation.read` on the main stream, wherever the section sits: the reader's gates look at
the section only (`fp.tell() + 4 <= end_pos`, `fp.tell() < end_pos`). -/
theorem LayerAndMask.dec_at {v pad : Nat} {x : LayerAndMask} (hwf : x.WF v pad) {d : B} {p : Nat}
    (hat : At d p (x.encT v pad)) :
    LayerAndMask.dec v d p = .ok (x.refresh, p + (x.encT v pad).length) := by
  obtain ⟨⟨_, _, _, hfb⟩, hrest⟩ := hwf
  obtain ⟨li, g, ts⟩ := x
  rw [LayerAndMask.dec_eq_lamRead]
  cases li with
  | none =>
    obtain ⟨rfl, rfl⟩ := hrest
    exact lamRead_empty hat
  | some li =>
    obtain ⟨hli, hg, hts, hgt⟩ := hrest
    cases ts with
    | none => simp at hts
    | some ts =>
      simp only [LayerAndMask.encT, LayerAndMask.bodyT, optT', List.append_assoc] at hfb hat hgt ⊢
      exact lamRead_at (fun h => LayerInfo.dec_step hli h) (by have := li.length_encT_ge v pad; omega) hg
        (fun h => taggedBlocksDec_at (Or.inr (Or.inr rfl)) hts (some _) h (fun e he => by cases he; exact Nat.le_refl _)
          (by simp [taggedCond]))
        (fun hn => by have := hgt hn; simp only [Option.some.injEq] at this; subst this; exact ⟨rfl, rfl⟩) hfb hat

/-! ## the whole file -/

theorem PSD.encP_eq (pad : Nat) (x : PSD) : x.encP pad = (x.encT pad, (x.encT pad).length) := by
  simp only [PSD.encP, PSD.encT, Header.encP_eq, colorModeP_eq, resourcesP_eq, LayerAndMask.encP_eq,
    ImageData.encP_eq, wSeq_eq]

theorem PSD.refresh_eq (x : PSD) : x.refresh = { x with layerAndMask := x.layerAndMask.refresh } := rfl

/-- `PSD.read` with the readers of the resource section and of the layer and mask section left open. Its instances:
`PSD.read` (`PSD.read_eq_docRead`), `DeepPSD.read` (Lemmas/PayloadLayerInfo2.lean), `ResPSD.read` (Lemmas/Payload3Typed.lean),
`TPSD.read` (Lemmas/TypedDoc.lean) -/
def docRead {ρ L α : Type} (rdec : R ρ) (ldec : Nat → R L) (mk : Header → B → ρ → L → ImageData → α) : R α := fun d p => do
  let (header, p) ← Header.dec d p
  let (cmd, p) ← colorModeDec d p
  let (res, p) ← rdec d p
  let (lm, p) ← ldec header.version d p
  let (img, p) ← ImageData.dec d p
  .ok (mk header cmd res lm img, p)

/-- on a file made of the five written sections, readers that return `r` on the bytes `rT` and `l` on the bytes `lT`
wherever these sit give the document back, and the cursor ends at the end of the file -/
theorem docRead_sections {ρ L α : Type} {rdec : R ρ} {ldec : Nat → R L} {mk : Header → B → ρ → L → ImageData → α}
    {h : Header} {c : B} {i : ImageData} {rT lT : B} {r : ρ} {l : L} (hh : h.Valid) (hc : FitsU 4 c.length) (hi : i.WF)
    (hr : ∀ {d : B} {p : Nat}, At d p rT → rdec d p = .ok (r, p + rT.length))
    (hl : ∀ {d : B} {p : Nat}, At d p lT → ldec h.version d p = .ok (l, p + lT.length))
    {D : B} (hD : D = h.encT ++ (colorModeT c ++ (rT ++ (lT ++ i.encT)))) :
    docRead rdec ldec mk D 0 = .ok (mk h c r l i, D.length) := by
  have hlen : D.length = 0 + h.encT.length + (colorModeT c).length + rT.length + lT.length + i.encT.length := by
    rw [hD]; simp only [List.length_append]; omega
  have hat : At D 0 (h.encT ++ (colorModeT c ++ (rT ++ (lT ++ i.encT)))) := hD ▸ At.self D
  have e1 := Header.dec_at hh hat.left
  have hat := hat.right
  have e2 := colorModeDec_at hc hat.left
  have hat := hat.right
  have e3 := hr hat.left
  have hat := hat.right
  have e4 := hl hat.left
  have hat := hat.right
  have e5 := ImageData.dec_at_end hi hat hlen.symm
  simp only [docRead, bind, Except.bind, e1, e2, e3, e4, e5, hlen]

theorem PSD.read_eq_docRead : PSD.read = docRead resourcesDec LayerAndMask.dec PSD.mk := rfl

theorem PSD.read_encT {pad : Nat} {x : PSD} (hwf : x.WF pad) :
    PSD.read (x.encT pad) 0 = .ok (x.refresh, (x.encT pad).length) := by
  obtain ⟨hh, hc, hr, hl, hi⟩ := hwf
  rw [PSD.read_eq_docRead]
  refine docRead_sections hh hc hi (resourcesDec_at hr) (LayerAndMask.dec_at hl) ?_
  simp only [PSD.encT, List.append_assoc]

/-! ### re-writing the re-read document -/

theorem LayerInfo.refresh_layerCount (li : LayerInfo) : li.refresh.layerCount = li.layerCount := by
  unfold LayerInfo.refresh
  split
  · rfl
  · split <;> rfl

theorem LayerInfo.encT_refresh (v pad : Nat) (li : LayerInfo) : li.refresh.encT v pad = li.encT v pad := by
  unfold LayerInfo.encT
  rw [LayerInfo.refresh_layerCount, LayerInfo.refresh_idem]

theorem LayerInfo.Fits_refresh (v pad : Nat) (li : LayerInfo) : li.refresh.Fits v pad ↔ li.Fits v pad := by
  unfold LayerInfo.Fits
  rw [LayerInfo.refresh_layerCount, LayerInfo.refresh_idem]

theorem LayerAndMask.bodyT_refresh (v pad : Nat) (x : LayerAndMask) : x.refresh.bodyT v pad = x.bodyT v pad := by
  obtain ⟨li, g, ts⟩ := x
  cases li <;> simp [LayerAndMask.refresh, LayerAndMask.bodyT, optT', LayerInfo.encT_refresh]

theorem LayerAndMask.encT_refresh (v pad : Nat) (x : LayerAndMask) : x.refresh.encT v pad = x.encT v pad := by
  simp only [LayerAndMask.encT, LayerAndMask.bodyT_refresh]

theorem LayerAndMask.Fits_refresh (v pad : Nat) (x : LayerAndMask) : x.refresh.Fits v pad ↔ x.Fits v pad := by
  obtain ⟨li, g, ts⟩ := x
  cases li with
  | none => simp [LayerAndMask.refresh]
  | some li =>
    have hb := LayerAndMask.bodyT_refresh v pad ⟨some li, g, ts⟩
    simp only [LayerAndMask.refresh, Option.map_some] at hb
    simp only [LayerAndMask.Fits, LayerAndMask.refresh, Option.map_some, optProp, LayerInfo.Fits_refresh, hb]

theorem PSD.encT_refresh (pad : Nat) (x : PSD) : x.refresh.encT pad = x.encT pad := by
  simp only [PSD.refresh_eq, PSD.encT, LayerAndMask.encT_refresh]

theorem PSD.writeError_refresh (pad : Nat) (x : PSD) : x.refresh.writeError pad = x.writeError pad := by
  have h1 : x.refresh.Fits₁ ↔ x.Fits₁ := by simp only [PSD.refresh_eq, PSD.Fits₁]
  have h2 : x.refresh.Fits₂ pad ↔ x.Fits₂ pad := by
    simp only [PSD.refresh_eq, PSD.Fits₂, LayerAndMask.Fits_refresh]
  have h3 : x.refresh.header = x.header := rfl
  unfold PSD.writeError
  simp only [h1, h2, h3]

theorem PSD.enc_refresh (pad : Nat) (x : PSD) : PSD.enc pad x.refresh = PSD.enc pad x := by
  unfold PSD.enc
  rw [PSD.writeError_refresh, PSD.encT_refresh]

theorem PSD.enc_ok {pad : Nat} {x : PSD} {bs : B} (h : PSD.enc pad x = .ok bs) : bs = x.encT pad := by
  unfold PSD.enc at h
  split at h
  · exact nomatch h
  · exact (Except.ok.inj h).symm

theorem PSD.enc_of_writeError {pad : Nat} {x : PSD} (h : x.writeError pad = none) :
    PSD.enc pad x = .ok (x.encT pad) := by
  unfold PSD.enc
  rw [h]

/-- a well-formed document is written: `WF` holds every width clause of `Fits₁` and `Fits₂`, and a valid
version selects a length format -/
theorem PSD.enc_of_wf {pad : Nat} {x : PSD} (hwf : x.WF pad) : PSD.enc pad x = .ok (x.encT pad) := by
  obtain ⟨hh, hc, ⟨hr, _, hrf⟩, hl, hi⟩ := hwf
  have hv : ∀ n ∈ G.headerVersions, ¬ 2 < n := by decide
  have hic : ∀ n ∈ G.imageCompressions, FitsU 2 n := by decide
  have f1 : x.Fits₁ := ⟨Header.fits_of_valid hh, hc, fun r h => (hr r h).2, hrf⟩
  have f2 : x.Fits₂ pad := ⟨hl.1, hic _ hi⟩
  apply PSD.enc_of_writeError
  unfold PSD.writeError
  rw [if_neg (not_not_intro f1), if_neg (hv _ hh.2.1), if_neg (not_not_intro f2)]

/-- a document whose bytes are those of a well-formed document `d'` is read back as `d'`: it does not survive
write → read unless the two are the same after the write -/
theorem PSD.read_twin {pad : Nat} {d d' : PSD} (hw : d.writeError pad = none) (hwf : d'.WF pad)
    (he : d.encT pad = d'.encT pad) (hne : d'.refresh ≠ d.refresh) :
    ∃ bs d'' n, PSD.enc pad d = .ok bs ∧ PSD.read bs 0 = .ok (d'', n) ∧ d'' ≠ d.refresh := by
  refine ⟨_, _, (d'.encT pad).length, PSD.enc_of_writeError hw, ?_, hne⟩
  rw [he]
  exact PSD.read_encT hwf

theorem PSD.encW_eq (pad : Nat) (x : PSD) :
    PSD.encW pad x = (PSD.enc pad x).map (fun bs => (bs, bs.length)) := by
  unfold PSD.encW PSD.enc
  split
  · rfl
  · simp only [Except.map, PSD.encP_eq]

end PsdVerif.Psd
