/-
Plain layers as source generators (`Gen`: what a non-knockout layer contributes as a function of the compositor's
current colour and alpha), a stack as a run of generators, and with it the pass-through group: leaving the group
equals compositing its layers inline. Used by the no-op and grouping laws of C13.
-/
import PsdVerif.Lemmas.CompositeTree

namespace PsdVerif.Composite

theorem applyNode_eq_stepGen (B : Mode → Color → Color → Color) (V : Rect) (x y : Int) (cc : Bool) (st : PState)
    (n : Node) (hko : n.props.knockout = false) :
    applyNode B V x y cc st n = if propsSkipped V cc n.props then st else stepGen st (nodeGen B V x y n) := by
  cases n with
  | leaf pr hasPixels color shape clips =>
    simp only [Node.props] at hko ⊢
    rw [applyNode]
    simp only [propsSkipped, Bool.or_eq_true, decide_eq_true_eq, ite_or, stepGen, nodeGen, finishApply, hko]
  | group pr passThrough children clips =>
    simp only [Node.props] at hko ⊢
    rw [applyNode]
    simp only [propsSkipped, Bool.or_eq_true, decide_eq_true_eq, ite_or, stepGen, nodeGen, finishApply, hko,
      Bool.false_eq_true, if_false]

theorem nodeGen_ok {B : Mode → Color → Color → Color} (hB : BOk B) (V : Rect) (x y : Int) (n : Node) (hn : nodeOk n) :
    Gen.Ok (nodeGen B V x y n) := by
  intro c a hc ha
  cases n with
  | leaf pr hasPixels color shape clips =>
    obtain ⟨hp, hcol, hsh, hcl⟩ := hn
    have hc0 : ColorOk (if hasPixels then pasteAt V pr.bbox x y color white else white) :=
      ite_ok (pasteAt_ok hcol white_ok) white_ok
    have hs0 : Unit01 (if hasPixels then pasteAt V pr.bbox x y shape 0 else 0) :=
      ite_ok (pasteAt_ok hsh unit01_zero) unit01_zero
    exact ⟨finishApply_src hp V x y
      (SrcOk.opaque (ite_ok hc0 (applyClips_inv B V x y _ (inv_init hc0 hs0 false) clips hcl).c) hs0), hB pr.mode⟩
  | group pr passThrough children clips =>
    obtain ⟨hp, hch, hcl⟩ := hn
    -- the group case of `nodeGen` is `groupResult` of the sub-compositor's state, spelled out
    have hg := groupResult_ok ((intersect V pr.bbox).contains x y)
      (applyList_inv B (intersect V pr.bbox) x y _ (inv_init hc ha (!passThrough)) children hch)
    exact ⟨finishApply_src hp V x y
      { hg with c := ite_ok hg.c (applyClips_inv B V x y _ (inv_init hg.c hg.alpha_unit false) clips hcl).c }, hB pr.mode⟩

/-- the generators of the layers of a list that `apply` does not skip -/
def listGens (B : Mode → Color → Color → Color) (V : Rect) (x y : Int) : List Node → List Gen
  | [] => []
  | n :: ns => if propsSkipped V false n.props then listGens B V x y ns else nodeGen B V x y n :: listGens B V x y ns

theorem applyList_eq_runGens (B : Mode → Color → Color → Color) (V : Rect) (x y : Int) (st : PState) (ns : List Node)
    (hko : ∀ n ∈ ns, n.props.knockout = false) :
    applyList B V x y st ns = runGens st (listGens B V x y ns) := by
  induction ns generalizing st with
  | nil => simp [applyList, listGens, runGens]
  | cons n ns ih =>
    have h1 := hko n (List.mem_cons_self ..)
    have h2 : ∀ m ∈ ns, m.props.knockout = false := fun m hm => hko m (List.mem_cons_of_mem _ hm)
    unfold applyList listGens
    rw [applyNode_eq_stepGen B V x y false st n h1]
    by_cases hs : propsSkipped V false n.props = true
    · simp only [hs, if_true]; exact ih _ h2
    · simp only [hs, Bool.false_eq_true, if_false, runGens]; exact ih _ h2

theorem listGens_ok {B : Mode → Color → Color → Color} (hB : BOk B) (V : Rect) (x y : Int) (ns : List Node)
    (h : listOk ns) : ∀ g ∈ listGens B V x y ns, Gen.Ok g := by
  induction ns with
  | nil => intro g hg; simp [listGens] at hg
  | cons n ns ih =>
    intro g hg
    unfold listGens at hg
    split at hg
    · exact ih h.2 g hg
    · rcases List.mem_cons.1 hg with rfl | hg'
      · exact nodeGen_ok hB V x y n h.1
      · exact ih h.2 g hg'

/-- **Leaving a pass-through group = compositing its layers inline**, for one viewport: the group's result
(backdrop removed) composited with normal blending onto the state the group was entered from, against the layers
composited from that state directly. -/
theorem passthrough_inline {B : Mode → Color → Color → Color} (hB : BOk B) (V : Rect) (x y : Int) {st : PState}
    (hst : Inv st) (children : List Node) (hch : listOk children) (hnko : ∀ n ∈ children, n.props.knockout = false) :
    let u := applyList B V x y (PState.init st.c st.a false) children
    Same (applySource blNormal st (finishColor u) u.sg u.ag false) (applyList B V x y st children) := by
  intro u
  simp only [u, applyList_eq_runGens B V x y _ children hnko]
  exact passthrough_exit (coupled_run _ (listGens_ok hB V x y children hch) (coupled_init hst)) hst

/-- a generator that contributes nothing at this pixel -/
def Gen.Zero (g : Gen) : Prop := ∀ c a, (g c a).shape = 0 ∧ (g c a).alpha = 0

theorem nodeGen_zero_outside (B : Mode → Color → Color → Color) (V : Rect) (x y : Int) (hV : V.contains x y = true)
    (n : Node) (hout : n.props.bbox.contains x y = false) : Gen.Zero (nodeGen B V x y n) := by
  intro c a
  cases n with
  | leaf pr hasPixels color shape clips =>
    simp only [Node.props] at hout
    simp only [nodeGen, pasteAt_eq V _ x y hV, hout, Bool.false_eq_true, if_false]
    constructor <;> (split <;> simp)
  | group pr passThrough children clips =>
    simp only [Node.props] at hout
    have hin : (intersect V pr.bbox).contains x y = false := contains_intersect_false hout
    simp only [nodeGen, hin, Bool.false_eq_true, if_false]
    constructor <;> simp

end PsdVerif.Composite
