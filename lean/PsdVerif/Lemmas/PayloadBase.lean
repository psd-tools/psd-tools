/-
C01 payload classes — laws of the primitives of Model/PayloadBase.lean (each proved once, in the `…_step` form of
Lemmas/Codec.lean) and the theorems every payload model gets from its two laws `Rt…` and `Count`.
-/
import PsdVerif.Lemmas.CodecLaws
import PsdVerif.Lemmas.CodecPsd1
import PsdVerif.Lemmas.Unicode
import PsdVerif.Model.PayloadBase

namespace PsdVerif.Payload
open PsdVerif.Codec

/-! ### primitives -/

theorem length_f64T (x : UInt64) : (f64T x).length = 8 := length_beBytes _ _

theorem readF64_step {d : B} {p : Nat} {x : UInt64} {rest : B} (h : At d p (f64T x ++ rest)) :
    readF64 d p = .ok (x, p + 8) ∧ At d (p + 8) rest := by
  have hx : x.toNat < 256 ^ 8 := by have := x.toNat_lt; omega
  obtain ⟨e, h'⟩ := readU_step (w := 8) h hx
  refine ⟨?_, h'⟩
  simp only [readF64, e, UInt64.ofNat_toNat]

theorem length_boolT (b : Bool) : (boolT b).length = 1 := rfl

theorem readBool_step {d : B} {p : Nat} {b : Bool} {rest : B} (h : At d p (boolT b ++ rest)) :
    readBool d p = .ok (b, p + 1) ∧ At d (p + 1) rest := by
  have hb : boolT b = beBytes 1 (if b then 1 else 0) := by cases b <;> rfl
  rw [hb] at h
  obtain ⟨e, h'⟩ := readU_step (w := 1) h (by cases b <;> decide)
  refine ⟨?_, h'⟩
  simp only [readBool, e]
  cases b <;> rfl

theorem readSkip_step {d : B} {p n : Nat} {rest : B} (h : At d p (zeros n ++ rest)) :
    readSkip n d p = .ok ((), p + n) ∧ At d (p + n) rest := by
  obtain ⟨e, h'⟩ := readN_step h (length_zeros n)
  exact ⟨by simp only [readSkip, e], h'⟩

theorem readSized_at {d : B} {p : Nat} {bs : B} (h : At d p bs) : readSized bs.length d p = .ok (bs, p + bs.length) := by
  unfold readSized
  rw [readPy_natCast _ h.bound]
  exact readUpTo_at h

theorem length_sT (w : Nat) (z : Int) : (sT w z).length = w := length_beBytes _ _

/-- two's complement: below zero `z % 256 ^ w` is `z + 256 ^ w`, which `natToS` takes back -/
theorem natToS_sT (w : Nat) (z : Int) (h : FitsS w z) :
    natToS w (z % ((256 ^ w : Nat) : Int)).toNat = z ∧ (z % ((256 ^ w : Nat) : Int)).toNat < 256 ^ w := by
  unfold FitsS at h
  unfold natToS
  have hw : 256 ^ w = 2 * (256 ^ w / 2) := by
    cases w with
    | zero => omega
    | succ k => rw [Nat.pow_succ]; omega
  generalize 256 ^ w = M at *
  generalize M / 2 = H at *
  subst hw
  by_cases hz : 0 ≤ z
  · rw [Int.emod_eq_of_lt hz (by omega)]
    have : z.toNat < H := by omega
    rw [if_pos this]
    omega
  · have e : z % ((2 * H : Nat) : Int) = z + ((2 * H : Nat) : Int) := by
      rw [← Int.add_emod_right, Int.emod_eq_of_lt (by omega) (by omega)]
    rw [e]
    have : ¬ (z + ((2 * H : Nat) : Int)).toNat < H := by omega
    rw [if_neg this]
    omega

theorem readS_step {d : B} {p w : Nat} {z : Int} {rest : B} (h : At d p (sT w z ++ rest)) (hz : FitsS w z) :
    readS w d p = .ok (z, p + w) ∧ At d (p + w) rest := by
  obtain ⟨h1, h2⟩ := natToS_sT w z hz
  obtain ⟨e, h'⟩ := readU_step h h2
  exact ⟨by simp only [readS, e, h1], h'⟩

/-- an optional field: the writer emits it when it is there (`encO`), the reader takes it when `c` holds, and the two agree -/
theorem optField_step {α : Type} {r : R α} {enc : α → B} {encO : Option α → B} (hn : encO none = [])
    (hs : ∀ a, encO (some a) = enc a) {c : Prop} [Decidable c] {o : Option α} (hc : o.isSome ↔ c) {d : B} {p : Nat} {rest : B} (h : At d p (encO o ++ rest))
    (hr : ∀ a, o = some a → At d p (enc a ++ rest) → r d p = .ok (a, p + (enc a).length)) :
    (if c then Codec.optItem r d p else .ok (none, p)) = .ok (o, p + (encO o).length) ∧ At d (p + (encO o).length) rest := by
  refine ⟨?_, h.right⟩
  cases o with
  | none =>
    have : ¬ c := fun hv => by simpa using hc.mpr hv
    rw [if_neg this, hn]
    rfl
  | some a =>
    rw [hs] at h ⊢
    rw [if_pos (hc.mp rfl)]
    simp only [Codec.optItem, hr a rfl h]

/-- bytes that end with `write_padding(fp, written, pad)` have a length that is a multiple of `pad` -/
theorem length_padded_mod (body : B) {pad : Nat} (h : 0 < pad) : (body ++ zeros (padAmount body.length pad)).length % pad = 0 := by
  rw [List.length_append, length_zeros]
  exact add_padAmount_mod _ _ h

/-! ### unicode strings -/

theorem padAmount_eq_padLen (size pad : Nat) : padAmount size pad = Unicode.padLen size pad := rfl

theorem ustrT_eq (pad : Nat) (s : Str) : ustrT pad s = Unicode.unitsLayout (Unicode.encUnits s) pad := by
  simp only [ustrT, Unicode.unitsLayout, zeros, padAmount_eq_padLen, List.length_append, Unicode.be32_length,
    Unicode.bytesOfUnits_length]

theorem length_ustrT (pad : Nat) (s : Str) :
    (ustrT pad s).length = 4 + 2 * (Unicode.encUnits s).length + padAmount (4 + 2 * (Unicode.encUnits s).length) pad := by
  rw [ustrT_eq, Unicode.unitsLayout_length]; rfl

theorem ustr_body_length (s : Str) :
    (Unicode.be32 (Unicode.encUnits s).length ++ Unicode.bytesOfUnits (Unicode.encUnits s)).length =
      4 + 2 * (Unicode.encUnits s).length := by
  simp only [List.length_append, Unicode.be32_length, Unicode.bytesOfUnits_length]

theorem wUStr_eq (pad : Nat) (s : Str) : wUStr pad s = (ustrT pad s, (ustrT pad s).length) := by
  simp only [wUStr, ustrT, wBytes_eq, wSeq_eq, wPad_eq]

/-- a unicode string written with padding `pw`, read with the same padding: the value, cursor after the filler -/
theorem readUStr_step {d : B} {p pad : Nat} {s : Str} {rest : B} (hf : UStrFits s) (hn : Unicode.NoPair s) (hp : pad ≠ 0)
    (h : At d p (ustrT pad s ++ rest)) :
    readUStr pad d p = .ok (s, p + (ustrT pad s).length) ∧ At d (p + (ustrT pad s).length) rest := by
  refine ⟨?_, h.right⟩
  obtain ⟨pre, post, rfl, rfl⟩ := h.left
  rw [ustrT_eq]
  unfold readUStr
  rw [Unicode.readUnicodeString_layout _ pad pre post hf.2 hp (Unicode.encUnits_lt s hf.1),
    Unicode.decUnits_encUnits s hf.1 hn]

/-- read with `padding=1` (the default) whatever padding it was written with: the value, cursor before the filler -/
theorem readUStr1_step {d : B} {p pw : Nat} {s : Str} {rest : B} (hf : UStrFits s) (hn : Unicode.NoPair s)
    (h : At d p (ustrT pw s ++ rest)) :
    readUStr 1 d p = .ok (s, p + (4 + 2 * (Unicode.encUnits s).length)) := by
  obtain ⟨pre, post, rfl, rfl⟩ := h.left
  rw [ustrT_eq]
  unfold readUStr
  rw [Unicode.readUnicodeString_layout_gen _ pw 1 pre post hf.2 (Unicode.encUnits_lt s hf.1),
    Unicode.decUnits_encUnits s hf.1 hn]
  simp [Unicode.readPadding, Unicode.padLen, Unicode.slice, Nat.mod_one, Nat.add_assoc]

/-! ### what every payload model gets from its laws -/

namespace PCodec
variable {α : Type}

/-- the reader returns the written value wherever the written bytes sit -/
def RtAnywhere (c : PCodec α) : Prop :=
  ∀ v, c.WF v → c.Fits v → ∀ (d : B) (p : Nat), At d p (c.encT v) → c.dec d p = .ok (v, p + c.consumed v)

/-- … when nothing follows the written bytes (readers that probe what follows: `is_readable`, lenient `fp.read`) -/
def RtAtEnd (c : PCodec α) : Prop :=
  ∀ v, c.WF v → c.Fits v → ∀ (d : B) (p : Nat), At d p (c.encT v) → p + (c.encT v).length = d.length →
    c.dec d p = .ok (v, p + c.consumed v)

/-- the `written` accumulator of `write` is honest -/
def Count (c : PCodec α) : Prop := ∀ v, c.encP v = (c.encT v, (c.encT v).length)

/-- `RtAnywhere` of a codec given by its fields, stated on the fields: a law proved about the class's own `dec`, `encT`, …
applies as it stands (left to the unifier, `p + c.consumed v =?= p + (encT v).length` is decided by evaluating both) -/
theorem RtAnywhere.of_fields {encT : α → B} {Fits WF : α → Prop} {dF : DecidablePred Fits} {dW : DecidablePred WF}
    {encP : α → W} {dec : R α} {consumed : α → Nat}
    (h : ∀ v, WF v → Fits v → ∀ (d : B) (p : Nat), At d p (encT v) → dec d p = .ok (v, p + consumed v)) :
    (PCodec.mk encT Fits dF encP dec consumed WF dW).RtAnywhere := h

/-- from the `Reads` form, for a reader that consumes all the writer wrote -/
theorem RtAnywhere.of_reads {c : PCodec α} (h : ∀ v, c.WF v → c.Fits v → Reads c.dec (c.encT v) v)
    (ht : ∀ v, c.consumed v = (c.encT v).length) : c.RtAnywhere :=
  fun v hw hf d p hat => ht v ▸ h v hw hf d p hat

theorem RtAnywhere.atEnd {c : PCodec α} (h : c.RtAnywhere) : c.RtAtEnd := fun v hw hf d p hat _ => h v hw hf d p hat

theorem enc_ok {c : PCodec α} {v : α} {bs : B} (h : c.enc v = .ok bs) : c.Fits v ∧ bs = c.encT v :=
  fits_of_ite_ok h

theorem enc_of_fits {c : PCodec α} {v : α} (hf : c.Fits v) : c.enc v = .ok (c.encT v) := if_pos hf

/-- the written bytes as a stream of their own (the `BytesIO` of `frombytes`) -/
theorem dec_encT {c : PCodec α} (h : c.RtAtEnd) {v : α} (hwf : c.WF v) (hf : c.Fits v) :
    c.dec (c.encT v) 0 = .ok (v, c.consumed v) := by
  have e := h v hwf hf _ 0 (At.self _) (Nat.zero_add _)
  rwa [Nat.zero_add] at e

theorem roundtrip_at_end {c : PCodec α} (h : c.RtAtEnd) (v : α) (hwf : c.WF v) (bs pre : B) (henc : c.enc v = .ok bs) :
    c.dec (pre ++ bs) pre.length = .ok (v, pre.length + c.consumed v) := by
  obtain ⟨hf, rfl⟩ := enc_ok henc
  have hat := At.intro pre (c.encT v) []
  simp only [List.append_nil] at hat
  exact h v hwf hf _ _ hat (by simp only [List.length_append])

theorem written_is_length {c : PCodec α} (h : c.Count) (v : α) (bs : B) (henc : c.enc v = .ok bs) :
    c.encW v = .ok (bs, bs.length) := by
  obtain ⟨hf, rfl⟩ := enc_ok henc
  simp only [PCodec.encW, if_pos hf, h v]

theorem enc_rejects (c : PCodec α) (v : α) (e : Err) (h : c.enc v = .error e) : e = .structError := by
  unfold PCodec.enc at h
  split at h
  · cases h
  · cases h; rfl

/-- composition with the skeleton's tagged block: `TaggedBlock.read` takes the length block and runs the payload reader
on exactly those bytes, from position 0 of their own `BytesIO` -/
theorem tagged_block_payload {c : PCodec α} (h : c.RtAtEnd) (ver pad : Nat) (hp : pad = 1 ∨ pad = 2 ∨ pad = 4)
    (t : Psd.TaggedBlock) (hwf : t.WF ver) (v : α) (hv : c.WF v) (henc : c.enc v = .ok t.data) (pre post : B) :
    Psd.TaggedBlock.dec ver pad (pre ++ t.encT ver pad ++ post) pre.length =
        .ok (some t, pre.length + (t.encT ver pad).length) ∧
      c.dec t.data 0 = .ok (v, c.consumed v) := by
  obtain ⟨hf, e⟩ := enc_ok henc
  exact ⟨Psd.TaggedBlock.dec_at hp hwf (At.intro pre _ post), e ▸ dec_encT h hv hf⟩

/-! the shapes of the property theorems of Props/C01Payload.lean, for a codec `c` -/

/-- anywhere in a stream the reader returns the written value; the cursor is after the bytes the reader consumes -/
def RoundTrip (c : PCodec α) : Prop :=
  ∀ v, c.WF v → ∀ bs pre post : B, c.enc v = .ok bs → c.dec (pre ++ bs ++ post) pre.length = .ok (v, pre.length + c.consumed v)

/-- the same when nothing follows the written bytes (the reader looks at what follows) -/
def RoundTripAtEnd (c : PCodec α) : Prop :=
  ∀ v, c.WF v → ∀ bs pre : B, c.enc v = .ok bs → c.dec (pre ++ bs) pre.length = .ok (v, pre.length + c.consumed v)

def RewriteIdentical (c : PCodec α) : Prop :=
  ∀ v, c.WF v → ∀ bs : B, c.enc v = .ok bs → ∀ v' n, c.dec bs 0 = .ok (v', n) → c.enc v' = .ok bs

def WrittenIsLength (c : PCodec α) : Prop := ∀ v (bs : B), c.enc v = .ok bs → c.encW v = .ok (bs, bs.length)

/-- as the payload of a skeleton tagged block: the block is read as a block, and the payload reader returns the value
from exactly the bytes of the length block -/
def TaggedBlockPayload (c : PCodec α) : Prop :=
  ∀ ver pad, (pad = 1 ∨ pad = 2 ∨ pad = 4) → ∀ t : Psd.TaggedBlock, t.WF ver → ∀ v, c.WF v → c.enc v = .ok t.data →
    ∀ pre post : B,
      Psd.TaggedBlock.dec ver pad (pre ++ t.encT ver pad ++ post) pre.length =
          .ok (some t, pre.length + (t.encT ver pad).length) ∧
        c.dec t.data 0 = .ok (v, c.consumed v)

theorem roundTrip_of {c : PCodec α} (h : c.RtAnywhere) : c.RoundTrip := by
  intro v hwf bs pre post henc
  obtain ⟨hf, rfl⟩ := enc_ok henc
  exact h v hwf hf _ _ (At.intro pre _ post)

theorem roundTripAtEnd_of {c : PCodec α} (h : c.RtAtEnd) : c.RoundTripAtEnd := roundtrip_at_end h

/-- what is read back (from the written bytes as a stream of their own) is written again as the same bytes -/
theorem rewriteIdentical_of {c : PCodec α} (h : c.RtAtEnd) : c.RewriteIdentical := by
  intro v hwf bs henc v' n hread
  obtain ⟨hf, rfl⟩ := enc_ok henc
  rw [dec_encT h hwf hf] at hread
  cases hread
  exact henc

theorem writtenIsLength_of {c : PCodec α} (h : c.Count) : c.WrittenIsLength := written_is_length h

theorem taggedBlockPayload_of {c : PCodec α} (h : c.RtAtEnd) : c.TaggedBlockPayload := tagged_block_payload h

end PCodec

end PsdVerif.Payload
