/-
C06 cost programme — the opaque byte strings inside a descriptor (`RawData` / `Alias` / `Path` values) are slices of
what the descriptor reader consumed: `rawSize v + p ≤ p'` whenever `decBody … d p = ok (v, p')`.

Used for `TypeToolObjectSetting.read`, which hands `text_data[b"EngineData"].value` to `EngineData.frombytes`: the
bytes given to the engine-data parser are no longer than the block the descriptor was read from (`findRaw_le`).
-/
import PsdVerif.Lemmas.Descriptor4
import PsdVerif.Model.DescriptorRaw

namespace PsdVerif.Descriptor
open PsdVerif.Codec

/-! ### total size of the raw byte strings of a value -/

mutual
/-- the bytes held by the `RawData` / `Alias` / `Path` values inside `v` -/
def rawSize : DVal → Nat
  | .int _ _ => 0
  | .large _ => 0
  | .bool _ => 0
  | .double _ => 0
  | .unitFloat _ _ => 0
  | .unitFloats _ _ => 0
  | .string _ => 0
  | .enumerated _ _ => 0
  | .enumRef _ _ _ _ => 0
  | .klass _ _ _ => 0
  | .property _ _ _ => 0
  | .name _ _ _ => 0
  | .offset _ _ _ => 0
  | .raw _ data => data.length
  | .list _ items => rawSizeList items
  | .desc _ _ _ items => rawSizeItems items
  | .objArray _ _ _ items => rawSizeItems items
def rawSizeList : List DVal → Nat
  | [] => 0
  | v :: vs => rawSize v + rawSizeList vs
def rawSizeItems : Items → Nat
  | [] => 0
  | (_, v) :: r => rawSize v + rawSizeItems r
end

theorem rawSizeList_nil : rawSizeList [] = 0 := by simp only [rawSizeList]
theorem rawSizeList_cons (v : DVal) (vs : List DVal) : rawSizeList (v :: vs) = rawSize v + rawSizeList vs := by
  simp only [rawSizeList]
theorem rawSizeItems_nil : rawSizeItems [] = 0 := by simp only [rawSizeItems]
theorem rawSizeItems_cons (x : Key × DVal) (r : Items) : rawSizeItems (x :: r) = rawSize x.2 + rawSizeItems r := by
  obtain ⟨k, v⟩ := x
  simp only [rawSizeItems]

theorem rawSizeItems_append (a b : Items) : rawSizeItems (a ++ b) = rawSizeItems a + rawSizeItems b := by
  induction a with
  | nil => simp only [List.nil_append, rawSizeItems_nil, Nat.zero_add]
  | cons x a ih => rw [List.cons_append, rawSizeItems_cons, rawSizeItems_cons, ih]; omega

/-! ### `OrderedDict(items)` drops the values it replaces -/

theorem map_replace_of_not_mem (kb : B) (w : DVal) (r : Items) (h : ∀ y ∈ r, y.1.bytes ≠ kb) :
    r.map (fun y => if y.1.bytes == kb then (y.1, w) else y) = r := by
  induction r with
  | nil => rfl
  | cons y r ih =>
    have hy : (y.1.bytes == kb) = false := by
      have := h y (List.mem_cons_self ..)
      simpa using this
    simp only [List.map_cons, hy]
    rw [ih fun z hz => h z (List.mem_cons_of_mem _ hz)]
    rfl

theorem rawSizeItems_map_replace (kb : B) (w : DVal) (acc : Items) (hn : KeysNodup acc) :
    rawSizeItems (acc.map (fun y => if y.1.bytes == kb then (y.1, w) else y)) ≤ rawSizeItems acc + rawSize w := by
  induction acc with
  | nil => simp only [List.map_nil, rawSizeItems_nil]; omega
  | cons y r ih =>
    unfold KeysNodup at hn
    rw [List.map_cons, List.nodup_cons] at hn
    rw [List.map_cons, rawSizeItems_cons, rawSizeItems_cons]
    by_cases hy : (y.1.bytes == kb) = true
    · have hkb : y.1.bytes = kb := by simpa using hy
      have hr : ∀ z ∈ r, z.1.bytes ≠ kb := by
        intro z hz e
        apply hn.1
        rw [hkb, ← e]
        exact List.mem_map_of_mem (f := fun kv : Key × DVal => kv.1.bytes) hz
      rw [map_replace_of_not_mem kb w r hr]
      simp only [hy, if_true]
      omega
    · have hy' : (y.1.bytes == kb) = false := by simpa using hy
      have := ih hn.2
      simp only [hy']
      simp only [Bool.false_eq_true, if_false]
      omega

theorem keys_dictInsert (acc : Items) (x : Key × DVal) :
    (dictInsert acc x).map (fun kv => kv.1.bytes) =
      if acc.any (fun y => y.1.bytes == x.1.bytes) then acc.map (fun kv => kv.1.bytes)
      else acc.map (fun kv => kv.1.bytes) ++ [x.1.bytes] := by
  unfold dictInsert
  split
  · rw [List.map_map]
    congr 1
    funext y
    simp only [Function.comp]
    split <;> rfl
  · simp only [List.map_append, List.map_cons, List.map_nil]

theorem keysNodup_dictInsert (acc : Items) (x : Key × DVal) (hn : KeysNodup acc) : KeysNodup (dictInsert acc x) := by
  unfold KeysNodup at hn ⊢
  rw [keys_dictInsert]
  split
  · exact hn
  · rename_i hany
    rw [List.nodup_append]
    refine ⟨hn, by simp, ?_⟩
    intro a ha b hb e
    simp only [List.mem_cons, List.not_mem_nil, or_false] at hb
    apply hany
    rw [List.any_eq_true]
    obtain ⟨y, hy, rfl⟩ := List.mem_map.mp ha
    exact ⟨y, hy, by simp only [beq_iff_eq]; rw [e, hb]⟩

theorem rawSizeItems_dictInsert (acc : Items) (x : Key × DVal) (hn : KeysNodup acc) :
    rawSizeItems (dictInsert acc x) ≤ rawSizeItems acc + rawSize x.2 := by
  unfold dictInsert
  split
  · exact rawSizeItems_map_replace x.1.bytes x.2 acc hn
  · rw [rawSizeItems_append, rawSizeItems_cons, rawSizeItems_nil]; omega

theorem rawSizeItems_foldl_dictInsert (items acc : Items) (hn : KeysNodup acc) :
    rawSizeItems (items.foldl dictInsert acc) ≤ rawSizeItems acc + rawSizeItems items := by
  induction items generalizing acc with
  | nil => simp only [List.foldl_nil, rawSizeItems_nil]; omega
  | cons x xs ih =>
    rw [List.foldl_cons, rawSizeItems_cons]
    have h1 := ih (dictInsert acc x) (keysNodup_dictInsert acc x hn)
    have h2 := rawSizeItems_dictInsert acc x hn
    omega

/-- `OrderedDict(items)` holds a sub-collection of the values of `items` -/
theorem rawSizeItems_dictOf (items : Items) : rawSizeItems (dictOf items) ≤ rawSizeItems items := by
  have := rawSizeItems_foldl_dictInsert items [] (by unfold KeysNodup; simp)
  rw [rawSizeItems_nil] at this
  unfold dictOf
  omega

/-! ### the judgement: on success the cursor has moved by at least the size of the value (minus a credit `k`) -/

def Adv {α : Type} (k : Nat) (sz : α → Nat) (r : R α) (d : B) : Prop :=
  ∀ p a p', p ≤ d.length → r d p = .ok (a, p') → sz a + p ≤ p' + k ∧ p' ≤ d.length

theorem Adv.bind {α β : Type} {k : Nat} {s : α → Nat} {s' : β → Nat} {r : R α} {f : α → R β} {d : B}
    (hr : Adv 0 s r d) (hf : ∀ a, Adv (k + s a) s' (f a) d) : Adv k s' (r >>- f) d := by
  intro p b p2 hp h
  unfold rbind at h
  cases hr' : r d p with
  | error e => rw [hr'] at h; cases h
  | ok x =>
    obtain ⟨a, p1⟩ := x
    rw [hr'] at h
    simp only at h
    have h1 := hr p a p1 hp hr'
    have h2 := hf a p1 b p2 h1.2 h
    omega

theorem Adv.bind0 {α β : Type} {k : Nat} {s' : β → Nat} {r : R α} {f : α → R β} {d : B}
    (hr : Adv 0 (fun _ => 0) r d) (hf : ∀ a, Adv k s' (f a) d) : Adv k s' (r >>- f) d :=
  Adv.bind hr hf

theorem Adv.pure {α : Type} {k : Nat} {s : α → Nat} {b : α} {d : B} (h : s b ≤ k) : Adv k s (rpure b) d := by
  intro p a p' hp he
  simp only [rpure, Except.ok.injEq, Prod.mk.injEq] at he
  obtain ⟨rfl, rfl⟩ := he
  omega

theorem Adv.fail {α : Type} {k : Nat} {s : α → Nat} {e : Err} {d : B} : Adv k s (rfail e : R α) d := by
  intro p a p' _ he
  simp only [rfail] at he
  cases he

theorem Adv.of_good {α : Type} {r : R α} {d : B} (h : GoodIn d 0 r) : Adv 0 (fun _ => 0) r d := by
  intro p a p' hp he
  have := h p (Nat.zero_le _) hp
  unfold OkAt at this
  rw [he] at this
  simp only at this
  dsimp only
  omega

theorem adv_readUpTo_len (n : Nat) (d : B) : Adv 0 List.length (readUpTo n) d := by
  intro p a p' hp he
  simp only [readUpTo, Except.ok.injEq, Prod.mk.injEq] at he
  obtain ⟨rfl, rfl⟩ := he
  simp only [List.length_take, List.length_drop]
  omega

/-- `read_length_block`: the block returned lies between the two cursors -/
theorem adv_readLenBlock (pad : Nat) (d : B) : Adv 0 List.length (readLenBlock 0 4 pad) d := by
  rw [readLenBlock_eq]
  refine Adv.bind0 (Adv.of_good (good_readN d 0 0)) fun _ => Adv.bind0 (Adv.of_good (good_readU d 0 4)) fun n =>
    Adv.bind0 (Adv.of_good (good_roverflow d 0 n)) fun _ => Adv.bind (adv_readUpTo_len n d) fun x => ?_
  split
  · exact Adv.fail
  · exact Adv.bind0 (Adv.of_good (good_readUpTo d 0 _)) fun _ => Adv.pure (by omega)

theorem readCount_succ {α : Type} (item : R α) (n : Nat) :
    readCount item (n + 1) = (item >>- fun a => (readCount item n) >>- fun as => rpure (a :: as)) := by
  funext d p
  simp only [readCount, rbind, rpure]
  cases item d p with
  | error e => rfl
  | ok x =>
    obtain ⟨a, p1⟩ := x
    simp only
    cases readCount item n d p1 with
    | error e => rfl
    | ok y => rfl

theorem adv_readCount {α : Type} {s : α → Nat} {S : List α → Nat} {item : R α} {d : B} (h0 : S [] = 0)
    (hc : ∀ a as, S (a :: as) = s a + S as) (h : Adv 0 s item d) (n : Nat) : Adv 0 S (readCount item n) d := by
  induction n with
  | zero =>
    intro p a p' hp he
    simp only [readCount, Except.ok.injEq, Prod.mk.injEq] at he
    obtain ⟨rfl, rfl⟩ := he
    rw [h0]; omega
  | succ n ih =>
    rw [readCount_succ]
    exact Adv.bind h fun a => Adv.bind ih fun as => Adv.pure (by rw [hc]; omega)

theorem adv_readTag (d : B) : Adv 0 (fun _ => 0) readTag d := by
  unfold readTag
  refine Adv.bind0 (Adv.of_good (good_readUpTo d 0 4)) fun b => ?_
  split
  · exact Adv.pure (Nat.le_refl _)
  · exact Adv.fail

theorem adv_tagged {d : B} {rec : Tag → R DVal} (h : ∀ t, Adv 0 rawSize (rec t) d) : Adv 0 rawSize (tagged rec) d :=
  Adv.bind0 (adv_readTag d) h

theorem adv_keyed {tb : Tables} {d : B} {rec : Tag → R DVal} (h : ∀ t, Adv 0 rawSize (rec t) d) :
    Adv 0 (fun kv : Key × DVal => rawSize kv.2) (keyed tb rec) d :=
  Adv.bind0 (Adv.of_good (good_readKey tb d 0)) fun _ => Adv.bind (adv_tagged h) fun _ => Adv.pure (by dsimp only; omega)

theorem adv_readBody {tb : Tables} {d : B} {rec : Tag → R DVal} (h : ∀ t, Adv 0 rawSize (rec t) d) :
    Adv 0 (fun x : Str × Key × Items => rawSizeItems x.2.2) (readBody tb rec) d :=
  Adv.bind0 (Adv.of_good (good_readStr d 0)) fun _ => Adv.bind0 (Adv.of_good (good_readKey tb d 0)) fun _ =>
    Adv.bind0 (Adv.of_good (good_readU d 0 4)) fun n =>
      Adv.bind (adv_readCount (s := fun kv : Key × DVal => rawSize kv.2) rawSizeItems_nil rawSizeItems_cons (adv_keyed h) n)
        fun items => Adv.pure (by have := rawSizeItems_dictOf items; dsimp only; omega)

theorem adv_decWith {tb : Tables} {d : B} {rec : Tag → R DVal} (h : ∀ t, Adv 0 rawSize (rec t) d) (t : Tag) :
    Adv 0 rawSize (decWith tb rec t) d := by
  have gstr := Adv.of_good (good_readStr d 0)
  have gkey := Adv.of_good (good_readKey tb d 0)
  have gu : ∀ w, Adv 0 (fun _ => 0) (readU w) d := fun w => Adv.of_good (good_readU d 0 w)
  have gn : ∀ w, Adv 0 (fun _ => 0) (readN w) d := fun w => Adv.of_good (good_readN d 0 w)
  have hint : ∀ it, Adv 0 rawSize (decInt it) d := fun it =>
    Adv.bind0 (Adv.of_good (good_readI32 d 0)) fun _ => Adv.pure (by simp only [rawSize]; omega)
  have hcls : ∀ ct, Adv 0 rawSize (decClass tb ct) d := fun ct =>
    Adv.bind0 gstr fun _ => Adv.bind0 gkey fun _ => Adv.pure (by simp only [rawSize]; omega)
  have hraw : ∀ rt, Adv 0 rawSize (decRaw rt) d := fun rt =>
    Adv.bind (adv_readLenBlock 1 d) fun _ => Adv.pure (by simp only [rawSize]; omega)
  have hlist : ∀ lt, Adv 0 rawSize (decList rec lt) d := fun lt =>
    Adv.bind0 (gu 4) fun n => Adv.bind (adv_readCount rawSizeList_nil rawSizeList_cons (adv_tagged h) n) fun _ =>
      Adv.pure (by simp only [rawSize]; omega)
  have hdesc : ∀ dt, Adv 0 rawSize (decDesc tb rec dt) d := fun dt =>
    Adv.bind (adv_readBody h) fun _ => Adv.pure (by simp only [rawSize]; omega)
  cases t <;> simp only [decWith]
  case integer => exact hint _
  case identifier => exact hint _
  case index => exact hint _
  case largeInteger =>
    exact Adv.bind0 (Adv.of_good (good_readI64 d 0)) fun _ => Adv.pure (by simp only [rawSize]; omega)
  case boolean =>
    exact Adv.bind0 (Adv.of_good (good_readBool d 0)) fun _ => Adv.pure (by simp only [rawSize]; omega)
  case double => exact Adv.bind0 (gu 8) fun _ => Adv.pure (by simp only [rawSize]; omega)
  case unitFloat =>
    exact Adv.bind0 (gn 4) fun u4 => Adv.bind0 (gu 8) fun _ => Adv.bind0 (Adv.of_good (good_unitOf tb u4 d 0)) fun _ =>
      Adv.pure (by simp only [rawSize]; omega)
  case unitFloats =>
    exact Adv.bind0 (gn 4) fun u4 => Adv.bind0 (gu 4) fun n => Adv.bind0 (Adv.of_good (good_unitOf tb u4 d 0)) fun _ =>
      Adv.bind0 (Adv.of_good (good_readF64s d 0 n)) fun _ => Adv.pure (by simp only [rawSize]; omega)
  case string => exact Adv.bind0 gstr fun _ => Adv.pure (by simp only [rawSize]; omega)
  case enumerated => exact Adv.bind0 gkey fun _ => Adv.bind0 gkey fun _ => Adv.pure (by simp only [rawSize]; omega)
  case enumeratedReference =>
    exact Adv.bind0 gstr fun _ => Adv.bind0 gkey fun _ => Adv.bind0 gkey fun _ => Adv.bind0 gkey fun _ =>
      Adv.pure (by simp only [rawSize]; omega)
  case class1 => exact hcls _
  case class2 => exact hcls _
  case class3 => exact hcls _
  case property =>
    exact Adv.bind0 gstr fun _ => Adv.bind0 gkey fun _ => Adv.bind0 gkey fun _ => Adv.pure (by simp only [rawSize]; omega)
  case name =>
    exact Adv.bind0 gstr fun _ => Adv.bind0 gkey fun _ => Adv.bind0 gstr fun _ => Adv.pure (by simp only [rawSize]; omega)
  case offset =>
    exact Adv.bind0 gstr fun _ => Adv.bind0 gkey fun _ => Adv.bind0 (gu 4) fun _ => Adv.pure (by simp only [rawSize]; omega)
  case rawData => exact hraw _
  case alias => exact hraw _
  case path => exact hraw _
  case list => exact hlist _
  case reference => exact hlist _
  case descriptor => exact hdesc _
  case globalObject => exact hdesc _
  case objectArray =>
    exact Adv.bind0 (gu 4) fun _ => Adv.bind (adv_readBody h) fun _ => Adv.pure (by simp only [rawSize]; omega)

theorem adv_decBody (tb : Tables) (d : B) (fuel : Nat) : ∀ t, Adv 0 rawSize (decBody tb fuel t) d := by
  induction fuel with
  | zero => intro t; unfold decBody; exact Adv.fail
  | succ fuel ih => intro t; unfold decBody; exact adv_decWith ih t

/-- every raw value inside `v` is a slice of what the reader consumed -/
theorem dec_rawSize (tb : Tables) (fuel : Nat) (t : Tag) (d : B) (p : Nat) (v : DVal) (p' : Nat)
    (h : decBody tb fuel t d p = .ok (v, p')) (hp : p ≤ d.length) : rawSize v + p ≤ p' :=
  (adv_decBody tb d fuel t p v p' hp h).1

theorem dec_inside (tb : Tables) (fuel : Nat) (t : Tag) (d : B) (p : Nat) (v : DVal) (p' : Nat)
    (h : decBody tb fuel t d p = .ok (v, p')) (hp : p ≤ d.length) : p' ≤ d.length :=
  (adv_decBody tb d fuel t p v p' hp h).2

theorem adv_Block_dec (tb : Tables) (d : B) : Adv 0 (fun b : Block => rawSizeItems b.items) (Block.dec tb) d := by
  have : Adv 0 (fun b : Block => rawSizeItems b.items)
      ((readU 4) >>- fun ver => (readBody tb (decBody tb (d.length + 1))) >>- fun x =>
        if ver = 16 then rpure ⟨(ver : Int), x.1, x.2.1, x.2.2⟩ else rfail .valueError) d := by
    refine Adv.bind0 (Adv.of_good (good_readU d 0 4)) fun ver =>
      Adv.bind (adv_readBody (adv_decBody tb d (d.length + 1))) fun x => ?_
    split
    · exact Adv.pure (by dsimp only; omega)
    · exact Adv.fail
  intro p a p' hp he
  exact this p a p' hp he

theorem Block.dec_rawSize {tb : Tables} {d : B} {p : Nat} {b : Block} {p' : Nat}
    (h : Block.dec tb d p = .ok (b, p')) (hp : p ≤ d.length) : rawSizeItems b.items + p ≤ p' :=
  (adv_Block_dec tb d p b p' hp h).1

theorem Block.dec_inside {tb : Tables} {d : B} {p : Nat} {b : Block} {p' : Nat}
    (h : Block.dec tb d p = .ok (b, p')) (hp : p ≤ d.length) : p' ≤ d.length :=
  (adv_Block_dec tb d p b p' hp h).2

/-- a successful `DescriptorBlock.read` started inside the stream (it read its 4-byte version) -/
theorem Block.dec_start {tb : Tables} {d : B} {p : Nat} {b : Block} {p' : Nat}
    (h : Block.dec tb d p = .ok (b, p')) : p ≤ d.length := by
  unfold Block.dec rbind at h
  by_cases hq : p + 4 ≤ d.length
  · omega
  · simp [readU, readN, hq] at h

/-- the raw values of the block lie between the two cursors, and the end cursor is inside the stream -/
theorem Block.dec_rawSize_inside {tb : Tables} {d : B} {p : Nat} {b : Block} {p' : Nat}
    (h : Block.dec tb d p = .ok (b, p')) : rawSizeItems b.items + p ≤ p' ∧ p' ≤ d.length :=
  ⟨Block.dec_rawSize h (Block.dec_start h), Block.dec_inside h (Block.dec_start h)⟩

/-! ### `text_data[b"EngineData"].value` -/

theorem findRaw_le {key : B} {items : Items} {data : B} (h : findRaw key items = some data) :
    data.length ≤ rawSizeItems items := by
  induction items with
  | nil => simp only [findRaw] at h; cases h
  | cons x r ih =>
    obtain ⟨k, v⟩ := x
    rw [rawSizeItems_cons]
    simp only [findRaw] at h
    split at h
    · split at h
      · cases h
        simp only [rawSize]
        omega
      · cases h
    · have := ih h
      omega

end PsdVerif.Descriptor
