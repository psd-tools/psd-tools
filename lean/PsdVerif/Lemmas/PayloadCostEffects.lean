/-
C06 — the counting twins of Model/PayloadCostEffects.lean erase to the readers of Model/PayloadEffects.lean and obey
the cost judgement with the constants recorded in their `CC.hand`.

Also here (used by Lemmas/PayloadCostPatterns.lean and Lemmas/PayloadCostDesc.lean too): the rules for a nested run
inside a hand-written reader — `Inner a b data q Q x` (a run on the block `data` from cursor `q`: cost ≤ a · (bytes of `data` left) + b, never out of
fuel, a result that satisfies `Q`), `Cost.bindBlock` (`read_length_block`, then a continuation that may spend
`c · len(block)` more: the block is part of what was consumed) and `Cost.stepInner` / `Cost.ofInner`.
-/
import PsdVerif.Model.PayloadCostEffects
import PsdVerif.Lemmas.PayloadCostSimple

namespace PsdVerif.PayloadCost
open PsdVerif PsdVerif.Codec PsdVerif.PsdCost PsdVerif.Payload PsdVerif.Payload3 PsdVerif.Safe PsdVerif.SafeCost

/-! ### nested runs -/

/-- a run on the nested block `data` from its cursor `q` -/
def Inner {γ : Type} (a b : Nat) (data : B) (q : Nat) (Q : γ → Prop) (x : CE γ) : Prop :=
  x.2.w ≤ a * (data.length - q) + b ∧ (∀ y, x.1 = .ok y → Q y) ∧ x.1 ≠ .error .other

theorem Inner.ok {γ : Type} {data : B} {q : Nat} {Q : γ → Prop} (v : γ) (hQ : Q v) : Inner 0 0 data q Q (CE.ok v) := by
  refine ⟨?_, fun y hy => ?_, fun h => by cases h⟩
  · rw [ok_w]; omega
  · cases hy; exact hQ

theorem Inner.error {γ : Type} {data : B} {q : Nat} {Q : γ → Prop} {e : Err} (he : e ≠ .other) :
    Inner 0 0 data q Q (CE.error e : CE γ) := by
  refine ⟨?_, fun y hy => (by cases hy), fun h => ?_⟩
  · have : (CE.error e : CE γ).2.w = 0 := rfl
    omega
  · cases h; exact he rfl

theorem Inner.mono {γ : Type} {a a' b b' : Nat} {data : B} {q : Nat} {Q : γ → Prop} {x : CE γ}
    (h : Inner a' b' data q Q x) (ha : a' ≤ a) (hb : b' ≤ b) : Inner a b data q Q x := by
  have : a' * (data.length - q) ≤ a * (data.length - q) := Nat.mul_le_mul_right _ ha
  exact ⟨by have := h.1; omega, h.2.1, h.2.2⟩

/-- a statement on `data`, then the rest of the nested run -/
theorem Inner.bind {β γ : Type} {a₁ a₂ b₁ b₂ k₁ : Nat} {data : B} {q : Nat} {Q : γ → Prop} {m : CE (β × Nat)}
    {f : β × Nat → CE γ} (hm : Cost a₁ b₁ k₁ data q m)
    (hf : ∀ v q₁, m.1 = .ok (v, q₁) → q₁ ≤ data.length → Inner a₂ b₂ data q₁ Q (f (v, q₁))) :
    Inner (max a₁ a₂) (b₁ + b₂) data q Q (m >>= f) := by
  cases hm1 : m.1 with
  | error e =>
    rw [bind_err' hm1]
    have h1 := (hm.mono (Nat.le_max_left a₁ a₂) (Nat.le_add_right b₁ b₂) (Nat.le_refl _)).of_error hm1
    exact ⟨h1.2, fun y hy => (by cases hy), fun h => by cases h; exact h1.1 rfl⟩
  | ok y =>
    obtain ⟨v, q₁⟩ := y
    have h1 := hm.of_ok hm1
    have h2 := hf v q₁ hm1 h1.2.1
    rw [bind_ok' hm1]
    refine ⟨?_, h2.2.1, h2.2.2⟩
    show (m.2 + (f (v, q₁)).2).w ≤ _
    rw [w_add]
    exact pay_seq h1.2.2 (Nat.add_le_add_right (Nat.mul_le_mul_right _ (Nat.le_max_left ..)) _) h2.1
      (Nat.le_max_right ..) (Nat.sub_add_sub_cancel h1.2.1 (Nat.le_of_add_right_le h1.1))

/-- `with io.BytesIO(data) as f:` in front of the nested run -/
theorem Inner.enter {γ : Type} {a b : Nat} {data : B} {Q : γ → Prop} {x : CE γ} (h : Inner a b data 0 Q x) :
    Inner (a + 1) (b + 1) data 0 Q (enterBlock data >>= fun _ => x) := by
  rw [bind_ok' (enterBlock_fst data)]
  refine ⟨?_, h.2.1, h.2.2⟩
  show ((enterBlock data).2 + x.2).w ≤ _
  rw [w_add, enterBlock_w, Nat.add_mul, Nat.one_mul]
  have := h.1
  omega

theorem Inner.w_le {γ : Type} {a b : Nat} {data : B} {Q : γ → Prop} {x : CE γ} (h : Inner a b data 0 Q x) :
    x.2.w ≤ a * data.length + b := by
  have := h.1
  simpa using this

/-- a nested run as one step of a reader on `d`: it costs `ai · len(data) + bi` -/
theorem Cost.stepInner {α γ : Type} {a b k ai bi : Nat} {d data : B} {p : Nat} {Q : γ → Prop} {m : CE γ}
    {f : γ → CE (α × Nat)} (hm : Inner ai bi data 0 Q m) (hf : ∀ y, m.1 = .ok y → Q y → Cost a b k d p (f y)) :
    Cost a (ai * data.length + (bi + b)) k d p (m >>= f) :=
  (Cost.step (n := ai * data.length + bi) hm.w_le hm.2.2 (fun y hy => hf y hy (hm.2.1 y hy))).mono
    (Nat.le_refl _) (by omega) (Nat.le_refl _)

/-- a nested run that ends the reader: it returns the cursor `p` of `d` where the block ended -/
theorem Cost.ofInner {α : Type} {a b : Nat} {d data : B} {p : Nat} {x : CE (α × Nat)} (hp : p ≤ d.length)
    (h : Inner a b data 0 (fun y => y.2 = p) x) : Cost 0 (a * data.length + b) 0 d p x := by
  have hw := h.w_le
  refine Cost.intro (fun v p' hx => ?_) (fun e hx => ?_)
  · have : p' = p := h.2.1 _ hx
    subst this
    exact ⟨by omega, hp, by omega⟩
  · refine ⟨fun he => h.2.2 (by rw [hx, he]), by omega⟩

/-- `data = read_length_block(fp)`, then a continuation that may spend `c · len(data)` beyond its own bound -/
theorem Cost.bindBlock {α : Type} {skip w pad a₂ b₂ k₂ c : Nat} {d : B} {p : Nat} {f : B × Nat → CE (α × Nat)}
    (hp : p ≤ d.length)
    (hf : ∀ data p₁, (readLenBlockC skip w pad d p).1 = .ok (data, p₁) → p₁ ≤ d.length →
      Cost a₂ (c * data.length + b₂) k₂ d p₁ (f (data, p₁))) :
    Cost (max (1 + c) a₂) (4 + b₂) (skip + w + k₂) d p (readLenBlockC skip w pad d p >>= f) := by
  refine Cost.bind_le (b₂ := fun data _ => c * data.length + b₂) (readLenBlockC_cost skip w pad hp) hf
    (fun data p₁ h1 _ _ => ?_) (Nat.le_trans (Nat.le_add_right 1 c) (Nat.le_max_left ..)) (Nat.le_add_right ..)
    (Nat.le_max_right ..) (Nat.le_refl _)
  have hl := readLenBlockC_ok h1
  have e0 := Nat.mul_le_mul_left c (by omega : data.length ≤ p₁ - p)
  have e1 := Nat.mul_le_mul_right (p₁ - p) (Nat.le_max_left (1 + c) a₂)
  rw [Nat.add_mul] at e1
  omega


/-! ## helpers -/

theorem readSig8BIMC_fst (d : B) (p : Nat) : (readSig8BIMC d p).1 = readSig8BIM d p := by
  unfold readSig8BIMC readSig8BIM
  rw [bind_fst, readNC_fst]
  cases readN 4 d p with
  | error e => rfl
  | ok x =>
    obtain ⟨s, p'⟩ := x
    exact erase_ite (fun _ => rfl) fun _ => rfl

theorem readSig8BIMC_cost {d : B} {p : Nat} : Cost 1 1 4 d p (readSig8BIMC d p) := by
  apply Cost.mono
  case h =>
    unfold readSig8BIMC
    cbind (readNC_cost 4)
    celse
    cdone
  cside

theorem readBlendModeC_fst (d : B) (p : Nat) : (readBlendModeC d p).1 = readBlendMode d p := by
  unfold readBlendModeC readBlendMode
  rw [bind_fst, readNC_fst]
  cases readN 4 d p with
  | error e => rfl
  | ok x =>
    obtain ⟨s, p'⟩ := x
    exact erase_ite (fun _ => rfl) fun _ => rfl

theorem readBlendModeC_cost {d : B} {p : Nat} : Cost 1 1 4 d p (readBlendModeC d p) := by
  apply Cost.mono
  case h =>
    unfold readBlendModeC
    cbind (readNC_cost 4)
    celse
    cdone
  cside

/-! ## CommonStateInfo -/

theorem CommonStateInfo.decC_fst (d : B) (p : Nat) : (CommonStateInfo.decC d p).1 = CommonStateInfo.codec.dec d p := by
  simp only [CommonStateInfo.decC, CommonStateInfo.codec, fst_bind, ok_fst, readUC_fst, readSkipC_fst]

theorem CommonStateInfo.decC_cost : CostR 1 3 7 CommonStateInfo.decC := by
  intro d p hp
  apply Cost.mono
  case h =>
    unfold CommonStateInfo.decC
    cbind (readUC_cost 4)
    cbind (readUC_cost 1)
    cbind (readSkipC_cost 2)
    cdone
  cside

theorem CommonStateInfo.cc_c : CommonStateInfo.cc.c = CommonStateInfo.codec := rfl
theorem CommonStateInfo.cc_sound : CommonStateInfo.cc.Sound :=
  CC.hand_sound CommonStateInfo.decC_fst CommonStateInfo.decC_cost

/-! ## ShadowInfo -/

theorem ShadowInfo.decC_fst (d : B) (p : Nat) : (ShadowInfo.decC d p).1 = ShadowInfo.dec d p := by
  unfold ShadowInfo.decC ShadowInfo.dec
  refine erase_seq (readUC_fst ..) fun version p => ?_
  refine erase_seq (readUC_fst ..) fun blur p => ?_
  refine erase_seq (readUC_fst ..) fun intensity p => ?_
  refine erase_seq (readI32C_fst ..) fun angle p => ?_
  refine erase_seq (readUC_fst ..) fun distance p => ?_
  refine erase_seq (Color.decC_fst ..) fun color p => ?_
  refine erase_seq (readSig8BIMC_fst ..) fun _ p => ?_
  refine erase_seq (readBlendModeC_fst ..) fun bm p => ?_
  refine erase_seq (readUC_fst ..) fun enabled p => ?_
  refine erase_seq (readUC_fst ..) fun uga p => ?_
  refine erase_seq (readUC_fst ..) fun opacity p => ?_
  refine erase_seq (Color.decC_fst ..) fun native p => ?_
  rfl

theorem ShadowInfo.decC_cost : CostR 1 28 51 ShadowInfo.decC := by
  intro d p hp
  apply Cost.mono
  case h =>
    unfold ShadowInfo.decC
    cbind (readUC_cost 4)
    cbind (readUC_cost 4)
    cbind (readUC_cost 4)
    cbind readI32C_cost
    cbind (readUC_cost 4)
    cbind (Color.decC_cost d _ (by assumption))
    cbind readSig8BIMC_cost
    cbind readBlendModeC_cost
    cbind (readUC_cost 1)
    cbind (readUC_cost 1)
    cbind (readUC_cost 1)
    cbind (Color.decC_cost d _ (by assumption))
    cdone
  cside

theorem ShadowInfo.cc_c : ShadowInfo.cc.c = ShadowInfo.codec := rfl
theorem ShadowInfo.cc_sound : ShadowInfo.cc.Sound := CC.hand_sound ShadowInfo.decC_fst ShadowInfo.decC_cost

/-! ## `_GlowInfo` body -/

theorem GlowBody.decC_fst (d : B) (p : Nat) : (GlowBody.decC d p).1 = GlowBody.dec d p := by
  simp only [GlowBody.decC, GlowBody.dec, fst_bind, ok_fst, readUC_fst, Color.decC_fst, readSig8BIMC_fst,
    readBlendModeC_fst]

theorem GlowBody.decC_cost : CostR 1 16 32 GlowBody.decC := by
  intro d p hp
  apply Cost.mono
  case h =>
    unfold GlowBody.decC
    cbind (readUC_cost 4)
    cbind (readUC_cost 4)
    cbind (readUC_cost 4)
    cbind (Color.decC_cost d _ (by assumption))
    cbind readSig8BIMC_cost
    cbind readBlendModeC_cost
    cbind (readUC_cost 1)
    cbind (readUC_cost 1)
    cdone
  cside

/-! ## OuterGlowInfo -/

theorem OuterGlowInfo.decC_fst (d : B) (p : Nat) : (OuterGlowInfo.decC d p).1 = OuterGlowInfo.dec d p := by
  simp only [OuterGlowInfo.decC, OuterGlowInfo.dec, fst_bind, ok_fst, ite_fst, GlowBody.decC_fst, optItemC_fst
    Color.decC_fst]

theorem OuterGlowInfo.decC_cost : CostR 1 25 32 OuterGlowInfo.decC := by
  intro d p hp
  apply Cost.mono
  case h =>
    unfold OuterGlowInfo.decC
    cbind (GlowBody.decC_cost d _ (by assumption))
    apply Cost.bind
    · apply Cost.ite <;> intro _
      · exact optItemC_cost (Color.decC_cost d _ (by assumption))
      · exact Cost.ok _ (by assumption)
    · intro _ _ _ _
      dsimp only
      cdone
  cside

theorem OuterGlowInfo.cc_c : OuterGlowInfo.cc.c = OuterGlowInfo.codec := rfl
theorem OuterGlowInfo.cc_sound : OuterGlowInfo.cc.Sound := CC.hand_sound OuterGlowInfo.decC_fst OuterGlowInfo.decC_cost

/-! ## InnerGlowInfo -/

theorem InnerGlowInfo.decC_fst (d : B) (p : Nat) : (InnerGlowInfo.decC d p).1 = InnerGlowInfo.dec d p := by
  simp only [InnerGlowInfo.decC, InnerGlowInfo.dec, fst_bind, ok_fst, ite_fst, GlowBody.decC_fst, readUC_fst,
    Color.decC_fst]

theorem InnerGlowInfo.decC_cost : CostR 1 26 32 InnerGlowInfo.decC := by
  intro d p hp
  apply Cost.mono
  case h =>
    unfold InnerGlowInfo.decC
    cbind (GlowBody.decC_cost d _ (by assumption))
    apply Cost.ite <;> intro _
    · cbind (readUC_cost 1)
      cbind (Color.decC_cost d _ (by assumption))
      cdone
    · cdone
  cside

theorem InnerGlowInfo.cc_c : InnerGlowInfo.cc.c = InnerGlowInfo.codec := rfl
theorem InnerGlowInfo.cc_sound : InnerGlowInfo.cc.Sound := CC.hand_sound InnerGlowInfo.decC_fst InnerGlowInfo.decC_cost

/-! ## BevelInfo -/

theorem BevelInfo.decC_fst (d : B) (p : Nat) : (BevelInfo.decC d p).1 = BevelInfo.dec d p := by
  unfold BevelInfo.decC BevelInfo.dec
  refine erase_seq (readUC_fst ..) fun version p => ?_
  refine erase_seq (readI32C_fst ..) fun angle p => ?_
  refine erase_seq (readUC_fst ..) fun depth p => ?_
  refine erase_seq (readUC_fst ..) fun blur p => ?_
  refine erase_seq (readNC_fst ..) fun s1 p => ?_
  refine erase_seq (readNC_fst ..) fun hbm p => ?_
  refine erase_ite (fun _ => ?_) fun _ => rfl
  refine erase_seq (readNC_fst ..) fun s2 p => ?_
  refine erase_seq (readNC_fst ..) fun sbm p => ?_
  refine erase_ite (fun _ => ?_) fun _ => rfl
  refine erase_seq (Color.decC_fst ..) fun hc p => ?_
  refine erase_seq (Color.decC_fst ..) fun sc p => ?_
  refine erase_seq (readUC_fst ..) fun style p => ?_
  refine erase_seq (readUC_fst ..) fun ho p => ?_
  refine erase_seq (readUC_fst ..) fun so p => ?_
  refine erase_seq (readUC_fst ..) fun en p => ?_
  refine erase_seq (readUC_fst ..) fun uga p => ?_
  refine erase_seq (readUC_fst ..) fun dir p => ?_
  refine erase_seq (erase_ite (fun _ => ?_) fun _ => rfl) fun rhs p => erase_ite (fun _ => rfl) fun _ => rfl
  refine erase_seq (Color.decC_fst ..) fun a p => ?_
  refine erase_seq (Color.decC_fst ..) fun b p => ?_
  rfl

theorem BevelInfo.decC_cost : CostR 1 50 58 BevelInfo.decC := by
  intro d p hp
  apply Cost.mono
  case h =>
    unfold BevelInfo.decC
    cbind (readUC_cost 4)
    cbind readI32C_cost
    cbind (readUC_cost 4)
    cbind (readUC_cost 4)
    cbind (readNC_cost 4)
    cbind (readNC_cost 4)
    celse
    cbind (readNC_cost 4)
    cbind (readNC_cost 4)
    celse
    cbind (Color.decC_cost d _ (by assumption))
    cbind (Color.decC_cost d _ (by assumption))
    cbind (readUC_cost 1)
    cbind (readUC_cost 1)
    cbind (readUC_cost 1)
    cbind (readUC_cost 1)
    cbind (readUC_cost 1)
    cbind (readUC_cost 1)
    apply Cost.bind
    · apply Cost.ite <;> intro _
      · cbind (Color.decC_cost d _ (by assumption))
        cbind (Color.decC_cost d _ (by assumption))
        cdone
      · exact Cost.ok _ (by assumption)
    · intro _ _ _ _
      dsimp only
      celse
      cdone
  cside

theorem BevelInfo.cc_c : BevelInfo.cc.c = BevelInfo.codec := rfl
theorem BevelInfo.cc_sound : BevelInfo.cc.Sound := CC.hand_sound BevelInfo.decC_fst BevelInfo.decC_cost

/-! ## SolidFillInfo -/

theorem SolidFillInfo.decC_fst (d : B) (p : Nat) : (SolidFillInfo.decC d p).1 = SolidFillInfo.dec d p := by
  unfold SolidFillInfo.decC SolidFillInfo.dec
  refine erase_seq (readUC_fst ..) fun version p => ?_
  refine erase_seq (readNC_fst ..) fun s p => ?_
  refine erase_seq (readNC_fst ..) fun bm p => ?_
  refine erase_ite (fun _ => ?_) fun _ => rfl
  refine erase_seq (Color.decC_fst ..) fun color p => ?_
  refine erase_seq (readUC_fst ..) fun opacity p => ?_
  refine erase_seq (readUC_fst ..) fun enabled p => ?_
  refine erase_seq (Color.decC_fst ..) fun native p => ?_
  exact erase_ite (fun _ => rfl) fun _ => rfl

theorem SolidFillInfo.decC_cost : CostR 1 23 34 SolidFillInfo.decC := by
  intro d p hp
  apply Cost.mono
  case h =>
    unfold SolidFillInfo.decC
    cbind (readUC_cost 4)
    cbind (readNC_cost 4)
    cbind (readNC_cost 4)
    celse
    cbind (Color.decC_cost d _ (by assumption))
    cbind (readUC_cost 1)
    cbind (readUC_cost 1)
    cbind (Color.decC_cost d _ (by assumption))
    celse
    cdone
  cside

theorem SolidFillInfo.cc_c : SolidFillInfo.cc.c = SolidFillInfo.codec := rfl
theorem SolidFillInfo.cc_sound : SolidFillInfo.cc.Sound := CC.hand_sound SolidFillInfo.decC_fst SolidFillInfo.decC_cost

/-! ## EffectsLayer -/

/-- `kls.frombytes(data)` of one class -/
theorem frombytes_fst {β : Type} {xc : RC β} {x : R β} (hx : ∀ d p, (xc d p).1 = x d p) (g : β → Effect) (data : B) :
    (enterBlock data >>= fun _ => xc data 0 >>= fun r => CE.ok (g r.1)).1 = (x data 0).map (fun r => g r.1) := by
  refine erase_ok (enterBlock_fst data) ?_
  rw [bind_fst, hx]
  cases x data 0 <;> rfl

theorem Effect.decAsC_fst (c : EffectClass) (data : B) : (Effect.decAsC c data).1 = Effect.decAs c data := by
  cases c
  · exact frombytes_fst CommonStateInfo.decC_fst Effect.common data
  · exact frombytes_fst ShadowInfo.decC_fst Effect.shadow data
  · exact frombytes_fst OuterGlowInfo.decC_fst Effect.outerGlow data
  · exact frombytes_fst InnerGlowInfo.decC_fst Effect.innerGlow data
  · exact frombytes_fst BevelInfo.decC_fst Effect.bevel data
  · exact frombytes_fst SolidFillInfo.decC_fst Effect.solidFill data

/-- `with io.BytesIO(data) as f: v = inner(f)`, the value post-processed without a read: at most
`(a + 1) · len(data) + b + 1`, and no loop ran out of fuel -/
theorem frombytes_inner {β γ : Type} {xc : RC β} {a b k : Nat} (hx : CostR a b k xc) (g : β → γ) (data : B) :
    Inner (a + 1) (b + 1) data 0 (fun _ => True) (enterBlock data >>= fun _ => xc data 0 >>= fun r => CE.ok (g r.1)) := by
  refine Inner.enter ?_
  have h := Inner.bind (Q := fun (_ : γ) => True) (f := fun r => CE.ok (g r.1)) (hx data 0 (Nat.zero_le _))
    (fun v q _ _ => Inner.ok _ trivial)
  exact h.mono (Nat.max_le.2 ⟨Nat.le_refl _, Nat.zero_le _⟩) (by omega)

theorem Effect.decAsC_inner (c : EffectClass) (data : B) : Inner 2 51 data 0 (fun _ => True) (Effect.decAsC c data) := by
  cases c
  · exact (frombytes_inner CommonStateInfo.decC_cost Effect.common data).mono (by decide) (by decide)
  · exact (frombytes_inner ShadowInfo.decC_cost Effect.shadow data).mono (by decide) (by decide)
  · exact (frombytes_inner OuterGlowInfo.decC_cost Effect.outerGlow data).mono (by decide) (by decide)
  · exact (frombytes_inner InnerGlowInfo.decC_cost Effect.innerGlow data).mono (by decide) (by decide)
  · exact (frombytes_inner BevelInfo.decC_cost Effect.bevel data).mono (by decide) (by decide)
  · exact (frombytes_inner SolidFillInfo.decC_cost Effect.solidFill data).mono (by decide) (by decide)

theorem EffectsLayer.itemDecC_fst (d : B) (p : Nat) : (EffectsLayer.itemDecC d p).1 = EffectsLayer.itemDec d p := by
  unfold EffectsLayer.itemDecC EffectsLayer.itemDec
  refine erase_seq (readSig8BIMC_fst ..) fun _ p => ?_
  refine erase_seq (readNC_fst ..) fun key p => ?_
  dsimp only
  cases classOfKey key with
  | none => rfl
  | some c =>
    dsimp only
    refine erase_seq (readLenBlockC_fst ..) fun data p => ?_
    refine erase_bind (Effect.decAsC_fst c data) fun e => ?_
    rfl

/-- an item consumes its signature, its key and the length of its block: ≥ 12 bytes -/
theorem EffectsLayer.itemDecC_cost : CostR 3 57 12 EffectsLayer.itemDecC := by
  intro d p hp
  apply Cost.mono
  case h =>
    unfold EffectsLayer.itemDecC
    cbind readSig8BIMC_cost
    cbind (readNC_cost 4)
    dsimp only
    refine Cost.mono (a' := 3) (b' := 55) (k' := 4) ?_ (Nat.le_refl _) (Nat.le_refl _) (Nat.le_refl _)
    cases classOfKey _ with
    | none => exact (Cost.error 4 (by decide)).mono (by decide) (by decide) (Nat.le_refl _)
    | some c =>
      dsimp only
      apply Cost.mono
      case h =>
        apply Cost.bindBlock ‹_›; intro _ _ _ _
        apply Cost.stepInner (Effect.decAsC_inner c _)
        intro _ _ _
        cdone
      cside
  cside

theorem EffectsLayer.decC_fst (d : B) (p : Nat) : (EffectsLayer.decC d p).1 = EffectsLayer.dec d p := by
  simp only [EffectsLayer.decC, EffectsLayer.dec, fst_bind, ok_fst, readUC_fst, readCountC_fst
    EffectsLayer.itemDecC_fst]

theorem EffectsLayer.decC_cost : CostR 61 60 4 EffectsLayer.decC := by
  intro d p hp
  apply Cost.mono
  case h =>
    unfold EffectsLayer.decC
    cbind (readUC_cost 2)
    cbind (readUC_cost 2)
    cbind (readCountC_cost (fun q hq => EffectsLayer.itemDecC_cost d q hq) (by decide : 1 ≤ 12) _ _ (by assumption))
    cdone
  cside

theorem EffectsLayer.cc_c : EffectsLayer.cc.c = EffectsLayer.codec := rfl
theorem EffectsLayer.cc_sound : EffectsLayer.cc.Sound := CC.hand_sound EffectsLayer.decC_fst EffectsLayer.decC_cost

/-! ## the unit -/

def effectsTable : List (String × Sh) :=
  [("CommonStateInfo", CommonStateInfo.cc.sh), ("ShadowInfo", ShadowInfo.cc.sh), ("OuterGlowInfo", OuterGlowInfo.cc.sh),
   ("InnerGlowInfo", InnerGlowInfo.cc.sh), ("BevelInfo", BevelInfo.cc.sh), ("SolidFillInfo", SolidFillInfo.cc.sh),
   ("EffectsLayer", EffectsLayer.cc.sh)]

theorem effects_body_progress : effectsTable.all (fun e => e.2.bodyProgress) = true := by decide

end PsdVerif.PayloadCost
