/-
C16, what the statements of `Props/C16.lean` are written in, and the lemmas behind them.

First the predicates those statements mention and `Model/Attr.lean` (the executable part) does not hold: `DividerOk`,
`BlockOk`, `Saveable` (what is written and read back identically), `WF` (a group has its divider block), `EnvLaws` (what is
asked of the tables and string codecs), `storable`, `scalar`, and the edit histories `runSets`, `lastSet`, `StorableRun`.
Then the lemmas: the ordered dict of tagged blocks under `setData`/`mapData`, the field codecs and the round trip
`reopen ∘ save`, the accepted edits of `Attr.set` as a relation (`Edit`, with `legacyOf`), the MacRoman and unicode-string codecs.
-/
import PsdVerif.Model.Attr
import PsdVerif.Lemmas.Bytes

namespace PsdVerif.Attr

/-! ## The predicates of the statements -/

/-- a divider element that `encDivider` writes and `decDivider` reads back: kind 0..3, and either the bare 4-byte form or
signature, a 4-byte blend key of the table and, when present, a 32-bit sub type -/
def DividerOk (E : Env) (d : Divider) : Prop :=
  d.kind ≤ 3 ∧
  ((d.sig = none ∧ d.blend = none ∧ d.sub = none) ∨
   (d.sig = some sig8BIM ∧ ∃ m, d.blend = some m ∧ m ∈ E.blendKeys ∧ m.length = 4 ∧
      ∀ x, d.sub = some x → x < 4294967296))

/-- a block that `encBlock` writes and `decBlock` reads back unchanged (every setter leaves such blocks): the data element
is the one its key calls for and is itself written and read back -/
def BlockOk (E : Env) (b : Block) : Prop :=
  (b.sig = sig8BIM ∨ b.sig = sig8B64) ∧ b.key.length = 4 ∧
  match b.data with
  | .str s => b.key = kLuni ∧ ∃ bs, E.uniEnc s = .ok bs ∧ E.uniDec bs = .ok s
  | .divider d => (b.key = kLsct ∨ b.key = kLsdk) ∧ DividerOk E d
  | .int v => b.key = kLspf ∧ v < 4294967296
  | .raw _ => b.key ≠ kLuni ∧ b.key ≠ kLsct ∧ b.key ≠ kLsdk ∧ b.key ≠ kLspf

/-- a layer state that the record writer accepts and the reader returns unchanged -/
structure Saveable (E : Env) (l : Layer) : Prop where
  rect : inI32 l.top = true ∧ inI32 l.left = true ∧ inI32 l.bottom = true ∧ inI32 l.right = true
  blend : l.blend ∈ E.blendKeys ∧ l.blend.length = 4
  opacity : l.opacity ≤ 255
  clipping : l.clipping ≤ 1
  legacy : ∃ bs, E.macEnc l.legacyName = .ok bs ∧ bs.length ≤ 255 ∧ E.macDec bs = .ok l.legacyName
  blocks : ∀ b ∈ l.blocks, BlockOk E b

/-- a group carries a section divider block (that is what makes it a group in `PSDImage._init`
and `Group.new`) -/
def WF (l : Layer) : Prop := l.kind.isGroup = true → ∃ d, setting l.blocks = some (.divider d)

/-- what the proofs need from the tables and the string codecs -/
structure EnvLaws (E : Env) : Prop where
  keys4 : ∀ m ∈ E.blendKeys, m.length = 4
  norm : kNorm ∈ E.blendKeys
  macLen : ∀ s bs, E.macEnc s = .ok bs → bs.length = s.length
  macRT : ∀ s bs, E.macEnc s = .ok bs → E.macDec bs = .ok s
  -- 63 is `?`, what the name setter stores in the legacy field for a name MacRoman cannot take
  macQ : ∃ bs, E.macEnc [63] = .ok bs

/-- the value can be written: the unicode codec takes the name; the moved rectangle stays in int32 -/
def storable (E : Env) (a : Attr) (v : Val) (l : Layer) : Prop :=
  match a, v with
  | .name, .str s => ∃ bs, E.uniEnc s = .ok bs ∧ E.uniDec bs = .ok s
  | .left, .int i => ∀ w, width l = .ok w → inI32 (i + w) = true
  | .top, .int i => ∀ h, height l = .ok h → inI32 (i + h) = true
  | _, _ => True

/-- Unicode scalar values: below U+110000, surrogates D800–DFFF excluded -/
def scalar (c : Nat) : Prop := c < 1114112 ∧ ¬ (55296 ≤ c ∧ c < 57344)

instance (c : Nat) : Decidable (scalar c) := by unfold scalar; infer_instance

/-- a history of edits, first edit first; the first refused edit ends it -/
def runSets (E : Env) : List (Attr × Val) → Layer → Except Err Layer
  | [], l => .ok l
  | (a, v) :: rest, l =>
    match set E a v l with
    | .ok l1 => runSets E rest l1
    | .error e => .error e

/-- the value of the last edit of `a`: the tail is searched before the head, so a later edit wins -/
def lastSet (a : Attr) : List (Attr × Val) → Option Val
  | [] => none
  | (a', v) :: rest =>
    match lastSet a rest with
    | some x => some x
    | none => if a' = a then some v else none

/-- every edit of the history can be written at the moment it is made -/
def StorableRun (E : Env) : List (Attr × Val) → Layer → Prop
  | [], _ => True
  | (a, v) :: rest, l => storable E a v l ∧ ∀ l1, set E a v l = .ok l1 → StorableRun E rest l1

/-! ## Lemmas -/

theorem keys_distinct :
    kLuni ≠ kLsct ∧ kLuni ≠ kLsdk ∧ kLuni ≠ kLspf ∧ kLsct ≠ kLsdk ∧ kLsct ≠ kLspf ∧ kLsdk ≠ kLspf := by decide

theorem findBlock_setData_same (k : Key) (d : BData) (bs : List Block) :
    findBlock k (setData k d bs) = some ⟨sig8BIM, k, d⟩ := by
  induction bs with
  | nil => simp [setData, findBlock]
  | cons b bs ih =>
    simp only [setData]
    split
    · simp [findBlock]
    · rename_i h
      simp only [findBlock, List.find?_cons, h] at ih ⊢
      exact ih

theorem findBlock_setData_other (k k' : Key) (d : BData) (bs : List Block) (h : k' ≠ k) :
    findBlock k' (setData k d bs) = findBlock k' bs := by
  induction bs with
  | nil => simp [setData, findBlock, Ne.symm h]
  | cons b bs ih =>
    simp only [setData]
    split
    · rename_i hb
      have hb' : b.key = k := by simpa using hb
      have : (b.key == k') = false := by simp [hb', Ne.symm h]
      simp [findBlock, this, Ne.symm h]
    · simp only [findBlock, List.find?_cons] at ih ⊢
      rw [ih]

theorem findBlock_mapData_other (k k' : Key) (f : BData → BData) (bs : List Block) (h : k' ≠ k) :
    findBlock k' (mapData k f bs) = findBlock k' bs := by
  induction bs with
  | nil => simp [mapData]
  | cons b bs ih =>
    simp only [mapData]
    split
    · rename_i hb
      have hb' : b.key = k := by simpa using hb
      have : (b.key == k') = false := by simp [hb', Ne.symm h]
      simp [findBlock, this]
    · simp only [findBlock, List.find?_cons] at ih ⊢
      rw [ih]

theorem findBlock_mapData_same (k : Key) (f : BData → BData) (bs : List Block) :
    findBlock k (mapData k f bs) = (findBlock k bs).map (fun b => { b with data := f b.data }) := by
  induction bs with
  | nil => simp [mapData, findBlock]
  | cons b bs ih =>
    simp only [mapData]
    split
    · rename_i hb
      simp [findBlock, hb]
    · rename_i hb
      simp only [findBlock, List.find?_cons, hb] at ih ⊢
      exact ih

theorem findBlock_key (k : Key) (bs : List Block) (b : Block) (h : findBlock k bs = some b) : b.key = k := by
  have := List.find?_some h
  simpa using this

theorem forall_mem_setData {P : Block → Prop} {k : Key} {d : BData} {bs : List Block}
    (h : ∀ b ∈ bs, P b) (hn : P ⟨sig8BIM, k, d⟩) : ∀ b ∈ setData k d bs, P b := by
  induction bs with
  | nil => exact fun b hb => by rwa [List.mem_singleton.mp hb]
  | cons x xs ih =>
    have hx := List.forall_mem_cons.mp h
    unfold setData
    split
    · exact List.forall_mem_cons.mpr ⟨hn, hx.2⟩
    · exact List.forall_mem_cons.mpr ⟨hx.1, ih hx.2⟩

theorem forall_mem_mapData {P : Block → Prop} {k : Key} {f : BData → BData} {bs : List Block}
    (h : ∀ b ∈ bs, P b) (hf : ∀ b ∈ bs, b.key = k → P { b with data := f b.data }) :
    ∀ b ∈ mapData k f bs, P b := by
  induction bs with
  | nil => exact h
  | cons x xs ih =>
    have hx := List.forall_mem_cons.mp h
    unfold mapData
    split
    · exact List.forall_mem_cons.mpr ⟨hf x (List.mem_cons_self ..) (beq_iff_eq.mp ‹_›), hx.2⟩
    · exact List.forall_mem_cons.mpr ⟨hx.1, ih hx.2 fun b hb => hf b (List.mem_cons_of_mem _ hb)⟩

theorem findBlock_mapData_isSome (k k' : Key) (f : BData → BData) (bs : List Block) :
    (findBlock k' (mapData k f bs)).isSome = (findBlock k' bs).isSome := by
  by_cases h : k' = k
  · subst h; rw [findBlock_mapData_same]; simp
  · rw [findBlock_mapData_other _ _ _ _ h]

theorem settingKey_mapData (k : Key) (f : BData → BData) (bs : List Block) :
    settingKey (mapData k f bs) = settingKey bs := by
  simp only [settingKey, findBlock_mapData_isSome]

theorem settingKey_eq_some (bs : List Block) (k : Key) (h : settingKey bs = some k) : k = kLsdk ∨ k = kLsct := by
  simp only [settingKey] at h
  split at h
  · left; injection h with h; exact h.symm
  · split at h
    · right; injection h with h; exact h.symm
    · simp at h

theorem settingKey_ne (bs : List Block) (k : Key) (h : settingKey bs = some k) : kLuni ≠ k ∧ kLspf ≠ k := by
  obtain ⟨hus, huk, -, -, hsp, hkp⟩ := keys_distinct
  rcases settingKey_eq_some bs k h with rfl | rfl
  · exact ⟨huk, hkp.symm⟩
  · exact ⟨hus, hsp.symm⟩

theorem setting_congr {bs bs' : List Block} (h1 : findBlock kLsdk bs' = findBlock kLsdk bs)
    (h2 : findBlock kLsct bs' = findBlock kLsct bs) : setting bs' = setting bs := by
  have hk : settingKey bs' = settingKey bs := by simp only [settingKey, h1, h2]
  unfold setting
  rw [hk]
  split
  · next k hk => rcases settingKey_eq_some _ _ hk with rfl | rfl <;> simp only [h1, h2]
  · rfl

theorem setting_setData (k : Key) (d : BData) (bs : List Block) (h1 : kLsdk ≠ k) (h2 : kLsct ≠ k) :
    setting (setData k d bs) = setting bs :=
  setting_congr (findBlock_setData_other _ _ _ _ h1) (findBlock_setData_other _ _ _ _ h2)

theorem setting_mapData_other (k : Key) (f : BData → BData) (bs : List Block) (h1 : kLsdk ≠ k) (h2 : kLsct ≠ k) :
    setting (mapData k f bs) = setting bs :=
  setting_congr (findBlock_mapData_other _ _ _ _ h1) (findBlock_mapData_other _ _ _ _ h2)

theorem setting_mapData_same (k : Key) (f : BData → BData) (bs : List Block) (h : settingKey bs = some k) :
    setting (mapData k f bs) = (setting bs).map f := by
  simp only [setting, settingKey_mapData, h, findBlock_mapData_same]
  cases findBlock k bs <;> simp

theorem u32_u32be (n : Nat) (h : n < 4294967296) :
    u32 (UInt8.ofNat (n / 16777216 % 256)) (UInt8.ofNat (n / 65536 % 256)) (UInt8.ofNat (n / 256 % 256))
      (UInt8.ofNat (n % 256)) = n := by
  simp only [u32, toNat_ofNat, Nat.mod_mod]
  rw [Nat.mod_eq_of_lt (show n / 16777216 < 256 by omega), digit 256 n 65536, digit 256 n 256, Nat.div_add_mod']

theorem eq_quad_of_length {α} (s : List α) (h : s.length = 4) : ∃ a b c d, s = [a, b, c, d] := by
  match s, h with
  | [a, b, c, d], _ => exact ⟨a, b, c, d, rfl⟩

theorem pad4_of_length4 (s : List UInt8) (h : s.length = 4) : pad4 s = s := by
  obtain ⟨a, b, c, d, rfl⟩ := eq_quad_of_length s h
  rfl

theorem b2n_le (b : Bool) : b2n b ≤ 1 := by cases b <;> decide

theorem b2n_eq_one (b : Bool) : (b2n b == 1) = b := by cases b <;> rfl

/-- the lowest bit of `x + 2 * r` and what is left after halving -/
theorem bit_split (x r : Nat) (hx : x ≤ 1) : (x + 2 * r) % 2 = x ∧ (x + 2 * r) / 2 = r := by omega

theorem flags_roundtrip (f : Flags) : Flags.ofByte f.toByte = f := by
  have e : f.toByte = b2n f.tp + 2 * (b2n (!f.visible) + 2 * (b2n f.obsolete + 2 * (b2n f.v5 + 2 * (b2n f.irrelevant +
      2 * (b2n f.u1 + 2 * (b2n f.u2 + 2 * b2n f.u3)))))) := by unfold Flags.toByte; omega
  -- `n / 2ᵏ` as iterated halving; each halving peels one bit off the nested sum
  simp only [Flags.ofByte, e, show 4 = 2 * 2 from rfl, show 8 = 2 * 2 * 2 from rfl, show 16 = 2 * 2 * 2 * 2 from rfl,
    show 32 = 2 * 2 * 2 * 2 * 2 from rfl, show 64 = 2 * 2 * 2 * 2 * 2 * 2 from rfl,
    show 128 = 2 * 2 * 2 * 2 * 2 * 2 * 2 from rfl, ← Nat.div_div_eq_div_mul, bit_split _ _ (b2n_le _),
    Nat.mod_eq_of_lt (Nat.lt_succ_of_le (b2n_le _)), b2n_eq_one, Bool.not_not]

theorem flags_byte_le (f : Flags) : f.toByte ≤ 255 := by
  have := b2n_le f.tp; have := b2n_le (!f.visible); have := b2n_le f.obsolete; have := b2n_le f.v5
  have := b2n_le f.irrelevant; have := b2n_le f.u1; have := b2n_le f.u2; have := b2n_le f.u3
  unfold Flags.toByte
  omega

theorem divider_roundtrip (E : Env) (d : Divider) (h : DividerOk E d) :
    ∃ bs, encDivider d = .ok bs ∧ decDivider E bs = .ok d := by
  obtain ⟨kind, sg, bl, sb⟩ := d
  obtain ⟨hk, h⟩ := h
  simp only at hk h
  have hk' : kind < 4294967296 := by omega
  have hu := u32_u32be kind hk'
  rcases h with ⟨rfl, rfl, rfl⟩ | ⟨rfl, m, rfl, hm, hl, hs⟩
  · refine ⟨u32be kind, ?_, ?_⟩
    · simp [encDivider, hk']
    · simp only [u32be, decDivider, hu]
      simp [Nat.not_lt.mpr hk]
  · obtain ⟨m0, m1, m2, m3, rfl⟩ := eq_quad_of_length m hl
    cases sb with
    | none =>
      refine ⟨u32be kind ++ sig8BIM ++ [m0, m1, m2, m3], ?_, ?_⟩
      · simp [encDivider, hk', pad4, sig8BIM]
      · simp only [u32be, sig8BIM, List.cons_append, List.nil_append, decDivider, hu]
        simp [Nat.not_lt.mpr hk, hm]
    | some x =>
      have hx := hs x rfl
      have hux := u32_u32be x hx
      refine ⟨u32be kind ++ sig8BIM ++ [m0, m1, m2, m3] ++ u32be x, ?_, ?_⟩
      · simp [encDivider, hk', pad4, sig8BIM, hx]
      · simp only [u32be, sig8BIM, List.cons_append, List.nil_append, decDivider, hu, hux]
        simp [Nat.not_lt.mpr hk, hm]

theorem block_roundtrip (E : Env) (b : Block) (h : BlockOk E b) :
    ∃ sb, encBlock E b = .ok sb ∧ decBlock E sb = .ok b := by
  obtain ⟨sg, key, data⟩ := b
  obtain ⟨hs, hk, hd⟩ := h
  simp only at hs hk hd
  have hsig : pad4 sg = sg := by rcases hs with rfl | rfl <;> rfl
  have hsig' : ¬ (sg ≠ sig8BIM ∧ sg ≠ sig8B64) := by rcases hs with rfl | rfl <;> simp
  have hkey : pad4 key = key := pad4_of_length4 key hk
  cases data with
  | str s =>
    obtain ⟨rfl, bs, he, hdec⟩ := hd
    refine ⟨⟨sg, kLuni, bs⟩, ?_, ?_⟩
    · simp [encBlock, encPayload, he, hsig, hkey]
    · simp [decBlock, hsig', hdec]
  | divider d =>
    obtain ⟨hkk, hok⟩ := hd
    obtain ⟨bs, he, hdec⟩ := divider_roundtrip E d hok
    refine ⟨⟨sg, key, bs⟩, ?_, ?_⟩
    · simp [encBlock, encPayload, he, hsig, hkey]
    · have hne : key ≠ kLuni := by rcases hkk with rfl | rfl <;> decide
      simp [decBlock, hsig', hne, hkk, hdec]
  | int v =>
    obtain ⟨rfl, hv⟩ := hd
    refine ⟨⟨sg, kLspf, u32be v⟩, ?_, ?_⟩
    · simp [encBlock, encPayload, hv, hsig, hkey]
    · have h1 : kLspf ≠ kLuni := by decide
      have h2 : ¬ (kLspf = kLsct ∨ kLspf = kLsdk) := by decide
      simp [decBlock, hsig', h1, h2, u32be, u32_u32be v hv]
  | raw bs =>
    obtain ⟨h1, h2, h3, h4⟩ := hd
    refine ⟨⟨sg, key, bs⟩, ?_, ?_⟩
    · simp [encBlock, encPayload, hsig, hkey]
    · simp [decBlock, hsig', h1, h2, h3, h4]

theorem blocks_roundtrip (E : Env) (bs : List Block) (h : ∀ b ∈ bs, BlockOk E b) :
    ∃ sbs, bs.mapM (encBlock E) = .ok sbs ∧ sbs.mapM (decBlock E) = .ok bs := by
  induction bs with
  | nil => exact ⟨[], rfl, rfl⟩
  | cons b bs ih =>
    obtain ⟨sb, h1, h2⟩ := block_roundtrip E b (h b (List.mem_cons_self ..))
    obtain ⟨sbs, h3, h4⟩ := ih (fun x hx => h x (List.mem_cons_of_mem _ hx))
    refine ⟨sb :: sbs, ?_, ?_⟩
    · simp [List.mapM_cons, h1, h3]; rfl
    · simp [List.mapM_cons, h2, h4]; rfl

theorem roundtrip (E : Env) (l : Layer) (h : Saveable E l) :
    ∃ st, save E l = .ok st ∧ reopen E l st = .ok l := by
  obtain ⟨⟨r1, r2, r3, r4⟩, ⟨hb, hbl⟩, ho, hc, ⟨nb, hn1, hn2, hn3⟩, hbs⟩ := h
  obtain ⟨sbs, he, hd⟩ := blocks_roundtrip E l.blocks hbs
  have hleg : encLegacy E l = .ok nb := by
    simp only [encLegacy, hn1, hn2, if_true]
    split <;> rfl
  refine ⟨{ top := l.top, left := l.left, bottom := l.bottom, right := l.right, blend := pad4 l.blend,
              opacity := l.opacity, clipping := l.clipping, flags := l.flags.toByte, name := nb,
              blocks := sbs }, ?_, ?_⟩
  · simp [save, r1, r2, r3, r4, hleg, he, show ¬ (l.opacity > 255 ∨ l.clipping > 255) by omega]
  · simp [reopen, hn3, hd, pad4_of_length4 _ hbl, hb, flags_roundtrip,
      show ¬ l.opacity > 255 by omega, show ¬ l.clipping > 1 by omega]

theorem setting_some_key (bs : List Block) (x : BData) (h : setting bs = some x) : ∃ k, settingKey bs = some k := by
  simp only [setting] at h
  split at h
  · rename_i k hk; exact ⟨k, hk⟩
  · simp at h

theorem blockOk_putBlend (E : Env) (hE : EnvLaws E) (m : Key) (hm : m ∈ E.blendKeys) (b0 : Block)
    (h : BlockOk E b0) : BlockOk E { b0 with data := putBlend m b0.data } := by
  obtain ⟨sg, key, data⟩ := b0
  obtain ⟨hs, hk, hd⟩ := h
  refine ⟨hs, hk, ?_⟩
  cases data with
  | divider d =>
    obtain ⟨hkk, hkind, hshape⟩ := hd
    refine ⟨hkk, hkind, Or.inr ?_⟩
    rcases hshape with ⟨h1, h2, h3⟩ | ⟨h1, m', h2, h3, h4, h5⟩
    · exact ⟨by simp [h1], m, rfl, hm, hE.keys4 m hm, by simp [h3]⟩
    · exact ⟨by simp [h1], m, rfl, hm, hE.keys4 m hm, h5⟩
  | str s => exact hd
  | int v => exact hd
  | raw bs => exact hd

theorem groupBlend_ok {E : Env} (hE : EnvLaws E) {m : Key} (hm : m ∈ E.blendKeys) :
    (if m = kPass then kNorm else m) ∈ E.blendKeys ∧ (if m = kPass then kNorm else m).length = 4 := by
  split
  · exact ⟨hE.norm, rfl⟩
  · exact ⟨hm, hE.keys4 m hm⟩

/-- the legacy field the name setter writes: the name when MacRoman takes it, else `?` -/
def legacyOf (E : Env) (s : List Nat) : List Nat :=
  match E.macEnc s with
  | .ok _ => s
  | .error _ => [63]

theorem legacyOf_saveable {E : Env} (hE : EnvLaws E) (s : List Nat) (hs : s.length < 256) :
    ∃ bs, E.macEnc (legacyOf E s) = .ok bs ∧ bs.length ≤ 255 ∧ E.macDec bs = .ok (legacyOf E s) := by
  unfold legacyOf
  split
  · next bs hbs => exact ⟨bs, hbs, by rw [hE.macLen _ _ hbs]; omega, hE.macRT _ _ hbs⟩
  · obtain ⟨bs, hq⟩ := hE.macQ
    exact ⟨bs, hq, by rw [hE.macLen _ _ hq]; decide, hE.macRT _ _ hq⟩

/-- `Edit E l a v l'` is `set E a v l = .ok l'` (`Edit.of_set`, `Edit.set_eq`), with one constructor per accepting path through
a setter: what the path tested, and the layer it leaves. -/
inductive Edit (E : Env) (l : Layer) : Attr → Val → Layer → Prop
  | name (s : List Nat) (hs : s.length < 256) :
      Edit E l .name (.str s) { l with legacyName := legacyOf E s, blocks := setData kLuni (.str s) l.blocks }
  | visible (b : Bool) : Edit E l .visible (.bool b) { l with flags := { l.flags with visible := b } }
  | opacity (i : Int) (hi : 0 ≤ i ∧ i ≤ 255) : Edit E l .opacity (.int i) { l with opacity := i.toNat }
  | blend (m : Key) (hm : m ∈ E.blendKeys) (hg : l.kind.isGroup = false) :
      Edit E l .blendMode (.key m) { l with blend := m }
  | blendBare (m : Key) (hm : m ∈ E.blendKeys) (hg : l.kind.isGroup = true) (hk : settingKey l.blocks = none) :
      Edit E l .blendMode (.key m) { l with blend := if m = kPass then kNorm else m }
  | blendDivider (m : Key) (hm : m ∈ E.blendKeys) (hg : l.kind.isGroup = true) (k : Key)
      (hk : settingKey l.blocks = some k) (d : Divider) (hd : setting l.blocks = some (.divider d)) :
      Edit E l .blendMode (.key m)
        { l with blend := if m = kPass then kNorm else m, blocks := mapData k (putBlend m) l.blocks }
  | left (i w : Int) (hm : l.kind.movable = true) (hw : width l = .ok w) :
      Edit E l .left (.int i) { l with left := i, right := i + w }
  | top (i h : Int) (hm : l.kind.movable = true) (hh : height l = .ok h) :
      Edit E l .top (.int i) { l with top := i, bottom := i + h }
  | clipping (b : Bool) : Edit E l .clipping (.bool b) { l with clipping := if b then 1 else 0 }
  | lockInPlace (i : Int) (hi : 0 ≤ i) (b : Block) (hb : findBlock kLspf l.blocks = some b) (n : Nat)
      (hn : b.data = .int n) :
      Edit E l .locks (.int i) { l with blocks := mapData kLspf (fun _ => .int i.toNat) l.blocks }
  | lockNew (i : Int) (hi : 0 ≤ i) (hb : findBlock kLspf l.blocks = none) :
      Edit E l .locks (.int i) { l with blocks := setData kLspf (.int i.toNat) l.blocks }

theorem Edit.of_set {E : Env} {a : Attr} {v : Val} {l l' : Layer} (h : set E a v l = .ok l') : Edit E l a v l' := by
  unfold set at h
  split at h
  · unfold setName at h
    split at h
    · cases h; exact .name _ ‹_›
    · cases h
  · cases h; exact .visible _
  · split at h
    · cases h; exact .opacity _ ‹_›
    · cases h
  · simp only [setBlend] at h
    split at h
    · cases h
    · have hm := Decidable.of_not_not ‹_›
      split at h
      · split at h
        · cases h; exact .blendBare _ hm ‹_› ‹_›
        · split at h
          · cases h; exact .blendDivider _ hm ‹_› _ ‹_› _ ‹_›
          · cases h
      · cases h; exact .blend _ hm (Bool.eq_false_iff.mpr ‹_›)
  · unfold setLeft at h
    split at h
    · split at h
      · cases h; exact .left _ _ ‹_› ‹_›
      · cases h
    · cases h
  · unfold setTop at h
    split at h
    · split at h
      · cases h; exact .top _ _ ‹_› ‹_›
      · cases h
    · cases h
  · cases h; exact .clipping _
  · split at h
    · unfold setLocks at h
      split at h
      · split at h
        · cases h; exact .lockInPlace _ ‹_› _ ‹_› _ ‹_›
        · cases h
      · cases h; exact .lockNew _ ‹_› ‹_›
    · cases h
  · cases h

theorem Edit.set_eq {E : Env} {a : Attr} {v : Val} {l l' : Layer} (h : Edit E l a v l') : set E a v l = .ok l' := by
  cases h with
  | name s hs => simp only [set, setName, hs, if_true]; rfl  -- `legacyOf` is `setName`'s local `legacy`
  | visible => rfl
  | opacity i hi => simp only [set, hi, and_self, if_true]
  | blend m hm hg => simp only [set, setBlend, hm, not_true_eq_false, if_false, hg, Bool.false_eq_true]
  | blendBare m hm hg hk => simp only [set, setBlend, hm, not_true_eq_false, if_false, hg, if_true, hk]
  | blendDivider m hm hg k hk d hd => simp only [set, setBlend, hm, not_true_eq_false, if_false, hg, if_true, hk, hd]
  | left i w hm hw => simp only [set, setLeft, hm, if_true, hw]
  | top i w hm hw => simp only [set, setTop, hm, if_true, hw]
  | clipping => rfl
  | lockInPlace i hi b hb n hn => simp only [set, hi, if_true, setLocks, hb, hn]
  | lockNew i hi hb => simp only [set, hi, if_true, setLocks, hb]

theorem rightOf_ok (l : Layer) (hk : l.kind ≠ .fill ∨ l.psd ≠ none) : ∃ r, rightOf l = .ok r := by
  unfold rightOf
  split
  · split
    · exact ⟨_, rfl⟩
    · split
      · exact ⟨_, rfl⟩
      · next hp => exact hk.elim (absurd ‹_›) (absurd hp)
  · exact ⟨_, rfl⟩

theorem bottomOf_ok (l : Layer) (hk : l.kind ≠ .fill ∨ l.psd ≠ none) : ∃ b, bottomOf l = .ok b := by
  unfold bottomOf
  split
  · split
    · exact ⟨_, rfl⟩
    · split
      · exact ⟨_, rfl⟩
      · next hp => exact hk.elim (absurd ‹_›) (absurd hp)
  · exact ⟨_, rfl⟩

theorem mapM_cons_ok {α β : Type} {f : α → Except Err β} {x : α} {xs : List α} {r : List β}
    (h : (x :: xs).mapM f = .ok r) : ∃ y ys, f x = .ok y ∧ xs.mapM f = .ok ys ∧ r = y :: ys := by
  rw [List.mapM_cons] at h
  cases hx : f x with
  | error e => simp [hx, bind, Except.bind] at h
  | ok y =>
    cases hxs : xs.mapM f with
    | error e => simp [hx, hxs, bind, Except.bind] at h
    | ok ys =>
      simp only [hx, hxs, bind, Except.bind, pure, Except.pure, Except.ok.injEq] at h
      exact ⟨y, ys, rfl, rfl, h.symm⟩

theorem mapM_ok_length {α β : Type} (f : α → Except Err β) (l : List α) (r : List β)
    (h : l.mapM f = .ok r) : r.length = l.length := by
  induction l generalizing r with
  | nil => cases h; rfl
  | cons x xs ih =>
    obtain ⟨y, ys, -, hys, rfl⟩ := mapM_cons_ok h
    rw [List.length_cons, List.length_cons, ih ys hys]

theorem mapM_ok_roundtrip {α β : Type} (f : α → Except Err β) (g : β → Except Err α)
    (hfg : ∀ x y, f x = .ok y → g y = .ok x) (l : List α) (r : List β)
    (h : l.mapM f = .ok r) : r.mapM g = .ok l := by
  induction l generalizing r with
  | nil => cases h; rfl
  | cons x xs ih =>
    obtain ⟨y, ys, hy, hys, rfl⟩ := mapM_cons_ok h
    rw [List.mapM_cons, hfg x y hy, ih ys hys]
    rfl

theorem macDecOf_macEncOf (high : List Nat) (s : List Nat) (bs : List UInt8) (h : macEncOf high s = .ok bs) :
    macDecOf high bs = .ok s := by
  -- character by character: a byte below 128 is the code point, a byte `128 + i` is the `i`-th entry of the table
  refine mapM_ok_roundtrip _ _ (fun c b h => ?_) s bs h
  split at h
  · rename_i hc
    injection h with h; subst h
    have : (UInt8.ofNat c).toNat = c := UInt8.toNat_ofNat_of_lt' (Nat.lt_trans hc (by decide))
    simp [this, hc]
  · split at h
    · rename_i i hi
      split at h
      · rename_i hi128
        injection h with h; subst h
        rw [List.findIdx?_eq_some_iff_getElem] at hi
        obtain ⟨hlt, hp, _⟩ := hi
        have hp' : high[i] = c := by simpa using hp
        have e1 : (128 + i) % 256 = 128 + i := by omega
        have e2 : 128 + i - 128 = i := by omega
        have e3 : ¬ (128 + i < 128) := by omega
        simp only [UInt8.toNat_ofNat', e1, e2, e3, if_false]
        simp [hlt, hp']
      · simp at h
    · simp at h

theorem macEncOf_length (high : List Nat) (s : List Nat) (bs : List UInt8) (h : macEncOf high s = .ok bs) :
    bs.length = s.length := mapM_ok_length _ s bs h

theorem mkEnv_laws (keys : List Key) (high : List Nat) (u f : Bool)
    (h4 : ∀ m ∈ keys, m.length = 4) (hn : kNorm ∈ keys) : EnvLaws (mkEnv keys high u f) where
  keys4 := h4
  norm := hn
  macLen := macEncOf_length high
  macRT := macDecOf_macEncOf high
  macQ := ⟨[63], rfl⟩

theorem ofUnits_cons_single (utf16 : Bool) (u : Nat) (rest : List Nat)
    (h : ¬ (55296 ≤ u ∧ u < 56320)) : ofUnits utf16 (u :: rest) = u :: ofUnits utf16 rest := by
  cases rest with
  | nil => simp [ofUnits]
  | cons v r =>
    simp only [ofUnits]
    have : ¬ (55296 ≤ u ∧ u < 56320 ∧ 56320 ≤ v ∧ v < 57344) := fun hh => h ⟨hh.1, hh.2.1⟩
    simp [this]

theorem ofUnits_cons_pair (u v : Nat) (rest : List Nat)
    (h : 55296 ≤ u ∧ u < 56320 ∧ 56320 ≤ v ∧ v < 57344) :
    ofUnits true (u :: v :: rest) = (65536 + (u - 55296) * 1024 + (v - 56320)) :: ofUnits true rest := by
  simp [ofUnits, h]

theorem ofUnits_false (us : List Nat) : ofUnits false us = us := by
  induction us with
  | nil => rfl
  | cons u rest ih =>
    cases rest with
    | nil => rfl
    | cons v r => simp only [ofUnits, Bool.false_and, Bool.false_eq_true, if_false]; rw [ih]

theorem units_roundtrip (utf16 : Bool) (s : List Nat) (hs : ∀ c ∈ s, scalar c)
    (hb : utf16 = false → ∀ c ∈ s, c < 65536) :
    ∃ us, toUnits utf16 s = .ok us ∧ ofUnits utf16 us = s ∧ (∀ u ∈ us, u < 65536) ∧ us.length ≤ 2 * s.length := by
  induction s with
  | nil => exact ⟨[], rfl, rfl, by simp, by simp⟩
  | cons c cs ih =>
    obtain ⟨us, h1, h2, h3, h4⟩ := ih (fun x hx => hs x (List.mem_cons_of_mem _ hx))
      (fun hu x hx => hb hu x (List.mem_cons_of_mem _ hx))
    have hc := hs c (List.mem_cons_self ..)
    by_cases hlt : c < 65536
    · refine ⟨c :: us, ?_, ?_, ?_, ?_⟩
      · simp [toUnits, h1, hlt, bind, Except.bind, pure, Except.pure]
      · rw [ofUnits_cons_single _ _ _ (fun hh => hc.2 ⟨hh.1, by omega⟩), h2]
      · intro u hu
        rcases List.mem_cons.mp hu with rfl | hu
        · exact hlt
        · exact h3 u hu
      · simp only [List.length_cons]; omega
    · cases utf16 with
      | false => exact absurd (hb rfl c (List.mem_cons_self ..)) hlt
      | true =>
        have hc1 := hc.1
        obtain ⟨hi, lo, hhi, hlo, hb1, hb2, hceq⟩ : ∃ hi lo, hi = 55296 + (c - 65536) / 1024 ∧
            lo = 56320 + (c - 65536) % 1024 ∧ (55296 ≤ hi ∧ hi < 56320 ∧ 56320 ≤ lo ∧ lo < 57344) ∧
            (hi < 65536 ∧ lo < 65536) ∧ 65536 + (hi - 55296) * 1024 + (lo - 56320) = c :=
          ⟨_, _, rfl, rfl, by omega, by omega, by omega⟩
        refine ⟨hi :: lo :: us, ?_, ?_, ?_, ?_⟩
        · simp [toUnits, h1, hlt, bind, Except.bind, pure, Except.pure, hhi, hlo]
        · rw [ofUnits_cons_pair hi lo us hb1, h2, hceq]
        · intro u hu
          rcases List.mem_cons.mp hu with hu | hu
          · omega
          · rcases List.mem_cons.mp hu with hu | hu
            · omega
            · exact h3 u hu
        · simp only [List.length_cons]; omega

theorem unitsOfBytes_flatten (us : List Nat) (h : ∀ u ∈ us, u < 65536) :
    unitsOfBytes (us.map u16be).flatten = us := by
  induction us with
  | nil => rfl
  | cons u rest ih =>
    have hu := h u (List.mem_cons_self ..)
    simp only [List.map_cons, List.flatten_cons, u16be, List.cons_append, List.nil_append, unitsOfBytes,
      UInt8.toNat_ofNat']
    rw [ih (fun x hx => h x (List.mem_cons_of_mem _ hx))]
    congr 1
    omega

theorem flatten_u16_length (us : List Nat) : (us.map u16be).flatten.length = 2 * us.length := by
  induction us with
  | nil => rfl
  | cons u rest ih => simp [u16be, ih]; omega

theorem uni_roundtrip (utf16 : Bool) (s : List Nat) (hs : ∀ c ∈ s, scalar c) (hlen : s.length ≤ 255)
    (hb : utf16 = false → ∀ c ∈ s, c < 65536) :
    ∃ bs, uniEncOf utf16 s = .ok bs ∧ uniDecOf utf16 bs = .ok s := by
  obtain ⟨us, h1, h2, h3, h4⟩ := units_roundtrip utf16 s hs hb
  have hl : us.length < 4294967296 := by omega
  refine ⟨padTo4 (u32be us.length ++ (us.map u16be).flatten), ?_, ?_⟩
  · simp [uniEncOf, h1, hl, bind, Except.bind, pure, Except.pure]
  · simp only [padTo4, u32be, List.cons_append, List.nil_append, uniDecOf, u32_u32be us.length hl]
    rw [List.take_left' (by rw [flatten_u16_length])]
    rw [unitsOfBytes_flatten us h3, h2]

theorem runSets_cons_ok {E : Env} {a : Attr} {v : Val} {rest : List (Attr × Val)} {l l' : Layer}
    (h : runSets E ((a, v) :: rest) l = .ok l') : ∃ l1, set E a v l = .ok l1 ∧ runSets E rest l1 = .ok l' := by
  unfold runSets at h
  split at h
  · exact ⟨_, ‹_›, h⟩
  · cases h

theorem Doc.edit_ok {E : Env} {a : Attr} {v : Val} {i : Nat} {d d' : Doc} (h : d.edit E a v i = .ok d') :
    ∃ li ri l l', d.recs[i]? = some (li, ri) ∧ d.view i = some l ∧ set E a v l = .ok l' ∧
      d' = { recs := d.recs.set i (l', ri), heap := d.heap.set ri l'.flags } := by
  unfold Doc.edit at h
  split at h
  · next li ri l hri hvi =>
    split at h
    · next l' hs => cases h; exact ⟨li, ri, l, l', hri, hvi, hs, rfl⟩
    · cases h
  · cases h

end PsdVerif.Attr
