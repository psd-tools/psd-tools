/-
C03 (payload interiors) — the calculus of the payload walkers and what it proves. `Walks w bs S` says that the
walker `w`, put on the bytes `bs` wherever they lie in a stream, consumes exactly them, reports exactly the regions of
`S p` and every one of those regions delimits the bytes listed beside it. One law per combinator of
Model/WalkerPayload.lean; then strings and keys, sub-streams, the descriptor structure (all 25 OSTypes, by induction
on the nesting bound), and whole payloads: descriptor blocks, the effects layer.
-/
import PsdVerif.Lemmas.Walker
import PsdVerif.Lemmas.Descriptor3
import PsdVerif.Lemmas.CodecLaws
import PsdVerif.Model.WalkerPayload
import PsdVerif.Model.PayloadEffects

namespace PsdVerif.WalkerPayload
open PsdVerif PsdVerif.Codec PsdVerif.Walker

/-- `w` walks the bytes `bs`, wherever they are: it ends right after them, reports the regions of `S p` (`p`: where
`bs` starts) and each of them delimits the bytes it stands for -/
def Walks (w : PW) (bs : B) (S : Nat → List Span) : Prop :=
  ∀ (d : B) (p : Nat) (rest : B), At d p (bs ++ rest) →
    w d p = .ok (regionsOf (S p), p + bs.length) ∧ ∀ s ∈ S p, s.Holds d

def noSpans : Nat → List Span := fun _ => []

/-! ### span combinators, one per law below -/

def seqS (S T : Nat → List Span) (n : Nat) : Nat → List Span := fun p => S p ++ T (p + n)
def atS (S : Nat → List Span) (n : Nat) : Nat → List Span := fun p => S (p + n)
def regS (kind : String) (bs : B) (S : Nat → List Span) : Nat → List Span := fun p => ⟨⟨p, bs.length, kind⟩, bs⟩ :: S p

theorem Walks.congr {w : PW} {bs bs' : B} {S S' : Nat → List Span} (h : Walks w bs S) (e1 : bs = bs') (e2 : S = S') :
    Walks w bs' S' := e1 ▸ e2 ▸ h

theorem walks_ok : Walks pOk [] noSpans := by
  intro d p rest _
  exact ⟨rfl, fun s hs => by simp [noSpans] at hs⟩

theorem walks_skip (sect : String) {n : Nat} {bs : B} (hl : bs.length = n) : Walks (pSkip sect n) bs noSpans := by
  intro d p rest hat
  obtain ⟨e, _⟩ := skip_step (sect := sect) hat hl
  refine ⟨?_, fun s hs => by simp [noSpans] at hs⟩
  simp only [pSkip, e, hl, noSpans, regionsOf, List.map_nil]

theorem walks_check (sect reason : String) {c : Bool} (hc : c = true) : Walks (pCheck sect reason c) [] noSpans := by
  intro d p rest _
  subst hc
  exact ⟨rfl, fun s hs => by simp [noSpans] at hs⟩

theorem walks_seq {a b : PW} {x y : B} {S T : Nat → List Span} (ha : Walks a x S) (hb : Walks b y T) :
    Walks (a ⨾ b) (x ++ y) (seqS S T x.length) := by
  intro d p rest hat
  rw [List.append_assoc] at hat
  obtain ⟨e1, h1⟩ := ha d p _ hat
  obtain ⟨e2, h2⟩ := hb d (p + x.length) rest hat.right
  refine ⟨?_, ?_⟩
  · simp only [pSeq, e1, e2, seqS, regionsOf_append, List.length_append, Nat.add_assoc]
  · intro s hs
    rcases List.mem_append.mp hs with h | h
    · exact h1 s h
    · exact h2 s h

theorem walks_u (sect : String) {w n : Nat} {k : Nat → PW} {bs : B} {S : Nat → List Span} (hn : n < 256 ^ w)
    (hk : Walks (k n) bs S) : Walks (pU sect w k) (beBytes w n ++ bs) (atS S w) := by
  intro d p rest hat
  rw [List.append_assoc] at hat
  obtain ⟨e1, hat'⟩ := wU_step (sect := sect) hat hn
  obtain ⟨e2, h2⟩ := hk d (p + w) rest hat'
  exact ⟨by simp only [pU, e1, e2, atS, List.length_append, length_beBytes, Nat.add_assoc], h2⟩

theorem walks_b (sect : String) {n : Nat} {k : B → PW} {b bs : B} {S : Nat → List Span} (hl : b.length = n)
    (hk : Walks (k b) bs S) : Walks (pB sect n k) (b ++ bs) (atS S n) := by
  intro d p rest hat
  rw [List.append_assoc] at hat
  obtain ⟨e1, hat'⟩ := wBytes_step (sect := sect) hat hl
  obtain ⟨e2, h2⟩ := hk d (p + n) rest hat'
  exact ⟨by simp only [pB, e1, e2, atS, List.length_append, hl, Nat.add_assoc], h2⟩

theorem walks_region (kind : String) {w : PW} {bs : B} {S : Nat → List Span} (hw : Walks w bs S) :
    Walks (pRegion kind w) bs (regS kind bs S) := by
  intro d p rest hat
  obtain ⟨e, h⟩ := hw d p rest hat
  refine ⟨?_, ?_⟩
  · simp only [pRegion, e, regS, regionsOf_cons, Nat.add_sub_cancel_left]
  · intro s hs
    rcases List.mem_cons.mp hs with rfl | hs
    · exact ⟨rfl, hat.left⟩
    · exact h s hs

/-- the spans of consecutive items, each with its own inner spans -/
def itemSpans {α : Type} (enc : α → B) (S : α → Nat → List Span) : List α → Nat → List Span
  | [], _ => []
  | x :: xs, p => S x p ++ itemSpans enc S xs (p + (enc x).length)

theorem walks_repeat {α : Type} {w : PW} (enc : α → B) (S : α → Nat → List Span) (xs : List α)
    (h : ∀ x ∈ xs, Walks w (enc x) (S x)) : Walks (pRepeat w xs.length) (listT enc xs) (itemSpans enc S xs) := by
  induction xs with
  | nil => exact walks_ok
  | cons x xs ih =>
    intro d p rest hat
    simp only [listT, List.append_assoc] at hat
    obtain ⟨e1, h1⟩ := h x (by simp) d p _ hat
    obtain ⟨e2, h2⟩ := ih (fun y hy => h y (by simp [hy])) d (p + (enc x).length) rest hat.right
    refine ⟨?_, ?_⟩
    · simp only [List.length_cons, pRepeat, e1, e2, itemSpans, regionsOf_append, listT, List.length_append, Nat.add_assoc]
    · intro s hs
      simp only [itemSpans] at hs
      rcases List.mem_append.mp hs with hs | hs
      · exact h1 s hs
      · exact h2 s hs

/-- a count field, then the items it announces: the count is the number of items that follow (every item has at
least one byte, which is what the walker's early rejection of a count beyond the data relies on) -/
theorem walks_counted_of (sect : String) {cw n : Nat} {item : PW} {bs : B} {S : Nat → List Span} (hc : n < 256 ^ cw)
    (hr : Walks (pRepeat item n) bs S) (hl : n ≤ bs.length) :
    Walks (pCounted sect cw item) (beBytes cw n ++ bs) (atS S cw) := by
  intro d p rest hat
  rw [List.append_assoc] at hat
  obtain ⟨e1, hat'⟩ := wU_step (sect := sect) hat hc
  obtain ⟨e2, h2⟩ := hr d (p + cw) rest hat'
  have hb := hat'.bound
  have hle : n ≤ d.length - (p + cw) := by
    simp only [List.length_append] at hb
    omega
  exact ⟨by simp only [pCounted, pU, e1, if_pos hle, e2, atS, List.length_append, length_beBytes, Nat.add_assoc], h2⟩

theorem walks_counted {α : Type} (sect : String) {cw : Nat} {item : PW} (enc : α → B) (S : α → Nat → List Span)
    (xs : List α) (hc : xs.length < 256 ^ cw) (h : ∀ x ∈ xs, Walks item (enc x) (S x))
    (h1 : ∀ x ∈ xs, 1 ≤ (enc x).length) :
    Walks (pCounted sect cw item) (beBytes cw xs.length ++ listT enc xs) (atS (itemSpans enc S xs) cw) :=
  walks_counted_of sect hc (walks_repeat enc S xs h) (by simpa using length_listT_le enc xs 1 h1)

/-! ### strings -/

theorem be32_eq_beBytes {n : Nat} (h : n < 4294967296) : Unicode.be32 n = beBytes 4 n := by
  rw [beBytes4_eq_u32be]
  simp only [Unicode.be32, Globals.u32be, List.cons.injEq, and_true]
  congr 1
  omega

/-- a length field, then the bytes it announces (`len n` of them), reported as one region -/
theorem walks_lenField (kind : String) {w n : Nat} {len : Nat → Nat} {body : B} (hn : n < 256 ^ w)
    (hl : body.length = len n) :
    Walks (pRegion kind (pU kind w fun n => pSkip kind (len n))) (beBytes w n ++ body)
      (regS kind (beBytes w n ++ body) noSpans) :=
  walks_region kind (walks_u kind (k := fun n => pSkip kind (len n)) hn (walks_skip kind hl))

def strSpans (s : Descriptor.Str) : Nat → List Span := regS "unicode-string" (Descriptor.strT s) noSpans
def keySpans (tb : Descriptor.Tables) (k : Descriptor.Key) : Nat → List Span :=
  regS "descriptor-key" (Descriptor.keyT tb k) noSpans

/-- **unicode string**: the count field is the number of UTF-16 code units that follow (two bytes each) -/
theorem walks_ustr (s : Descriptor.Str) (hf : Descriptor.StrFits s) : Walks pUStr (Descriptor.strT s) (strSpans s) := by
  have e : Descriptor.strT s = beBytes 4 (Unicode.encUnits s).length ++ Unicode.bytesOfUnits (Unicode.encUnits s) := by
    rw [Descriptor.strT, be32_eq_beBytes hf.2]
  rw [strSpans, e]
  exact walks_lenField "unicode-string" (len := fun n => 2 * n) (by simpa using hf.2) (Unicode.bytesOfUnits_length _)

/-- **pascal string**: the length byte is the number of bytes that follow, then filler to a multiple of `pad` -/
theorem walks_pascal (pad : Nat) (s : B) (hf : s.length < 256) :
    Walks (pPascal pad) (pascalT pad s) (fun p => [⟨⟨p, (pascalT pad s).length, "pascal-string"⟩, pascalT pad s⟩]) := by
  have e : pascalT pad s = beBytes 1 s.length ++ (s ++ zeros (padAmount (1 + s.length) pad)) := by
    simp only [pascalT, List.append_assoc]
  rw [e]
  exact walks_lenField "pascal-string" (len := fun n => n + padAmount (1 + n) pad) (by simpa using hf)
    (by simp [length_zeros])

/-- **key / class id**: the length field is the number of bytes that follow, 0 announcing a 4-byte id -/
theorem walks_key (tb : Descriptor.Tables) (k : Descriptor.Key) (hwf : Descriptor.KeyWF tb k) (hf : Descriptor.KeyFits tb k) :
    Walks pKey (Descriptor.keyT tb k) (keySpans tb k) := by
  have hlen : k.bytes.length = if Descriptor.keyLen tb k = 0 then 4 else Descriptor.keyLen tb k := by
    obtain ⟨h1, h2, h3⟩ := hwf
    unfold Descriptor.keyLen
    cases ht : tb.terms k.bytes <;> cases hi : k.implicit <;> simp only [Bool.or_self, Bool.or_true, Bool.true_or,
      Bool.false_eq_true, if_false, if_true]
    · have := h3 hi ht
      simp [this]
    · exact (h1 hi).1
    · exact h2 ht
    · exact h2 ht
  have e : Descriptor.keyT tb k = beBytes 4 (Descriptor.keyLen tb k) ++ k.bytes := by
    rw [Descriptor.keyT, beBytes4_eq_u32be]
  rw [keySpans, e]
  exact walks_lenField "descriptor-key" (len := fun n => if n = 0 then 4 else n)
    (by unfold Descriptor.KeyFits at hf; simpa using hf) hlen

/-! ### sub-streams -/

def shiftS (k : Nat) (s : Span) : Span := ⟨shiftR k s.region, s.bytes⟩

theorem regionsOf_map_shiftS (k : Nat) (ss : List Span) : regionsOf (ss.map (shiftS k)) = (regionsOf ss).map (shiftR k) := by
  simp [regionsOf, shiftS, List.map_map, Function.comp_def]

theorem at_inside {d body : B} {q : Nat} (h : At d q body) {o : Nat} {bs : B} (hb : At body o bs) : At d (o + q) bs := by
  obtain ⟨pre, post, rfl, rfl⟩ := h
  obtain ⟨pre', post', rfl, rfl⟩ := hb
  exact ⟨pre ++ pre', post' ++ post, by simp only [List.append_assoc], by simp [List.length_append, Nat.add_comm]⟩

theorem Span.holds_shift {d body : B} {q : Nat} (h : At d q body) {s : Span} (hs : s.Holds body) : (shiftS q s).Holds d :=
  ⟨hs.1, at_inside h hs.2⟩

/-- the walker put on exactly the bytes `body` (a sub-stream): it ends at most `slack` bytes before their end -/
def WalksAll (w : PW) (body : B) (slack : Nat) (S : List Span) : Prop :=
  ∃ q, w body 0 = .ok (regionsOf S, q) ∧ q ≤ body.length ∧ body.length ≤ q + slack ∧ ∀ s ∈ S, s.Holds body

theorem Walks.all {w : PW} {bs : B} {S : Nat → List Span} (h : Walks w bs S) (filler : B) :
    WalksAll w (bs ++ filler) filler.length (S 0) := by
  obtain ⟨e, hh⟩ := h (bs ++ filler) 0 filler (At.self _)
  exact ⟨bs.length, by simpa using e, by simp, by simp, hh⟩

/-- **a declared length opens a sub-stream**: the length field is the size of `body`, the walker inside consumes `body`, its
regions are those of `S` moved to where `body` lies; the filler after it is not counted -/
theorem walks_lenBlock (sect : String) {lw pad slack : Nat} {inner : PW} {body : B} {S : List Span}
    (hf : body.length < 256 ^ lw) (hin : WalksAll inner body slack S) :
    Walks (pLenBlock sect lw pad slack inner) (beBytes lw body.length ++ (body ++ zeros (padAmount body.length pad)))
      (fun p => S.map (shiftS (p + lw))) := by
  intro d p rest hat
  obtain ⟨q, e, hq1, hq2, hh⟩ := hin
  rw [List.append_assoc] at hat
  obtain ⟨e1, hat1⟩ := wU_step (sect := sect) hat hf
  have hbody : At d (p + lw) body := by
    rw [List.append_assoc] at hat1
    exact hat1.left
  have hslice : (d.drop (p + lw)).take body.length = body := hbody.drop_take
  have hbound := hbody.bound
  rw [List.append_assoc] at hat1
  have hat2 := hat1.right
  obtain ⟨e3, _⟩ := skip_step (sect := sect) hat2 (length_zeros _)
  have esub : pSub sect body.length slack inner d (p + lw) =
      .ok ((regionsOf S).map (shiftR (p + lw)), p + lw + body.length) := by
    simp only [pSub, if_pos hbound, hslice, e]
    rw [if_pos ⟨hq1, hq2⟩]
  simp only [Nat.add_assoc] at e3 esub
  refine ⟨?_, ?_⟩
  · simp only [pLenBlock, pU, e1, pSeq, esub, pSkip, e3, regionsOf_map_shiftS, List.append_nil, List.length_append,
      length_beBytes, length_zeros]
  · intro s hs
    obtain ⟨s0, hs0, rfl⟩ := List.mem_map.mp hs
    exact Span.holds_shift hbody (hh s0 hs0)

/-! ## the descriptor structure -/

section
open PsdVerif.Descriptor

/-- the layout the specification gives the OSType of a registered class -/
def shapeOfTag : Tag → Shape
  | .integer | .identifier | .index => .fixed 4
  | .largeInteger | .double => .fixed 8
  | .boolean => .fixed 1
  | .unitFloat => .fixed 12
  | .unitFloats => .unitFloats
  | .string => .text
  | .enumerated => .enumerated
  | .enumeratedReference => .enumRef
  | .class1 | .class2 | .class3 => .klass
  | .property => .property
  | .name => .nameRef
  | .offset => .offset
  | .rawData | .alias | .path => .raw
  | .list | .reference => .list
  | .descriptor | .globalObject => .object
  | .objectArray => .objectArray

/-- every OSType the library writes is an OSType the walker knows, with the layout of its class -/
theorem shapeOf_bytes (t : Tag) : shapeOf t.bytes = some (shapeOfTag t) := by cases t <;> decide +kernel

/-- the layout depends on the family of the class only -/
theorem shapeOfTag_int (t : IntTag) : shapeOfTag t.tag = .fixed 4 := by cases t <;> rfl
theorem shapeOfTag_class (t : ClassTag) : shapeOfTag t.tag = .klass := by cases t <;> rfl
theorem shapeOfTag_raw (t : RawTag) : shapeOfTag t.tag = .raw := by cases t <;> rfl
theorem shapeOfTag_list (t : ListTag) : shapeOfTag t.tag = .list := by cases t <;> rfl
theorem shapeOfTag_desc (t : DescTag) : shapeOfTag t.tag = .object := by cases t <;> rfl

theorem walks_tagged {val : Shape → PW} (t : Tag) {bs : B} {S : Nat → List Span} (hv : Walks (val (shapeOfTag t)) bs S) :
    Walks (pTagged val) (t.bytes ++ bs) (atS S 4) := by
  refine walks_b "descriptor" (Tag.length_bytes t) ?_
  simp only [shapeOf_bytes]
  exact hv

theorem pRepeat_succ (w : PW) (n : Nat) : pRepeat w (n + 1) = (w ⨾ pRepeat w n) := rfl

/-! ### the spans of a written value -/

-- nested through lists of values and of keyed items: the lexicographic measures are stated, Lean's search for them is slow
mutual
/-- the spans inside the value region of `v` (strings, keys, raw blocks, nested values), `p`: where the value starts -/
def innerSpans (tb : Tables) : DVal → Nat → List Span
  | .int _ _ => noSpans
  | .large _ => noSpans
  | .bool _ => noSpans
  | .double _ => noSpans
  | .unitFloat _ _ => noSpans
  | .unitFloats _ _ => noSpans
  | .string s => strSpans s
  | .enumerated ty en => seqS (keySpans tb ty) (keySpans tb en) (keyT tb ty).length
  | .enumRef nm cid ty en =>
    seqS (strSpans nm) (seqS (keySpans tb cid) (seqS (keySpans tb ty) (keySpans tb en) (keyT tb ty).length) (keyT tb cid).length)
      (strT nm).length
  | .klass _ nm cid => seqS (strSpans nm) (keySpans tb cid) (strT nm).length
  | .property nm cid kid => seqS (strSpans nm) (seqS (keySpans tb cid) (keySpans tb kid) (keyT tb cid).length) (strT nm).length
  | .name nm cid val => seqS (strSpans nm) (seqS (keySpans tb cid) (strSpans val) (keyT tb cid).length) (strT nm).length
  | .offset nm cid _ => seqS (strSpans nm) (seqS (keySpans tb cid) noSpans (keyT tb cid).length) (strT nm).length
  | .raw _ data => regS "descriptor-raw" (lenBlockT 0 4 1 data) noSpans
  | .list _ items => atS (listSpans tb items) 4
  | .desc _ nm cid items => structSpans tb nm cid items
  | .objArray _ nm cid items => atS (structSpans tb nm cid items) 4
termination_by v => (sizeOf v, 0)
/-- name, class id, count, items -/
def structSpans (tb : Tables) (nm : Str) (cid : Key) : Items → Nat → List Span
  | items =>
    regS "descriptor" (bodyT tb nm cid items)
      (seqS (strSpans nm) (seqS (keySpans tb cid) (atS (itemsSpans tb items) 4) (keyT tb cid).length) (strT nm).length)
termination_by items => (sizeOf items, 1)
def listSpans (tb : Tables) : List DVal → Nat → List Span
  | [] => noSpans
  | v :: vs => seqS (atS (regS "descriptor-value" (encT tb v) (innerSpans tb v)) 4) (listSpans tb vs) (v.tag.bytes ++ encT tb v).length
termination_by vs => (sizeOf vs, 0)
def itemsSpans (tb : Tables) : Items → Nat → List Span
  | [] => noSpans
  | (k, v) :: r =>
    seqS (seqS (keySpans tb k) (atS (regS "descriptor-value" (encT tb v) (innerSpans tb v)) 4) (keyT tb k).length)
      (itemsSpans tb r) (keyT tb k ++ (v.tag.bytes ++ encT tb v)).length
termination_by its => (sizeOf its, 0)
end

/-- the value region, then what is inside it -/
def valSpans (tb : Tables) (v : DVal) : Nat → List Span := regS "descriptor-value" (encT tb v) (innerSpans tb v)

theorem length_encListT_ge (tb : Tables) (vs : List DVal) : vs.length ≤ (encListT tb vs).length := by
  induction vs with
  | nil => simp
  | cons v vs ih =>
    simp only [encListT, List.length_append, List.length_cons, Tag.length_bytes]
    omega

theorem length_encItemsT_ge (tb : Tables) (its : Items) : its.length ≤ (encItemsT tb its).length := by
  induction its with
  | nil => simp
  | cons kv r ih =>
    obtain ⟨k, v⟩ := kv
    simp only [encItemsT, List.length_append, List.length_cons, Tag.length_bytes]
    omega

theorem length_listT_f64T (vs : List Nat) : (listT f64T vs).length = 8 * vs.length :=
  length_listT_const f64T 8 vs fun v _ => length_f64T v

/-- the class structure, given the law of its items -/
theorem walks_struct {tb : Tables} {val : Shape → PW} {nm : Str} {cid : Key} {items : Items}
    (hitems : Walks (pRepeat (pKey ⨾ pTagged val) items.length) (encItemsT tb items) (itemsSpans tb items))
    (fnm : StrFits nm) (hcid : KeyWF tb cid) (fcid : KeyFits tb cid) (hlen : items.length < 4294967296) :
    Walks (pStruct val) (bodyT tb nm cid items) (structSpans tb nm cid items) := by
  unfold structSpans
  exact walks_region "descriptor" (walks_seq (walks_ustr nm fnm) (walks_seq (walks_key tb cid hcid fcid)
    (walks_counted_of "descriptor" (by simpa using hlen) hitems (length_encItemsT_ge tb items))))

/-- the items of a list, given the law of a value at the same nesting bound -/
theorem walks_list_of {tb : Tables} {fuel : Nat}
    (hval : ∀ v, WF tb v → Fits tb v → need v ≤ fuel → Walks (pVal fuel (shapeOfTag v.tag)) (encT tb v) (valSpans tb v)) (vs : List DVal) :
    WFList tb vs → FitsList tb vs → needList vs ≤ fuel →
    Walks (pRepeat (pTagged (pVal fuel)) vs.length) (encListT tb vs) (listSpans tb vs) := by
  intro hwf hf hfuel
  induction vs with
  | nil => simp only [listSpans, encListT]; exact walks_ok
  | cons v vs ih =>
    simp only [WFList, FitsList, needList] at hwf hf hfuel
    have h1 := walks_tagged (val := pVal fuel) v.tag (hval v hwf.1 hf.1 (by omega))
    have := walks_seq h1 (ih hwf.2 hf.2 (by omega))
    simp only [List.length_cons, pRepeat_succ, encListT, listSpans]
    exact this.congr (by simp only [List.append_assoc]) rfl

theorem walks_items_of {tb : Tables} {fuel : Nat}
    (hval : ∀ v, WF tb v → Fits tb v → need v ≤ fuel → Walks (pVal fuel (shapeOfTag v.tag)) (encT tb v) (valSpans tb v)) (its : Items) :
    WFItems tb its → FitsItems tb its → needItems its ≤ fuel →
    Walks (pRepeat (pKey ⨾ pTagged (pVal fuel)) its.length) (encItemsT tb its) (itemsSpans tb its) := by
  intro hwf hf hfuel
  induction its with
  | nil => simp only [itemsSpans, encItemsT]; exact walks_ok
  | cons kv r ih =>
    obtain ⟨k, v⟩ := kv
    simp only [WFItems, FitsItems, needItems] at hwf hf hfuel
    have h0 := walks_key tb k hwf.1 hf.1
    have h1 := walks_tagged (val := pVal fuel) v.tag (hval v hwf.2.1 hf.2.1 (by omega))
    have := walks_seq (walks_seq h0 h1) (ih hwf.2.2 hf.2.2 (by omega))
    simp only [List.length_cons, pRepeat_succ, encItemsT, itemsSpans]
    exact this.congr (by simp only [List.append_assoc]) rfl

/-- the law of a value: `need v` is its nesting depth, the fuel `pVal` spends one unit of per level -/
theorem walks_val (tb : Tables) (v : DVal) : ∀ (fuel : Nat), WF tb v → Fits tb v → need v ≤ fuel →
    Walks (pVal fuel (shapeOfTag v.tag)) (encT tb v) (valSpans tb v) := by
  intro fuel
  induction fuel generalizing v with
  | zero => intro _ _ hfuel; cases v <;> simp [need] at hfuel
  | succ fuel ih =>
  intro hwf hf hfuel
  unfold valSpans
  show Walks (pRegion "descriptor-value" (pShape (pVal fuel) (shapeOfTag v.tag))) _ _
  refine walks_region "descriptor-value" ?_
  cases v with
  | int t z =>
    simp only [encT, innerSpans, DVal.tag, shapeOfTag_int, pShape]
    exact walks_skip "descriptor-value" (length_i32T z)
  | large z =>
    simp only [encT, innerSpans, DVal.tag, shapeOfTag, pShape]
    exact walks_skip "descriptor-value" (length_i64T z)
  | bool b =>
    simp only [encT, innerSpans, DVal.tag, shapeOfTag, pShape]
    exact walks_skip "descriptor-value" (length_boolT b)
  | double bits =>
    simp only [encT, innerSpans, DVal.tag, shapeOfTag, pShape]
    exact walks_skip "descriptor-value" (length_f64T bits)
  | unitFloat u bits =>
    simp only [encT, innerSpans, DVal.tag, shapeOfTag, pShape]
    exact walks_skip "descriptor-value" (by simp [unitT, length_pack4s, length_f64T])
  | unitFloats u vs =>
    simp only [Fits] at hf
    simp only [encT, innerSpans, DVal.tag, shapeOfTag, pShape]
    have h1 : Walks (pSkip "descriptor-value" 4) (unitT u) noSpans := walks_skip _ (length_pack4s _)
    have h2 := walks_u "descriptor-value" (w := 4) (k := fun n => pSkip "descriptor-value" (8 * n)) (by simpa using hf.1)
      (walks_skip "descriptor-value" (length_listT_f64T vs))
    exact (walks_seq h1 h2).congr rfl (by funext p; simp [seqS, atS, noSpans])
  | string s =>
    simp only [Fits] at hf
    simp only [encT, innerSpans, DVal.tag, shapeOfTag, pShape]
    exact walks_ustr s hf
  | enumerated ty en =>
    simp only [Fits, WF] at hf hwf
    simp only [encT, innerSpans, DVal.tag, shapeOfTag, pShape]
    exact walks_seq (walks_key tb ty hwf.1 hf.1) (walks_key tb en hwf.2 hf.2)
  | enumRef nm cid ty en =>
    simp only [Fits, WF] at hf hwf
    simp only [encT, innerSpans, DVal.tag, shapeOfTag, pShape]
    exact walks_seq (walks_ustr nm hf.1) (walks_seq (walks_key tb cid hwf.2.1 hf.2.1)
      (walks_seq (walks_key tb ty hwf.2.2.1 hf.2.2.1) (walks_key tb en hwf.2.2.2 hf.2.2.2)))
  | klass t nm cid =>
    simp only [Fits, WF] at hf hwf
    simp only [encT, innerSpans, DVal.tag, shapeOfTag_class, pShape]
    exact walks_seq (walks_ustr nm hf.1) (walks_key tb cid hwf.2 hf.2)
  | property nm cid kid =>
    simp only [Fits, WF] at hf hwf
    simp only [encT, innerSpans, DVal.tag, shapeOfTag, pShape]
    exact walks_seq (walks_ustr nm hf.1) (walks_seq (walks_key tb cid hwf.2.1 hf.2.1) (walks_key tb kid hwf.2.2 hf.2.2))
  | name nm cid val =>
    simp only [Fits, WF] at hf hwf
    simp only [encT, innerSpans, DVal.tag, shapeOfTag, pShape]
    exact walks_seq (walks_ustr nm hf.1) (walks_seq (walks_key tb cid hwf.2.1 hf.2.1) (walks_ustr val hf.2.2))
  | offset nm cid val =>
    simp only [Fits, WF] at hf hwf
    simp only [encT, innerSpans, DVal.tag, shapeOfTag, pShape]
    exact walks_seq (walks_ustr nm hf.1) (walks_seq (walks_key tb cid hwf.2 hf.2.1)
      (walks_skip "descriptor-value" (length_u32T val)))
  | raw t data =>
    simp only [Fits] at hf
    have h := walks_lenField "descriptor-raw" (w := 4) (len := fun n => n) (by simpa using hf)
      (rfl : data.length = data.length)
    simp only [encT, innerSpans, DVal.tag, shapeOfTag_raw, pShape, lenBlockT_simple]
    exact h
  | list t items =>
    simp only [Fits, WF, need] at hf hwf hfuel
    have h := walks_counted_of "descriptor-list" (cw := 4) (by simpa using hf.1)
      (walks_list_of (fun v => ih v) items hwf hf.2 (by omega)) (length_encListT_ge tb items)
    simp only [encT, innerSpans, DVal.tag, shapeOfTag_list, pShape]
    exact h
  | desc t nm cid items =>
    simp only [Fits, WF, need] at hf hwf hfuel
    have h := walks_struct (val := pVal fuel) (walks_items_of (fun v => ih v) items hwf.2.2.2 hf.2.2.2 (by omega)) hf.1 hwf.2.1 hf.2.1
      hf.2.2.1
    simp only [encT, innerSpans, DVal.tag, shapeOfTag_desc, pShape]
    exact h
  | objArray c nm cid items =>
    simp only [Fits, WF, need] at hf hwf hfuel
    simp only [encT, innerSpans, DVal.tag, shapeOfTag, pShape]
    have h1 : Walks (pSkip "descriptor-value" 4) (u32T c) noSpans := walks_skip _ (length_u32T c)
    have h2 := walks_struct (val := pVal fuel) (walks_items_of (fun v => ih v) items hwf.2.2.2 hf.2.2.2.2 (by omega)) hf.2.1 hwf.2.1
      hf.2.2.1 hf.2.2.2.1
    exact (walks_seq h1 h2).congr rfl (by funext p; simp [seqS, noSpans, atS, length_u32T])

theorem walks_list (tb : Tables) (vs : List DVal) : ∀ (fuel : Nat), WFList tb vs → FitsList tb vs → needList vs ≤ fuel →
    Walks (pRepeat (pTagged (pVal fuel)) vs.length) (encListT tb vs) (listSpans tb vs) :=
  fun fuel => walks_list_of (fun v => walks_val tb v fuel) vs

theorem walks_items (tb : Tables) (its : Items) : ∀ (fuel : Nat), WFItems tb its → FitsItems tb its → needItems its ≤ fuel →
    Walks (pRepeat (pKey ⨾ pTagged (pVal fuel)) its.length) (encItemsT tb its) (itemsSpans tb its) :=
  fun fuel => walks_items_of (fun v => walks_val tb v fuel) its

/-- a descriptor structure (name, class id, items) written by `_write_body`, wherever it lies in the data -/
theorem walks_descriptor (tb : Tables) (nm : Str) (cid : Key) (items : Items) (fnm : StrFits nm) (hcid : KeyWF tb cid)
    (fcid : KeyFits tb cid) (hlen : items.length < 4294967296) (hwf : WFItems tb items) (hf : FitsItems tb items) :
    Walks pDescriptor (bodyT tb nm cid items) (structSpans tb nm cid items) := by
  intro d p rest hat
  have hfuel : needItems items ≤ d.length + 1 := by
    have h1 := needItems_le tb items
    have h2 := hat.bound
    have h3 : (encItemsT tb items).length ≤ (bodyT tb nm cid items).length := by
      simp only [bodyT, List.length_append]; omega
    simp only [List.length_append] at h2
    omega
  exact walks_struct (walks_items tb items (d.length + 1) hwf hf hfuel) fnm hcid fcid hlen d p rest hat

/-! ## whole payloads -/

theorem shiftR_zero (r : Region) : shiftR 0 r = r := by cases r; rfl

theorem map_shiftR_zero (rs : List Region) : rs.map (shiftR 0) = rs := by
  induction rs with
  | nil => rfl
  | cons r rs ih => simp only [List.map_cons, shiftR_zero, ih]

/-- a walker that walks `bs` accepts the payload `bs ++ filler` when the filler is within the slack: it reports the regions of
`S 0`, and each delimits its bytes of the payload -/
theorem runOn_of_walks {w : PW} {bs : B} {S : Nat → List Span} (h : Walks w bs S) (filler : B) {slack : Nat}
    (hs : filler.length ≤ slack) :
    runOn w slack (bs ++ filler) = .ok (regionsOf (S 0)) ∧ ∀ s ∈ S 0, s.Holds (bs ++ filler) := by
  obtain ⟨e, hh⟩ := h (bs ++ filler) 0 filler (At.self _)
  refine ⟨?_, hh⟩
  have hc : bs.length ≤ (bs ++ filler).length ∧ (bs ++ filler).length ≤ bs.length + slack := by
    simp only [List.length_append]; omega
  simp only [Nat.zero_add] at e
  simp only [runOn, pSub, Nat.zero_add, Nat.le_refl, if_true, List.drop_zero, List.take_length, e]
  rw [if_pos hc]
  simp only [map_shiftR_zero]

/-! ### descriptor blocks -/

def blockSpans (tb : Tables) (b : Block) : Nat → List Span := seqS noSpans (structSpans tb b.name b.classID b.items) 4

theorem walks_descBlock (tb : Tables) (b : Block) (hwf : b.WF tb) (hf : b.Fits tb) :
    Walks pDescBlock (u32T b.version ++ bodyT tb b.name b.classID b.items) (blockSpans tb b) := by
  obtain ⟨_, _, hcid, _, hitems⟩ := hwf
  obtain ⟨_, fnm, fcid, flen, fitems⟩ := hf
  exact (walks_seq (walks_skip "descriptor-block" (length_u32T b.version))
    (walks_descriptor tb b.name b.classID b.items fnm hcid fcid flen hitems fitems)).congr rfl
    (by unfold blockSpans; rw [length_u32T])

def block2Spans (tb : Tables) (b : Block2) : Nat → List Span :=
  seqS noSpans (seqS noSpans (structSpans tb b.name b.classID b.items) 4) 4

theorem walks_descBlock2 (tb : Tables) (b : Block2) (hwf : b.WF tb) (hf : b.Fits tb) :
    Walks pDescBlock2 (u32T b.version ++ (u32T b.dataVersion ++ bodyT tb b.name b.classID b.items)) (block2Spans tb b) := by
  obtain ⟨_, _, hcid, _, hitems⟩ := hwf
  obtain ⟨_, _, fnm, fcid, flen, fitems⟩ := hf
  exact (walks_seq (walks_skip "descriptor-block" (length_u32T b.version))
    (walks_seq (walks_skip "descriptor-block" (length_u32T b.dataVersion))
      (walks_descriptor tb b.name b.classID b.items fnm hcid fcid flen hitems fitems))).congr rfl
    (by unfold block2Spans; rw [length_u32T, length_u32T])

theorem Block.encT_split (tb : Tables) (pad : Nat) (b : Block) :
    b.encT tb pad = (u32T b.version ++ bodyT tb b.name b.classID b.items) ++ zeros (padAmount (b.bodyLen tb) pad) := by
  simp only [Block.encT, List.append_assoc]

theorem Block2.encT_split (tb : Tables) (pad : Nat) (b : Block2) :
    b.encT tb pad = (u32T b.version ++ (u32T b.dataVersion ++ bodyT tb b.name b.classID b.items)) ++
      zeros (padAmount (b.bodyLen tb) pad) := by
  simp only [Block2.encT, List.append_assoc]

theorem filler_le (n pad : Nat) (hp : 0 < pad) (h4 : pad ≤ 4) : (zeros (padAmount n pad)).length ≤ 3 := by
  rw [length_zeros]
  have := padAmount_lt n pad hp
  omega

/-! ### effects layer -/

section
open PsdVerif.Payload

def effectSpans (kv : B × Effect) : Nat → List Span := regS "effect" (EffectsLayer.itemT kv) noSpans

theorem walks_effect (kv : B × Effect) (hf : FitsU 4 kv.2.encT.length) :
    Walks pEffect (EffectsLayer.itemT kv) (effectSpans kv) := by
  have e : EffectsLayer.itemT kv = sig8BIM ++ (pack4s kv.1 ++ (beBytes 4 kv.2.encT.length ++ kv.2.encT)) := by
    simp only [EffectsLayer.itemT, lenBlockT_simple, List.append_assoc]
  have h3 := walks_u "effect" (w := 4) (k := fun size => pSkip "effect" size) hf
    (walks_skip "effect" (rfl : kv.2.encT.length = kv.2.encT.length))
  have h2 := walks_seq (walks_skip "effect" (length_pack4s kv.1)) h3
  have h1 := walks_seq (walks_check "effect" "signature is not 8BIM" (c := sig8BIM == FX.sig) (by decide)) h2
  have h0 := walks_b "effect" (n := 4) (b := sig8BIM)
    (k := fun sg => pCheck "effect" "signature is not 8BIM" (sg == FX.sig) ⨾ pSkip "effect" 4 ⨾
      pU "effect" 4 fun size => pSkip "effect" size) (by decide) h1
  have h := walks_region "effect" h0
  simp only [List.nil_append] at h
  rw [← e] at h
  exact h.congr rfl (by funext p; simp [effectSpans, regS, seqS, atS, noSpans])

def effectsSpans (x : EffectsLayer) : Nat → List Span :=
  seqS noSpans (atS (itemSpans EffectsLayer.itemT effectSpans x.items) 2) 2

theorem walks_effects (x : EffectsLayer) (hf : x.Fits) : Walks pEffects x.bodyT (effectsSpans x) := by
  obtain ⟨_, fc, fi⟩ := hf
  have hc := walks_counted "effects-layer" (cw := 2) (item := pEffect) EffectsLayer.itemT effectSpans x.items fc
    (fun kv hkv => walks_effect kv (fi kv hkv).2)
    (fun kv _ => by simp only [EffectsLayer.itemT, List.length_append, length_pack4s]; omega)
  have h := walks_seq (walks_skip "effects-layer" (length_beBytes 2 x.version)) hc
  have e : x.bodyT = beBytes 2 x.version ++ (beBytes 2 x.items.length ++ listT EffectsLayer.itemT x.items) := by
    simp only [EffectsLayer.bodyT, List.append_assoc]
  rw [e]
  exact h.congr rfl (by funext p; simp [effectsSpans, seqS, atS, noSpans, length_beBytes])

end

end

end PsdVerif.WalkerPayload
