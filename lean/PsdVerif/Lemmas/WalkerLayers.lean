/-
C03 — the specification walker on what the model writer emits: layer records, channel image
data, layer info.
-/
import PsdVerif.Lemmas.Walker

namespace PsdVerif.Walker
open PsdVerif PsdVerif.Codec PsdVerif.Psd

/-- a layer record up to its tagged blocks: rectangle, channel infos, blend signature / key / opacity /
clipping / flags / filler, the length of the extra data, mask data, blending ranges, name -/
def recordHeadT (v : Nat) (r : LayerRecord) : B :=
  i32T r.top ++ i32T r.left ++ i32T r.bottom ++ i32T r.right ++ beBytes 2 r.channelInfo.length ++
  listT (ChannelInfo.encT v) r.channelInfo ++ r.fixedT ++ beBytes 1 r.flags.toNat ++ zeros 1 ++
  beBytes 4 (r.extraT v).length ++ maskT r.maskData ++ r.blendingRanges.encT ++ pascalT 4 r.name

/-- a record = head, tagged blocks (padding 1), filler to an even size of the extra data -/
theorem recordT_split (v : Nat) (r : LayerRecord) :
    r.encT v = recordHeadT v r ++ (taggedBlocksT v 1 r.taggedBlocks ++ zeros (padAmount (r.extraUnpaddedT v).length 2)) := by
  simp only [LayerRecord.encT, recordHeadT, lenBlockT, LayerRecord.extraT, LayerRecord.extraUnpaddedT, padAmount_one,
    zeros, List.replicate_zero, List.append_nil, List.append_assoc]

/-- the spans of one layer record at `p`: the record, then its tagged blocks -/
def recordSpans (v : Nat) (p : Nat) (r : LayerRecord) : List Span :=
  ⟨⟨p, (r.encT v).length, "layer-record"⟩, r.encT v⟩ ::
    seqSpans "tagged-block" (TaggedBlock.encT v 1) (p + (recordHeadT v r).length) r.taggedBlocks

theorem recordSpans_hold (v : Nat) (r : LayerRecord) {d : B} {p : Nat} {rest : B} (hat : At d p (r.encT v ++ rest)) :
    ∀ s ∈ recordSpans v p r, s.Holds d := by
  intro s hs
  simp only [recordSpans, List.mem_cons] at hs
  rcases hs with rfl | hs
  · exact Span.holds_mk _ hat.left
  · rw [recordT_split, List.append_assoc, List.append_assoc] at hat
    exact seqSpans_hold _ _ r.taggedBlocks (by unfold taggedBlocksT at hat; exact hat.right) s hs

/-- The arithmetic of the walk through one layer record, about plain numbers (`ci` the channel infos, `M`, `R`,
`N` mask data, blending ranges and padded name, `T` the tagged blocks, `U` / `X` the extra data without and with
its filler `k`, `H` the record up to the tagged blocks, `E` the record, `D` the file, `n` the number of tagged
blocks, `q` where the extra data starts): the mask data, the blending ranges and the name end inside the extra
data; the name ends where the tagged blocks start; the extra data ends where the record ends, less than four
bytes behind the tagged blocks and inside the file; there are fewer tagged blocks than bytes of extra data
(`hblocks`: one byte per block is all the bound on the loop's fuel, `X + 1`, needs). -/
theorem record_offsets {p q ci M R N T U X k H E D n rest : Nat} (hq : q = p + 16 + 2 + ci + 4 + 8 + 4)
    (hlen : E = 4 + 4 + 4 + 4 + 2 + ci + 4 + 4 + 1 + 1 + 1 + (1 + 4 + X + 0)) (hxl : X = U + k) (hk : k < 2)
    (hul : U = 4 + M + (4 + R) + (1 + N) + T)
    (hhead : H = 16 + 2 + ci + 4 + 8 + 4 + 4 + M + 4 + R + 1 + N) (hbound : p + (E + rest) ≤ D)
    (hblocks : 1 * n ≤ T) :
    q + 4 + M ≤ q + X ∧ q + 4 + M + 4 + R ≤ q + X ∧ q + 4 + M + 4 + R + 1 + N ≤ q + X ∧
    q + 4 + M + 4 + R + 1 + N = p + H ∧ q + X = p + E ∧
    q + 4 + M + 4 + R + 1 + N + T ≤ q + X ∧ q + X < q + 4 + M + 4 + R + 1 + N + T + 4 ∧
    q + X ≤ D ∧ n < X + 1 := by
  omega

theorem walkRecord_full {v : Nat} (hv : v = 1 ∨ v = 2) {r : LayerRecord} (hwf : r.WF v) (hsh : RecordShaped v r)
    {d : B} {p : Nat} {rest : B} (hat : At d p (r.encT v ++ rest)) :
    walkRecord v d p = .ok ((r.channelInfo.map ChannelInfo.length, regionsOf (recordSpans v p r)), p + (r.encT v).length) ∧
      At d (p + (r.encT v).length) rest := by
  have hright := hat.right
  refine ⟨?_, hright⟩
  obtain ⟨hvalid, hfits, _, _, _, ht⟩ := hwf
  obtain ⟨f1, f2, f3, f4, f5, f6, f7, f8, f9, f10, f11, f12, f13⟩ := hfits
  obtain ⟨v1, v2, _, _⟩ := hvalid
  have hl : ∀ s ∈ G.recordSignatures, s.length = 4 ∧ (s == Spec.layerSignature) = true := by decide
  have hb : ∀ s ∈ G.blendModes, s.length = 4 := by decide
  have hs : pack4s r.signature = r.signature := pack4s_of_length (hl _ v1).1
  obtain ⟨mbody, hm, hmf⟩ := maskT_shape r.maskData f9
  have hrg : r.blendingRanges.encT = beBytes 4 r.blendingRanges.bodyT.length ++ r.blendingRanges.bodyT := by
    simp [BlendingRanges.encT, lenBlockT_simple]
  have hrf : r.blendingRanges.bodyT.length < 256 ^ 4 := f10.2.2
  have hlen := LayerRecord.length_encT v r
  rw [length_lenBlockT, padAmount_one] at hlen
  have hk : padAmount ((r.extraUnpaddedT v).length) 2 < 2 := padAmount_lt _ 2 (by decide)
  have hxl : (r.extraT v).length = (r.extraUnpaddedT v).length + padAmount ((r.extraUnpaddedT v).length) 2 := by
    simp only [LayerRecord.extraT, List.length_append, length_zeros]
  have hul : (r.extraUnpaddedT v).length = (4 + mbody.length) + (4 + r.blendingRanges.bodyT.length) +
      (1 + (r.name.length + padAmount (1 + r.name.length) 4)) + (taggedBlocksT v 1 r.taggedBlocks).length := by
    simp only [LayerRecord.extraUnpaddedT, List.length_append, hm, hrg, length_beBytes, length_pascalT]; omega
  have hhead : (recordHeadT v r).length = 16 + 2 + (listT (ChannelInfo.encT v) r.channelInfo).length + 4 + 8 + 4 + 4 +
      mbody.length + 4 + r.blendingRanges.bodyT.length + 1 + (r.name.length + padAmount (1 + r.name.length) 4) := by
    simp only [recordHeadT, LayerRecord.fixedT, List.length_append, length_i32T, length_beBytes, length_pack4s,
      length_zeros, hm, hrg, length_pascalT]
    omega
  have hbound := hat.bound
  rw [List.length_append] at hbound
  have hblocks := length_listT_le (TaggedBlock.encT v 1) r.taggedBlocks 1
    (fun t _ => Nat.le_trans (by decide) (t.length_ge v 1))
  unfold taggedBlocksT at hul
  obtain ⟨c1, c2, c3, hq, hstop, hend1, hend2, hfile, hcount⟩ :=
    record_offsets (p := p) rfl hlen hxl hk hul hhead hbound hblocks
  -- the byte string, regrouped the way the walker consumes it
  have hbytes : r.encT v ++ rest =
      (i32T r.top ++ i32T r.left ++ i32T r.bottom ++ i32T r.right) ++ (beBytes 2 r.channelInfo.length ++
      (listT (ChannelInfo.encT v) r.channelInfo ++ (r.signature ++
      ((pack4s r.blendMode ++ beBytes 1 r.opacity ++ beBytes 1 r.clipping ++ beBytes 1 r.flags.toNat ++ zeros 1) ++
      (beBytes 4 (r.extraT v).length ++
      (beBytes 4 mbody.length ++ (mbody ++ (beBytes 4 r.blendingRanges.bodyT.length ++ (r.blendingRanges.bodyT ++
      (beBytes 1 r.name.length ++ ((r.name ++ zeros (padAmount (1 + r.name.length) 4)) ++
      (taggedBlocksT v 1 r.taggedBlocks ++ (zeros (padAmount ((r.extraUnpaddedT v).length) 2) ++ rest))))))))))))) := by
    simp only [LayerRecord.encT, LayerRecord.fixedT, lenBlockT, LayerRecord.extraT, LayerRecord.extraUnpaddedT, hm, hrg,
      pascalT, hs, padAmount_one, zeros, List.replicate_zero, List.append_nil, List.append_assoc]
  rw [hbytes] at hat
  obtain ⟨e1, hat⟩ := skip_step (sect := "layer-record") (n := 16) hat (by simp [length_i32T])
  obtain ⟨e2, hat⟩ := wU_step (sect := "layer-record") hat f5
  obtain ⟨e3, hat⟩ := walkChannelInfos_full hv r.channelInfo f6 hat
  obtain ⟨e4, hat⟩ := wBytes_step (sect := "layer-record") hat (hl _ v1).1
  obtain ⟨e5, hat⟩ := skip_step (sect := "layer-record") (n := 8) hat
    (by simp [length_pack4s, length_beBytes, length_zeros])
  obtain ⟨e6, hat⟩ := wU_step (sect := "layer-record") hat f13
  obtain ⟨e8, hat⟩ := wU_step (sect := "layer-mask-data") hat hmf
  obtain ⟨e9, hat⟩ := skip_step (sect := "layer-mask-data") hat rfl
  obtain ⟨e10, hat⟩ := wU_step (sect := "layer-blending-ranges") hat hrf
  obtain ⟨e11, hat⟩ := skip_step (sect := "layer-blending-ranges") hat rfl
  obtain ⟨e12, hat⟩ := wU_step (sect := "layer-name") hat (by simpa using f11)
  obtain ⟨e13, hat⟩ := skip_step (sect := "layer-name") (n := r.name.length + padAmount (1 + r.name.length) 4) hat
    (by simp [length_zeros])
  have e14 := walkBlocksLoop_full (sect := "layer-tagged-blocks") (v := v) (align := 1) (even := true) (Or.inl rfl)
    r.taggedBlocks ht.1 (fun t ht' => (hsh t ht').1) (fun _ t ht' => (hsh t ht').2) hat
    (p + 16 + 2 + (listT (ChannelInfo.encT v) r.channelInfo).length + 4 + 8 + 4 + (r.extraT v).length)
    hend1 hend2 ((r.extraT v).length + 1) hcount
  have e7 : skip "layer-record" (r.extraT v).length d
      (p + 16 + 2 + (listT (ChannelInfo.encT v) r.channelInfo).length + 4 + 8 + 4) =
      .ok ((), p + 16 + 2 + (listT (ChannelInfo.encT v) r.channelInfo).length + 4 + 8 + 4 + (r.extraT v).length) := by
    unfold skip
    rw [if_pos hfile]
  simp only [walkRecord, bind, Except.bind, e1, e2, e3, e4, (hl _ v1).2, e5, e6, e7, e8, e9, e10, e11,
    e12, e13, check_eq, decide_eq_true_eq, if_true]
  simp only [if_pos c1, if_pos c2, if_pos c3]
  simp only [e14]
  rw [hq, hstop, Nat.add_sub_cancel_left]
  rfl

/-- the spans of a list of layer records: record, its tagged blocks, next record, … -/
def recordsSpans (v : Nat) : Nat → List LayerRecord → List Span
  | _, [] => []
  | p, r :: rs => recordSpans v p r ++ recordsSpans v (p + (r.encT v).length) rs

theorem recordsSpans_hold (v : Nat) (rs : List LayerRecord) {d : B} {p : Nat} {rest : B}
    (hat : At d p (listT (LayerRecord.encT v) rs ++ rest)) : ∀ s ∈ recordsSpans v p rs, s.Holds d := by
  induction rs generalizing p with
  | nil => intro s hs; simp [recordsSpans] at hs
  | cons r rs ih =>
    intro s hs
    simp only [listT, List.append_assoc] at hat
    simp only [recordsSpans, List.mem_append] at hs
    rcases hs with hs | hs
    · exact recordSpans_hold v r hat s hs
    · exact ih hat.right s hs

theorem walkRecords_full {v : Nat} (hv : v = 1 ∨ v = 2) (rs : List LayerRecord) (hwf : ∀ r ∈ rs, r.WF v)
    (hsh : ∀ r ∈ rs, RecordShaped v r) {d : B} {p : Nat} {rest : B}
    (hat : At d p (listT (LayerRecord.encT v) rs ++ rest)) :
    walkRecords v rs.length d p =
        .ok ((rs.map (fun r => r.channelInfo.map ChannelInfo.length), regionsOf (recordsSpans v p rs)),
          p + (listT (LayerRecord.encT v) rs).length) ∧
      At d (p + (listT (LayerRecord.encT v) rs).length) rest := by
  induction rs generalizing p with
  | nil => exact ⟨by simp [walkRecords, listT, recordsSpans, regionsOf], by simpa [listT] using hat⟩
  | cons r rs ih =>
    simp only [listT, List.append_assoc] at hat
    obtain ⟨e1, hat⟩ := walkRecord_full hv (hwf r (by simp)) (hsh r (by simp)) hat
    obtain ⟨e2, hat⟩ := ih (fun x hx => hwf x (by simp [hx])) (fun x hx => hsh x (by simp [hx])) hat
    refine ⟨?_, by simpa only [listT, List.length_append, Nat.add_assoc] using hat⟩
    simp only [List.length_cons, walkRecords, e1, e2, List.map_cons, listT, List.length_append, Nat.add_assoc,
      recordsSpans, regionsOf_append]

theorem walkChannels_full (cs : List ChannelData) (hwf : ∀ c ∈ cs, ChannelData.WF c) {d : B} {p : Nat} {rest : B}
    (hat : At d p (listT ChannelData.encT cs ++ rest)) :
    walkChannels (cs.map (fun c => 2 + c.data.length)) d p =
        .ok (regionsOf (seqSpans "channel-data" ChannelData.encT p cs), p + (listT ChannelData.encT cs).length) ∧
      At d (p + (listT ChannelData.encT cs).length) rest := by
  have hc : ∀ x ∈ G.compressions, x < 256 ^ 2 ∧ ¬ x > 3 := by decide
  induction cs generalizing p with
  | nil => exact ⟨by simp [walkChannels, listT, seqSpans, regionsOf], by simpa [listT] using hat⟩
  | cons c cs ih =>
    simp only [listT, ChannelData.encT, List.append_assoc] at hat
    obtain ⟨e1, hat⟩ := wU_step (sect := "channel-image-data") hat (hc _ (hwf c (by simp))).1
    obtain ⟨e2, hat⟩ := skip_step (sect := "channel-image-data") hat rfl
    obtain ⟨e3, hat⟩ := ih (fun x hx => hwf x (by simp [hx])) hat
    have hlt : ¬ (2 + c.data.length < 2) := by omega
    have hsub : 2 + c.data.length - 2 = c.data.length := by omega
    refine ⟨?_, by simpa only [listT, ChannelData.encT, List.length_append, length_beBytes, Nat.add_assoc] using hat⟩
    simp only [Nat.add_assoc] at e3
    simp only [List.map_cons, walkChannels, if_neg hlt, e1, if_neg (hc _ (hwf c (by simp))).2, hsub, e2, e3,
      listT, ChannelData.encT, List.length_append, length_beBytes, seqSpans, regionsOf_cons, Nat.add_assoc]

/-- the spans of the layer info section: the section; then (unless it is the empty section written for
`layer_count = 0`) the records of the refreshed object with their tagged blocks, then one span per
stored channel -/
def layerInfoSpans (v pad p : Nat) (li : LayerInfo) : List Span :=
  ⟨⟨p, (li.encT v pad).length, "layer-info"⟩, li.encT v pad⟩ ::
    (if li.layerCount = 0 then [] else
      match li.refresh.records, li.refresh.channels with
      | some rs, some css =>
        recordsSpans v (p + secW v + 2) rs ++
          seqSpans "channel-data" ChannelData.encT (p + secW v + 2 + (listT (LayerRecord.encT v) rs).length) css.flatten
      | _, _ => [])

/-- the body of a non-empty layer info section: count, records, channel data, filler -/
theorem layerInfo_body (v pad : Nat) (n : Int) (R : List LayerRecord) (css : List (List ChannelData)) :
    LayerInfo.bodyT v pad ⟨n, some R, some css⟩ =
      beBytes 2 (i16ToNat n) ++ (listT (LayerRecord.encT v) R ++ (listT ChannelData.encT css.flatten ++
        zeros (padAmount (LayerInfo.bodyUnpaddedT v ⟨n, some R, some css⟩).length pad))) := by
  cases R <;> cases css <;>
    simp only [LayerInfo.bodyT, LayerInfo.bodyUnpaddedT, optListT, List.append_assoc, i16T, flatten_channelImageT,
      listT, List.flatten_nil, List.nil_append, List.append_nil]

theorem layerInfoSpans_hold (v pad : Nat) (li : LayerInfo) {d : B} {p : Nat} {rest : B}
    (hat : At d p (li.encT v pad ++ rest)) : ∀ s ∈ layerInfoSpans v pad p li, s.Holds d := by
  intro s hs
  simp only [layerInfoSpans, List.mem_cons] at hs
  rcases hs with rfl | hs
  · exact Span.holds_mk _ hat.left
  · by_cases h0 : li.layerCount = 0
    · simp [h0] at hs
    · simp only [h0, if_false] at hs
      unfold LayerInfo.encT at hat
      simp only [h0, if_false] at hat
      cases hrf : li.refresh with
      | mk n rs css =>
        rw [hrf] at hs hat
        cases rs with
        | none => simp at hs
        | some rs =>
          cases css with
          | none => simp at hs
          | some css =>
            simp only [List.mem_append] at hs
            rw [lenBlockT_simple, layerInfo_body] at hat
            simp only [List.append_assoc] at hat
            have hat := hat.right
            rw [length_beBytes] at hat
            have hat := hat.right
            rw [length_beBytes] at hat
            rcases hs with hs | hs
            · exact recordsSpans_hold v rs hat s hs
            · exact seqSpans_hold _ _ css.flatten hat.right s hs

theorem walkLayerInfo_full {v pad : Nat} (hv : v = 1 ∨ v = 2) (hp : pad = 1 ∨ pad = 2 ∨ pad = 4) {li : LayerInfo}
    (hwf : li.WF v pad) (hsh : optRecordsShaped v li.records) {d : B} {p : Nat} {rest : B}
    (hat : At d p (li.encT v pad ++ rest)) :
    walkLayerInfo v d p = .ok (regionsOf (layerInfoSpans v pad p li), p + (li.encT v pad).length) ∧
      At d (p + (li.encT v pad).length) rest := by
  refine ⟨?_, hat.right⟩
  have hat := hat.left
  have hw := secW_pos v
  have hlw := lenW_eq_secW hv
  unfold LayerInfo.WF at hwf
  unfold layerInfoSpans
  unfold LayerInfo.encT at hat ⊢
  by_cases h0 : li.layerCount = 0
  · simp only [h0, if_true] at hwf hat ⊢
    have hpos : (0 : Nat) < 256 ^ secW v := Nat.pow_pos (by decide)
    rw [← hlw] at hat hpos
    obtain ⟨e1, hat'⟩ := wU_step (sect := "layer-info") hat.nil_right hpos
    have e2 : skip "layer-info" 0 d (p + lenW v) = .ok ((), p + lenW v + 0) := by
      have := hat.bound; rw [length_beBytes] at this
      unfold skip; rw [if_pos (by omega)]
    simp only [walkLayerInfo, bind, Except.bind, e1, e2, if_true, length_beBytes, regionsOf, List.map_cons,
      List.map_nil]
    rw [hlw]
  · simp only [h0, if_false] at hwf hat ⊢
    obtain ⟨n, rs, css⟩ := li
    simp only at h0 hwf hat hsh ⊢
    cases rs with
    | none => simp at hwf
    | some rs =>
      cases css with
      | none => simp at hwf
      | some css =>
        simp only at hwf
        obtain ⟨hcount, hshape, hrecs, hch, hfits⟩ := hwf
        have hrs : rs ≠ [] := by
          intro h; subst h; simp at hcount; exact h0 hcount
        obtain ⟨r0, rs0, rfl⟩ := List.exists_cons_of_ne_nil hrs
        cases css with
        | nil => simp [shapesAgree] at hshape
        | cons c0 css0 =>
          have href : (LayerInfo.mk n (some (r0 :: rs0)) (some (c0 :: css0))).refresh =
              ⟨n, some (refreshRecords (r0 :: rs0) (c0 :: css0)), some (c0 :: css0)⟩ := by
            simp [LayerInfo.refresh, h0]
          rw [href] at hat hfits ⊢
          obtain ⟨g1, _, _, g4⟩ := hfits
          simp only at g1 ⊢
          -- refreshed records keep their tagged blocks
          have hshR : ∀ r ∈ refreshRecords (r0 :: rs0) (c0 :: css0), RecordShaped v r := by
            have key : ∀ (rs : List LayerRecord) (css : List (List ChannelData)),
                (∀ r ∈ rs, RecordShaped v r) → ∀ r ∈ refreshRecords rs css, RecordShaped v r := by
              intro rs
              induction rs with
              | nil => intro css _ r hr; cases css <;> simp [refreshRecords] at hr
              | cons r1 rs ih =>
                intro css h r hr
                cases css with
                | nil => exact h r (by simpa [refreshRecords] using hr)
                | cons c css =>
                  simp only [refreshRecords, List.mem_cons] at hr
                  rcases hr with rfl | hr
                  · exact h r1 (by simp)
                  · exact ih css (fun x hx => h x (by simp [hx])) r hr
            exact key _ _ hsh
          have hdecl := declared_lengths (r0 :: rs0) (c0 :: css0) hshape
          -- from here on the refreshed records are a variable: `simp` would unfold `refreshRecords` in every step
          generalize hR : refreshRecords (r0 :: rs0) (c0 :: css0) = R at *
          have hRlen : R.length = n.natAbs := by
            rw [← hR, length_refreshRecords]; exact hcount.symm
          have hRne : R ≠ [] := by
            intro h; rw [h] at hRlen; simp at hRlen; omega
          have hpl := padAmount_lt (LayerInfo.bodyUnpaddedT v ⟨n, some R, some (c0 :: css0)⟩).length pad
            (by rcases hp with h | h | h <;> omega)
          have hple : pad ≤ 4 := by rcases hp with h | h | h <;> omega
          have hbody := layerInfo_body v pad n R (c0 :: css0)
          have hul : (LayerInfo.bodyUnpaddedT v ⟨n, some R, some (c0 :: css0)⟩).length =
              2 + (listT (LayerRecord.encT v) R).length + (listT ChannelData.encT (c0 :: css0).flatten).length := by
            obtain ⟨r1, R1, rfl⟩ := List.exists_cons_of_ne_nil hRne
            simp only [LayerInfo.bodyUnpaddedT, optListT, List.length_append, length_i16T, flatten_channelImageT]
          -- likewise the body, of which only the length is needed below
          generalize hBody : LayerInfo.bodyT v pad ⟨n, some R, some (c0 :: css0)⟩ = body at *
          have hbl : body.length = 2 + (listT (LayerRecord.encT v) R).length +
              (listT ChannelData.encT (c0 :: css0).flatten).length +
              padAmount (LayerInfo.bodyUnpaddedT v ⟨n, some R, some (c0 :: css0)⟩).length pad := by
            rw [hbody]; simp only [List.length_append, length_beBytes, length_zeros]; omega
          have hne : ¬ body.length = 0 := by omega
          rw [lenBlockT_simple] at hat
          have hat := hat.nil_right
          rw [List.append_assoc] at hat
          rw [← hlw] at hat g4
          have hb0 := hat.bound
          simp only [List.length_append, length_beBytes, List.length_nil] at hb0
          obtain ⟨e1, hat⟩ := wU_step (sect := "layer-info") hat g4
          have e2 : skip "layer-info" body.length d (p + lenW v) = .ok ((), p + lenW v + body.length) := by
            unfold skip; rw [if_pos (by omega)]
          rw [hbody] at hat
          simp only [List.append_assoc] at hat
          obtain ⟨e3, hat⟩ := wU_step (sect := "layer-info") hat (i16ToNat_lt n)
          have e4' := walkRecords_full hv R hrecs hshR hat
          rw [hRlen, ← i16abs_i16ToNat n g1] at e4'
          obtain ⟨e4, hat⟩ := e4'
          have e5' := walkChannels_full (c0 :: css0).flatten
            (fun c hc => by
              obtain ⟨cs, hcs, hc'⟩ := List.mem_flatten.mp hc
              exact hch cs hcs c hc') hat
          rw [← hdecl] at e5'
          obtain ⟨e5, _⟩ := e5'
          have c1 : p + lenW v + 2 + (listT (LayerRecord.encT v) R).length +
              (listT ChannelData.encT (c0 :: css0).flatten).length ≤ p + lenW v + body.length := by omega
          have c2 : p + lenW v + body.length < p + lenW v + 2 + (listT (LayerRecord.encT v) R).length +
              (listT ChannelData.encT (c0 :: css0).flatten).length + 4 := by omega
          simp only [walkLayerInfo, bind, Except.bind, e1, e2, if_neg hne, e3, e4, e5, check_eq, decide_eq_true_eq,
            if_pos c1, if_pos c2, lenBlockT_simple, List.length_append, length_beBytes, regionsOf_cons, regionsOf_append]
          rw [hlw]
          simp only [List.cons_append, Nat.add_assoc]

end PsdVerif.Walker
