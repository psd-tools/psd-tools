/-
Layer-tree model: refused operations leave the tree unchanged.
`Ref s r`: if the result `r` is an exception other than RecursionError, the state of `r` has the
same tree as `s` (caches may have been filled by the formatting of the message).
-/
import PsdVerif.Lemmas.TreeStep2

namespace PsdVerif.TreeSt

/-! ### the only exception a traversal can raise is RecursionError -/

theorem descList_err {s : State} (r : Id → Except Err (List Id))
    (hr : ∀ c e, r c = .error e → e = .recursionError) (l : List Id) (e : Err)
    (h : descList r s l = .error e) : e = .recursionError := by
  induction l with
  | nil => simp [descList] at h
  | cons c cs ih =>
    simp only [descList] at h
    split at h
    · rename_i e' he'
      cases h
      split at he'
      · exact hr c _ he'
      · cases he'
    · split at h
      · rename_i e' he'; cases h; exact ih he'
      · cases h

theorem descF_err {s : State} (f : Nat) (g : Id) (e : Err) (h : descF s f g = .error e) : e = .recursionError := by
  induction f generalizing g e with
  | zero => simp only [descF] at h; cases h; rfl
  | succ f ih =>
    simp only [descF] at h
    exact descList_err (descF s f) (fun c e' h' => ih c e' h') _ e h

theorem desc_err {s : State} {g : Id} {e : Err} (h : desc s g = .error e) : e = .recursionError := descF_err _ g e h

theorem isVisF_err {s : State} (f : Nat) (x : Id) (e : Err) (h : isVisF s f x = .error e) : e = .recursionError := by
  induction f generalizing x with
  | zero => simp only [isVisF] at h; cases h; rfl
  | succ f ih =>
    simp only [isVisF] at h
    split at h
    · cases h
    · split at h
      · cases h
      · split at h
        · cases h
        · exact ih _ h

theorem extList_err {s : State} (r : Id → Except Err BBox) (hr : ∀ c e, r c = .error e → e = .recursionError)
    (l : List Id) (e : Err) (h : extList r s l = .error e) : e = .recursionError := by
  induction l with
  | nil => simp [extList] at h
  | cons c cs ih =>
    simp only [extList] at h
    split at h
    · rename_i e' he'; cases h; exact isVisF_err _ _ _ he'
    · exact ih h
    · split at h
      · rename_i e' he'
        cases h
        split at he'
        · exact hr c _ he'
        · cases he'
      · split at h
        · rename_i e' he'; cases h; exact ih he'
        · cases h

theorem extF_err {s : State} (f : Nat) (g : Id) (e : Err) (h : extF s f g = .error e) : e = .recursionError := by
  induction f generalizing g e with
  | zero => simp only [extF] at h; cases h; rfl
  | succ f ih =>
    simp only [extF] at h
    split at h
    · rename_i e' he'; cases h
      exact extList_err (extF s f) (fun c e'' h' => ih c e'' h') _ _ he'
    · cases h

theorem readCache_err {s : State} {x : Id} {e : Err} (h : (readCache s x).2 = .error e) : e = .recursionError := by
  unfold readCache at h
  split at h
  · cases h
  · split at h
    · cases h
    · split at h
      · rename_i e' he'; cases h; exact extF_err _ _ _ he'
      · cases h

theorem obsBbox_err {s : State} {x : Id} {e : Err} (h : (obsBbox s x).2 = .error e) : e = .recursionError := by
  unfold obsBbox at h
  split at h
  · cases h
  · split at h
    · rename_i s1 e' he'
      cases h
      have := readCache_err (s := s) (x := x) (e := e) (by rw [he'])
      exact this
    · cases h

theorem reprAll_err {s : State} (l : List Id) {e : Err} (h : (reprAll s l).2 = some e) : e = .recursionError := by
  induction l generalizing s with
  | nil => simp [reprAll] at h
  | cons x xs ih =>
    simp only [reprAll] at h
    split at h
    · exact ih h
    · split at h
      · rename_i s1 e' he'
        cases h
        exact obsBbox_err (s := s) (x := x) (by rw [he'])
      · exact ih h

theorem refuse_out {s : State} {r : Err × List Id} {e : Err} (h : (refuse s r).2 = .error e) :
    e = r.1 ∨ e = .recursionError := by
  unfold refuse at h
  split at h
  · cases h; exact .inl rfl
  · rename_i s1 e' he'
    cases h
    exact .inr (reprAll_err r.2 (by rw [he']))

theorem warnRepr_err {s : State} {x : Id} {e : Err} (h : (warnRepr s x).2 = .error e) : e = .recursionError := by
  unfold warnRepr at h
  split at h
  · cases h
  · rename_i s1 e' he'
    cases h
    exact reprAll_err [x] (by rw [he'])

/-- a check that fails although the arguments are layers, differ from the container and do not
contain it, can only have hit the recursion limit -/
theorem checkValid_fails_only_rec {cfg : Cfg} {s : State} {g : Id} (hc : ∀ c, s.children c ≠ [] → s.cont c = true)
    (xs : List Id) (hall : ∀ x, x ∈ xs → s.isLayer x = true ∧ x ≠ g ∧ ¬ Reach s x g) (e : Err) (ids : List Id)
    (h : checkValid cfg s g xs = some (e, ids)) : e = .recursionError ∧ ids = [] := by
  induction xs with
  | nil => simp [checkValid] at h
  | cons a as ih =>
    have ha := hall a (List.mem_cons_self ..)
    have ih' := ih (fun x hx => hall x (List.mem_cons_of_mem _ hx))
    simp only [checkValid, ha.1, Bool.not_true, Bool.false_eq_true, if_false] at h
    have hne : ¬ (cfg.itemSelfCheck && a == g) = true := by
      intro hself
      simp only [Bool.and_eq_true, beq_iff_eq] at hself
      exact ha.2.1 hself.2
    rw [if_neg hne] at h
    by_cases hcont : s.cont a = true
    · rw [if_pos hcont] at h
      cases hds : desc s a with
      | error e' =>
        rw [hds] at h
        cases h
        exact ⟨desc_err hds, rfl⟩
      | ok ds =>
        rw [hds] at h
        have hmem : g ∉ ds := fun hmem => ha.2.2 ((mem_desc_iff hc hds g).mp hmem)
        simp only [hmem, if_false] at h
        exact ih' h
    · rw [if_neg hcont] at h
      exact ih' h

theorem finishInsert_err {cfg : Cfg} {s : State} {g : Id} {o : Out} {e : Err}
    (h : (finishInsert cfg s g o).2 = .error e) (ho : o.isError = false) : e = .recursionError := by
  unfold finishInsert at h
  split at h
  · cases h; rfl
  · simp only at h
    rw [h] at ho
    cases ho

/-- refused ⇒ unchanged: if `r` is an exception other than RecursionError, its state has the tree of `s` -/
def Ref (s : State) (r : State × Out) : Prop := ∀ e, r.2 = .error e → e ≠ .recursionError → SameTree s r.1

theorem Ref.same {s : State} {r : State × Out} (h : SameTree s r.1) : Ref s r := fun _ _ _ => h

theorem Ref.of_not_error {s : State} {r : State × Out} (h : r.2.isError = false) : Ref s r := by
  intro e he _
  rw [he] at h
  cases h

theorem Ref.of_only_rec {s : State} {r : State × Out} (h : ∀ e, r.2 = .error e → e = .recursionError) : Ref s r :=
  fun e he hne => absurd (h e he) hne

/-- a refused method of `GroupMixin` has changed nothing: once the list is changed, only the traversal of
`_update_layer_metadata` can fail -/
theorem method_ref (cfg : Cfg) (s : State) {op : Op} {g : Id} (ht : op.target = some g) : Ref s (step cfg s op) := by
  rcases step_method_cases cfg s ht with d | ⟨-, ⟨l', -, -, e⟩ | ⟨l', o, -, ho, e⟩⟩
  · exact Ref.same d.same
  · rw [e]; exact Ref.of_only_rec fun _ he => finishInsert_err he rfl
  · rw [e]; exact Ref.of_not_error ho

/-! ### operations that mutate before a second check: the second check cannot refuse -/

theorem refuse_checked {cfg : Cfg} {s : State} (i : Inv s) {g x : Id} (hl : s.isLayer x = true) (hxg : x ≠ g)
    (hnr : ¬ Reach s x g) {r : Err × List Id} (hr : checkValid cfg s g [x] = some r) {e : Err}
    (h : (refuse s r).2 = .error e) : e = .recursionError := by
  obtain ⟨e', ids⟩ := r
  obtain ⟨h1, h2⟩ := checkValid_fails_only_rec i.contOnly [x]
    (forall_mem_single ⟨hl, hxg, hnr⟩) e' ids hr
  subst h1 h2
  exact (refuse_out h).elim id id

theorem opAppend_only_rec {cfg : Cfg} {s : State} (i : Inv s) {g x : Id} (hl : s.isLayer x = true) (hxg : x ≠ g)
    (hnr : ¬ Reach s x g) (e : Err) (h : (opAppend cfg s g x).2 = .error e) : e = .recursionError := by
  unfold opAppend opExtend at h
  rw [if_neg hxg] at h
  split at h
  · rename_i r hr
    exact refuse_checked i hl hxg hnr hr h
  · exact finishInsert_err h rfl

theorem opInsert_only_rec {cfg : Cfg} {s : State} (i : Inv s) {g x : Id} (k : Int) (hl : s.isLayer x = true)
    (hxg : x ≠ g) (hnr : ¬ Reach s x g) (e : Err) (h : (opInsert cfg s g k x).2 = .error e) :
    e = .recursionError := by
  unfold opInsert checkSingle at h
  rw [if_neg hxg] at h
  split at h
  · rename_i r hr
    exact refuse_checked i hl hxg hnr hr h
  · exact finishInsert_err h rfl

theorem reach_of_adds_nil {s s' : State} {g : Id} (h : Adds s s' g []) {a b : Id} (r : Reach s' a b) : Reach s a b :=
  Reach.mono (fun _ _ hy => h.subset hy (fun hh => nomatch hh.2)) r

/-- `move_to_group` after its checks: detaching cannot fail, and the append is not refused -/
theorem move_only_rec {cfg : Cfg} {s : State} (i : Inv s) {x g : Id} (hl : s.isLayer x = true) (hne : g ≠ x)
    (hnr : ¬ Reach s x g) (e : Err)
    (h : (andThen (leaveParent cfg s x) (fun s' => opAppend cfg s' g x) (.id x)).2 = .error e) : e = .recursionError := by
  refine opAppend_only_rec (inv_leaveParent i x) ?_ (Ne.symm hne) ?_ e
    (andThen_error (leaveParent_not_error cfg s x) rfl h)
  · rw [(leaveParent_grows cfg s x g []).frame.isLayer]; exact hl
  · exact fun r => hnr (reach_of_adds_nil (leaveParent_grows cfg s x g []).adds r)

theorem opMoveToGroup_only_rec {cfg : Cfg} {s : State} (i : Inv s) {x g : Id} (hl : s.isLayer x = true)
    (hg : s.isGroup g = true) (hne : g ≠ x) (hnr : ¬ Reach s x g) (e : Err)
    (h : (opMoveToGroup cfg s x g).2 = .error e) : e = .recursionError := by
  unfold opMoveToGroup at h
  simp only [hl, hg, Bool.not_true, Bool.false_eq_true, if_false, hne] at h
  cases hd : (if s.cont x = true then desc s x else Except.ok []) with
  | error e' =>
    simp only [hd] at h
    cases h
    split at hd
    · exact desc_err hd
    · cases hd
  | ok ds =>
    simp only [hd] at h
    have hmem : g ∉ ds := by
      intro hm
      apply hnr
      split at hd
      · exact (mem_desc_iff i.contOnly hd g).mp hm
      · cases hd; cases hm
    rw [if_neg hmem] at h
    exact move_only_rec i hl hne hnr e h

theorem opMoveToGroup_ref {cfg : Cfg} {s : State} (i : Inv s) (x g : Id) : Ref s (opMoveToGroup cfg s x g) := by
  rcases opMoveToGroup_cases cfg s x g with d | ⟨hl, -, hne, ⟨ds, hd, hmem⟩, e⟩
  · exact Ref.same d.same
  · rw [e]
    exact Ref.of_only_rec (move_only_rec i hl hne (not_reach_of_checked i.contOnly hd hmem))

theorem opMoveUp_ref {cfg : Cfg} {s : State} (i : Inv s) (x : Id) (k : Int) : Ref s (opMoveUp cfg s x k) := by
  rcases opMoveUp_cases cfg s x k with d | ⟨p, hl, -, -, hx, e⟩
  · exact Ref.same d.same
  · rw [e]
    apply Ref.of_only_rec
    intro e' he'
    refine opInsert_only_rec (inv_opRemove i p x) _ ?_ (i.not_self hx) ?_ e'
      (andThen_error (opRemove_not_error_of_mem cfg s p x hx) rfl he')
    · rw [(opRemove_grows cfg s p x p []).frame.isLayer]; exact hl
    · exact fun r => i.no_cycle p (.step hx (reach_of_adds_nil (opRemove_grows cfg s p x p []).adds r))

theorem opDeleteLayer_ref {cfg : Cfg} {s : State} (x : Id) : Ref s (opDeleteLayer cfg s x) := by
  rcases opDeleteLayer_cases cfg s x with d | e | ⟨p, -, e⟩
  · exact Ref.same d.same
  · rw [e]; exact Ref.of_only_rec (fun e he => warnRepr_err he)
  · rw [e]; exact Ref.of_not_error rfl

theorem opNewGroup_ref {cfg : Cfg} {s : State} (i : Inv s) (p : Option Id) : Ref s (opNewGroup cfg s p) := by
  unfold opNewGroup
  cases p with
  | none => exact Ref.of_not_error rfl
  | some p =>
    simp only
    split
    · rename_i hg
      apply Ref.of_only_rec
      intro e he
      refine opMoveToGroup_only_rec (inv_alloc i .group none BBox.zero) ?_ (alloc_isGroup hg _ _ _)
        (Nat.ne_of_lt (isGroup_iff.mp hg).1) (fun r => r.children_ne ?_) e
        (andThen_error (r1 := (alloc s .group none BBox.zero, Out.none))
          (k := fun s' => opMoveToGroup cfg s' s.next p) (o := .id s.next) rfl rfl he)
      · simp [State.isLayer, State.live, alloc, upd]
      · simp [alloc, upd]
    · exact Ref.of_not_error rfl

/-! ### `group_layers`: after the validation nothing can be refused -/

/-- a path that does not start at a node listed nowhere does not use the memberships added to it -/
theorem reach_old_of_adds {s s' : State} {n : Id} {xs : List Id} (hadd : Adds s s' n xs) (hdet : Detached s' n)
    {a b : Id} (r : Reach s' a b) (ha : a ≠ n) : Reach s a b := by
  induction r with
  | edge hx => exact .edge (hadd.subset hx (fun hh => ha hh.1))
  | @step c x y hx _ ih =>
    have hxn : x ≠ n := by
      intro e; subst e; exact hdet c hx
    exact .step (hadd.subset hx (fun hh => ha hh.1)) (ih hxn)

theorem moveAll_only_rec {cfg : Cfg} (n : Id) (s : State) (i : Inv s) (xs : List Id)
    (hn : s.isGroup n = true) (hdet : Detached s n) (hall : ∀ x, x ∈ xs → s.isLayer x = true ∧ x ≠ n)
    (hself : cfg.itemSelfCheck = true) (e : Err)
    (h : (moveAll cfg n s xs).2 = .error e) : e = .recursionError := by
  induction xs generalizing s with
  | nil => simp [moveAll] at h
  | cons x xs ih =>
    simp only [moveAll] at h
    have hx := hall x (List.mem_cons_self ..)
    have hnr : ¬ Reach s x n := by
      intro r
      obtain ⟨c, hc, _⟩ := r.last
      exact hdet c hc
    have hmv := opMoveToGroup_only_rec (cfg := cfg) i hx.1 hn (Ne.symm hx.2) hnr
    split at h
    · exact hmv e h
    · rename_i hok
      have i1 := (Kept.ofInv hself).keeps_moveToGroup i x n (ne_rec_of_not_isError hok)
      have hf := (opMoveToGroup_grows cfg s x n).frame
      refine ih _ i1 (by rw [hf.isGroup]; exact hn) ?_ ?_ h
      · intro c hc
        rcases (opMoveToGroup_grows cfg s x n).adds c n hc with h' | h'
        · exact hdet c h'
        · exact hx.2 (List.mem_singleton.mp h'.2).symm
      · intro y hy
        have := hall y (List.mem_cons_of_mem _ hy)
        exact ⟨by rw [hf.isLayer]; exact this.1, this.2⟩

theorem glBody_only_rec {cfg : Cfg} {s : State} (i : Inv s) (hself : cfg.itemSelfCheck = true) (par : Option Id)
    (xs : List Id) (hall : ∀ x, x ∈ xs → s.isLayer x = true)
    (hpar : ∀ q, par = some q → s.isGroup q = true → ∀ x, x ∈ xs → x ≠ q ∧ ¬ Reach s x q) (e : Err)
    (h : (glBody cfg s par xs).2 = .error e) : e = .recursionError := by
  rw [glBody_eq] at h
  have i1 := inv_alloc i .group none BBox.zero
  have hall1 : ∀ x, x ∈ xs → (alloc s .group none BBox.zero).isLayer x = true ∧ x ≠ s.next :=
    fun x hx => alloc_isLayer (hall x hx) _ _ _
  have hmv := moveAll_only_rec (cfg := cfg) s.next _ i1 xs
    (by simp [State.isGroup, State.live, State.cont, alloc, upd, isCont]) (alloc_detached i _ _ _) hall1 hself
  by_cases hok : (moveAll cfg s.next (alloc s .group none BBox.zero) xs).2.isError = true
  · unfold andThen at h
    rw [if_pos hok] at h
    exact hmv e h
  · have h2 := andThen_error (by simpa using hok) rfl h
    have i2 := (Kept.ofInv hself).keeps_moveAll s.next i1 xs (ne_rec_of_not_isError hok)
    have hadd := (moveAll_grows cfg s.next (alloc s .group none BBox.zero) xs).adds
    have hdet := moveAll_new_detached (cfg := cfg) i hall
    cases par with
    | none => cases h2
    | some q =>
      simp only at h2
      split at h2
      · rename_i hq
        have hchk := hpar q rfl hq
        -- the new group is a layer of the final state, differs from the parent, and does not contain it
        have hnr : ¬ Reach (moveAll cfg s.next (alloc s .group none BBox.zero) xs).1 s.next q := by
          intro r
          obtain ⟨y, hy, hyq⟩ := reach_iff_head.mp r
          have hyxs : y ∈ xs := by
            rcases hadd _ _ hy with h' | h'
            · simp [alloc, upd] at h'
            · exact h'.2
          -- below `y` only old memberships are used
          have hold : ∀ b, Reach (moveAll cfg s.next (alloc s .group none BBox.zero) xs).1 y b → Reach s y b := by
            intro b rb
            refine Reach.mono ?_ (reach_old_of_adds hadd hdet rb (hall1 y hyxs).2)
            intro c z hz
            simp only [alloc, upd] at hz
            split at hz
            · cases hz
            · exact hz
          rcases hyq with e' | r'
          · exact (hchk y hyxs).1 e'.symm
          · exact (hchk y hyxs).2 (hold q r')
        refine opAppend_only_rec i2 ?_ (Ne.symm (Nat.ne_of_lt (isGroup_iff.mp hq).1)) hnr e h2
        rw [(moveAll_grows cfg s.next _ xs).frame.isLayer]
        simp [State.isLayer, State.live, alloc, upd]
      · cases h2

theorem glPre_none_checks {cfg : Cfg} {s : State} (i : Inv s) {par : Option Id} {xs : List Id}
    (hpre : cfg.groupLayersPrecheck = true) (hself : cfg.itemSelfCheck = true) (h : glPre cfg s par xs = none) :
    ∀ q, par = some q → s.isGroup q = true → ∀ x, x ∈ xs → x ≠ q ∧ ¬ Reach s x q := by
  intro q hq hg x hx
  unfold glPre at h
  rw [if_pos hpre] at h
  split at h
  · cases h
  · subst hq
    simp only [hg, if_true] at h
    exact (checkValid_none i.contOnly hself xs h x hx).2

theorem opGroupLayers_ref {cfg : Cfg} {s : State} (i : Inv s) (hself : cfg.itemSelfCheck = true)
    (hpre : cfg.groupLayersPrecheck = true) (xs : List Id) (p : Option Id) : Ref s (opGroupLayers cfg s xs p) := by
  unfold opGroupLayers
  cases xs with
  | nil => exact Ref.same (SameTree.refl s)
  | cons x0 rest =>
    simp only
    split
    · exact Ref.same (SameTree.refl s)
    · cases hp : glPre cfg s (glParent cfg s p x0) (x0 :: rest) with
      | some r => exact Ref.same (refuse_same s _)
      | none =>
        exact Ref.of_only_rec (fun e he => glBody_only_rec i hself _ _ (glPre_none_layers hpre hp)
          (glPre_none_checks i hpre hself hp) e he)

theorem opSetVisible_ref (cfg : Cfg) (s : State) (x : Id) (v : Bool) : Ref s (opSetVisible cfg s x v) := by
  unfold opSetVisible
  split
  · exact Ref.same (SameTree.refl s)
  · simp only
    split
    · split
      · exact Ref.same (invUp_same cfg s x)
      · exact Ref.of_not_error rfl
    · exact Ref.of_not_error rfl

theorem opSetOffset_ref (cfg : Cfg) (s : State) (x : Id) (h : Bool) (v : Int) : Ref s (opSetOffset cfg s x h v) := by
  unfold opSetOffset
  split
  · exact Ref.same (SameTree.refl s)
  · exact Ref.of_not_error rfl
/-- **Refused ⇒ unchanged**, for the code with the two validation repairs (cec89fb, 09c40bc). -/
theorem step_refused {cfg : Cfg} (hself : cfg.itemSelfCheck = true) (hpre : cfg.groupLayersPrecheck = true)
    {s : State} (i : Inv s) (op : Op) : Ref s (step cfg s op) := by
  intro e h hne
  revert h
  cases op with
  | append g x => exact fun h => method_ref _ s rfl e h hne
  | extend g xs => exact fun h => method_ref _ s rfl e h hne
  | insert g k x => exact fun h => method_ref _ s rfl e h hne
  | remove g x => exact fun h => method_ref _ s rfl e h hne
  | pop g k => exact fun h => method_ref _ s rfl e h hne
  | clear g => exact fun h => method_ref _ s rfl e h hne
  | setitem g k x => exact fun h => method_ref _ s rfl e h hne
  | setslice g a b xs => exact fun h => method_ref _ s rfl e h hne
  | delitem g k => exact fun h => method_ref _ s rfl e h hne
  | delslice g a b => exact fun h => method_ref _ s rfl e h hne
  | deleteLayer x => exact fun h => opDeleteLayer_ref x e h hne
  | moveToGroup x g => exact fun h => opMoveToGroup_ref i x g e h hne
  | moveUp x k => exact fun h => opMoveUp_ref i x k e h hne
  | moveDown x k => exact fun h => opMoveUp_ref i x (-k) e h hne
  | newGroup p => exact fun h => opNewGroup_ref i p e h hne
  | groupLayers xs p => exact fun h => opGroupLayers_ref i hself hpre xs p e h hne
  | newLayer p bx => exact fun h => nomatch h
  | newDoc bx => exact fun h => nomatch h
  | setVisible x v => exact fun h => opSetVisible_ref _ s x v e h hne
  | setLeft x v => exact fun h => opSetOffset_ref _ s x true v e h hne
  | setTop x v => exact fun h => opSetOffset_ref _ s x false v e h hne
  | setAttr x =>
    simp only [step, Op.target]
    split <;> exact fun _ => SameTree.refl s
  | setBlocks x ks =>
    simp only [step, Op.target]
    split
    · exact fun _ => SameTree.refl s
    · exact fun _ => sameTree_blocks s _
  | observe o => exact fun _ => observe_same s o

end PsdVerif.TreeSt
