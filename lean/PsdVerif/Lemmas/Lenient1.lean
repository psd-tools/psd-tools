/-
C02 — what the lenient reader can return: inversion lemmas for the primitives of `Model/Codec.lean`.

`X_ok : X … d p = .ok (v, p') → facts about v` — every field read from `w` bytes fits `w` bytes, every
byte string read behind a `w`-byte length is shorter than `256 ^ w`, every list read by a count has that
many items, and the items of the loops are results of the item reader; `rets_X` states the same facts in the `Rets` form
of Lemmas/Rets.lean.
-/
import PsdVerif.Model.Codec
import PsdVerif.Lemmas.Rets

namespace PsdVerif.Codec

theorem beVal_foldl_lt (bs : B) (acc k : Nat) (h : acc < 256 ^ k) :
    bs.foldl (fun a b => a * 256 + b.toNat) acc < 256 ^ (k + bs.length) := by
  induction bs generalizing acc k with
  | nil => simpa using h
  | cons b bs ih =>
    simp only [List.foldl_cons, List.length_cons]
    have hb : b.toNat < 256 := UInt8.toNat_lt b
    have h' : acc * 256 + b.toNat < 256 ^ (k + 1) := by
      rw [Nat.pow_succ]
      have : (acc + 1) * 256 ≤ 256 ^ k * 256 := Nat.mul_le_mul_right 256 h
      omega
    have := ih (acc * 256 + b.toNat) (k + 1) h'
    have e : k + 1 + bs.length = k + (bs.length + 1) := by omega
    rw [e] at this
    exact this

theorem beVal_lt (bs : B) : beVal bs < 256 ^ bs.length := by
  have := beVal_foldl_lt bs 0 0 (by decide)
  simpa [beVal] using this

theorem readN_ok {n : Nat} {d : B} {p : Nat} {x : B} {p' : Nat} (h : readN n d p = .ok (x, p')) :
    x.length = n ∧ p' = p + n ∧ p + n ≤ d.length := by
  unfold readN at h
  split at h
  · rename_i hle
    cases h
    refine ⟨?_, rfl, hle⟩
    simp only [List.length_take, List.length_drop]; omega
  · cases h

/-- `fp.read(n)` returns at most `n` bytes and nothing that is not in the stream -/
theorem readUpTo_ok {n : Nat} {d : B} {p : Nat} {x : B} {p' : Nat} (h : readUpTo n d p = .ok (x, p')) :
    x.length ≤ n ∧ p' = p + x.length ∧ x.length ≤ d.length - p ∧ x.length = min n (d.length - p) := by
  unfold readUpTo at h
  cases h
  refine ⟨?_, rfl, ?_, ?_⟩ <;> simp only [List.length_take, List.length_drop] <;> omega

theorem readAll_ok {d : B} {p : Nat} {x : B} {p' : Nat} (h : readAll d p = .ok (x, p')) :
    p' = p + x.length ∧ x.length = d.length - p := by
  unfold readAll at h
  cases h
  exact ⟨rfl, by simp only [List.length_drop]⟩

theorem readU_ok {w : Nat} {d : B} {p n p' : Nat} (h : readU w d p = .ok (n, p')) :
    n < 256 ^ w ∧ p' = p + w ∧ p + w ≤ d.length := by
  unfold readU at h
  split at h
  · rename_i bs q hq
    obtain ⟨h1, h2, h3⟩ := readN_ok hq
    cases h
    refine ⟨?_, h2, h3⟩
    have := beVal_lt bs
    rwa [h1] at this
  · cases h

theorem natToI16_fits (n : Nat) (h : n < 256 ^ 2) : FitsI16 (natToI16 n) := by
  unfold FitsI16 natToI16
  have : (256 : Nat) ^ 2 = 65536 := by decide
  split <;> omega

theorem natToI32_fits (n : Nat) (h : n < 256 ^ 4) : FitsI32 (natToI32 n) := by
  unfold FitsI32 natToI32
  have : (256 : Nat) ^ 4 = 4294967296 := by decide
  split <;> omega

theorem readI16_ok {d : B} {p : Nat} {z : Int} {p' : Nat} (h : readI16 d p = .ok (z, p')) :
    FitsI16 z ∧ p' = p + 2 ∧ p + 2 ≤ d.length := by
  unfold readI16 at h
  split at h
  · rename_i n q hq
    obtain ⟨h1, h2, h3⟩ := readU_ok hq
    cases h
    exact ⟨natToI16_fits n h1, h2, h3⟩
  · cases h

theorem readI32_ok {d : B} {p : Nat} {z : Int} {p' : Nat} (h : readI32 d p = .ok (z, p')) :
    FitsI32 z ∧ p' = p + 4 ∧ p + 4 ≤ d.length := by
  unfold readI32 at h
  split at h
  · rename_i n q hq
    obtain ⟨h1, h2, h3⟩ := readU_ok hq
    cases h
    exact ⟨natToI32_fits n h1, h2, h3⟩
  · cases h

/-! ### length blocks and pascal strings: the length read from `w` bytes is the length of what was read -/

theorem readLenBlock_ok {skip w pad : Nat} {d : B} {p : Nat} {x : B} {p' : Nat}
    (h : readLenBlock skip w pad d p = .ok (x, p')) : x.length < 256 ^ w := by
  unfold readLenBlock at h
  split at h
  · cases h
  · rename_i _ p0 _
    split at h
    · cases h
    · rename_i n p1 hn
      split at h
      · cases h
      · split at h
        · cases h
        · rename_i y p2 hy
          split at h
          · cases h
          · rename_i hlen
            split at h
            · cases h
            · cases h
              have hlen' : x.length = n := by simpa using hlen
              rw [hlen']
              exact (readU_ok hn).1

theorem readPascal_ok {pad : Nat} {d : B} {p : Nat} {x : B} {p' : Nat}
    (h : readPascal pad d p = .ok (x, p')) : x.length < 256 := by
  unfold readPascal at h
  split at h
  · cases h
  · rename_i n p1 hn
    split at h
    · cases h
    · rename_i y p2 hy
      split at h
      · cases h
      · rename_i hlen
        split at h
        · cases h
        · cases h
          have hlen' : x.length = n := by simpa using hlen
          rw [hlen']
          have := (readU_ok hn).1
          simpa using this

/-- the items of a successful run of a loop are results of the item reader -/
def FromItem {α : Type} (item : R α) (d : B) (x : α) : Prop := ∃ q q', item d q = .ok (x, q')

theorem readCount_ok {α : Type} {item : R α} {n : Nat} {d : B} {p : Nat} {xs : List α} {p' : Nat}
    (h : readCount item n d p = .ok (xs, p')) : xs.length = n ∧ ∀ x ∈ xs, FromItem item d x := by
  induction n generalizing p xs p' with
  | zero => simp only [readCount] at h; cases h; exact ⟨rfl, by intro x hx; cases hx⟩
  | succ n ih =>
    simp only [readCount] at h
    split at h
    · cases h
    · rename_i a p1 ha
      split at h
      · cases h
      · rename_i as p2 has
        cases h
        obtain ⟨h1, h2⟩ := ih has
        refine ⟨by simp [h1], ?_⟩
        intro x hx
        rcases List.mem_cons.1 hx with rfl | hx
        · exact ⟨p, p1, ha⟩
        · exact h2 x hx

theorem readCount_all {α : Type} {item : R α} {P : α → Prop} (hP : ∀ {d q x q'}, item d q = .ok (x, q') → P x)
    {n : Nat} {d : B} {p : Nat} {xs : List α} {p' : Nat} (h : readCount item n d p = .ok (xs, p')) :
    xs.length = n ∧ ∀ x ∈ xs, P x := by
  obtain ⟨hl, hi⟩ := readCount_ok h
  exact ⟨hl, fun x hx => let ⟨_, _, hq⟩ := hi x hx; hP hq⟩

theorem readFor_ok {α β : Type} {item : β → R α} {ys : List β} {d : B} {p : Nat} {xs : List α} {p' : Nat}
    (h : readFor item ys d p = .ok (xs, p')) :
    xs.length = ys.length ∧ ∀ y x, (y, x) ∈ ys.zip xs → FromItem (item y) d x := by
  induction ys generalizing p xs p' with
  | nil => simp only [readFor] at h; cases h; exact ⟨rfl, by intro y x hm; simp at hm⟩
  | cons y ys ih =>
    simp only [readFor] at h
    split at h
    · cases h
    · rename_i a p1 ha
      split at h
      · cases h
      · rename_i as p2 has
        cases h
        obtain ⟨h1, h2⟩ := ih has
        refine ⟨by simp [h1], ?_⟩
        intro y' x' hm
        simp only [List.zip_cons_cons, List.mem_cons, Prod.mk.injEq] at hm
        rcases hm with ⟨rfl, rfl⟩ | hm
        · exact ⟨p, p1, ha⟩
        · exact h2 y' x' hm

theorem readWhileFuel_ok {α : Type} {cond : B → Nat → Bool} {item : R (Option α)} {fuel : Nat} {d : B} {p : Nat}
    {xs : List α} {p' : Nat} (h : readWhileFuel cond item fuel d p = .ok (xs, p')) :
    ∀ x ∈ xs, ∃ q q', cond d q = true ∧ item d q = .ok (some x, q') := by
  induction fuel generalizing p xs p' with
  | zero => simp only [readWhileFuel] at h; cases h
  | succ fuel ih =>
    simp only [readWhileFuel] at h
    split at h
    · rename_i hc
      split at h
      · cases h
      · cases h; intro x hx; cases hx
      · rename_i a p1 ha
        split at h
        · cases h
        · rename_i as p2 has
          cases h
          intro x hx
          rcases List.mem_cons.1 hx with rfl | hx
          · exact ⟨p, p1, hc, ha⟩
          · exact ih has x hx
    · cases h; intro x hx; cases hx

theorem readWhile_ok {α : Type} {cond : B → Nat → Bool} {item : R (Option α)} {d : B} {p : Nat}
    {xs : List α} {p' : Nat} (h : readWhile cond item d p = .ok (xs, p')) :
    ∀ x ∈ xs, ∃ q q', cond d q = true ∧ item d q = .ok (some x, q') :=
  readWhileFuel_ok h

theorem optItem_ok {α : Type} {item : R α} {d : B} {p : Nat} {o : Option α} {p' : Nat}
    (h : optItem item d p = .ok (o, p')) : ∃ a, o = some a ∧ item d p = .ok (a, p') := by
  unfold optItem at h
  split at h
  · rename_i a q hq
    cases h; exact ⟨a, rfl, hq⟩
  · cases h

theorem optItem_some {α : Type} {item : R α} {d : B} {q : Nat} {x : α} {q' : Nat}
    (h : optItem item d q = .ok (some x, q')) : item d q = .ok (x, q') := by
  obtain ⟨a, e, ha⟩ := optItem_ok h
  cases e
  exact ha

theorem readWhile_all {α : Type} {item : R α} {P : α → Prop} (hP : ∀ {d q x q'}, item d q = .ok (x, q') → P x)
    {cond : B → Nat → Bool} {d : B} {p : Nat} {xs : List α} {p' : Nat}
    (h : readWhile cond (optItem item) d p = .ok (xs, p')) : ∀ x ∈ xs, P x :=
  fun x hx => let ⟨_, _, _, hq⟩ := readWhile_ok h x hx; hP (optItem_some hq)

/-- a field that is read under a test on what was read before it -/
theorem condItem_ok {α : Type} {c : Prop} [Decidable c] {item : R α} {d : B} {p : Nat} {o : Option α} {p' : Nat}
    (h : (if c then optItem item d p else .ok (none, p)) = .ok (o, p')) :
    (c ∧ ∃ x, o = some x ∧ item d p = .ok (x, p')) ∨ (¬ c ∧ o = none) := by
  split at h
  · rename_i hc
    unfold optItem at h
    split at h
    · cases h; exact Or.inl ⟨hc, _, rfl, ‹_›⟩
    · cases h
  · cases h; exact Or.inr ⟨‹_›, rfl⟩

theorem condItem_isSome {α : Type} {c : Prop} [Decidable c] {item : R α} {d : B} {p : Nat} {o : Option α} {p' : Nat}
    (h : (if c then optItem item d p else .ok (none, p)) = .ok (o, p')) : o.isSome ↔ c := by
  rcases condItem_ok h with ⟨hc, x, rfl, _⟩ | ⟨hc, rfl⟩
  · exact ⟨fun _ => hc, fun _ => rfl⟩
  · exact ⟨fun hs => Bool.noConfusion hs, fun h => absurd h hc⟩

theorem rets_readU {w : Nat} {d : B} {p : Nat} : Rets (readU w d p) (FitsU w) := fun _ _ h => (readU_ok h).1
theorem rets_readU_inside {w : Nat} {d : B} {p : Nat} : Rets (readU w d p) (fun n => FitsU w n ∧ p + w ≤ d.length) :=
  fun _ _ h => ⟨(readU_ok h).1, (readU_ok h).2.2⟩
theorem rets_readN {n : Nat} {d : B} {p : Nat} : Rets (readN n d p) (fun b => b.length = n) := fun _ _ h => (readN_ok h).1
theorem rets_readI16 {d : B} {p : Nat} : Rets (readI16 d p) FitsI16 := fun _ _ h => (readI16_ok h).1
theorem rets_readI32 {d : B} {p : Nat} : Rets (readI32 d p) FitsI32 := fun _ _ h => (readI32_ok h).1
theorem rets_readPascal {pad : Nat} {d : B} {p : Nat} : Rets (readPascal pad d p) (fun b => b.length < 256) :=
  fun _ _ h => readPascal_ok h
theorem rets_readLenBlock {s w pad : Nat} {d : B} {p : Nat} : Rets (readLenBlock s w pad d p) (fun b => b.length < 256 ^ w) :=
  fun _ _ h => readLenBlock_ok h

theorem rets_readCount {α : Type} {item : R α} {P : α → Prop} (hP : ∀ {d q}, Rets (item d q) P) {n : Nat} {d : B} {p : Nat} :
    Rets (readCount item n d p) (fun xs => xs.length = n ∧ ∀ x ∈ xs, P x) :=
  fun _ _ h => readCount_all (fun e => hP _ _ e) h

theorem rets_readWhile {α : Type} {item : R α} {P : α → Prop} (hP : ∀ {d q}, Rets (item d q) P) {cond : B → Nat → Bool}
    {d : B} {p : Nat} : Rets (readWhile cond (optItem item) d p) (fun xs => ∀ x ∈ xs, P x) :=
  fun _ _ h => readWhile_all (fun e => hP _ _ e) h

theorem rets_condItem {α : Type} {c : Prop} [Decidable c] {item : R α} {P : α → Prop} {d : B} {p : Nat}
    (hP : Rets (item d p) P) :
    Rets (if c then optItem item d p else .ok (none, p)) (fun o => (o.isSome ↔ c) ∧ ∀ x, o = some x → P x) := by
  intro o q h
  refine ⟨condItem_isSome h, fun x hx => ?_⟩
  rcases condItem_ok h with ⟨_, y, rfl, hy⟩ | ⟨_, rfl⟩
  · cases hx; exact hP _ _ hy
  · cases hx

/-! ### ordered dictionaries: members come from the items, keys are distinct -/

theorem mem_odictInsert {κ α : Type} [DecidableEq κ] (key : α → κ) (acc : List α) (x y : α)
    (h : y ∈ odictInsert key acc x) : y ∈ acc ∨ y = x := by
  unfold odictInsert at h
  split at h
  · obtain ⟨z, hz, rfl⟩ := List.mem_map.1 h
    split
    · exact Or.inr rfl
    · exact Or.inl hz
  · rcases List.mem_append.1 h with h | h
    · exact Or.inl h
    · exact Or.inr (by simpa using h)

theorem map_key_odictInsert {κ α : Type} [DecidableEq κ] (key : α → κ) (acc : List α) (x : α) :
    (odictInsert key acc x).map key =
      if acc.any (fun y => key y = key x) then acc.map key else acc.map key ++ [key x] := by
  unfold odictInsert
  split
  · rw [List.map_map]
    apply List.map_congr_left
    intro y _
    simp only [Function.comp]
    split
    · rename_i e; exact e.symm
    · rfl
  · simp

theorem nodup_odictInsert {κ α : Type} [DecidableEq κ] (key : α → κ) (acc : List α) (x : α)
    (h : (acc.map key).Nodup) : ((odictInsert key acc x).map key).Nodup := by
  rw [map_key_odictInsert]
  split
  · exact h
  · rename_i hany
    rw [List.nodup_append]
    refine ⟨h, by simp, ?_⟩
    intro a ha b hb
    have hb' : b = key x := by simpa using hb
    subst hb'
    obtain ⟨y, hy, rfl⟩ := List.mem_map.1 ha
    intro e
    apply hany
    rw [List.any_eq_true]
    exact ⟨y, hy, by simpa using e⟩

theorem odict_foldl_spec {κ α : Type} [DecidableEq κ] (key : α → κ) (items acc : List α)
    (h : (acc.map key).Nodup) :
    ((items.foldl (odictInsert key) acc).map key).Nodup ∧
      ∀ y ∈ items.foldl (odictInsert key) acc, y ∈ acc ∨ y ∈ items := by
  induction items generalizing acc with
  | nil => exact ⟨h, fun y hy => Or.inl hy⟩
  | cons x xs ih =>
    simp only [List.foldl_cons]
    obtain ⟨h1, h2⟩ := ih (odictInsert key acc x) (nodup_odictInsert key acc x h)
    refine ⟨h1, ?_⟩
    intro y hy
    rcases h2 y hy with h3 | h3
    · rcases mem_odictInsert key acc x y h3 with h4 | h4
      · exact Or.inl h4
      · exact Or.inr (by simp [h4])
    · exact Or.inr (by simp [h3])

theorem nodup_odict {κ α : Type} [DecidableEq κ] (key : α → κ) (items : List α) :
    ((odict key items).map key).Nodup :=
  (odict_foldl_spec key items [] (by simp)).1

theorem mem_odict {κ α : Type} [DecidableEq κ] (key : α → κ) (items : List α) (y : α) (h : y ∈ odict key items) :
    y ∈ items := by
  rcases (odict_foldl_spec key items [] (by simp)).2 y h with h | h
  · cases h
  · exact h

theorem length_odictInsert_le {κ α : Type} [DecidableEq κ] (key : α → κ) (acc : List α) (x : α) :
    (odictInsert key acc x).length ≤ acc.length + 1 := by
  unfold odictInsert
  split
  · simp only [List.length_map]; omega
  · simp only [List.length_append, List.length_cons, List.length_nil]; omega

theorem length_odict_fold_le {κ α : Type} [DecidableEq κ] (key : α → κ) (items acc : List α) :
    (items.foldl (odictInsert key) acc).length ≤ acc.length + items.length := by
  induction items generalizing acc with
  | nil => simp
  | cons x xs ih =>
    simp only [List.foldl_cons, List.length_cons]
    have := ih (odictInsert key acc x)
    have := length_odictInsert_le key acc x
    omega

theorem length_odict_le {κ α : Type} [DecidableEq κ] (key : α → κ) (items : List α) : (odict key items).length ≤ items.length := by
  have := length_odict_fold_le key items []
  simpa [odict] using this

end PsdVerif.Codec
