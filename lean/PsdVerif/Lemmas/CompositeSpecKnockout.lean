/-
C11: the one rule that is a parameter of the published model (`KoRule`) — the group alpha after a
knockout element. Trees without knockout flags do not use it (so the code refines the model with either rule
on them); the exact excess of the coded alpha (`pdf17`) over the `alphaCoherent` one; the data of the witness.
-/
import PsdVerif.Lemmas.CompositeSpecRefine

namespace PsdVerif.Composite

mutual
/-- no layer of the tree (children and clip runs included) has the knockout flag -/
def nodeNoKo : Node → Prop
  | .leaf pr _ _ _ clips => pr.knockout = false ∧ listNoKo clips
  | .group pr _ children clips => pr.knockout = false ∧ listNoKo children ∧ listNoKo clips
def listNoKo : List Node → Prop
  | [] => True
  | n :: ns => nodeNoKo n ∧ listNoKo ns
end

theorem specSource_rule_irrelevant (k k' : KoRule) (bl : Color → Color → Color) (σ : SState) (Ps : Color) (fs αs : Rat) :
    specSource k bl σ Ps fs αs false = specSource k' bl σ Ps fs αs false := by
  unfold specSource
  simp only [Bool.false_eq_true, if_false]

mutual
/-- the knockout rule is not used on a tree without knockout flags -/
theorem specNode_rule_irrelevant (k k' : KoRule) (B : Mode → Color → Color → Color) (V : Rect) (x y : Int) (cc : Bool)
    (σ : SState) : (n : Node) → nodeNoKo n → specNode k B V x y cc σ n = specNode k' B V x y cc σ n
  | .leaf pr hasPixels color shape clips, hn => by
    obtain ⟨hko, hcl⟩ := hn
    unfold specNode specFinish
    simp only [hko, specSource_rule_irrelevant k k', specClips_rule_irrelevant k k' B V x y _ clips hcl]
  | .group pr passThrough children clips, hn => by
    obtain ⟨hko, hch, hcl⟩ := hn
    unfold specNode specFinish
    simp only [hko, specSource_rule_irrelevant k k', specClips_rule_irrelevant k k' B V x y _ clips hcl,
      specList_rule_irrelevant k k' B _ x y _ children hch]

theorem specList_rule_irrelevant (k k' : KoRule) (B : Mode → Color → Color → Color) (V : Rect) (x y : Int)
    (σ : SState) : (ns : List Node) → listNoKo ns → specList k B V x y σ ns = specList k' B V x y σ ns
  | [], _ => by unfold specList; rfl
  | n :: rest, h => by
    unfold specList
    rw [specNode_rule_irrelevant k k' B V x y false σ n h.1, specList_rule_irrelevant k k' B V x y _ rest h.2]

theorem specClips_rule_irrelevant (k k' : KoRule) (B : Mode → Color → Color → Color) (V : Rect) (x y : Int)
    (σ : SState) : (ns : List Node) → listNoKo ns → specClips k B V x y σ ns = specClips k' B V x y σ ns
  | [], _ => by unfold specClips; rfl
  | n :: rest, h => by
    unfold specClips
    rw [specNode_rule_irrelevant k k' B V x y true σ n h.1, specClips_rule_irrelevant k k' B V x y _ rest h.2]
end

theorem specDoc_rule_irrelevant (k k' : KoRule) (B : Mode → Color → Color → Color) (V : Rect) (x y : Int)
    (P : Color) (alpha : Rat) (layers : List Node) (h : listNoKo layers) :
    specDoc k B V x y P alpha layers = specDoc k' B V x y P alpha layers := by
  unfold specDoc
  rw [specList_rule_irrelevant k k' B V x y _ layers h]

/-- **By how much the two rules differ.** After a knockout step the code's `alpha` exceeds
`Union(α₀, (1−fs)·αg + αs)` — the alpha of the rule `alphaCoherent`, which is also the sum of the weights of the colour
recurrence `(1−fs)·α + (fs−αs)·α₀ + αs` — by exactly `(1−α₀)·(fs−αs)·α₀`. -/
theorem knockout_alpha_excess (bl : Color → Color → Color) {st : PState} (h : Inv st) (Cs : Color) (fs αs : Rat) :
    (applySource bl st Cs fs αs true).a = union st.a0 (KoRule.alphaCoherent.alpha fs αs st.ag st.a0) + (1 - st.a0) * (fs - αs) * st.a0 ∧
    union st.a0 (KoRule.alphaCoherent.alpha fs αs st.ag st.a0) = (1 - fs) * st.a + (fs - αs) * st.a0 + αs := by
  constructor
  · simp only [applySource, if_true, KoRule.alpha]; unfold union; ring
  · simp only [KoRule.alpha]; rw [h.a_eq]; unfold union; ring

def unitRect : Rect := ⟨0, 0, 1, 1⟩

/-- a white, fully covering pixel layer with the knockout flag and opacity 1/2 -/
def koWhiteLayer : Node :=
  .leaf { visible := true, bbox := unitRect, opacity := 1/2, fill := 1, hasMask := false, maskBBox := Rect.zero,
          maskValue := 1, maskBackground := 0, maskDensity := 1, mode := 0, knockout := true, clipping := false,
          hasClipTarget := false } true white 1 []

def allNormal : Mode → Color → Color → Color := fun _ => blNormal

theorem allNormal_ok : BOk allNormal := fun _ _ _ _ hcs => hcs

theorem koWhiteLayer_ok : listOk [koWhiteLayer] := by
  refine ⟨⟨⟨?_, ?_, ?_, ?_, ?_⟩, white_ok, unit01_one, trivial⟩, trivial⟩ <;>
    (constructor <;> norm_num [koWhiteLayer])

end PsdVerif.Composite
