/-
`Model/CompositeFx.lean` is a conservative extension of `Model/Composite.lean`: on a plain tree
(embedded with no fill, no vector mask, no stroke, no effects) it computes exactly what `applyNode`
computes, whatever `force`.
-/
import PsdVerif.Lemmas.CompositeFx

namespace PsdVerif.Composite

theorem useFill_plain (force hp : Bool) : useFill force (Fx.plain hp).flags = false := by
  simp [useFill, Fx.plain, Flags.plain]

theorem useVectorMask_plain (force hp : Bool) : useVectorMask force (Fx.plain hp).flags = false := by
  simp [useVectorMask, Fx.plain, Flags.plain]

theorem finishFx_plain (B : Mode → Color → Color → Color) (force : Bool) (V : Rect) (x y : Int) (st : PState) (pr : Props)
    (hp : Bool) (color : Color) (shape alpha : Rat) :
    finishFx B force V x y st pr (Fx.plain hp) color shape alpha = finishApply B V x y st pr color shape alpha := by
  unfold finishFx finishApply maskFactorsFx vmaskFactor
  simp only [useVectorMask_plain, Bool.false_eq_true, if_false, mul_one]
  simp [Fx.plain, applyOverlays, applyStrokeFx]

theorem embedList_isEmpty (ns : List Node) : (embedList ns).isEmpty = ns.isEmpty := by
  cases ns <;> simp [embedList]

mutual
theorem applyFxNode_embed (B : Mode → Color → Color → Color) (force : Bool) (V : Rect) (x y : Int) (cc : Bool) (st : PState) :
    (n : Node) → applyFxNode B force V x y cc st (embed n) = applyNode B V x y cc st n
  | .leaf pr hasPixels color shape clips => by
    unfold embed applyFxNode applyNode leafColor leafShape strokeObject
    simp only [useFill_plain, Bool.false_eq_true, if_false, finishFx_plain]
    have hcl : ∀ s, applyFxClips B force V x y s (embedList clips) = applyClips B V x y s clips :=
      fun s => applyFxClips_embed B force V x y s clips
    simp only [hcl, embedList_isEmpty]
  | .group pr passThrough children clips => by
    unfold embed applyFxNode applyNode
    simp only [finishFx_plain]
    have hcl : ∀ s, applyFxClips B force V x y s (embedList clips) = applyClips B V x y s clips :=
      fun s => applyFxClips_embed B force V x y s clips
    have hch : ∀ V' s, applyFxList B force V' x y s (embedList children) = applyList B V' x y s children :=
      fun V' s => applyFxList_embed B force V' x y s children
    simp only [hcl, hch, embedList_isEmpty]

theorem applyFxList_embed (B : Mode → Color → Color → Color) (force : Bool) (V : Rect) (x y : Int) (st : PState) :
    (ns : List Node) → applyFxList B force V x y st (embedList ns) = applyList B V x y st ns
  | [] => by unfold embedList applyFxList applyList; rfl
  | n :: rest => by
    unfold embedList applyFxList applyList
    rw [applyFxNode_embed B force V x y false st n, applyFxList_embed B force V x y _ rest]

theorem applyFxClips_embed (B : Mode → Color → Color → Color) (force : Bool) (V : Rect) (x y : Int) (st : PState) :
    (ns : List Node) → applyFxClips B force V x y st (embedList ns) = applyClips B V x y st ns
  | [] => by unfold embedList applyFxClips applyClips; rfl
  | n :: rest => by
    unfold embedList applyFxClips applyClips
    rw [applyFxNode_embed B force V x y true st n, applyFxClips_embed B force V x y _ rest]
end

theorem compositeFxDoc_embed (B : Mode → Color → Color → Color) (force : Bool) (V : Rect) (x y : Int) (color : Color)
    (alpha : Rat) (layers : List Node) :
    compositeFxDoc B force V x y color alpha (embedList layers) = compositeDoc B V x y color alpha layers := by
  unfold compositeFxDoc compositeDoc
  rw [applyFxList_embed]

mutual
theorem embed_ok : (n : Node) → nodeOk n → fxNodeOk (embed n)
  | .leaf pr hasPixels color shape clips, h => by
    obtain ⟨hp, hc, hs, hcl⟩ := h
    unfold embed
    exact ⟨hp, fxPlain_ok _, ⟨hc, hs, white_ok, unit01_zero⟩, trivial, embedList_ok clips hcl⟩
  | .group pr passThrough children clips, h => by
    obtain ⟨hp, hch, hcl⟩ := h
    unfold embed
    exact ⟨hp, fxPlain_ok _, embedList_ok children hch, embedList_ok clips hcl⟩
theorem embedList_ok : (ns : List Node) → listOk ns → fxListOk (embedList ns)
  | [], _ => by unfold embedList; trivial
  | n :: rest, h => by unfold embedList; exact ⟨embed_ok n h.1, embedList_ok rest h.2⟩
end

end PsdVerif.Composite
