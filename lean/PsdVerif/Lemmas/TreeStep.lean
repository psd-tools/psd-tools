/-
Layer-tree model: the shapes the operations share. An operation is turned down before it changes anything
(`Declined`), or it is one primitive mutation — a list with the arguments spliced in followed by
`_update_layer_metadata` (`Spliced`), a shortened list followed by `_update_psd_record` (`Shrunk`) — or a
sequence of such operations (`andThen`). What an operation keeps is then proved per shape, not per operation.
-/
import PsdVerif.Lemmas.TreeInv

namespace PsdVerif.TreeSt

/-- The guard of the inserting operations: the arguments are listed nowhere (and not repeated).
Every other operation detaches first, or only removes. -/
def Guard (s : State) : Op → Prop
  | .append _ x => Detached s x
  | .extend _ xs => (∀ x, x ∈ xs → Detached s x) ∧ xs.Nodup
  | .insert _ _ x => Detached s x
  | .setitem _ _ x => Detached s x
  | .setslice _ _ _ xs => (∀ x, x ∈ xs → Detached s x) ∧ xs.Nodup
  | _ => True

abbrev recErr : Out := .error .recursionError

theorem ne_rec_of_not_isError {o : Out} (h : ¬ o.isError = true) : o ≠ recErr := by
  intro e; subst e; exact h rfl

theorem take_append_drop_sublist (l : List Id) {lo hi : Nat} (h : lo ≤ hi) :
    List.Sublist (l.take lo ++ l.drop hi) l := by
  have h1 : List.Sublist (l.drop hi) (l.drop lo) := List.drop_sublist_drop_left l h
  have h2 := List.Sublist.append (List.Sublist.refl (l.take lo)) h1
  rwa [List.take_append_drop] at h2

theorem mem_splice {l xs : List Id} {lo hi : Nat} {y : Id} (h : y ∈ l.take lo ++ xs ++ l.drop hi) :
    y ∈ l ∨ y ∈ xs := by
  rcases List.mem_append.mp h with h | h
  · rcases List.mem_append.mp h with h | h
    · exact .inl (List.mem_of_mem_take h)
    · exact .inr h
  · exact .inl (List.mem_of_mem_drop h)

theorem nodup_splice (l xs : List Id) {lo hi : Nat} (h : lo ≤ hi) (hl : l.Nodup) (hx : xs.Nodup)
    (hd : ∀ y, y ∈ xs → y ∉ l) : (l.take lo ++ xs ++ l.drop hi).Nodup := by
  have hsub := take_append_drop_sublist l h
  have hAB := hsub.nodup hl
  obtain ⟨hA, hB, hABd⟩ := List.nodup_append.mp hAB
  rw [List.nodup_append]
  refine ⟨?_, hB, ?_⟩
  · rw [List.nodup_append]
    refine ⟨hA, hx, ?_⟩
    intro a ha b hb e
    subst e
    exact hd a hb (List.mem_of_mem_take ha)
  · intro a ha b hb e
    subst e
    rcases List.mem_append.mp ha with ha | ha
    · exact hABd a ha a hb rfl
    · exact hd a ha (List.mem_of_mem_drop hb)

theorem append_eq_splice (l xs : List Id) : l ++ xs = l.take l.length ++ xs ++ l.drop l.length := by
  simp

theorem insertAt_eq_splice (l : List Id) (k : Nat) (x : Id) : insertAt l k x = l.take k ++ [x] ++ l.drop k := by
  simp [insertAt]

theorem set_eq_splice (l : List Id) (j : Nat) (x : Id) (h : j < l.length) :
    l.set j x = l.take j ++ [x] ++ l.drop (j + 1) := by
  rw [List.set_eq_take_append_cons_drop, if_pos h]
  simp

theorem normIdx_lt {len : Nat} {i : Int} {j : Nat} (h : normIdx len i = some j) : j < len := by
  simp only [normIdx] at h
  by_cases hneg : i < 0
  · simp only [hneg, if_true] at h
    by_cases hc : 0 ≤ i + (len : Int) ∧ i + (len : Int) < len
    · rw [if_pos hc] at h; cases h; omega
    · rw [if_neg hc] at h; cases h
  · simp only [hneg, if_false] at h
    by_cases hc : 0 ≤ i ∧ i < (len : Int)
    · rw [if_pos hc] at h; cases h; omega
    · rw [if_neg hc] at h; cases h

theorem nodup_single (x : Id) : [x].Nodup := by simp

theorem forall_mem_single {P : Id → Prop} {x : Id} (h : P x) : ∀ y, y ∈ [x] → P y :=
  fun y hy => by rw [List.mem_singleton.mp hy]; exact h

/-! ### frames: what an operation cannot touch -/

/-- liveness and kinds are the same -/
structure KindFrame (s s' : State) : Prop where
  next : s'.next = s.next
  kind : s'.kind = s.kind

theorem KindFrame.refl (s : State) : KindFrame s s := ⟨rfl, rfl⟩
theorem KindFrame.trans {a b c : State} (h1 : KindFrame a b) (h2 : KindFrame b c) : KindFrame a c :=
  ⟨h2.next.trans h1.next, h2.kind.trans h1.kind⟩
theorem SameTree.kindFrame {s s' : State} (h : SameTree s s') : KindFrame s s' := ⟨h.next, h.kind⟩
theorem KindFrame.isGroup {s s' : State} (h : KindFrame s s') (g : Id) : s'.isGroup g = s.isGroup g := by
  simp [State.isGroup, State.live, State.cont, h.next, h.kind]
theorem KindFrame.isLayer {s s' : State} (h : KindFrame s s') (g : Id) : s'.isLayer g = s.isLayer g := by
  simp [State.isLayer, State.live, h.next, h.kind]
theorem KindFrame.cont {s s' : State} (h : KindFrame s s') (g : Id) : s'.cont g = s.cont g := by
  simp [State.cont, h.kind]

theorem setChildren_frame (s : State) (g : Id) (l : List Id) : KindFrame s (setChildren s g l) := ⟨rfl, rfl⟩

theorem metadata_frame (cfg : Cfg) (s : State) (g : Id) : KindFrame s (metadata cfg s g).1 := by
  rcases metadata_cases cfg s g with e | ⟨ds, -, e⟩ <;> rw [e] <;> exact ⟨rfl, rfl⟩

theorem metadata_children (cfg : Cfg) (s : State) (g : Id) : (metadata cfg s g).1.children = s.children := by
  rcases metadata_cases cfg s g with e | ⟨ds, -, e⟩ <;> rw [e]

theorem finishInsert_frame (cfg : Cfg) (s : State) (g : Id) (o : Out) : KindFrame s (finishInsert cfg s g o).1 := by
  unfold finishInsert
  have h := metadata_frame cfg s g
  split
  · rename_i s2 hm; rw [hm] at h; exact h
  · rename_i s2 hm; rw [hm] at h; exact h.trans (updateRecord_same cfg s2 g).kindFrame

theorem finishInsert_children (cfg : Cfg) (s : State) (g : Id) (o : Out) :
    (finishInsert cfg s g o).1.children = s.children := by
  unfold finishInsert
  have h := metadata_children cfg s g
  split
  · rename_i s2 hm; rw [hm] at h; exact h
  · rename_i s2 hm; rw [hm] at h; exact (updateRecord_same cfg s2 g).children.trans h

/-- an operation whose lists are the old ones, except that `g` may list some of `xs` in addition -/
def Adds (s s' : State) (g : Id) (xs : List Id) : Prop :=
  ∀ c y, y ∈ s'.children c → y ∈ s.children c ∨ (c = g ∧ y ∈ xs)

theorem Adds.refl (s : State) (g : Id) (xs : List Id) : Adds s s g xs := fun _ _ h => .inl h
theorem Adds.of_same {s s' : State} (h : SameTree s s') (g : Id) (xs : List Id) : Adds s s' g xs := by
  intro c y hy; rw [h.children] at hy; exact .inl hy
theorem Adds.trans {a b c : State} {g : Id} {xs : List Id} (h1 : Adds a b g xs) (h2 : Adds b c g xs) :
    Adds a c g xs := by
  intro k y hy
  rcases h2 k y hy with h | h
  · exact h1 k y h
  · exact .inr h
theorem Adds.subset {s s' : State} {g : Id} {xs : List Id} (h : Adds s s' g xs) {c y : Id}
    (hy : y ∈ s'.children c) (hx : ¬ (c = g ∧ y ∈ xs)) : y ∈ s.children c := by
  rcases h c y hy with h | h
  · exact h
  · exact absurd h hx

/-- what an operation does to the store as far as later checks can see: liveness and kinds kept, and the only new
memberships are of some of `xs` in the list of `g` -/
structure Grows (s s' : State) (g : Id) (xs : List Id) : Prop where
  frame : KindFrame s s'
  adds : Adds s s' g xs

theorem Grows.refl (s : State) (g : Id) (xs : List Id) : Grows s s g xs := ⟨.refl s, .refl s g xs⟩

theorem Grows.of_same {s s' : State} (h : SameTree s s') (g : Id) (xs : List Id) : Grows s s' g xs :=
  ⟨h.kindFrame, .of_same h g xs⟩

theorem Grows.trans {a b c : State} {g : Id} {xs : List Id} (h1 : Grows a b g xs) (h2 : Grows b c g xs) : Grows a c g xs :=
  ⟨h1.frame.trans h2.frame, h1.adds.trans h2.adds⟩

theorem Grows.mono {s s' : State} {g : Id} {xs ys : List Id} (h : Grows s s' g xs) (hsub : ∀ y, y ∈ xs → y ∈ ys) :
    Grows s s' g ys :=
  ⟨h.frame, fun c y hy => (h.adds c y hy).imp_right fun hh => ⟨hh.1, hsub y hh.2⟩⟩

/-- turned down before anything changed: raised at once, or through `refuse` (which may fill caches) -/
inductive Declined (s : State) : State × Out → Prop where
  | raised (e : Err) : Declined s (s, .error e)
  | refused (q : Err × List Id) : Declined s (refuse s q)

theorem Declined.same {s : State} {r : State × Out} (d : Declined s r) : SameTree s r.1 := by
  cases d with
  | raised e => exact SameTree.refl s
  | refused q => exact refuse_same s q

theorem Declined.isError {s : State} {r : State × Out} (d : Declined s r) : r.2.isError = true := by
  cases d with
  | raised e => rfl
  | refused q => exact refuse_isError s q

/-- the list of `g` becomes `l'` — its old list with `xs`, which passed `_check_valid_layers`, in place of a
segment —, then `_update_layer_metadata` and `_update_psd_record` -/
def SplicedTo (cfg : Cfg) (s : State) (g : Id) (xs l' : List Id) (r : State × Out) : Prop :=
  (∃ lo hi, lo ≤ hi ∧ l' = (s.children g).take lo ++ xs ++ (s.children g).drop hi) ∧ checkValid cfg s g xs = none ∧
    r = finishInsert cfg (setChildren s g l') g .none

def Spliced (cfg : Cfg) (s : State) (g : Id) (xs : List Id) (r : State × Out) : Prop := ∃ l', SplicedTo cfg s g xs l' r

/-- the list of `g` becomes `l'`, some of its members, then `_update_psd_record`; the value is `o` -/
def ShrunkTo (cfg : Cfg) (s : State) (g : Id) (l' : List Id) (o : Out) (r : State × Out) : Prop :=
  l'.Sublist (s.children g) ∧ o.isError = false ∧ r = finishRemove cfg (setChildren s g l') g o

def Shrunk (cfg : Cfg) (s : State) (g : Id) (r : State × Out) : Prop := ∃ l' o, ShrunkTo cfg s g l' o r

/-- `r1`; unless it raised, `k` from the state it left; unless that raised, the value `o` -/
def andThen (r1 : State × Out) (k : State → State × Out) (o : Out) : State × Out :=
  if r1.2.isError = true then r1 else if (k r1.1).2.isError = true then k r1.1 else ((k r1.1).1, o)

theorem andThen_rel {R : State → State → Prop} (trans : ∀ {a b c : State}, R a b → R b c → R a c) {s : State}
    {r1 : State × Out} {k : State → State × Out} (o : Out) (h1 : R s r1.1) (hk : R r1.1 (k r1.1).1) :
    R s (andThen r1 k o).1 := by
  unfold andThen
  split
  · exact h1
  · split <;> exact trans h1 hk

theorem andThen_keeps {P : State → Prop} {r1 : State × Out} {k : State → State × Out} {o : Out}
    (h1 : r1.2 ≠ recErr → P r1.1) (hk : P r1.1 → (k r1.1).2 ≠ recErr → P (k r1.1).1)
    (hne : (andThen r1 k o).2 ≠ recErr) : P (andThen r1 k o).1 := by
  unfold andThen at hne ⊢
  by_cases e1 : r1.2.isError = true
  · rw [if_pos e1] at hne ⊢; exact h1 hne
  · rw [if_neg e1] at hne ⊢
    have p1 := h1 (ne_rec_of_not_isError e1)
    by_cases e2 : (k r1.1).2.isError = true
    · rw [if_pos e2] at hne ⊢; exact hk p1 hne
    · rw [if_neg e2]; exact hk p1 (ne_rec_of_not_isError e2)

theorem andThen_ok {r1 : State × Out} {k : State → State × Out} {o : Out} (h : (andThen r1 k o).2.isError = false) :
    r1.2.isError = false ∧ (k r1.1).2.isError = false ∧ andThen r1 k o = ((k r1.1).1, o) := by
  unfold andThen at h ⊢
  by_cases e1 : r1.2.isError = true
  · rw [if_pos e1, e1] at h; cases h
  · rw [if_neg e1] at h ⊢
    by_cases e2 : (k r1.1).2.isError = true
    · rw [if_pos e2, e2] at h; cases h
    · rw [if_neg e2]; exact ⟨by simpa using e1, by simpa using e2, rfl⟩

theorem andThen_error {r1 : State × Out} {k : State → State × Out} {o : Out} (h1 : r1.2.isError = false)
    (ho : o.isError = false) {e : Err} (h : (andThen r1 k o).2 = .error e) : (k r1.1).2 = .error e := by
  unfold andThen at h
  rw [h1] at h
  simp only [Bool.false_eq_true, if_false] at h
  split at h
  · exact h
  · simp only at h; rw [h] at ho; cases ho

theorem opExtend_cases (cfg : Cfg) (s : State) (g : Id) (xs : List Id) :
    Declined s (opExtend cfg s g xs) ∨ SplicedTo cfg s g xs (s.children g ++ xs) (opExtend cfg s g xs) := by
  unfold opExtend
  split
  · exact .inl (.refused _)
  · rename_i hchk
    exact .inr ⟨⟨_, _, Nat.le_refl _, append_eq_splice _ xs⟩, hchk, rfl⟩

theorem opAppend_cases (cfg : Cfg) (s : State) (g x : Id) :
    Declined s (opAppend cfg s g x) ∨ SplicedTo cfg s g [x] (s.children g ++ [x]) (opAppend cfg s g x) := by
  unfold opAppend
  split
  · exact .inl (.raised _)
  · exact opExtend_cases cfg s g [x]

theorem checkSingle_none {cfg : Cfg} {s : State} {g x : Id} (h : checkSingle cfg s g x = none) :
    checkValid cfg s g [x] = none := by
  unfold checkSingle at h
  split at h
  · cases h
  · exact h

theorem opInsert_cases (cfg : Cfg) (s : State) (g : Id) (k : Int) (x : Id) :
    Declined s (opInsert cfg s g k x) ∨
      SplicedTo cfg s g [x] (insertAt (s.children g) (clampIdx (s.children g).length k) x) (opInsert cfg s g k x) := by
  unfold opInsert
  split
  · exact .inl (.refused _)
  · rename_i hchk
    exact .inr ⟨⟨_, _, Nat.le_refl _, insertAt_eq_splice _ _ x⟩, checkSingle_none hchk, rfl⟩

theorem opSetitem_cases (cfg : Cfg) (s : State) (g : Id) (k : Int) (x : Id) :
    Declined s (opSetitem cfg s g k x) ∨ ∃ j, normIdx (s.children g).length k = some j ∧
      SplicedTo cfg s g [x] ((s.children g).set j x) (opSetitem cfg s g k x) := by
  unfold opSetitem
  split
  · exact .inl (.refused _)
  · rename_i hchk
    simp only
    split
    · exact .inl (.raised _)
    · rename_i j hj
      exact .inr ⟨j, hj, ⟨_, _, Nat.le_succ _, set_eq_splice _ _ x (normIdx_lt hj)⟩, checkSingle_none hchk, rfl⟩

theorem sliceBounds_le (len : Nat) (a b : Option Int) : (sliceBounds len a b).1 ≤ (sliceBounds len a b).2 :=
  Nat.le_max_left _ _

theorem opSetslice_cases (cfg : Cfg) (s : State) (g : Id) (a b : Option Int) (xs : List Id) :
    Declined s (opSetslice cfg s g a b xs) ∨
      SplicedTo cfg s g xs
        (sliceAssign (s.children g) (sliceBounds (s.children g).length a b).1 (sliceBounds (s.children g).length a b).2 xs)
        (opSetslice cfg s g a b xs) := by
  unfold opSetslice
  split
  · exact .inl (.refused _)
  · rename_i hchk
    exact .inr ⟨⟨_, _, sliceBounds_le _ a b, rfl⟩, hchk, rfl⟩

theorem opRemove_cases (cfg : Cfg) (s : State) (g x : Id) :
    Declined s (opRemove cfg s g x) ∨
      (x ∈ s.children g ∧ ShrunkTo cfg s g ((s.children g).erase x) (.id g) (opRemove cfg s g x)) := by
  unfold opRemove
  split
  · rename_i hx; exact .inr ⟨hx, List.erase_sublist, rfl, rfl⟩
  · exact .inl (.raised _)

theorem opPop_cases (cfg : Cfg) (s : State) (g : Id) (k : Int) :
    Declined s (opPop cfg s g k) ∨ ∃ j x, normIdx (s.children g).length k = some j ∧ (s.children g)[j]? = some x ∧
      ShrunkTo cfg s g ((s.children g).eraseIdx j) (.id x) (opPop cfg s g k) := by
  unfold opPop
  simp only
  split
  · exact .inl (.raised _)
  · rename_i j hj
    split
    · exact .inl (.raised _)
    · rename_i x hx
      exact .inr ⟨j, x, hj, hx, List.eraseIdx_sublist .., rfl, rfl⟩

theorem opClear_cases (cfg : Cfg) (s : State) (g : Id) : ShrunkTo cfg s g [] .none (opClear cfg s g) :=
  ⟨List.nil_sublist _, rfl, rfl⟩

theorem opDelitem_cases (cfg : Cfg) (s : State) (g : Id) (k : Int) :
    Declined s (opDelitem cfg s g k) ∨ ∃ j, normIdx (s.children g).length k = some j ∧
      ShrunkTo cfg s g ((s.children g).eraseIdx j) .none (opDelitem cfg s g k) := by
  unfold opDelitem
  simp only
  split
  · exact .inl (.raised _)
  · rename_i j hj
    exact .inr ⟨j, hj, List.eraseIdx_sublist .., rfl, rfl⟩

theorem opDelslice_cases (cfg : Cfg) (s : State) (g : Id) (a b : Option Int) :
    ShrunkTo cfg s g
      (sliceAssign (s.children g) (sliceBounds (s.children g).length a b).1 (sliceBounds (s.children g).length a b).2 [])
      .none (opDelslice cfg s g a b) := by
  refine ⟨?_, rfl, rfl⟩
  simp only [sliceAssign, List.append_nil]
  exact take_append_drop_sublist (s.children g) (sliceBounds_le (s.children g).length a b)

/-- the layers a list mutator inserts -/
def Op.args : Op → List Id
  | .append _ x | .insert _ _ x | .setitem _ _ x => [x]
  | .extend _ xs | .setslice _ _ _ xs => xs
  | _ => []

/-- **A method of `GroupMixin`** is refused — at once when the object has no such method —, or splices its
arguments into the list of the container, or shortens that list. -/
theorem step_method_cases (cfg : Cfg) (s : State) {op : Op} {g : Id} (ht : op.target = some g) :
    Declined s (step cfg s op) ∨
      (s.isGroup g = true ∧ (Spliced cfg s g op.args (step cfg s op) ∨ Shrunk cfg s g (step cfg s op))) := by
  unfold step
  rw [ht]
  simp only
  by_cases hn : (!s.isGroup g) = true
  · rw [if_pos hn]
    exact .inl (.raised _)
  · rw [if_neg hn]
    have hg : s.isGroup g = true := by simpa using hn
    cases op <;> cases ht
    · exact (opAppend_cases cfg s g _).imp_right fun h => ⟨hg, .inl ⟨_, h⟩⟩
    · exact (opExtend_cases cfg s g _).imp_right fun h => ⟨hg, .inl ⟨_, h⟩⟩
    · exact (opInsert_cases cfg s g _ _).imp_right fun h => ⟨hg, .inl ⟨_, h⟩⟩
    · exact (opRemove_cases cfg s g _).imp_right fun h => ⟨hg, .inr ⟨_, _, h.2⟩⟩
    · exact (opPop_cases cfg s g _).imp_right fun ⟨_, _, _, _, h⟩ => ⟨hg, .inr ⟨_, _, h⟩⟩
    · exact .inr ⟨hg, .inr ⟨_, _, opClear_cases cfg s g⟩⟩
    · exact (opSetitem_cases cfg s g _ _).imp_right fun ⟨_, _, h⟩ => ⟨hg, .inl ⟨_, h⟩⟩
    · exact (opSetslice_cases cfg s g _ _ _).imp_right fun h => ⟨hg, .inl ⟨_, h⟩⟩
    · exact (opDelitem_cases cfg s g _).imp_right fun ⟨_, _, h⟩ => ⟨hg, .inr ⟨_, _, h⟩⟩
    · exact .inr ⟨hg, .inr ⟨_, _, opDelslice_cases cfg s g _ _⟩⟩

theorem Guard.args {s : State} {op : Op} (h : Guard s op) : (∀ x, x ∈ op.args → Detached s x) ∧ op.args.Nodup := by
  have single : ∀ x, Detached s x → (∀ y, y ∈ [x] → Detached s y) ∧ [x].Nodup :=
    fun x hx => ⟨forall_mem_single hx, nodup_single x⟩
  cases op with
  | append g x => exact single x h
  | insert g k x => exact single x h
  | setitem g k x => exact single x h
  | extend g xs => exact h
  | setslice g a b xs => exact h
  | _ => exact ⟨fun y hy => (nomatch hy), List.nodup_nil⟩

/-! ### what the shapes keep: liveness and kinds (`KindFrame`), and which memberships can be new (`Adds`) -/

theorem Spliced.grows {cfg : Cfg} {s : State} {g : Id} {xs : List Id} {r : State × Out} (h : Spliced cfg s g xs r) :
    Grows s r.1 g xs := by
  obtain ⟨l', ⟨lo, hi, -, rfl⟩, -, rfl⟩ := h
  refine ⟨(setChildren_frame s g _).trans (finishInsert_frame cfg _ g _), fun c y hy => ?_⟩
  rw [finishInsert_children] at hy
  simp only [setChildren, upd] at hy
  split at hy
  · rename_i e
    subst e
    exact (mem_splice hy).imp_right fun h => ⟨rfl, h⟩
  · exact .inl hy

theorem Shrunk.grows {cfg : Cfg} {s : State} {g : Id} {r : State × Out} (h : Shrunk cfg s g r) (k : Id) (xs : List Id) :
    Grows s r.1 k xs := by
  obtain ⟨l', o, hsub, -, rfl⟩ := h
  refine ⟨(setChildren_frame s g _).trans (updateRecord_same cfg _ g).kindFrame, fun c y hy => ?_⟩
  rw [show (finishRemove cfg (setChildren s g l') g o).1.children = (setChildren s g l').children from
    (updateRecord_same cfg _ g).children] at hy
  simp only [setChildren, upd] at hy
  split at hy
  · rename_i e; subst e; exact .inl (hsub.subset hy)
  · exact .inl hy

theorem opAppend_grows (cfg : Cfg) (s : State) (g x : Id) : Grows s (opAppend cfg s g x).1 g [x] :=
  (opAppend_cases cfg s g x).elim (fun d => .of_same d.same g [x]) fun h => Spliced.grows ⟨_, h⟩

theorem opInsert_frame (cfg : Cfg) (s : State) (g : Id) (k : Int) (x : Id) : KindFrame s (opInsert cfg s g k x).1 :=
  (opInsert_cases cfg s g k x).elim (fun d => d.same.kindFrame) fun h => (Spliced.grows ⟨_, h⟩).frame

theorem opRemove_grows (cfg : Cfg) (s : State) (g x : Id) (k : Id) (xs : List Id) : Grows s (opRemove cfg s g x).1 k xs :=
  (opRemove_cases cfg s g x).elim (fun d => .of_same d.same k xs) fun h => Shrunk.grows ⟨_, _, h.2⟩ k xs

theorem opRemove_not_error_of_mem (cfg : Cfg) (s : State) (g x : Id) (h : x ∈ s.children g) :
    (opRemove cfg s g x).2.isError = false := by
  unfold opRemove finishRemove
  rw [if_pos h]
  rfl

theorem detach_not_error (cfg : Cfg) (s : State) (x p : Id) : (detach cfg s x p).2.isError = false := by
  unfold detach
  split
  · rename_i h; exact opRemove_not_error_of_mem cfg s p x h
  · rfl

/-- `if self in self.parent: self.parent.remove(self)`, for the parent pointer of `x` when it names a container -/
def leaveParent (cfg : Cfg) (s : State) (x : Id) : State × Out :=
  match s.parent x with
  | some p => if s.cont p = true then detach cfg s x p else (s, Out.none)
  | none => (s, Out.none)

theorem leaveParent_cases (cfg : Cfg) (s : State) (x : Id) :
    leaveParent cfg s x = (s, .none) ∨ ∃ p, x ∈ s.children p ∧ leaveParent cfg s x = opRemove cfg s p x := by
  unfold leaveParent detach
  split
  · split
    · split
      · rename_i hx; exact .inr ⟨_, hx, rfl⟩
      · exact .inl rfl
    · exact .inl rfl
  · exact .inl rfl

theorem leaveParent_not_error (cfg : Cfg) (s : State) (x : Id) : (leaveParent cfg s x).2.isError = false := by
  rcases leaveParent_cases cfg s x with e | ⟨p, hx, e⟩
  · rw [e]; rfl
  · rw [e]; exact opRemove_not_error_of_mem cfg s p x hx

theorem leaveParent_grows (cfg : Cfg) (s : State) (x : Id) (k : Id) (xs : List Id) :
    Grows s (leaveParent cfg s x).1 k xs := by
  rcases leaveParent_cases cfg s x with e | ⟨p, -, e⟩
  · rw [e]; exact Grows.refl s k xs
  · rw [e]; exact opRemove_grows cfg s p x k xs

theorem detached_opRemove {cfg : Cfg} {s : State} (i : Inv s) {p x : Id} (hx : x ∈ s.children p) :
    Detached (opRemove cfg s p x).1 x := by
  unfold opRemove finishRemove
  rw [if_pos hx]
  intro c hc
  rw [(updateRecord_same cfg _ p).children] at hc
  exact detached_after_erase i hx c hc

theorem detached_leaveParent {cfg : Cfg} {s : State} (i : Inv s) (x : Id) : Detached (leaveParent cfg s x).1 x := by
  unfold leaveParent
  cases hp : s.parent x with
  | none => exact detached_of_not_listed_by_parent i (fun p' hp' => by rw [hp] at hp'; cases hp')
  | some p =>
    simp only
    by_cases hcp : s.cont p = true
    · rw [if_pos hcp]
      unfold detach
      split
      · rename_i hx
        exact detached_opRemove i hx
      · rename_i hx
        exact detached_of_not_listed_by_parent i (fun p' hp' => by rw [hp] at hp'; cases hp'; exact hx)
    · rw [if_neg hcp]
      apply detached_of_not_listed_by_parent i
      intro p' hp' hx
      rw [hp] at hp'; cases hp'
      exact hcp (i.contOnly p (List.ne_nil_of_mem hx))

/-- **`move_to_group`** is turned down, or — the layer being a layer, the target a container that is neither the
layer nor among its descendants — detaches the layer and appends it to the target. -/
theorem opMoveToGroup_cases (cfg : Cfg) (s : State) (x g : Id) :
    Declined s (opMoveToGroup cfg s x g) ∨
      (s.isLayer x = true ∧ s.isGroup g = true ∧ g ≠ x ∧
        (∃ ds, (if s.cont x = true then desc s x else .ok []) = .ok ds ∧ g ∉ ds) ∧
        opMoveToGroup cfg s x g = andThen (leaveParent cfg s x) (fun s' => opAppend cfg s' g x) (.id x)) := by
  unfold opMoveToGroup
  by_cases h1 : (!s.isLayer x) = true
  · rw [if_pos h1]; exact .inl (.raised _)
  · rw [if_neg h1]
    by_cases h2 : (!s.isGroup g) = true
    · rw [if_pos h2]; exact .inl (.raised _)
    · rw [if_neg h2]
      by_cases h3 : g = x
      · rw [if_pos h3]; exact .inl (.raised _)
      · rw [if_neg h3]
        cases hd : (if s.cont x = true then desc s x else Except.ok []) with
        | error e => exact .inl (.raised e)
        | ok ds =>
          simp only
          by_cases h4 : g ∈ ds
          · rw [if_pos h4]; exact .inl (.refused _)
          · rw [if_neg h4]
            exact .inr ⟨by simpa using h1, by simpa using h2, h3, ⟨ds, rfl, h4⟩, rfl⟩

theorem not_reach_of_checked {s : State} (hc : ∀ c, s.children c ≠ [] → s.cont c = true) {x g : Id} {ds : List Id}
    (hd : (if s.cont x = true then desc s x else .ok []) = .ok ds) (h : g ∉ ds) : ¬ Reach s x g := by
  intro r
  apply h
  split at hd
  · exact (mem_desc_iff hc hd g).mpr r
  · rename_i hcont; exact absurd (reach_cont hc r) hcont

theorem opMoveToGroup_grows (cfg : Cfg) (s : State) (x g : Id) : Grows s (opMoveToGroup cfg s x g).1 g [x] := by
  rcases opMoveToGroup_cases cfg s x g with d | ⟨-, -, -, -, e⟩
  · exact .of_same d.same g [x]
  · rw [e]
    exact andThen_rel (R := fun a b => Grows a b g [x]) Grows.trans (k := fun s' => opAppend cfg s' g x) _
      (leaveParent_grows cfg s x g [x]) (opAppend_grows cfg _ g x)

/-- the position `move_up(k)` re-inserts at: `k` further, clamped to the list -/
def moveIdx (l : List Id) (x : Id) (k : Int) : Int :=
  let n : Int := (l.idxOf x : Int) + k
  if n < 0 then 0 else if n ≥ l.length then (l.length : Int) - 1 else n

/-- **`move_up` / `move_down`** is turned down, or removes the layer from the container its parent pointer names,
which lists it, and re-inserts it there. -/
theorem opMoveUp_cases (cfg : Cfg) (s : State) (x : Id) (k : Int) :
    Declined s (opMoveUp cfg s x k) ∨
      ∃ p, s.isLayer x = true ∧ s.parent x = some p ∧ s.cont p = true ∧ x ∈ s.children p ∧
        opMoveUp cfg s x k =
          andThen (opRemove cfg s p x) (fun s' => opInsert cfg s' p (moveIdx (s.children p) x k) x) (.id x) := by
  unfold opMoveUp
  by_cases h1 : (!s.isLayer x) = true
  · rw [if_pos h1]; exact .inl (.raised _)
  · rw [if_neg h1]
    cases hp : s.parent x with
    | none => exact .inl (.raised _)
    | some p =>
      simp only
      by_cases hcp : (!s.cont p) = true
      · rw [if_pos hcp]; exact .inl (.raised _)
      · rw [if_neg hcp]
        by_cases hx : x ∈ s.children p
        · rw [if_pos hx]
          exact .inr ⟨p, by simpa using h1, rfl, by simpa using hcp, hx, rfl⟩
        · rw [if_neg hx]; exact .inl (.refused _)

/-- **`delete_layer`** is turned down; or only warns (no container to delete from); or detaches the layer from the
container its parent pointer names and refreshes that container's record. -/
theorem opDeleteLayer_cases (cfg : Cfg) (s : State) (x : Id) :
    Declined s (opDeleteLayer cfg s x) ∨ opDeleteLayer cfg s x = warnRepr s x ∨
      ∃ p, s.parent x = some p ∧ opDeleteLayer cfg s x = finishRemove cfg (detach cfg s x p).1 p (.id x) := by
  unfold opDeleteLayer
  by_cases h1 : (!s.isLayer x) = true
  · rw [if_pos h1]; exact .inl (.raised _)
  · rw [if_neg h1]
    cases hp : s.parent x with
    | none => exact .inr (.inl rfl)
    | some p =>
      simp only
      by_cases hcp : (!s.cont p) = true
      · rw [if_pos hcp]; exact .inr (.inl rfl)
      · rw [if_neg hcp, detach_not_error]
        exact .inr (.inr ⟨p, rfl, rfl⟩)

theorem moveAll_grows (cfg : Cfg) (n : Id) (s : State) (xs : List Id) : Grows s (moveAll cfg n s xs).1 n xs := by
  induction xs generalizing s with
  | nil => exact Grows.refl s _ _
  | cons x xs ih =>
    simp only [moveAll]
    have h1 : Grows s (opMoveToGroup cfg s x n).1 n (x :: xs) :=
      (opMoveToGroup_grows cfg s x n).mono fun y hy => List.mem_cons.mpr (.inl (List.mem_singleton.mp hy))
    split
    · exact h1
    · exact h1.trans ((ih (opMoveToGroup cfg s x n).1).mono fun y hy => List.mem_cons_of_mem _ hy)

theorem alloc_detached {s : State} (i : Inv s) (k : Kind) (p : Option Id) (b : BBox) :
    Detached (alloc s k p b) s.next := by
  intro c hc
  rw [alloc_children i] at hc
  exact Nat.lt_irrefl _ (i.live c _ hc).2

theorem alloc_isGroup {s : State} {q : Id} (hq : s.isGroup q = true) (k : Kind) (p : Option Id) (b : BBox) :
    (alloc s k p b).isGroup q = true := by
  have hq' := isGroup_iff.mp hq
  have hne : q ≠ s.next := Nat.ne_of_lt hq'.1
  exact isGroup_iff.mpr ⟨Nat.lt_succ_of_lt hq'.1, by simpa [alloc, State.cont, upd, hne] using hq'.2⟩

theorem alloc_isLayer {s : State} {x : Id} (hx : s.isLayer x = true) (k : Kind) (p : Option Id) (b : BBox) :
    (alloc s k p b).isLayer x = true ∧ x ≠ s.next := by
  have hx' := isLayer_iff.mp hx
  have hne : x ≠ s.next := Nat.ne_of_lt hx'.1
  exact ⟨isLayer_iff.mpr ⟨Nat.lt_succ_of_lt hx'.1, by simpa [alloc, upd, hne] using hx'.2⟩, hne⟩

theorem glPre_none_layers {cfg : Cfg} {s : State} {par : Option Id} {xs : List Id}
    (hpre : cfg.groupLayersPrecheck = true) (h : glPre cfg s par xs = none) : ∀ x, x ∈ xs → s.isLayer x = true := by
  unfold glPre at h
  rw [if_pos hpre] at h
  by_cases hany : xs.any (fun x => !s.isLayer x) = true
  · rw [if_pos hany] at h; cases h
  · intro x hx
    cases hl : s.isLayer x with
    | true => rfl
    | false => exact absurd (List.any_eq_true.mpr ⟨x, hx, by simp [hl]⟩) hany

/-- `group_layers` after its validation: the new group, the layers moved into it, the group appended -/
theorem glBody_eq (cfg : Cfg) (s : State) (par : Option Id) (xs : List Id) :
    glBody cfg s par xs =
      andThen (moveAll cfg s.next (alloc s .group none BBox.zero) xs)
        (fun s' => match par with
          | some q => if s.isGroup q = true then opAppend cfg s' q s.next else (s', .none)
          | none => (s', .none))
        (.id s.next) := by
  unfold glBody andThen
  cases par with
  | none => rfl
  | some q =>
    by_cases hq : s.isGroup q = true
    · simp only [hq, if_true]
    · simp only [hq]
      rfl

theorem moveAll_new_detached {cfg : Cfg} {s : State} (i : Inv s) {xs : List Id} (hall : ∀ x, x ∈ xs → s.isLayer x = true) :
    Detached (moveAll cfg s.next (alloc s .group none BBox.zero) xs).1 s.next := by
  intro c hc
  rcases (moveAll_grows cfg s.next _ xs).adds c _ hc with h | h
  · exact alloc_detached i .group none BBox.zero c h
  · exact Nat.lt_irrefl _ (isLayer_iff.mp (hall _ h.2)).1

end PsdVerif.TreeSt
