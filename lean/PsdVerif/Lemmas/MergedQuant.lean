/-
Quantisation lemmas for C17 (`Model/MergedPixels.lean`): `np.round` (half to even) moves a value by at
most one half and is monotone; the code written for a sample is monotone, 0 ↦ 0, 1 ↦ scale, at most
`scale`; flattening stays in the unit interval.
-/
import PsdVerif.Model.MergedPixels
import PsdVerif.Lemmas.Composite
import Mathlib.Tactic.Linarith

namespace PsdVerif.MergedPixels
open PsdVerif PsdVerif.Composite

theorem roundHalfEven_of_lt {q : Rat} (h : q - (q.floor : Rat) < 1 / 2) : roundHalfEven q = q.floor :=
  if_pos h

theorem roundHalfEven_of_gt {q : Rat} (h : 1 / 2 < q - (q.floor : Rat)) : roundHalfEven q = q.floor + 1 := by
  unfold roundHalfEven
  exact (if_neg (not_lt.2 h.le)).trans (if_pos h)

theorem roundHalfEven_of_eq {q : Rat} (h : q - (q.floor : Rat) = 1 / 2) :
    roundHalfEven q = if q.floor % 2 = 0 then q.floor else q.floor + 1 := by
  unfold roundHalfEven
  exact (if_neg h.not_lt).trans (if_neg h.not_gt)

/-- `np.round` goes to the floor or one above it, whichever is within one half -/
theorem roundHalfEven_cases (q : Rat) :
    (roundHalfEven q = q.floor ∧ q - (q.floor : Rat) ≤ 1 / 2) ∨
    (roundHalfEven q = q.floor + 1 ∧ 1 / 2 ≤ q - (q.floor : Rat)) := by
  rcases lt_trichotomy (q - (q.floor : Rat)) (1 / 2) with h | h | h
  · exact .inl ⟨roundHalfEven_of_lt h, h.le⟩
  · rw [roundHalfEven_of_eq h]
    split
    · exact .inl ⟨rfl, h.le⟩
    · exact .inr ⟨rfl, h.ge⟩
  · exact .inr ⟨roundHalfEven_of_gt h, h.le⟩

theorem roundHalfEven_floor_le (q : Rat) : q.floor ≤ roundHalfEven q ∧ roundHalfEven q ≤ q.floor + 1 := by
  rcases roundHalfEven_cases q with ⟨h, _⟩ | ⟨h, _⟩ <;> omega

theorem roundHalfEven_bounds (q : Rat) :
    ((roundHalfEven q : Int) : Rat) - q ≤ 1 / 2 ∧ q - ((roundHalfEven q : Int) : Rat) ≤ 1 / 2 := by
  have h1 : ((q.floor : Int) : Rat) ≤ q := Rat.floor_le q
  have h2 : q < ((q.floor : Int) : Rat) + 1 := by exact_mod_cast Rat.lt_floor_add_one q
  rcases roundHalfEven_cases q with ⟨e, hr⟩ | ⟨e, hr⟩
  · rw [e]; exact ⟨by linarith, hr⟩
  · rw [e]; push_cast; constructor <;> linarith

theorem roundHalfEven_mono {a b : Rat} (h : a ≤ b) : roundHalfEven a ≤ roundHalfEven b := by
  have ha := roundHalfEven_floor_le a
  have hb := roundHalfEven_floor_le b
  rcases Int.lt_or_eq_of_le (Rat.floor_monotone h) with hlt | heq
  · omega
  · -- same floor: the fractional parts are ordered, and the branch taken follows them
    have hr : a - (a.floor : Rat) ≤ b - (b.floor : Rat) := by rw [heq]; exact sub_le_sub_right h _
    rcases lt_trichotomy (a - (a.floor : Rat)) (1 / 2) with h1 | h1 | h1
    · rw [roundHalfEven_of_lt h1]; omega
    · rcases (h1 ▸ hr).lt_or_eq with h2 | h2
      · rw [roundHalfEven_of_gt h2]; omega
      · rw [roundHalfEven_of_eq h1, roundHalfEven_of_eq h2.symm, heq]
    · rw [roundHalfEven_of_gt h1, roundHalfEven_of_gt (h1.trans_le hr), heq]

theorem roundHalfEven_intCast (n : Int) : roundHalfEven (n : Rat) = n := by
  rw [roundHalfEven_of_lt (by rw [Rat.floor_intCast, sub_self]; norm_num), Rat.floor_intCast]

theorem _root_.PsdVerif.Composite.clip_mono {a b : Rat} (h : a ≤ b) : clip a ≤ clip b := by
  by_cases ha : a < 0
  · rw [show clip a = 0 from if_pos ha]; exact (clip_unit b).1
  by_cases hb : b > 1
  · rw [show clip b = 1 from (if_neg (not_lt.2 (zero_le_one.trans hb.le))).trans (if_pos hb)]
    exact (clip_unit a).2
  · rwa [clip_id ⟨not_lt.1 ha, h.trans (not_lt.1 hb)⟩, clip_id ⟨(not_lt.1 ha).trans h, not_lt.1 hb⟩]

theorem roundHalfEven_nonneg {q : Rat} (h : 0 ≤ q) : 0 ≤ roundHalfEven q := by
  have := roundHalfEven_mono h
  rwa [show (0 : Rat) = ((0 : Int) : Rat) by norm_num, roundHalfEven_intCast] at this

theorem scaled_nonneg (s : Nat) (v : Rat) : 0 ≤ clip v * (s : Rat) :=
  mul_nonneg (clip_unit v).1 (by positivity)

/-- the code as a rational: the rounded value itself (no truncation by `toNat`) -/
theorem code_cast (s : Nat) (v : Rat) : ((code s v : Nat) : Rat) = ((roundHalfEven (clip v * (s : Rat)) : Int) : Rat) := by
  unfold code
  rw [← Int.cast_natCast, Int.toNat_of_nonneg (roundHalfEven_nonneg (scaled_nonneg s v))]

theorem code_zero (s : Nat) : code s 0 = 0 := by
  unfold code
  have : clip 0 * (s : Rat) = ((0 : Int) : Rat) := by simp [clip]
  rw [this, roundHalfEven_intCast]; rfl

theorem code_one (s : Nat) : code s 1 = s := by
  unfold code
  have : clip 1 * (s : Rat) = (((s : Nat) : Int) : Rat) := by simp [clip]
  rw [this, roundHalfEven_intCast]; simp

theorem code_mono (s : Nat) {v w : Rat} (h : v ≤ w) : code s v ≤ code s w :=
  Int.toNat_le_toNat (roundHalfEven_mono (mul_le_mul_of_nonneg_right (clip_mono h) (by positivity)))

theorem code_le (s : Nat) (v : Rat) : code s v ≤ s := by
  have h : code s v ≤ code s (clip v) := by rw [code, code, clip_id (clip_unit v)]
  have h1 := h.trans (code_mono s (clip_unit v).2)
  rwa [code_one] at h1

theorem flatten_unit {c a : Rat} (hc : Unit01 c) (ha : Unit01 a) : Unit01 (flatten c a) := by
  obtain ⟨c0, c1⟩ := hc; obtain ⟨a0, a1⟩ := ha
  have := mul_le_of_le_one_left a0 c1
  exact ⟨add_nonneg (mul_nonneg c0 a0) (sub_nonneg.2 a1), by unfold flatten; linarith⟩
end PsdVerif.MergedPixels
