/-
Helper lemmas for C07 (band bookkeeping). The round trips — document (`doc_core`, `doc_core_numpy`) and layer
after the conversion (`layer_converted`, `layer_converted_numpy`) — go by case split over the mode: the band
list of a well-formed image of a given mode is made explicit (`len1` … `len4`), then import and export are
evaluated on it. Around them: the source alpha and the normalisation of `layerImport` (`alpha_extraction`,
`layerImport_eq`, `normalise_*`), `traverse`, Python indexing (`pyIndex_*`, `transparency_plane_ge`).
Core Lean only.
-/
import PsdVerif.Model.Pixels

namespace PsdVerif.Pixels
variable {α σ : Type}

theorem len1 {β : Type} {l : List β} (h : l.length = 1) : ∃ a, l = [a] := by
  match l, h with
  | [a], _ => exact ⟨a, rfl⟩
theorem len2 {β : Type} {l : List β} (h : l.length = 2) : ∃ a b, l = [a, b] := by
  match l, h with
  | [a, b], _ => exact ⟨a, b, rfl⟩
theorem len3 {β : Type} {l : List β} (h : l.length = 3) : ∃ a b c, l = [a, b, c] := by
  match l, h with
  | [a, b, c], _ => exact ⟨a, b, c, rfl⟩
theorem len4 {β : Type} {l : List β} (h : l.length = 4) : ∃ a b c d, l = [a, b, c, d] := by
  match l, h with
  | [a, b, c, d], _ => exact ⟨a, b, c, d, rfl⟩

/-- evaluates the document import and the two document exports on an image whose band list is explicit -/
macro "doc_simp" : tactic => `(tactic|
  simp [docImport, exportDocPil, exportDocNumpy, pilDocRoutes, numpyDocRoutes, makeHeader, Meta.hasPreview,
      Meta.hasTransparency, Mode.cmode, CMode.channels, CMode.expected, Mode.hasAlpha, CMode.pilMode,
      Mode.pilChannels, Mode.nbands, applyRoutes, traverse, Route.apply, Px.view, Function.comp_def,
      List.range, List.range.loop, Meta.transparencyIndex, firstZero, pyIndex, Image.invert])

theorem Px.Lawful.at {P : Px α σ} (h : P.Lawful) (d : Nat) : P.LawfulAt d :=
  ⟨h.inv_inv, h.load_store d⟩

/-- `topil()` of a freshly imported document, for an image that needs no normalisation -/
theorem doc_core (C : Pil α) (P : Px α σ) (hP : P.LawfulAt 8) (img : Image α) (hwf : img.WF)
    (h1 : img.mode ≠ .one) (h2 : img.mode ≠ .RGBA) :
    exportDocPil P (docImport C P img).1 (docImport C P img).2 = .ok (some img) := by
  have hls := hP.load_store
  have hii := hP.inv_inv
  obtain ⟨mode, w, h, bands⟩ := img
  obtain ⟨hl, _⟩ := hwf
  cases mode <;> simp only [Mode.nbands] at hl
  · exact absurd rfl h1
  · obtain ⟨a, rfl⟩ := len1 hl
    doc_simp; simp [hls]
  · obtain ⟨a, b, rfl⟩ := len2 hl
    doc_simp; simp [hls]
  · obtain ⟨a, b, c, rfl⟩ := len3 hl
    doc_simp; simp [hls]
  · exact absurd rfl h2
  · obtain ⟨a, b, c, d, rfl⟩ := len4 hl
    doc_simp; simp [hls, hii]

/-- evaluates the layer import after the conversion and the three layer exports on an image whose band list is
explicit -/
macro "lay_simp" : tactic => `(tactic|
  simp [layerOfConverted, exportLayerPil, exportLayerAlpha, exportLayerNumpy, pilLayerRoutes, numpyLayerRoutes,
      pilLayerAlphaRoute, lastIndexOf, lastIndexOf.go, indicesWhere, layerPilMode,
      Mode.cmode, CMode.channels, CMode.expected, Mode.hasAlpha, CMode.pilMode, Mode.pilChannels, Mode.base,
      Mode.nbands, applyRoutes, traverse, Route.apply, Px.view, Function.comp_def, getBand,
      List.range, List.range.loop, Image.invert, Except.map])

/-- no alpha is the opaque alpha -/
theorem layerOfConverted_getD (P : Px α σ) (alpha : Option (List α)) (j : Image α) (depth : Nat) (top left : Int) :
    layerOfConverted P alpha j depth top left =
      layerOfConverted P (some (alpha.getD (List.replicate (j.width * j.height) P.full))) j depth top left := by
  cases alpha
  · unfold layerOfConverted; split <;> rfl
  · rfl

/-- export ∘ (the layer import after the conversion), for a converted image of a mode the
document can have -/
theorem layer_converted (P : Px α σ) (hdr : Header) (hP : P.LawfulAt hdr.depth) (alpha : Option (List α)) (j : Image α) (hj : j.WF)
    (hb : hdr.cmode ≠ .bitmap) (al : Bool) (hm : j.mode = hdr.cmode.pilMode al)
    (top left : Int) :
    ∃ l, layerOfConverted P alpha j hdr.depth top left = .ok l ∧
      (l.top, l.left, l.bottom, l.right) = (top, left, top + j.height, left + j.width) ∧
      exportLayerPil P hdr l = .ok
        { mode := layerPilMode hdr.cmode, width := j.width, height := j.height,
          bands := j.bands.take hdr.cmode.channels ++
            (if hdr.cmode = .cmyk then [] else
              [alpha.getD (List.replicate (j.width * j.height) P.full)]) } ∧
      exportLayerAlpha P hdr l =
        .ok (some (alpha.getD (List.replicate (j.width * j.height) P.full))) := by
  have hls := hP.load_store
  have hii := hP.inv_inv
  rw [layerOfConverted_getD]
  generalize alpha.getD (List.replicate (j.width * j.height) P.full) = a
  obtain ⟨jm, jw, jh, jb⟩ := j
  obtain ⟨cm, ch, dp, dw, dh⟩ := hdr
  obtain ⟨hjl, _⟩ := hj
  simp only at hm hjl
  subst hm
  cases cm
  · exact absurd rfl hb
  · cases al <;> simp only [CMode.pilMode, Mode.nbands] at hjl
    · obtain ⟨g, rfl⟩ := len1 hjl
      refine ⟨_, rfl, ?_, ?_, ?_⟩
      · lay_simp
      · lay_simp
        simp [hls]
        -- the exported size is the layer's box: `(right − left).toNat`, `(bottom − top).toNat`
        omega
      · lay_simp
        simp [hls]
    · obtain ⟨g, a, rfl⟩ := len2 hjl
      refine ⟨_, rfl, ?_, ?_, ?_⟩
      · lay_simp
      · lay_simp
        simp [hls]
        omega
      · lay_simp
        simp [hls]
  · cases al <;> simp only [CMode.pilMode, Mode.nbands] at hjl
    · obtain ⟨r, g, b, rfl⟩ := len3 hjl
      refine ⟨_, rfl, ?_, ?_, ?_⟩
      · lay_simp
      · lay_simp
        simp [hls]
        omega
      · lay_simp
        simp [hls]
    · obtain ⟨r, g, b, a, rfl⟩ := len4 hjl
      refine ⟨_, rfl, ?_, ?_, ?_⟩
      · lay_simp
      · lay_simp
        simp [hls]
        omega
      · lay_simp
        simp [hls]
  · have : CMode.cmyk.pilMode al = .CMYK := by cases al <;> rfl
    simp only [this, Mode.nbands] at hjl
    obtain ⟨c, m, y, k, rfl⟩ := len4 hjl
    refine ⟨_, rfl, ?_, ?_, ?_⟩
    · lay_simp
    · lay_simp
      simp [hls, hii]
      omega
    · lay_simp
      simp [hls]

/-- `layer.numpy()` of the layer import after the conversion: the colour bands in the storage convention
(inverted for CMYK — the NumPy path never inverts back), then the transparency; every sample is what
the view makes of the stored sample. -/
theorem layer_converted_numpy {β : Type} (P : Px α σ) (V : View σ β) (hdr : Header) (alpha : Option (List α))
    (j : Image α) (hj : j.WF) (hb : hdr.cmode ≠ .bitmap) (al : Bool) (hm : j.mode = hdr.cmode.pilMode al)
    (top left : Int) :
    ∃ l, layerOfConverted P alpha j hdr.depth top left = .ok l ∧
      exportLayerNumpy V hdr l = .ok
        (((if hdr.cmode = .cmyk then j.invert P else j).bands.take hdr.cmode.channels ++
            [alpha.getD (List.replicate (j.width * j.height) P.full)]).map
          (·.map fun x => V.load (P.store hdr.depth x))) := by
  rw [layerOfConverted_getD]
  generalize alpha.getD (List.replicate (j.width * j.height) P.full) = a
  obtain ⟨jm, jw, jh, jb⟩ := j
  obtain ⟨cm, ch, dp, dw, dh⟩ := hdr
  obtain ⟨hjl, _⟩ := hj
  simp only at hm hjl
  subst hm
  cases cm
  · exact absurd rfl hb
  · cases al <;> simp only [CMode.pilMode, Mode.nbands] at hjl
    · obtain ⟨g, rfl⟩ := len1 hjl
      refine ⟨_, rfl, ?_⟩ <;> lay_simp
    · obtain ⟨g, a, rfl⟩ := len2 hjl
      refine ⟨_, rfl, ?_⟩ <;> lay_simp
  · cases al <;> simp only [CMode.pilMode, Mode.nbands] at hjl
    · obtain ⟨r, g, b, rfl⟩ := len3 hjl
      refine ⟨_, rfl, ?_⟩ <;> lay_simp
    · obtain ⟨r, g, b, a, rfl⟩ := len4 hjl
      refine ⟨_, rfl, ?_⟩ <;> lay_simp
  · have : CMode.cmyk.pilMode al = .CMYK := by cases al <;> rfl
    simp only [this, Mode.nbands] at hjl
    obtain ⟨c, m, y, k, rfl⟩ := len4 hjl
    refine ⟨_, rfl, ?_⟩ <;> lay_simp <;> simp [this]

/-- `numpy()` of a freshly imported document (no normalisation needed, not RGBA): every plane in the
storage convention -/
theorem doc_core_numpy {β : Type} (C : Pil α) (P : Px α σ) (V : View σ β) (img : Image α) (hwf : img.WF)
    (h1 : img.mode ≠ .one) (h2 : img.mode ≠ .RGBA) :
    exportDocNumpy V (docImport C P img).1 (docImport C P img).2 = .ok
      ((if img.mode = .CMYK then img.invert P else img).bands.map (·.map fun x => V.load (P.store 8 x))) := by
  obtain ⟨mode, w, h, bands⟩ := img
  obtain ⟨hl, _⟩ := hwf
  cases mode <;> simp only [Mode.nbands] at hl
  · exact absurd rfl h1
  · obtain ⟨a, rfl⟩ := len1 hl
    doc_simp
  · obtain ⟨a, b, rfl⟩ := len2 hl
    doc_simp
  · obtain ⟨a, b, c, rfl⟩ := len3 hl
    doc_simp
  · exact absurd rfl h2
  · obtain ⟨a, b, c, d, rfl⟩ := len4 hl
    doc_simp

theorem alpha_extraction (C : Pil α) (hC : C.Lawful) (img : Image α) (hwf : img.WF) :
    (if img.mode.hasAlpha then (getBand (C.conv .RGBA img) 3).map some else .ok none)
      = .ok (srcAlpha img) := by
  unfold srcAlpha
  by_cases h : img.mode.hasAlpha = true
  · have hc := hC.conv_rgba_alpha img hwf h
    have hne : img.bands ≠ [] := by
      intro he
      have := hwf.1
      rw [he] at this
      cases hm : img.mode <;> simp [hm, Mode.nbands] at this
    obtain ⟨x, hx⟩ : ∃ x, img.bands.getLast? = some x := by
      cases hb : img.bands with
      | nil => exact absurd hb hne
      | cons y ys => exact ⟨_, List.getLast?_eq_some_getLast (by simp)⟩
    simp [h, getBand, hc, hx, Except.map]
  · simp [h]

theorem normalise_wf (C : Pil α) (hC : C.Lawful) (img : Image α) (hwf : img.WF) : (normalise C img).WF := by
  unfold normalise; split
  · exact hC.conv_wf _ _ hwf
  · exact hwf

/-- `PixelLayer.frompil` is the import of the converted image with the alpha of the (normalised) source -/
theorem layerImport_eq (C : Pil α) (hC : C.Lawful) (P : Px α σ) (img : Image α) (hwf : img.WF) (hdr : Header)
    (top left : Int) :
    layerImport C P img hdr top left
      = layerOfConverted P (srcAlpha (normalise C img)) (C.conv hdr.pilMode (normalise C img)) hdr.depth top left := by
  have ha := alpha_extraction C hC (normalise C img) (normalise_wf C hC img hwf)
  have hdef : layerImport C P img hdr top left =
      (match (if (normalise C img).mode.hasAlpha then (getBand (C.conv .RGBA (normalise C img)) 3).map some else Except.ok none) with
        | Except.error e => Except.error e
        | Except.ok alpha => layerOfConverted P alpha (C.conv hdr.pilMode (normalise C img)) hdr.depth top left) := rfl
  rw [hdef, ha]

theorem normalise_size (C : Pil α) (hC : C.Lawful) (img : Image α) :
    (normalise C img).width = img.width ∧ (normalise C img).height = img.height := by
  unfold normalise; split
  · exact ⟨hC.conv_width _ _, hC.conv_height _ _⟩
  · exact ⟨rfl, rfl⟩

theorem traverse_all {β γ : Type} (f : β → Except Err γ) (P : γ → Prop) (l : List β)
    (h : ∀ x ∈ l, ∃ y, f x = .ok y ∧ P y) :
    ∃ ys, traverse f l = .ok ys ∧ ys.length = l.length ∧ ∀ y ∈ ys, P y := by
  induction l with
  | nil => exact ⟨[], rfl, rfl, by simp⟩
  | cons x xs ih =>
    obtain ⟨y, hy, hpy⟩ := h x (List.mem_cons_self ..)
    obtain ⟨ys, hys, hlen, hall⟩ := ih (fun z hz => h z (List.mem_cons_of_mem _ hz))
    refine ⟨y :: ys, by simp [traverse, hy, hys], by simp [hlen], ?_⟩
    intro z hz
    simp only [List.mem_cons] at hz
    rcases hz with rfl | hz
    · exact hpy
    · exact hall z hz

theorem traverse_getElem {β γ : Type} (f : β → Except Err γ) (l : List β) (ys : List γ)
    (h : traverse f l = .ok ys) :
    ys.length = l.length ∧ ∀ i (h1 : i < l.length) (h2 : i < ys.length), f l[i] = .ok ys[i] := by
  induction l generalizing ys with
  | nil => simp [traverse] at h; subst h; simp
  | cons x xs ih =>
    simp only [traverse] at h
    cases hx : f x with
    | error e => simp [hx] at h
    | ok y =>
      cases hxs : traverse f xs with
      | error e => simp [hx, hxs] at h
      | ok ys' =>
        simp [hx, hxs] at h
        subst h
        obtain ⟨hl, hall⟩ := ih ys' hxs
        refine ⟨by simp [hl], ?_⟩
        intro i h1 h2
        cases i with
        | zero => simpa using hx
        | succ i => simpa using hall i (by simpa using h1) (by simpa using h2)

/-- Python list indexing, the two ways it succeeds: from the front, or (negative index) from the back -/
theorem pyIndex_eq_some {n : Nat} {i : Int} {a : Nat} (h : pyIndex n i = some a) :
    (0 ≤ i ∧ i.toNat < n ∧ a = i.toNat) ∨ (i < 0 ∧ i.natAbs ≤ n ∧ a = n - i.natAbs) := by
  unfold pyIndex at h
  split at h
  · split at h
    · exact .inl ⟨‹_›, ‹_›, (Option.some.inj h).symm⟩
    · cases h
  · split at h
    · exact .inr ⟨by omega, ‹_›, (Option.some.inj h).symm⟩
    · cases h

/-- `% n` (how the NumPy path reduces the transparency index) picks the plane Python's indexing picks on the PIL path -/
theorem pyIndex_emod (n : Nat) (i : Int) (a : Nat) (h : pyIndex n i = some a) :
    (i % (n : Int)).toNat = a := by
  rcases pyIndex_eq_some h with ⟨h0, h1, rfl⟩ | ⟨h0, h1, rfl⟩
  · rw [Int.emod_eq_of_lt h0 (by omega)]
  · by_cases h2 : i.natAbs = n
    · have : i = -(n : Int) := by omega
      subst this
      simp
    · have h3 : (i + (n : Int)) % (n : Int) = i + n := Int.emod_eq_of_lt (by omega) (by omega)
      rw [← Int.add_emod_right, h3]; omega

theorem pyIndex_lt (n : Nat) (i : Int) (a : Nat) (h : pyIndex n i = some a) : a < n := by
  rcases pyIndex_eq_some h with ⟨_, _, rfl⟩ | ⟨_, _, rfl⟩
  · omega
  · omega

theorem take_map_range {β : Type} (n k : Nat) (f : Nat → β) (h : k ≤ n) :
    ((List.range n).map f).take k = (List.range k).map f := by
  rw [← List.map_take, List.take_range]
  have : min k n = k := by omega
  rw [this]

theorem getElem_map_range (n k : Nat) (f : Nat → Route) (h : k < n) :
    ((List.range n).map f)[k]? = some (f k) := by
  simp [h]

/-- the transparency plane lies behind the colour planes -/
theorem transparency_plane_ge (m : Meta)
    (hids : m.alphaIds.length + m.header.cmode.expected ≤ m.header.channels)
    (hch : m.header.channels > m.header.cmode.expected) (a : Nat)
    (hpi : pyIndex m.header.channels m.transparencyIndex = some a) : a ≥ m.header.cmode.expected := by
  unfold Meta.transparencyIndex at hpi
  cases hz : firstZero m.alphaIds with
  | none =>
    simp only [hz] at hpi
    rcases pyIndex_eq_some hpi with ⟨_, _, rfl⟩ | ⟨_, _, rfl⟩
    · omega
    · omega
  | some off =>
    simp only [hz] at hpi
    rcases pyIndex_eq_some hpi with ⟨_, _, rfl⟩ | ⟨_, _, rfl⟩
    · omega
    · omega

end PsdVerif.Pixels
