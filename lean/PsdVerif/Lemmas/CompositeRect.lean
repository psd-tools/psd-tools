/-
Rectangle arithmetic of the compositor model: `_intersect`, `paste` at a pixel.
-/
import PsdVerif.Model.Composite

namespace PsdVerif.Composite

/-- `b` lies inside `R` -/
def Rect.le (b R : Rect) : Prop := R.l ≤ b.l ∧ b.r ≤ R.r ∧ R.t ≤ b.t ∧ b.b ≤ R.b

theorem intersect_of_ne_zero {a b : Rect} (h : intersect a b ≠ Rect.zero) :
    intersect a b = ⟨max a.l b.l, max a.t b.t, min a.r b.r, min a.b b.b⟩ := by
  unfold intersect at h ⊢
  simp only at h ⊢
  split
  · rename_i hc; rw [if_pos hc] at h; exact absurd rfl h
  · rfl

theorem intersect_sub {V R b : Rect} (hVR : intersect V R ≠ Rect.zero) (hb : b.le R) :
    intersect (intersect V R) b = intersect V b := by
  rw [intersect_of_ne_zero hVR]
  obtain ⟨h1, h2, h3, h4⟩ := hb
  unfold intersect
  simp only [Int.max_assoc, Int.min_assoc, Int.max_eq_right h1, Int.max_eq_right h3, Int.min_eq_right h2,
    Int.min_eq_right h4]

theorem Rect.contains_iff (r : Rect) (x y : Int) :
    r.contains x y = true ↔ (r.l ≤ x ∧ r.t ≤ y) ∧ (x < r.r ∧ y < r.b) := by
  unfold Rect.contains
  simp only [Bool.and_eq_true, decide_eq_true_eq, and_assoc, and_left_comm]

theorem contains_intersect {a b : Rect} (h : intersect a b ≠ Rect.zero) (x y : Int) :
    (intersect a b).contains x y = (a.contains x y && b.contains x y) := by
  rw [intersect_of_ne_zero h, Bool.eq_iff_iff, Bool.and_eq_true]
  simp only [Rect.contains_iff, Int.max_le, Int.lt_min, and_assoc, and_left_comm]

theorem contains_zero (x y : Int) : Rect.zero.contains x y = false := by
  rw [Bool.eq_false_iff, ne_eq, Rect.contains_iff]
  intro h
  exact absurd (Int.lt_of_le_of_lt h.1.1 h.2.1) (Int.lt_irrefl 0)

theorem contains_intersect_false {V b : Rect} {x y : Int} (hout : b.contains x y = false) :
    (intersect V b).contains x y = false := by
  by_cases hz : intersect V b = Rect.zero
  · rw [hz]; exact contains_zero x y
  · rw [contains_intersect hz, hout, Bool.and_false]

theorem intersect_ne_zero_of_contains {V b : Rect} {x y : Int} (hV : V.contains x y = true) (hb : b.contains x y = true) :
    intersect V b ≠ Rect.zero := by
  obtain ⟨⟨v1, v2⟩, v3, v4⟩ := (V.contains_iff x y).1 hV
  obtain ⟨⟨b1, b2⟩, b3, b4⟩ := (b.contains_iff x y).1 hb
  have hl := Int.max_le.2 ⟨v1, b1⟩
  have ht := Int.max_le.2 ⟨v2, b2⟩
  have hr := Int.lt_min.2 ⟨v3, b3⟩
  have hbot := Int.lt_min.2 ⟨v4, b4⟩
  unfold intersect
  simp only
  split
  · rename_i hc
    rcases hc with hc | hc
    · exact absurd (Int.lt_of_le_of_lt hl hr) (Int.not_lt.2 hc)
    · exact absurd (Int.lt_of_le_of_lt ht hbot) (Int.not_lt.2 hc)
  · intro hz
    have hi := (Rect.contains_iff ⟨max V.l b.l, max V.t b.t, min V.r b.r, min V.b b.b⟩ x y).2 ⟨⟨hl, ht⟩, hr, hbot⟩
    rw [hz, contains_zero] at hi
    exact Bool.noConfusion hi

/-- `paste` at a pixel of the viewport only asks whether the source box covers the pixel -/
theorem pasteAt_eq {α : Type} (V b : Rect) (x y : Int) (hx : V.contains x y = true) (src bg : α) :
    pasteAt V b x y src bg = if b.contains x y then src else bg := by
  unfold pasteAt
  simp only
  by_cases hb : b.contains x y = true
  · have hz := intersect_ne_zero_of_contains hx hb
    rw [if_neg hz, contains_intersect hz, hx, hb]; rfl
  · rw [contains_intersect_false (Bool.eq_false_iff.2 hb), Bool.eq_false_iff.2 hb]
    simp only [Bool.false_eq_true, if_false, ite_self]

/-- … so two viewports that contain the pixel paste alike -/
theorem pasteAt_view {α : Type} (V' V : Rect) (x y : Int) (h' : V'.contains x y = true) (h : V.contains x y = true)
    (b : Rect) (src bg : α) : pasteAt V' b x y src bg = pasteAt V b x y src bg := by
  rw [pasteAt_eq V' _ x y h', pasteAt_eq V _ x y h]

theorem maskFactors_view (pr : Props) (V' V : Rect) (x y : Int) (h' : V'.contains x y = true) (h : V.contains x y = true) :
    maskFactors pr V' x y = maskFactors pr V x y := by
  unfold maskFactors
  rw [pasteAt_view V' V x y h' h]

end PsdVerif.Composite
