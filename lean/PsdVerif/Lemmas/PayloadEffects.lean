/-
C01 payload classes — psd/effects_layer.py: the laws of the effect infos and of `EffectsLayer`.
-/
import PsdVerif.Lemmas.PayloadSimple
import PsdVerif.Model.PayloadEffects

namespace PsdVerif.Payload
open PsdVerif.Codec

theorem blendMode_length {b : B} (h : b ∈ Psd.G.blendModes) : b.length = 4 := by
  have : ∀ x ∈ Psd.G.blendModes, x.length = 4 := by decide
  exact this b h

theorem readSig8BIM_step {d : B} {p : Nat} {rest : B} (h : At d p (sig8BIM ++ rest)) :
    readSig8BIM d p = .ok ((), p + 4) ∧ At d (p + 4) rest := by
  obtain ⟨e, h'⟩ := readN_step (n := 4) h rfl
  exact ⟨by simp only [readSig8BIM, e, if_true], h'⟩

theorem readBlendMode_step {d : B} {p : Nat} {b rest : B} (hb : b ∈ Psd.G.blendModes) (h : At d p (pack4s b ++ rest)) :
    readBlendMode d p = .ok (b, p + 4) ∧ At d (p + 4) rest := by
  rw [pack4s_of_length (blendMode_length hb)] at h
  obtain ⟨e, h'⟩ := readN_step h (blendMode_length hb)
  exact ⟨by simp only [readBlendMode, e, if_pos hb], h'⟩

theorem optColorP_eq (o : Option Color) : optColorP o = (optColorT o, (optColorT o).length) := by
  cases o with
  | none => rfl
  | some c => exact c.encP_eq

/-! ## CommonStateInfo -/

theorem CommonStateInfo.rt : CommonStateInfo.codec.RtAnywhere := by
  intro x _ hf d p h
  simp only [CommonStateInfo.codec, List.append_assoc] at h
  obtain ⟨e1, h⟩ := readU_step h hf.1
  obtain ⟨e2, h⟩ := readU_step h hf.2
  obtain ⟨e3, _⟩ := readSkip_step h.nil_right
  simp only [CommonStateInfo.codec, bind, Except.bind, e1, e2, e3, Nat.add_assoc]

theorem CommonStateInfo.count : CommonStateInfo.codec.Count := fun _ => rfl

/-! ## ShadowInfo -/

namespace ShadowInfo

theorem encP_eq (x : ShadowInfo) : x.encP = (x.encT, x.encT.length) := by
  simp only [encP, encT, Color.encP_eq, wBytes_eq, wSeq_eq]

theorem dec_at {x : ShadowInfo} (hwf : x.blendMode ∈ Psd.G.blendModes) (hf : x.Fits) {d : B} {p : Nat} (h : At d p x.encT) :
    dec d p = .ok (x, p + 51) := by
  obtain ⟨f1, f2, f3, f4, f5, fc, f6, f7, f8, fn⟩ := hf
  simp only [encT, headT, midT, List.append_assoc] at h
  obtain ⟨e1, h⟩ := readU_step h f1
  obtain ⟨e2, h⟩ := readU_step h f2
  obtain ⟨e3, h⟩ := readU_step h f3
  obtain ⟨e4, h⟩ := readI32_step h f4
  obtain ⟨e5, h⟩ := readU_step h f5
  obtain ⟨e6, h⟩ := Color.dec_step fc h
  obtain ⟨e7, h⟩ := readSig8BIM_step h
  obtain ⟨e8, h⟩ := readBlendMode_step hwf h
  obtain ⟨e9, h⟩ := readU_step h f6
  obtain ⟨e10, h⟩ := readU_step h f7
  obtain ⟨e11, h⟩ := readU_step h f8
  obtain ⟨e12, _⟩ := Color.dec_step fn h.nil_right
  simp only [dec, bind, Except.bind, e1, e2, e3, e4, e5, e6, e7, e8, e9, e10, e11, e12, Nat.add_assoc]

theorem length_encT (x : ShadowInfo) (hf : x.Fits) : x.encT.length = 51 := by
  simp only [encT, headT, midT, List.length_append, length_beBytes, length_i32T, length_pack4s,
    Color.length_encT _ hf.2.2.2.2.2.1, Color.length_encT _ hf.2.2.2.2.2.2.2.2.2]
  rfl

theorem rt : codec.RtAnywhere := .of_fields fun _ hwf hf _ _ h => dec_at hwf hf h
theorem count : codec.Count := encP_eq

end ShadowInfo

/-! ## glow infos -/

namespace GlowBody

theorem encP_eq (x : GlowBody) : x.encP = (x.encT, x.encT.length) := by
  simp only [encP, encT, Color.encP_eq, wBytes_eq, wSeq_eq, List.append_assoc]

theorem dec_step {x : GlowBody} (hwf : x.blendMode ∈ Psd.G.blendModes) (hf : x.Fits) {d : B} {p : Nat} {rest : B}
    (h : At d p (x.encT ++ rest)) : dec d p = .ok (x, p + x.encT.length) ∧ At d (p + x.encT.length) rest := by
  refine ⟨?_, h.right⟩
  obtain ⟨f1, f2, f3, fc, f4, f5⟩ := hf
  simp only [encT, List.append_assoc] at h
  obtain ⟨e1, h⟩ := readU_step h f1
  obtain ⟨e2, h⟩ := readU_step h f2
  obtain ⟨e3, h⟩ := readU_step h f3
  obtain ⟨e4, h⟩ := Color.dec_step fc h
  obtain ⟨e5, h⟩ := readSig8BIM_step h
  obtain ⟨e6, h⟩ := readBlendMode_step hwf h
  obtain ⟨e7, h⟩ := readU_step h f4
  obtain ⟨e8, _⟩ := readU_step h f5
  simp only [dec, bind, Except.bind, e1, e2, e3, e4, e5, e6, e7, e8, encT, List.length_append, length_beBytes, length_pack4s,
    Color.length_encT _ fc, show (sig8BIM : B).length = 4 from rfl, Nat.add_assoc]

end GlowBody

namespace OuterGlowInfo

theorem encP_eq (x : OuterGlowInfo) : x.encP = (x.encT, x.encT.length) := by
  obtain ⟨b, n⟩ := x
  cases n with
  | none => simp only [encP, encT, optColorT, GlowBody.encP_eq, List.append_nil]
  | some c => simp only [encP, encT, optColorT, GlowBody.encP_eq, Color.encP_eq, wSeq_eq]

theorem rt : codec.RtAnywhere := .of_fields fun x hwf hf d p h => by
  obtain ⟨e1, h⟩ := GlowBody.dec_step hwf.1 hf.1 h
  obtain ⟨e2, _⟩ := optField_step (enc := Color.encT) (encO := optColorT) rfl (fun _ => rfl) hwf.2.symm h.nil_right fun c hc h => by
    have fn := hf.2
    rw [hc] at fn
    rw [Color.length_encT c fn]
    exact (Color.dec_step fn h).1
  simp only [dec, bind, Except.bind, e1, e2]
  simp only [encT, List.length_append, Nat.add_assoc]

theorem count : codec.Count := encP_eq

end OuterGlowInfo

namespace InnerGlowInfo

theorem encP_eq (x : InnerGlowInfo) : x.encP = (x.encT, x.encT.length) := by
  unfold encP encT tailT
  split
  · simp only [GlowBody.encP_eq, optColorP_eq, wBytes_eq, wSeq_eq, List.append_assoc]
  · simp only [GlowBody.encP_eq, List.append_nil]

theorem rt : codec.RtAnywhere := by
  intro x hwf hf d p h
  obtain ⟨hb, hver⟩ := hwf
  obtain ⟨fb, ftail⟩ := hf
  obtain ⟨body, invert, native⟩ := x
  simp only [codec, encT, tailT] at h hver ftail ⊢
  dsimp only at hb fb
  by_cases hv : body.version ≥ 2
  · obtain ⟨⟨hi, fi⟩, ⟨hn, fn⟩⟩ := ftail hv
    cases invert with
    | none => simp at hi
    | some i =>
      cases native with
      | none => simp at hn
      | some c =>
        simp only [Psd.optFits] at fi
        simp only [optColorFits] at fn
        simp only [if_pos hv, Psd.optT, optColorT, List.append_assoc] at h ⊢
        obtain ⟨e1, h⟩ := GlowBody.dec_step hb fb h
        obtain ⟨e2, h⟩ := readU_step h fi
        obtain ⟨e3, _⟩ := Color.dec_step fn h.nil_right
        simp only [dec, bind, Except.bind, e1, if_pos hv, e2, e3]
        simp only [List.length_append, length_beBytes, Color.length_encT c fn, Nat.add_assoc]
  · obtain ⟨rfl, rfl⟩ := hver (by omega)
    simp only [if_neg hv, List.append_nil] at h ⊢
    obtain ⟨e1, _⟩ := GlowBody.dec_step hb fb h.nil_right
    simp only [dec, bind, Except.bind, e1, if_neg hv]

theorem count : codec.Count := encP_eq

end InnerGlowInfo

/-! ## BevelInfo -/

namespace BevelInfo

theorem encP_eq (x : BevelInfo) : x.encP = (x.encT, x.encT.length) := by
  unfold encP encT tailT
  split
  · simp only [Color.encP_eq, optColorP_eq, wBytes_eq, wSeq_eq, List.append_assoc]
  · simp only [Color.encP_eq, wBytes_eq, wSeq_eq, List.append_nil]

theorem rt : codec.RtAnywhere := by
  intro x hwf hf d p h
  obtain ⟨hvalid, hver⟩ := hwf
  obtain ⟨f1, f2, f3, f4, fhc, fsc, g1, g2, g3, g4, g5, g6, ftail⟩ := hf
  have hh := pack4s_of_length (blendMode_length hvalid.1)
  have hs := pack4s_of_length (blendMode_length hvalid.2)
  simp only [codec, encT, headT, modesT, sixT, hh, hs, List.append_assoc] at h
  have hLbase : (codec.encT x).length = 4 + (4 + (4 + (4 + (4 + (4 + (4 + (4 + (10 + (10 + (1 + (1 + (1 + (1 + (1 + (1 +
      x.tailT.length))))))))))))))) := by
    simp only [codec, encT, headT, modesT, sixT, List.length_append, length_beBytes, length_i32T, length_pack4s,
      Color.length_encT _ fhc, Color.length_encT _ fsc]
    have : (sig8BIM : B).length = 4 := rfl
    omega
  obtain ⟨e1, h⟩ := readU_step h f1
  obtain ⟨e2, h⟩ := readI32_step h f2
  obtain ⟨e3, h⟩ := readU_step h f3
  obtain ⟨e4, h⟩ := readU_step h f4
  obtain ⟨e5, h⟩ := readN_step (n := 4) h rfl
  obtain ⟨e6, h⟩ := readN_step h (blendMode_length hvalid.1)
  obtain ⟨e7, h⟩ := readN_step (n := 4) h rfl
  obtain ⟨e8, h⟩ := readN_step h (blendMode_length hvalid.2)
  obtain ⟨e9, h⟩ := Color.dec_step fhc h
  obtain ⟨e10, h⟩ := Color.dec_step fsc h
  obtain ⟨e11, h⟩ := readU_step h g1
  obtain ⟨e12, h⟩ := readU_step h g2
  obtain ⟨e13, h⟩ := readU_step h g3
  obtain ⟨e14, h⟩ := readU_step h g4
  obtain ⟨e15, h⟩ := readU_step h g5
  obtain ⟨e16, h⟩ := readU_step h g6
  obtain ⟨version, angle, depth, blur, hbm, sbm, hc, sc, style, ho, so, en, uga, dir, rh, rs⟩ := x
  simp only at *
  simp only [codec] at hLbase ⊢
  rw [hLbase]
  by_cases hv : version ≥ 2
  · obtain ⟨⟨hrh, frh⟩, ⟨hrs, frs⟩⟩ := ftail hv
    cases rh with
    | none => simp at hrh
    | some a =>
      cases rs with
      | none => simp at hrs
      | some b =>
        simp only [optColorFits] at frh frs
        simp only [tailT, if_pos hv, optColorT] at h ⊢
        obtain ⟨e17, h⟩ := Color.dec_step frh h
        obtain ⟨e18, _⟩ := Color.dec_step frs h.nil_right
        simp only [dec, bind, Except.bind, e1, e2, e3, e4, e5, if_true, e6, e7, e8, e9, e10, e11, e12, e13, e14, e15, e16,
          if_pos hv, e17, e18]
        rw [if_pos hvalid]
        simp only [List.length_append, Color.length_encT a frh, Color.length_encT b frs, Nat.add_assoc]
  · obtain ⟨rfl, rfl⟩ := hver (by omega)
    simp only [tailT, if_neg hv, List.length_nil, Nat.add_zero] at h ⊢
    simp only [dec, bind, Except.bind, e1, e2, e3, e4, e5, if_true, e6, e7, e8, e9, e10, e11, e12, e13, e14, e15, e16,
      if_neg hv]
    rw [if_pos hvalid]

theorem count : codec.Count := encP_eq

end BevelInfo

/-! ## SolidFillInfo -/

namespace SolidFillInfo

theorem encP_eq (x : SolidFillInfo) : x.encP = (x.encT, x.encT.length) := by
  simp only [encP, encT, Color.encP_eq, wBytes_eq, wSeq_eq]

theorem rt : codec.RtAnywhere := by
  intro x hwf hf d p h
  have hwf : x.blendMode ∈ Psd.G.blendModes := hwf
  obtain ⟨f1, fc, f2, f3, fn⟩ := hf
  have hb := pack4s_of_length (blendMode_length hwf)
  simp only [codec, encT, hb, List.append_assoc] at h
  obtain ⟨e1, h⟩ := readU_step h f1
  obtain ⟨e2, h⟩ := readN_step (n := 4) h rfl
  obtain ⟨e3, h⟩ := readN_step h (blendMode_length hwf)
  obtain ⟨e4, h⟩ := Color.dec_step fc h
  obtain ⟨e5, h⟩ := readU_step h f2
  obtain ⟨e6, h⟩ := readU_step h f3
  obtain ⟨e7, _⟩ := Color.dec_step fn h.nil_right
  simp only [codec, dec, bind, Except.bind, e1, e2, e3, if_true, e4, e5, e6, e7, if_pos hwf, Nat.add_assoc]

theorem count : codec.Count := encP_eq

theorem length_encT (x : SolidFillInfo) (hf : x.Fits) : x.encT.length = 34 := by
  simp only [encT, List.length_append, length_beBytes, length_pack4s, Color.length_encT _ hf.2.1,
    Color.length_encT _ hf.2.2.2.2]
  rfl

end SolidFillInfo

/-! ## EffectsLayer -/

namespace Effect

theorem encP_eq (e : Effect) : e.encP = (e.encT, e.encT.length) := by
  cases e with
  | common x => rfl
  | shadow x => exact x.encP_eq
  | outerGlow x => exact x.encP_eq
  | innerGlow x => exact x.encP_eq
  | bevel x => exact x.encP_eq
  | solidFill x => exact x.encP_eq

/-- the reader of the effect's class, on the effect's own bytes (`kls.frombytes(read_length_block(fp))`) -/
theorem decAs_encT (e : Effect) (hwf : e.WF) (hf : e.Fits) : decAs e.cls e.encT = .ok e := by
  cases e with
  | common x => simp only [decAs, cls, encT, CommonStateInfo.rt x hwf hf _ _ (At.self _), Except.map]
  | shadow x =>
    have := ShadowInfo.rt x hwf hf _ _ (At.self _)
    simp only [ShadowInfo.codec] at this
    simp only [decAs, cls, encT, this, Except.map]
  | outerGlow x =>
    have := OuterGlowInfo.rt x hwf hf _ _ (At.self _)
    simp only [OuterGlowInfo.codec] at this
    simp only [decAs, cls, encT, this, Except.map]
  | innerGlow x =>
    have := InnerGlowInfo.rt x hwf hf _ _ (At.self _)
    simp only [InnerGlowInfo.codec] at this
    simp only [decAs, cls, encT, this, Except.map]
  | bevel x =>
    have := BevelInfo.rt x hwf hf _ _ (At.self _)
    simp only [BevelInfo.codec] at this
    simp only [decAs, cls, encT, this, Except.map]
  | solidFill x =>
    have := SolidFillInfo.rt x hwf hf _ _ (At.self _)
    simp only [SolidFillInfo.codec] at this
    simp only [decAs, cls, encT, this, Except.map]

end Effect

namespace EffectsLayer

theorem key_length {k : B} {c : EffectClass} (h : classOfKey k = some c) : k.length = 4 := by
  unfold classOfKey at h
  cases hf : effectTypes.find? (fun kc => kc.1 = k) with
  | none => rw [hf] at h; cases h
  | some kc =>
    have hm := List.mem_of_find?_eq_some hf
    have hp := List.find?_some hf
    simp only [decide_eq_true_eq] at hp
    have : ∀ x ∈ effectTypes, x.1.length = 4 := by decide
    rw [← hp]; exact this kc hm

theorem itemP_eq (kv : B × Effect) : itemP kv = (itemT kv, (itemT kv).length) := by
  simp only [itemP, itemT, Effect.encP_eq, wBytes_eq, wLenBlock_eq, wSeq_eq, List.append_assoc]

theorem itemDec_at {kv : B × Effect} (hcls : classOfKey kv.1 = some kv.2.cls) (hwf : kv.2.WF) (hf : kv.2.Fits)
    (hlen : FitsU 4 kv.2.encT.length) {d : B} {p : Nat} (h : At d p (itemT kv)) :
    itemDec d p = .ok (kv, p + (itemT kv).length) := by
  have hk := pack4s_of_length (key_length hcls)
  have hL : (itemT kv).length = 4 + (4 + (lenBlockT 0 4 1 kv.2.encT).length) := by
    have : (sig8BIM : B).length = 4 := rfl
    simp only [itemT, List.length_append, length_pack4s]; omega
  rw [hL]
  simp only [itemT, hk, List.append_assoc] at h
  obtain ⟨e1, h⟩ := readSig8BIM_step h
  obtain ⟨e2, h⟩ := readN_step h (key_length hcls)
  have e3 := readLenBlock_at h hlen (by decide)
  simp only [itemDec, bind, Except.bind, e1, e2, hcls, e3, Effect.decAs_encT kv.2 hwf hf, Nat.add_assoc]

theorem rt : codec.RtAnywhere := by
  intro x hwf hf d p h
  obtain ⟨hitems, hnd⟩ := hwf
  obtain ⟨f1, f2, fi⟩ := hf
  simp only [codec, encT, bodyT, List.append_assoc] at h
  obtain ⟨e1, h⟩ := readU_step h f1
  obtain ⟨e2, h⟩ := readU_step h f2
  obtain ⟨e3, _⟩ := readCount_step itemDec itemT x.items
    (fun kv hkv d p h => itemDec_at (hitems kv hkv).1 (hitems kv hkv).2 (fi kv hkv).1 (fi kv hkv).2 h) h
  simp only [codec, dec, bind, Except.bind, e1, e2, e3, odict_of_nodup (fun (kv : B × Effect) => kv.1) x.items hnd, bodyT,
    List.length_append, length_beBytes, Nat.add_assoc]

theorem count : codec.Count := by
  intro x
  simp only [codec, encP, encT, bodyT]
  rw [wList_eq itemP itemT x.items (fun kv _ => itemP_eq kv)]
  simp only [wBytes_eq, wSeq_eq, wPad_eq, List.append_assoc]

theorem length_encT_mod (x : EffectsLayer) : (codec.encT x).length % 4 = 0 := length_padded_mod x.bodyT (by decide)

end EffectsLayer

end PsdVerif.Payload
