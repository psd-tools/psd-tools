/-
Helper lemmas for C04: conversions between byte strings and the item arrays of the
prediction codec, and its round trip per depth.
Core Lean only.
-/
import PsdVerif.Lemmas.CompDelta
import PsdVerif.Lemmas.CompShuffle

namespace PsdVerif.Compression

theorem natsOfBytes_good (d : BList) : DeltaGood 256 d.length (natsOfBytes d) := by
  constructor
  · simp [natsOfBytes]
  · intro i hi
    simp only [natsOfBytes, List.getElem_toArray, List.getElem_map]
    exact UInt8.toNat_lt _

theorem bytesOfNats_natsOfBytes (d : BList) : bytesOfNats (natsOfBytes d) = d := by
  simp only [bytesOfNats, natsOfBytes, List.map_map]
  have : (UInt8.ofNat ∘ fun (x : UInt8) => x.toNat) = id := by
    funext x; simp
  rw [this, List.map_id]

theorem natsOfBytes_bytesOfNats (a : Array Nat) (hlt : ∀ i (h : i < a.size), a[i] < 256) :
    natsOfBytes (bytesOfNats a) = a := by
  apply Array.ext
  · simp [natsOfBytes, bytesOfNats]
  · intro i h1 h2
    simp only [natsOfBytes, bytesOfNats, List.getElem_toArray, List.getElem_map, Array.getElem_toList]
    exact UInt8.toNat_ofNat_of_lt' (hlt i h2)

theorem bytesOfNats_length (a : Array Nat) : (bytesOfNats a).length = a.size := by
  simp [bytesOfNats]

theorem wordsOfBytes_spec (d : BList) (n : Nat) (h : d.length = 2 * n) :
    ∃ ws, wordsOfBytes d = .ok ws ∧ ws.length = n ∧ (∀ x ∈ ws, x < 65536) ∧ bytesOfWords ws = d := by
  induction n generalizing d with
  | zero =>
    have : d = [] := List.eq_nil_of_length_eq_zero (by simpa using h)
    subst this
    exact ⟨[], rfl, rfl, by simp, rfl⟩
  | succ n ih =>
    match d, h with
    | hi :: lo :: t, h =>
      obtain ⟨ws, h1, h2, h3, h4⟩ := ih t (by simp at h; omega)
      refine ⟨(hi.toNat * 256 + lo.toNat) :: ws, ?_, by simp [h2], ?_, ?_⟩
      · simp [wordsOfBytes, h1]
      · intro x hx
        rcases List.mem_cons.mp hx with rfl | hx
        · have := UInt8.toNat_lt hi; have := UInt8.toNat_lt lo; omega
        · exact h3 x hx
      · have hl := UInt8.toNat_lt lo
        have e1 : (hi.toNat * 256 + lo.toNat) / 256 = hi.toNat := by omega
        have e2 : (hi.toNat * 256 + lo.toNat) % 256 = lo.toNat := by omega
        simp only [bytesOfWords, List.flatMap_cons, e1, e2, UInt8.ofNat_toNat] at h4 ⊢
        rw [h4]; rfl

theorem wordsOfBytes_bytesOfWords (ws : List Nat) (h : ∀ x ∈ ws, x < 65536) :
    wordsOfBytes (bytesOfWords ws) = .ok ws := by
  induction ws with
  | nil => rfl
  | cons v ws ih =>
    have hv := h v (by simp)
    have e1 : (UInt8.ofNat (v / 256)).toNat = v / 256 := UInt8.toNat_ofNat_of_lt' (show v / 256 < 256 by omega)
    have e2 : (UInt8.ofNat (v % 256)).toNat = v % 256 := UInt8.toNat_ofNat_of_lt' (Nat.mod_lt v (by decide))
    have ih' := ih (fun x hx => h x (by simp [hx]))
    simp only [bytesOfWords, List.flatMap_cons] at ih' ⊢
    simp only [List.cons_append, List.nil_append, wordsOfBytes, ih', e1, e2]
    congr 2; omega

theorem bytesOfWords_length (ws : List Nat) : (bytesOfWords ws).length = 2 * ws.length := by
  induction ws with
  | nil => rfl
  | cons v ws ih =>
    simp only [bytesOfWords, List.flatMap_cons] at ih ⊢
    simp [ih]; omega

theorem pred8_roundtrip (d : BList) (w h : Nat) (hd : d.length = w * h) :
    ∃ e, encodePrediction d w h 8 = .ok e ∧ e.length = d.length ∧ decodePrediction e w h 8 = .ok d := by
  have hg := natsOfBytes_good d
  rw [hd] at hg
  obtain ⟨b, hb1, hb2, hb3⟩ := deltaLoop_roundtrip 256 w h _ hg
  refine ⟨bytesOfNats b, ?_, ?_, ?_⟩
  · simp [encodePrediction, hb1]
  · rw [bytesOfNats_length, hb2.1, hd]
  · simp [decodePrediction, natsOfBytes_bytesOfNats _ hb2.2, hb3, bytesOfNats_natsOfBytes]

theorem pred16_roundtrip (d : BList) (w h : Nat) (hd : d.length = 2 * (w * h)) :
    ∃ e, encodePrediction d w h 16 = .ok e ∧ e.length = d.length ∧ decodePrediction e w h 16 = .ok d := by
  obtain ⟨ws, h1, h2, h3, h4⟩ := wordsOfBytes_spec d (w * h) hd
  have hg : DeltaGood 65536 (w * h) ws.toArray := by
    constructor
    · simpa using h2
    · intro i hi
      simp only [List.getElem_toArray]
      exact h3 _ (List.getElem_mem _)
  obtain ⟨b, hb1, hb2, hb3⟩ := deltaLoop_roundtrip 65536 w h _ hg
  have hbl : ∀ x ∈ b.toList, x < 65536 := by
    intro x hx
    obtain ⟨i, hi, rfl⟩ := List.getElem_of_mem hx
    simpa using hb2.2 i (by simpa using hi)
  refine ⟨bytesOfWords b.toList, ?_, ?_, ?_⟩
  · simp [encodePrediction, h1, hb1]
  · rw [bytesOfWords_length, Array.length_toList, hb2.1, hd]
  · simp [decodePrediction, wordsOfBytes_bytesOfWords _ hbl, hb3, h4]

theorem pred32_roundtrip (d : BList) (w h : Nat) (hw : 0 < w) (hd : d.length = 4 * w * h) :
    ∃ e, encodePrediction d w h 32 = .ok e ∧ e.length = d.length ∧ decodePrediction e w h 32 = .ok d := by
  obtain ⟨s, hs1, hs2, hs3⟩ := shuffleArr_roundtrip w h d.toArray hw (by simpa using hd)
  have hsl : s.toList.length = w * 4 * h := by
    rw [Array.length_toList, hs2]; simp [hd, Nat.mul_comm 4 w]
  have hg := natsOfBytes_good s.toList
  rw [hsl] at hg
  obtain ⟨b, hb1, hb2, hb3⟩ := deltaLoop_roundtrip 256 (w * 4) h _ hg
  refine ⟨bytesOfNats b, ?_, ?_, ?_⟩
  · simp [encodePrediction, hs1, hb1]
  · rw [bytesOfNats_length, hb2.1, hd, Nat.mul_comm 4 w]
  · simp [decodePrediction, natsOfBytes_bytesOfNats _ hb2.2, hb3, bytesOfNats_natsOfBytes, hs3]

end PsdVerif.Compression
