/-
C01 (typed documents) — Model/TypedDoc.lean: the views (`flat`, `flatD`, `flatR`) and how they commute with `refresh`, the
layer and mask section with typed blocks at every level and the whole file, as instances of `lamRead_at` and
`docRead_sections` (Lemmas/CodecPsd3.lean).
-/
import PsdVerif.Lemmas.TypedBlocks2
import PsdVerif.Lemmas.Payload3Typed
import PsdVerif.Model.TypedDoc

namespace PsdVerif.Typed
open PsdVerif.Codec PsdVerif.Psd PsdVerif.Payload PsdVerif.Payload3

section
variable {Q : Type} (tb : Descriptor.Tables) {K : Kit Q}

/-! ### the views -/

theorem Blk.flat_toDeep (v : Nat) (t : Blk (Pay Q)) :
    TBlock.flat v 4 (Blk.toDeep tb K v t) = Blk.flat (payKit tb K) v 4 t := by
  obtain ⟨sig, key, data⟩ := t
  cases data <;> rfl

theorem TLam.flat_flatD (v : Nat) (x : TLam Q) : (x.flatD tb K v).flat v = x.flat tb K v := by
  obtain ⟨li, g, ts⟩ := x
  cases ts with
  | none => rfl
  | some ts =>
    simp only [TLam.flatD, TLam.flat, DeepLam.flat, Option.map_some, List.map_map, LayerAndMask.mk.injEq, true_and,
      Option.some.injEq]
    apply List.map_congr_left
    intro t _
    exact Blk.flat_toDeep tb v t

theorem TPSD.flat_flatR (x : TPSD Q) : ((x.flatR tb K).flat tb).flat = x.flat tb K := by
  simp only [TPSD.flatR, ResPSD.flat, DeepPSD.flat, TPSD.flat, TLam.flat_flatD]

theorem Blk.toDeep_refresh (hK : K.Law) (v : Nat) (t : Blk (Pay Q)) :
    Blk.toDeep tb K v (Blk.refresh (payKit tb K) t) = (Blk.toDeep tb K v t).refresh := by
  obtain ⟨sig, key, data⟩ := t
  cases data with
  | raw b => rfl
  | cls c v => rfl
  | info li =>
    simp only [Blk.toDeep, Blk.refresh, payKit, Pay.refresh, Pay.toDeep, TBlock.refresh, Payload.refresh,
      Info.flat_blockRefresh hK]

end

section
variable {Q : Type} (tb : Descriptor.Tables) {K : Kit Q}

theorem TLam.flatD_refresh (hK : K.Law) (v : Nat) (x : TLam Q) :
    (x.refresh tb K).flatD tb K v = (x.flatD tb K v).refresh := by
  have hKP := payKit_law tb hK
  obtain ⟨li, g, ts⟩ := x
  simp only [TLam.refresh, TLam.flatD, DeepLam.refresh, DeepLam.mk.injEq, true_and]
  constructor
  · cases li with
    | none => rfl
    | some li => simp only [Option.map_some, Info.flat_refresh hKP]
  · cases ts with
    | none => rfl
    | some ts =>
      simp only [Option.map_some, List.map_map, Option.some.injEq]
      apply List.map_congr_left
      intro t _
      exact Blk.toDeep_refresh tb hK v t

theorem TPSD.flatR_refresh (hK : K.Law) (x : TPSD Q) : (x.refresh tb K).flatR tb K = (x.flatR tb K).refresh := by
  simp only [TPSD.refresh, TPSD.flatR, ResPSD.refresh, TLam.flatD_refresh tb hK]

/-! ### the layer and mask section -/

theorem TLam.dec_eq_lamRead (K : Kit Q) (v : Nat) :
    TLam.dec tb K v = lamRead (Info.dec (payKit tb K) v) (blksDec (payKit tb K) v 4) TLam.mk v := rfl

/-- `LayerAndMaskInformation.read` with typed blocks at every level, on the main stream -/
theorem TLam.dec_at (hK : K.Law) {v pad : Nat} {x : TLam Q} (hwf : (x.flat tb K v).WF v pad) (hty : x.Typed tb K v)
    {d : B} {p : Nat} (hat : At d p ((x.flat tb K v).encT v pad)) :
    TLam.dec tb K v d p = .ok (x.refresh tb K, p + ((x.flat tb K v).encT v pad).length) := by
  have hKP := payKit_law tb hK
  obtain ⟨⟨_, _, _, hfb⟩, hrest⟩ := hwf
  obtain ⟨li, g, ts⟩ := x
  obtain ⟨htli, htts⟩ := hty
  rw [TLam.dec_eq_lamRead]
  simp only [TLam.flat] at hrest
  cases li with
  | none =>
    obtain ⟨rfl, hts⟩ := hrest
    cases ts with
    | some ts => simp at hts
    | none => exact lamRead_empty hat
  | some li =>
    simp only [Option.map_some] at hrest
    obtain ⟨hli, hg, hts, hgt⟩ := hrest
    cases ts with
    | none => simp at hts
    | some ts =>
      simp only [Option.map_some] at hts hgt
      have hbody : LayerAndMask.bodyT v pad ⟨some (li.flat (payKit tb K) v), g, some (ts.map (Blk.flat (payKit tb K) v 4))⟩ =
          (li.flat (payKit tb K) v).encT v pad ++ (optT' GlobalLayerMaskInfo.encT g ++ blksT (payKit tb K) v 4 ts) := by
        simp only [LayerAndMask.bodyT, optT', List.append_assoc, blksT_flat]
      simp only [TLam.flat, Option.map_some, LayerAndMask.encT, hbody] at hfb hat ⊢
      exact lamRead_at (fun h => Info.dec_step hKP hli htli h)
        (by have := (li.flat (payKit tb K) v).length_encT_ge v pad; omega) hg
        (fun h => blksDec_at hKP (Or.inr (Or.inr rfl)) hts htts (some _) h (fun e he => by cases he; exact Nat.le_refl _)
          (by simp [taggedCond]))
        (fun hn => by have := hgt hn; simp only [Option.some.injEq, List.map_eq_nil_iff] at this; subst this; exact ⟨rfl, rfl⟩)
        hfb hat

/-! ### the whole file -/

namespace TPSD

theorem read_eq_docRead (K : Kit Q) : read tb K = docRead (tresourcesDec tb) (TLam.dec tb K) TPSD.mk := rfl

theorem read_encT (hK : K.Law) {pad : Nat} {x : TPSD Q} (hwf : x.WF tb K pad) :
    read tb K (x.encT tb K pad) 0 = .ok (x.refresh tb K, (x.encT tb K pad).length) := by
  obtain ⟨⟨⟨hskel, _⟩, hres⟩, hty⟩ := hwf
  rw [TPSD.flat_flatR] at hskel
  obtain ⟨hh, hc, hr, hl, hi⟩ := hskel
  rw [read_eq_docRead]
  refine docRead_sections hh hc hi (tresourcesDec_at tb hr hres) (TLam.dec_at tb hK hl hty) ?_
  simp only [encT, PSD.encT, TPSD.flat, tresourcesT, List.append_assoc]

/-- what the typed writer emits, the writer with typed resources emits for the view `flatR` -/
theorem enc_below {pad : Nat} {x : TPSD Q} {bs : B} (h : enc tb K pad x = .ok bs) :
    ResPSD.enc tb pad (x.flatR tb K) = .ok bs := by
  unfold enc at h
  split at h
  · cases h
  · rename_i bs' he
    split at h
    · rw [← Except.ok.inj h]
      exact he
    · cases h

theorem enc_ok {pad : Nat} {x : TPSD Q} {bs : B} (h : enc tb K pad x = .ok bs) : bs = x.encT tb K pad := by
  rw [ResPSD.enc_ok tb (enc_below tb h)]
  simp only [ResPSD.encT, DeepPSD.encT, encT, TPSD.flat_flatR]

theorem enc_eq {pad : Nat} {x : TPSD Q} (hf : x.payloadFits tb K) (hr : ResPSD.payloadFits tb (x.flatR tb K))
    (hw : ((x.flatR tb K).flat tb).flat.writeError pad = none) (hd : ((x.flatR tb K).flat tb).payloadFits) :
    enc tb K pad x = .ok (x.encT tb K pad) := by
  unfold enc
  rw [ResPSD.enc_eq tb hr hw hd]
  simp only [if_pos hf, ResPSD.encT, DeepPSD.encT, encT, TPSD.flat_flatR]

theorem payloadFits_refresh (hK : K.Law) (x : TPSD Q) : (x.refresh tb K).payloadFits tb K ↔ x.payloadFits tb K := by
  have hKP := payKit_law tb hK
  obtain ⟨h, c, r, ⟨li, g, ts⟩, i⟩ := x
  simp only [payloadFits, refresh, TLam.refresh, TLam.payloadFits]
  apply and_congr
  · cases li with
    | none => exact Iff.rfl
    | some li => simp only [Option.map_some, optProp, Info.payloadFits_refresh hKP]
  · cases ts with
    | none => exact Iff.rfl
    | some ts =>
      simp only [Option.map_some, optAll, List.forall_mem_map, Blk.refresh, hKP.fits_refresh]

/-- re-writing the document object as `write` left it (= as it is re-read) gives the same bytes -/
theorem enc_refresh (hK : K.Law) (pad : Nat) (x : TPSD Q) : enc tb K pad (x.refresh tb K) = enc tb K pad x := by
  unfold enc
  rw [TPSD.flatR_refresh tb hK, ResPSD.enc_refresh]
  simp only [payloadFits_refresh tb hK]

end TPSD
end

end PsdVerif.Typed
