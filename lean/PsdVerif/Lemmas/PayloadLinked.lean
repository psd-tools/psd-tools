/-
C01 payload classes — psd/linked_layer.py: the laws of `LinkedLayer` (every kind × version) and `LinkedLayers`.
-/
import PsdVerif.Lemmas.PayloadPatterns
import PsdVerif.Model.PayloadLinked

namespace PsdVerif.Payload
open PsdVerif.Codec

namespace LinkedLayer
variable (tb : Descriptor.Tables)

/-! ### pieces -/

/-- a descriptor block written with `padding=1` (no filler), read by `DescriptorBlock.read` -/
theorem block_step {b : Descriptor.Block} (hwf : b.WF tb) (hf : b.Fits tb) {d : B} {p : Nat} {rest : B}
    (h : At d p (b.encT tb 1 ++ rest)) :
    Descriptor.Block.dec tb d p = .ok (b, p + (b.encT tb 1).length) ∧ At d (p + (b.encT tb 1).length) rest := by
  refine ⟨?_, h.right⟩
  rw [Descriptor.Block.length_encT, padAmount_one, Nat.add_zero]
  exact Descriptor.Block.dec_at hwf hf h.left

theorem optBlockP_eq (o : Option Descriptor.Block) : optBlockP tb o = (optBlockT tb o, (optBlockT tb o).length) := by
  cases o with
  | none => rfl
  | some b => exact Descriptor.Block.encW_eq tb 1 b

theorem ts_step {t : Timestamp} (hf : tsFits t) {d : B} {p : Nat} {rest : B} (h : At d p (tsT t ++ rest)) :
    readTs d p = .ok (t, p + (tsT t).length) ∧ At d (p + (tsT t).length) rest := by
  refine ⟨?_, h.right⟩
  obtain ⟨f1, f4, ff⟩ := hf
  have hl : (tsT t).length = 4 + (1 * 4 + 8) := by
    have := length_listT_const (beBytes 1) 1 t.fields (fun v _ => length_beBytes 1 v)
    simp only [tsT, List.length_append, length_beBytes, this, f4, length_f64T]
  rw [hl]
  simp only [tsT, List.append_assoc] at h
  obtain ⟨e1, h⟩ := readU_step h f1
  obtain ⟨e2, h⟩ := readUList_step f4 ff h
  obtain ⟨e3, _⟩ := readF64_step h
  simp only [readTs, bind, Except.bind, e1, e2, e3, Nat.add_assoc]

/-! ### the `written` accumulator -/

theorem wIte_eq (c : Prop) [Decidable c] (a b : B) :
    (if c then (a, a.length) else (b, b.length)) = ((if c then a else b), (if c then a else b).length) := by
  split <;> rfl

theorem wNil_eq : wNil = (([] : B), ([] : B).length) := rfl

theorem encP_eq (pad : Nat) (x : LinkedLayer) : x.encP tb pad = (x.encT tb pad, (x.encT tb pad).length) := by
  unfold encP encT bodyT headT kindT tailT lateT
  simp only [wBytes_eq, wPascal_eq, wUStr_eq, optBlockP_eq, wNil_eq, wIte_eq, wSeq_eq, wPad_eq, List.append_assoc]

/-! ### the reader, kind by kind -/

theorem kinds : ∀ k ∈ GP.linkedLayerTypes, k = GP.linkedAlias ∨ k = GP.linkedData ∨ k = GP.linkedExternal := by decide

theorem kind_length {k : B} (h : k ∈ GP.linkedLayerTypes) : k.length = 4 := by
  have : ∀ k ∈ GP.linkedLayerTypes, k.length = 4 := by decide
  exact this k h

/-- `WF` without its two clauses on `data` (none in an alias, none in an external item of version 1): the reader needs
neither, it returns `readData` -/
def WFButData (x : LinkedLayer) : Prop :=
  x.kind ∈ GP.linkedLayerTypes
  ∧ (GP.linkedVersionMin ≤ x.version ∧ x.version ≤ GP.linkedVersionMax)
  ∧ (x.filetype.length = 4 ∧ x.creator.length = 4)
  ∧ (Unicode.PyStr x.filename ∧ Unicode.NoPair x.filename)
  ∧ optBlockWF tb x.openFile ∧ optBlockWF tb x.linkedFile
  ∧ (x.isExternal = true → x.version ≤ 3 → x.timestamp = none)
  ∧ (x.isExternal = false → x.linkedFile = none ∧ x.timestamp = none ∧ x.filesize = none)
  ∧ (x.childId.isSome ↔ x.version ≥ 5) ∧ (x.modTime.isSome ↔ x.version ≥ 6) ∧ (x.lockState.isSome ↔ x.version ≥ 7)
  ∧ strWF x.childId

instance (x : LinkedLayer) : Decidable (WFButData tb x) := by unfold WFButData; exact inferInstance

variable {tb} in
theorem WF.butData {x : LinkedLayer} (h : x.WF tb) : WFButData tb x :=
  ⟨h.1, h.2.1, h.2.2.1, h.2.2.2.1, h.2.2.2.2.1, h.2.2.2.2.2.1, fun hE => (h.2.2.2.2.2.2.1 hE).1, h.2.2.2.2.2.2.2.1,
    h.2.2.2.2.2.2.2.2.2⟩

variable {tb} in
theorem WFButData.with_data {x : LinkedLayer} (h : WFButData tb x) (o : Option B) : WFButData tb { x with data := o } := h

variable {tb} in
theorem Fits.with_data {x : LinkedLayer} (h : x.Fits tb) (b : B) (hb : FitsU 8 b.length) : Fits tb { x with data := some b } := by
  obtain ⟨f1, f2, f3, _, f5, f6, _, f8, f9⟩ := h
  exact ⟨f1, f2, f3, hb, f5, fun hE => ⟨(f6 hE).1, (f6 hE).2.1, (f6 hE).2.2.1, fun _ => rfl⟩, fun _ => rfl, f8, f9⟩

/-- the `data` the reader returns: the writer stores the size of `data` whatever the kind, the bytes themselves neither for
an alias nor for an external item of version 1 -/
def readData (x : LinkedLayer) : Option B := if x.isAlias ∨ (x.isExternal ∧ x.version = 1) then none else x.data

theorem readData_of_WF {x : LinkedLayer} (h : x.WF tb) : x.readData = x.data := by
  unfold readData
  split
  · rename_i hc
    rcases hc with hA | ⟨hE, h1⟩
    · exact (h.2.2.2.2.2.2.2.2.1 hA).symm
    · exact ((h.2.2.2.2.2.2.1 hE).2 h1).symm
  · rfl

/-- what the kind branch leaves in `data` -/
def kdata (x : LinkedLayer) : Option B := if x.isAlias ∨ (x.isExternal ∧ x.version ≤ 2) then none else x.data

theorem kindDec_step {x : LinkedLayer} (hwf : WFButData tb x) (hf : x.Fits tb) {d : B} {p : Nat} {rest : B}
    (h : At d p (x.kindT tb ++ rest)) :
    kindDec tb x.kind x.version x.dataLen d p = .ok (⟨x.linkedFile, x.timestamp, x.filesize, x.kdata⟩, p + (x.kindT tb).length) ∧
      At d (p + (x.kindT tb).length) rest := by
  refine ⟨?_, h.right⟩
  obtain ⟨hkind, _, _, _, _, hlw, hext, hnext, _⟩ := hwf
  obtain ⟨_, _, _, _, _, fext, fdata, _⟩ := hf
  rcases kinds x.kind hkind with hk | hk | hk
  · -- ALIAS
    have hE : x.isExternal = false := by simp only [isExternal, hk]; decide
    have hA : x.isAlias = true := by simp only [isAlias, hk]; decide
    have hD : x.isData = false := by simp only [isData, hk]; decide
    obtain ⟨hlf, hts, hfs⟩ := hnext hE
    have n1 : ¬ GP.linkedAlias = GP.linkedExternal := by decide
    have n2 : ¬ GP.linkedAlias = GP.linkedData := by decide
    simp only [kindT, hE, hA, hD, Bool.false_eq_true, if_false, if_true, List.append_nil] at h ⊢
    obtain ⟨e1, _⟩ := readSkip_step h
    simp only [kindDec, bind, Except.bind, hk, if_neg n1, if_true, e1, if_neg n2, length_zeros, kdata, hA, true_or, hlf, hts, hfs]
  · -- DATA
    have hE : x.isExternal = false := by simp only [isExternal, hk]; decide
    have hA : x.isAlias = false := by simp only [isAlias, hk]; decide
    have hD : x.isData = true := by simp only [isData, hk]; decide
    obtain ⟨hlf, hts, hfs⟩ := hnext hE
    have hsome := fdata hD
    cases hdt : x.data with
    | none => rw [hdt] at hsome; simp at hsome
    | some dt =>
      have n1 : ¬ GP.linkedData = GP.linkedExternal := by decide
      have n2 : ¬ GP.linkedData = GP.linkedAlias := by decide
      simp only [kindT, hE, hA, hD, Bool.false_eq_true, if_false, if_true, List.nil_append, hdt, optBytesT] at h ⊢
      have e1 := readSized_at h.left
      simp only [kindDec, bind, Except.bind, hk, if_neg n1, if_neg n2, if_true, dataLen, hdt, e1, kdata, hE, hA, Bool.false_eq_true,
        false_and, or_self, if_false, hlf, hts, hfs]
  · -- EXTERNAL
    have hE : x.isExternal = true := by simp only [isExternal, hk]; decide
    have hA : x.isAlias = false := by simp only [isAlias, hk]; decide
    have hD : x.isData = false := by simp only [isData, hk]; decide
    obtain ⟨⟨hlfs, flf⟩, fts, ⟨hfss, ffs⟩, fdt⟩ := fext hE
    have hts3 := hext hE
    have n2 : ¬ GP.linkedExternal = GP.linkedData := by decide
    cases hlf : x.linkedFile with
    | none => rw [hlf] at hlfs; simp at hlfs
    | some lf =>
      cases hfs : x.filesize with
      | none => rw [hfs] at hfss; simp at hfss
      | some fsz =>
        rw [hlf] at hlw flf
        rw [hfs] at ffs
        simp only [optBlockWF, optBlockFits, Psd.optFits] at hlw flf ffs
        simp only [kindT, hE, hD, if_true, Bool.false_eq_true, if_false, List.append_nil, hlf, hfs, optBlockT, Psd.optT,
          List.append_assoc] at h ⊢
        obtain ⟨e1, h⟩ := block_step tb hlw flf h
        by_cases h3 : x.version > 3
        · have h2 : x.version > 2 := by omega
          have hts := fts h3
          cases htsv : x.timestamp with
          | none => rw [htsv] at hts; exact absurd hts (by simp [tsReq])
          | some t =>
            rw [htsv] at hts
            have hsome := fdt (by omega)
            cases hdt : x.data with
            | none => rw [hdt] at hsome; simp at hsome
            | some dt =>
              simp only [h3, h2, if_true, htsv, optTsT, hdt, optBytesT] at h ⊢
              obtain ⟨e2, h⟩ := ts_step hts h
              obtain ⟨e3, h⟩ := readU_step h ffs
              have e4 := readSized_at h.left
              have hle : ¬ (True ∧ x.version ≤ 2) := by omega
              simp only [kindDec, bind, Except.bind, hk, if_true, e1, h3, Codec.optItem, e2, e3, h2, dataLen, hdt, e4, if_neg n2, kdata,
                hE, hA, hle, Bool.false_eq_true, or_self, if_false]
              simp only [List.length_append, length_beBytes, Nat.add_assoc]
        · have hts := hts3 (by omega)
          by_cases h2 : x.version > 2
          · have hsome := fdt (by omega)
            cases hdt : x.data with
            | none => rw [hdt] at hsome; simp at hsome
            | some dt =>
              simp only [h3, h2, if_false, if_true, hdt, optBytesT, List.nil_append] at h ⊢
              obtain ⟨e3, h⟩ := readU_step h ffs
              have e4 := readSized_at h.left
              have hle : ¬ (True ∧ x.version ≤ 2) := by omega
              simp only [kindDec, bind, Except.bind, hk, if_true, e1, h3, if_false, e3, h2, Codec.optItem, dataLen, hdt, e4, if_neg n2,
                kdata, hE, hA, hle, Bool.false_eq_true, or_self, hts]
              simp only [List.length_append, length_beBytes, Nat.add_assoc]
          · simp only [h3, h2, if_false, List.nil_append, List.append_nil] at h ⊢
            obtain ⟨e3, _⟩ := readU_step h ffs
            have hle : (True ∧ x.version ≤ 2) := ⟨trivial, by omega⟩
            simp only [kindDec, bind, Except.bind, hk, if_true, e1, h3, if_false, e3, h2, if_neg n2, kdata, hE, hle, hts]
            simp only [List.length_append, length_beBytes, Nat.add_assoc, and_self, or_true, if_true]

theorem tailDec_step {x : LinkedLayer} (hwf : WFButData tb x) (hf : x.Fits tb) {d : B} {p : Nat} {rest : B}
    (h : At d p (x.tailT ++ rest)) :
    tailDec x.version d p = .ok ((x.childId, x.modTime, x.lockState), p + x.tailT.length) ∧ At d (p + x.tailT.length) rest := by
  refine ⟨?_, h.right⟩
  obtain ⟨_, _, _, _, _, _, _, _, hc, hm, hl, hcs⟩ := hwf
  obtain ⟨_, _, _, _, _, _, _, fc, fl⟩ := hf
  simp only [tailT, List.append_assoc] at h ⊢
  obtain ⟨e1, h⟩ := optField_step (enc := ustrT 1) (encO := optUStrT) rfl (fun _ => rfl) hc h fun s hs h => by
    rw [hs] at hcs fc
    exact (readUStr_step ⟨hcs.1, fc⟩ hcs.2 (by decide) h).1
  obtain ⟨e2, h⟩ := optField_step (enc := f64T) (encO := optF64T) rfl (fun _ => rfl) hm h fun m _ h => by
    rw [length_f64T]
    exact (readF64_step h).1
  obtain ⟨e3, _⟩ := optField_step (enc := beBytes 1) (encO := Psd.optT 1) rfl (fun _ => rfl) hl h fun l hs h => by
    rw [hs] at fl
    rw [length_beBytes]
    exact (readU_step h fl).1
  simp only [tailDec, bind, Except.bind, e1, e2, e3]
  simp only [List.length_append, Nat.add_assoc]

/-! ### the whole item -/

/-- the reader on what the writer wrote, for any item whose fields other than `data` are as the kind and version have them:
the item comes back with the `data` the reader takes -/
theorem dec_at_butData (pad : Nat) {x : LinkedLayer} (hwf : WFButData tb x) (hf : x.Fits tb) {d : B} {p : Nat}
    (h : At d p (x.encT tb pad)) : dec tb d p = .ok ({ x with data := x.readData }, p + (x.bodyT tb).length) := by
  have hwf' := hwf
  have hf' := hf
  obtain ⟨hkind, hver, ⟨hft, hcr⟩, ⟨hpy, hnp⟩, how, _⟩ := hwf
  obtain ⟨fv, fu, fn, fdl, fow, fext, _, _, _⟩ := hf
  have e4k := pack4s_of_length (kind_length hkind)
  have e4f := pack4s_of_length hft
  have e4c := pack4s_of_length hcr
  simp only [encT, bodyT, headT, e4k, e4f, e4c, List.append_assoc] at h
  have hL : (x.bodyT tb).length = 4 + (4 + ((pascalT 1 x.uuid).length + ((ustrT 1 x.filename).length + (4 + (4 + (8 + (1 +
      ((optBlockT tb x.openFile).length + ((x.kindT tb).length + (x.tailT.length + x.lateT.length)))))))))) := by
    simp only [bodyT, headT, List.length_append, length_pack4s, length_beBytes, length_boolT]; omega
  rw [hL]
  obtain ⟨e1, h1⟩ := readN_step h (kind_length hkind)
  obtain ⟨e2, h2⟩ := readU_step h1 fv
  obtain ⟨e3, h3⟩ := readPascal_step h2 fu
  obtain ⟨e4, h4⟩ := readUStr_step ⟨hpy, fn⟩ hnp (by decide) h3
  obtain ⟨e5, h5⟩ := readN_step h4 hft
  obtain ⟨e6, h6⟩ := readN_step h5 hcr
  obtain ⟨e7, h7⟩ := readU_step h6 fdl
  -- the flag the writer emits as a `?` the reader takes as a number (`B`) and tests against 0
  rw [show boolT x.openFile.isSome = beBytes 1 (if x.openFile.isSome then 1 else 0) by cases x.openFile.isSome <;> rfl] at h7
  obtain ⟨e8, h8⟩ := readU_step (w := 1) h7 (by cases x.openFile.isSome <;> decide)
  -- the open-file descriptor
  obtain ⟨e9, h9⟩ := optField_step (enc := fun b => b.encT tb 1) (encO := optBlockT tb) rfl (fun _ => rfl)
    (c := (if x.openFile.isSome then 1 else 0) ≠ 0) (by cases x.openFile <;> simp) h8 fun b hb h => by
      rw [hb] at how fow
      exact (block_step tb how fow h).1
  obtain ⟨q9, hq9⟩ : ∃ q, q = p + 4 + 4 + (pascalT 1 x.uuid).length + (ustrT 1 x.filename).length + 4 + 4 + 8 + 1 +
    (optBlockT tb x.openFile).length := ⟨_, rfl⟩
  rw [← hq9] at e9 h9
  obtain ⟨e10, h10⟩ := kindDec_step tb hwf' hf' h9
  obtain ⟨e11, h11⟩ := tailDec_step tb hwf' hf' h10
  -- the data of an EXTERNAL item of version 2 comes last
  have s12 : ∃ q, (if x.kind = GP.linkedExternal ∧ x.version = 2 then Codec.optItem (readSized x.dataLen) d
        (q9 + (x.kindT tb).length + x.tailT.length) else .ok (x.kdata, q9 + (x.kindT tb).length + x.tailT.length)) = .ok (x.readData, q) ∧
      q = q9 + (x.kindT tb).length + x.tailT.length + x.lateT.length := by
    by_cases hl : x.kind = GP.linkedExternal ∧ x.version = 2
    · have hE : x.isExternal = true := by simp only [isExternal, hl.1]; decide
      have hA : x.isAlias = false := by simp only [isAlias, hl.1]; decide
      have hrd : x.readData = x.data := by
        unfold readData
        rw [if_neg (by intro hh; rcases hh with hh | hh; rw [hA] at hh; cases hh; omega)]
      rw [hrd]
      obtain ⟨_, _, _, fdt⟩ := fext hE
      have hsome := fdt (by rw [hl.2]; decide)
      cases hdt : x.data with
      | none => rw [hdt] at hsome; simp at hsome
      | some dt =>
        have hlate : x.lateT = dt := by simp only [lateT, hE, hl.2, and_self, if_true, hdt, optBytesT]
        rw [hlate] at h11 ⊢
        have e := readSized_at h11.left
        exact ⟨q9 + (x.kindT tb).length + x.tailT.length + dt.length, by rw [if_pos hl]; simp only [Codec.optItem, dataLen, hdt, e], rfl⟩
    · have hlate : x.lateT = [] := by
        have : ¬ (x.isExternal = true ∧ x.version = 2) := by
          intro hh; apply hl; exact ⟨by simpa [isExternal] using hh.1, hh.2⟩
        simp only [lateT, this, if_false]
      have hkd : x.kdata = x.readData := by
        unfold kdata readData
        by_cases hA : x.isAlias = true
        · rw [if_pos (Or.inl hA), if_pos (Or.inl hA)]
        · by_cases hE : x.isExternal = true
          · have hv : x.version ≠ 2 := by intro hv; apply hl; exact ⟨by simpa [isExternal] using hE, hv⟩
            have hge : 1 ≤ x.version := hver.1
            by_cases h1 : x.version ≤ 2
            · rw [if_pos (Or.inr ⟨hE, h1⟩), if_pos (Or.inr ⟨hE, by omega⟩)]
            · rw [if_neg (by intro hh; rcases hh with hh | hh; exact hA hh; exact h1 hh.2),
                if_neg (by intro hh; rcases hh with hh | hh; exact hA hh; omega)]
          · rw [if_neg (by intro hh; rcases hh with hh | hh; exact hA hh; exact hE hh.1),
              if_neg (by intro hh; rcases hh with hh | hh; exact hA hh; exact hE hh.1)]
      exact ⟨q9 + (x.kindT tb).length + x.tailT.length, by rw [if_neg hl, hkd], by simp [hlate]⟩
  obtain ⟨q12, e12, hq12⟩ := s12
  simp only [dec, bind, Except.bind, e1, if_pos hkind, e2, if_pos hver, e3, e4, e5, e6, e7, e8, e9, e10, e11, e12]
  simp only [hq12, hq9, Nat.add_assoc]

theorem dec_at (pad : Nat) {x : LinkedLayer} (hwf : x.WF tb) (hf : x.Fits tb) {d : B} {p : Nat} (h : At d p (x.encT tb pad)) :
    dec tb d p = .ok (x, p + (x.bodyT tb).length) := by
  have e := dec_at_butData tb pad hwf.butData hf h
  rwa [readData_of_WF tb hwf] at e

/-- the length of a written item as the sum of the lengths of its parts -/
def partsLen (x : LinkedLayer) : Nat :=
  x.headT.length + (optBlockT tb x.openFile).length +
  (if x.isExternal then
      (optBlockT tb x.linkedFile).length + (if x.version > 3 then optTsT x.timestamp else []).length + (Psd.optT 8 x.filesize).length +
      (if x.version > 2 then optBytesT x.data else []).length
    else if x.isAlias then 8 else 0) +
  (if x.isData then optBytesT x.data else []).length + x.tailT.length + x.lateT.length

theorem length_encT_one (x : LinkedLayer) : (encT tb 1 x).length = partsLen tb x := by
  simp only [encT, bodyT, kindT, partsLen, padAmount_one, List.length_append, length_zeros, Nat.add_zero]
  split
  · simp only [List.length_append]; omega
  · split <;> simp only [length_zeros, List.length_nil] <;> omega

theorem codec_dec (pad : Nat) : (codec tb pad).dec = dec tb := rfl

theorem rt (pad : Nat) : (codec tb pad).RtAnywhere := .of_fields fun _ hwf hf _ _ h => dec_at tb pad hwf hf h
theorem count (pad : Nat) : (codec tb pad).Count := encP_eq tb pad

/-- the child id is the first optional field after the kind branch: where nothing else follows it (no modification time,
no lock state, no late data, no filler), the writer appends it to the bytes of the item without one -/
theorem encT_childId (x : LinkedLayer) (s : Str) (hc : x.childId = none) (hm : x.modTime = none) (hl : x.lockState = none)
    (hlate : x.lateT = []) : encT tb 1 { x with childId := some s } = encT tb 1 x ++ ustrT 1 s := by
  have e1 : headT { x with childId := some s } = headT x := rfl
  have e2 : kindT tb { x with childId := some s } = kindT tb x := rfl
  have e3 : lateT { x with childId := some s } = [] := hlate
  simp only [encT, bodyT, tailT, e1, e2, e3, hlate, padAmount_one, zeros, List.replicate_zero, List.append_nil]
  simp only [hc, hm, hl, optUStrT, optF64T, Psd.optT, List.append_nil]

end LinkedLayer

/-! ## LinkedLayers -/

theorem LinkedLayers.rt (tb : Descriptor.Tables) : (LinkedLayers.codec tb).RtAtEnd := by
  intro xs hwf hf d p h hend
  simp only [LinkedLayers.codec] at *
  refine readWhile_isReadable (enc := fun (x : LinkedLayer) => lenBlockT 0 8 4 (x.encT tb 1)) (by decide) ?_
    (fun x _ => by have hl := length_lenBlockT 0 8 4 (x.encT tb 1); omega) h (by omega)
  intro x hx q hq
  have e1 := readLenBlock_at hq (hf x hx).2 (by decide)
  have e2 := LinkedLayer.dec_at tb 1 (hwf x hx) (hf x hx).1 (At.self (x.encT tb 1))
  simp only [bind, Except.bind, e1, e2]

theorem LinkedLayers.count (tb : Descriptor.Tables) : (LinkedLayers.codec tb).Count := by
  intro xs
  simp only [LinkedLayers.codec]
  exact wList_eq _ _ xs (fun x _ => by rw [LinkedLayer.encP_eq, wLenBlock_eq])

end PsdVerif.Payload
