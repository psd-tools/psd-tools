/-
C09 save / reopen: the fuel of `nodeF` / `flatNodeF` (the number of live objects) is enough in
every well-formed state, hence `flattenState = flatten ∘ forestOf`.
-/
import PsdVerif.Model.Reopen
import PsdVerif.Lemmas.TreeBasic

namespace PsdVerif.Reopen
open PsdVerif PsdVerif.Tree PsdVerif.TreeSt

/-- What `save` needs beyond the invariant of the edit model: every group below the document `d`
has its bounding record (`_bounding_record is not None`). Every group made by `Group.new`,
`Group.group_layers`, `PSDImage._init` or `Artboard._move` has one, whatever is done to it afterwards
(no operation of the API resets it), so an environment with `bound x = some _` for every group
satisfies it in every state. -/
def DocOk (E : RecEnv) (s : State) (d : Id) : Prop :=
  ∀ g, Reach s d g → s.cont g = true → (E.bound g).isSome = true

/-- The records carry the divider blocks that go with the class of the object holding them:
a group's own record an OPEN / CLOSED_FOLDER divider (with an artboard key exactly for an
`Artboard`), its bounding record a BOUNDING_SECTION_DIVIDER, any other layer's record no divider
(or one of kind OTHER). True of the records `_init` attached (that is how the classes were chosen)
and of the records `Group.new` / `PixelLayer.frompil` make. -/
structure Classified (E : RecEnv) (s : State) (d : Id) : Prop where
  leaf : ∀ x, Reach s d x → s.cont x = false → reread E x = .leaf x
  closing : ∀ x, Reach s d x → s.cont x = true → reread E x = .closing x (isArtboard s x)
  bounding : ∀ x b, Reach s d x → s.cont x = true → E.bound x = some b → reread E b = .bounding b

theorem flatList_ok (rec : Id → Except Err (List Rec)) (nd : Id → Node) (l : List Id)
    (h : ∀ x ∈ l, rec x = .ok (nd x).flatten) : flatList rec l = .ok (flatten (l.map nd)) := by
  induction l with
  | nil => rfl
  | cons x xs ih =>
    have hx := h x (by simp)
    have hxs := ih (fun y hy => h y (by simp [hy]))
    simp only [flatList, hx, hxs, List.map_cons, flatten]

/-- the ancestors met on the way down are distinct live objects, all above `x` -/
structure Path (s : State) (anc : List Id) (x : Id) : Prop where
  nodup : anc.Nodup
  above : ∀ a ∈ anc, a < s.next ∧ Reach s a x
  live : x < s.next

theorem Path.child {s : State} (i : Inv s) {anc : List Id} {x c : Id} (p : Path s anc x) (hc : c ∈ s.children x) :
    Path s (x :: anc) c where
  nodup := by
    refine List.nodup_cons.mpr ⟨?_, p.nodup⟩
    intro hm
    exact i.no_cycle x (p.above x hm).2
  above := by
    intro a ha
    rcases List.mem_cons.mp ha with rfl | ha
    · exact ⟨p.live, .edge hc⟩
    · exact ⟨(p.above a ha).1, (p.above a ha).2.tail hc⟩
  live := (i.live x c hc).2

/-- **The pigeonhole behind "the fuel suffices".** `nodeF` / `flatNodeF` recurse with `s.next` (the number of live
objects) units of fuel, one per level. The ancestors met on the way down are distinct (no cycle) live ids, so there
are fewer than `s.next` of them: the recursion never runs dry (`nodeF_stable`, `flatNodeF_ok`). The rank that
`Inv.acyclic` provides would not do as fuel: nothing bounds it. -/
theorem Path.length_lt {s : State} (i : Inv s) {anc : List Id} {x : Id} (p : Path s anc x) :
    anc.length < s.next := by
  have hn : (x :: anc).Nodup := by
    refine List.nodup_cons.mpr ⟨?_, p.nodup⟩
    intro hm
    exact i.no_cycle x (p.above x hm).2
  have hb : ∀ y ∈ x :: anc, y < s.next := by
    intro y hy
    rcases List.mem_cons.mp hy with rfl | hy
    · exact p.live
    · exact (p.above y hy).1
  have := length_le_of_nodup_lt s.next _ hn hb
  simp only [List.length_cons] at this
  omega

/-- with `f` units of fuel left below `anc.length` ancestors and `next ≤ f + anc.length`, one more
unit changes nothing -/
theorem nodeF_stable {E : RecEnv} {s : State} (i : Inv s) :
    ∀ (f : Nat) (anc : List Id) (x : Id), Path s anc x → f + anc.length ≥ s.next →
      nodeF E s (f + 1) x = nodeF E s f x := by
  intro f
  induction f with
  | zero =>
    intro anc x p h
    have := p.length_lt i
    omega
  | succ f ih =>
    intro anc x p h
    rw [nodeF, nodeF]
    split
    · congr 1
      apply List.map_congr_left
      intro c hc
      exact ih (x :: anc) c (p.child i hc) (by simp only [List.length_cons]; omega)
    · rfl

theorem nodeOf_unfold {E : RecEnv} {s : State} (i : Inv s) {x : Id} (hx : x < s.next) :
    nodeOf E s x =
      if s.cont x then .group x (boundId E x) (isArtboard s x) ((s.children x).map (nodeOf E s)) else .layer x := by
  unfold nodeOf
  obtain ⟨n, hn⟩ : ∃ n : Nat, n + 1 = s.next :=
    ⟨s.next - 1, Nat.sub_add_cancel (Nat.lt_of_le_of_lt (Nat.zero_le x) hx)⟩
  rw [← hn, nodeF]
  split
  · congr 1
    apply List.map_congr_left
    intro c hc
    have p : Path s [] x := ⟨List.nodup_nil, by simp, hx⟩
    exact (nodeF_stable i n [x] c (p.child i hc) (by simp only [List.length_cons, List.length_nil]; omega)).symm
  · rfl

theorem nodeOf_leaf {E : RecEnv} {s : State} (i : Inv s) {x : Id} (hx : x < s.next) (hc : s.cont x = false) :
    nodeOf E s x = .layer x := by
  rw [nodeOf_unfold i hx]; simp [hc]

theorem nodeOf_group {E : RecEnv} {s : State} (i : Inv s) {x : Id} (hx : x < s.next) (hc : s.cont x = true) :
    nodeOf E s x = .group x (boundId E x) (isArtboard s x) ((s.children x).map (nodeOf E s)) := by
  rw [nodeOf_unfold i hx]; simp [hc]

theorem nodeOf_id {E : RecEnv} {s : State} (i : Inv s) {x : Id} (hx : x < s.next) : (nodeOf E s x).id = x := by
  rw [nodeOf_unfold i hx]
  split <;> rfl

theorem forestOf_children {E : RecEnv} {s : State} (i : Inv s) {x : Id} (hx : x < s.next) (hc : s.cont x = true) :
    nodeOf E s x = .group x (boundId E x) (isArtboard s x) (forestOf E s x) := nodeOf_group i hx hc

/-- `_build_record_tree` below `x` succeeds with enough fuel and emits the flattening of the node -/
theorem flatNodeF_ok {E : RecEnv} {s : State} (i : Inv s) :
    ∀ (f : Nat) (anc : List Id) (x : Id), Path s anc x → f + anc.length ≥ s.next →
      (∀ g, (g = x ∨ Reach s x g) → s.cont g = true → (E.bound g).isSome = true) →
      flatNodeF E s f x = .ok (nodeF E s f x).flatten := by
  intro f
  induction f with
  | zero =>
    intro anc x p h _
    have := p.length_lt i
    omega
  | succ f ih =>
    intro anc x p h hb
    rw [flatNodeF, nodeF]
    split
    · rename_i hc
      have hkids : flatList (flatNodeF E s f) (s.children x) =
          .ok (flatten ((s.children x).map (nodeF E s f))) := by
        apply flatList_ok
        intro c hcm
        apply ih (x :: anc) c (p.child i hcm) (by simp only [List.length_cons]; omega)
        intro g hg hgc
        apply hb g _ hgc
        rcases hg with rfl | hg
        · exact .inr (.edge hcm)
        · exact .inr (.step hcm hg)
      rw [hkids]
      have hbx := hb x (.inl rfl) hc
      cases hbd : E.bound x with
      | none => rw [hbd] at hbx; cases hbx
      | some b => simp only [boundId, hbd, Node.flatten]
    · rfl

/-- **`_build_record_tree` on the store is `flatten` on the forest.** -/
theorem flattenState_eq {E : RecEnv} {s : State} {d : Id} (i : Inv s) (ok : DocOk E s d) :
    flattenState E s d = .ok (flatten (forestOf E s d)) := by
  unfold flattenState forestOf nodeOf
  apply flatList_ok
  intro c hc
  have p : Path s [] c := ⟨List.nodup_nil, by simp, (i.live d c hc).2⟩
  apply flatNodeF_ok i s.next [] c p (by simp)
  intro g hg hgc
  apply ok g _ hgc
  rcases hg with rfl | hg
  · exact .edge hc
  · exact .step hc hg

/-! ### Induction along the listing relation -/

theorem Inv.below_induction {s : State} (i : Inv s) (P : Id → Prop)
    (h : ∀ x, (∀ c ∈ s.children x, P c) → P x) : ∀ x, P x := by
  obtain ⟨rk, hrk⟩ := i.acyclic
  have key : ∀ n x, rk x < n → P x := by
    intro n
    induction n with
    | zero => intro x hx; omega
    | succ n ih =>
      intro x hx
      apply h
      intro c hc
      apply ih
      have := hrk x c hc
      omega
  intro x
  exact key (rk x + 1) x (Nat.lt_succ_self _)

end PsdVerif.Reopen
