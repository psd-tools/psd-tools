/-
C02 on the payload layer — descriptors: whatever the descriptor reader returns is writable and in the domain of C01's
round trip. (Before repo commit bb0349d a key cut short by the end of the stream was the exception: `Model/DescriptorKeys`.)
-/
import PsdVerif.Lemmas.DescriptorRawSize
import PsdVerif.Lemmas.PayloadResave
import PsdVerif.Model.DescriptorKeys

namespace PsdVerif.Descriptor
open PsdVerif.Codec

/-- `Rets` (Lemmas/Rets.lean) for a whole reader, whatever the stream and the cursor; `Ret.bind` follows `>>-`, the
sequencing of the descriptor readers, the way `Rets.bind` follows a `do` block -/
def Ret {α : Type} (P : α → Prop) (r : R α) : Prop := ∀ (d : B) (p : Nat) (a : α) (p' : Nat), r d p = .ok (a, p') → P a

theorem Ret.rets {α : Type} {P : α → Prop} {r : R α} (h : Ret P r) {d : B} {p : Nat} : Rets (r d p) P := h d p

theorem Ret.of_rets {α : Type} {P : α → Prop} {r : R α} (h : ∀ {d p}, Rets (r d p) P) : Ret P r := fun _ _ => h

theorem Ret.bind {α β : Type} {P : α → Prop} {Q : β → Prop} {r : R α} {f : α → R β} (hr : Ret P r)
    (hf : ∀ a, P a → Ret Q (f a)) : Ret Q (r >>- f) := by
  intro d p b p' h
  unfold rbind at h
  split at h
  · cases h
  · rename_i a p1 ha
    exact hf a (hr d p a p1 ha) d p1 b p' h

theorem Ret.pure {α : Type} {P : α → Prop} {a : α} (h : P a) : Ret P (rpure a) := by
  intro d p b p' hb
  simp only [rpure, Except.ok.injEq, Prod.mk.injEq] at hb
  exact hb.1 ▸ h

theorem Ret.fail {α : Type} {P : α → Prop} (e : Err) : Ret P (rfail e : R α) := by
  intro d p b p' hb
  simp only [rfail] at hb
  cases hb

theorem Ret.mono {α : Type} {P Q : α → Prop} {r : R α} (h : Ret P r) (hpq : ∀ a, P a → Q a) : Ret Q r :=
  fun d p a p' ha => hpq a (h d p a p' ha)

theorem Ret.true {α : Type} (r : R α) : Ret (fun _ => True) r := fun _ _ _ _ _ => trivial

theorem ret_readU (w : Nat) : Ret (fun n => n < 256 ^ w) (readU w) := Ret.of_rets rets_readU
theorem ret_readN (n : Nat) : Ret (fun b => b.length = n) (readN n) := Ret.of_rets rets_readN
theorem ret_readI32 : Ret FitsI32 readI32 := Ret.of_rets rets_readI32
theorem ret_readLenBlock : Ret (fun b => b.length < 256 ^ 4) (readLenBlock 0 4 1) := Ret.of_rets rets_readLenBlock

theorem ret_readI64 : Ret FitsI64 readI64 :=
  (ret_readU 8).bind fun n hn => Ret.pure (by
    simp only [FitsI64, natToI64]
    have : (256 : Nat) ^ 8 = 18446744073709551616 := by decide
    split <;> omega)

theorem ret_readStr : Ret (fun s => StrFits s ∧ StrWF s) readStr := by
  intro d p s p' h
  obtain ⟨h1, h2, h3⟩ := Payload3.readUStr_ok (pad := 1) (show Payload.readUStr 1 d p = .ok (s, p') from h)
  exact ⟨⟨h1, h3⟩, h2⟩

theorem Globals.readU32_lt {d : B} {p n p1 : Nat} (h : Globals.readU32 d p = .ok (n, p1)) : n < 4294967296 := by
  unfold Globals.readU32 at h
  split at h
  · rename_i a b c e _ _
    split at h
    · simp only [Except.ok.injEq, Prod.mk.injEq] at h
      have := a.toNat_lt; have := b.toNat_lt; have := c.toNat_lt; have := e.toNat_lt
      omega
    · cases h
  · cases h

/-- a key as the reader returns it (since repo commit bb0349d a key cut short by the end of the stream is an `IOError`): the
writer accepts it, it satisfies the key law of C20 / C01 (all terms being 4 bytes long), it has the bytes its length field
announced -/
theorem ret_readKey (tb : Tables) (ht : TermsFour tb) :
    Ret (fun k => KeyFits tb k ∧ KeyWF tb k ∧ KeyFull k) (readKeyR tb) := by
  intro d p k p' h
  unfold readKeyR Globals.readKey at h
  split at h
  · cases h
  · rename_i len q hlen
    have hl := Globals.readU32_lt hlen
    simp only at h
    generalize (d.drop q).take (if len = 0 then 4 else len) = kb at h
    by_cases hs : kb.length ≠ (if len = 0 then 4 else len)
    · rw [if_pos hs] at h; cases h
    · rw [if_neg hs] at h
      have hkb : kb.length = (if len = 0 then 4 else len) := by simpa using hs
      by_cases hc : len = 0 ∧ ¬ tb.terms kb = true
      · rw [if_pos hc] at h
        cases h
        have h4 : kb.length = 4 := by rw [hkb, if_pos hc.1]
        refine ⟨?_, ?_, ?_⟩
        · simp only [KeyFits, keyLen, Bool.or_true, if_true]; omega
        · exact ⟨fun _ => ⟨h4, by simpa using hc.2⟩, fun ht4 => ht _ ht4, fun hi => Bool.noConfusion hi⟩
        · simp only [KeyFull, if_true]; exact h4
      · rw [if_neg hc] at h
        cases h
        have hne : kb.length ≠ 0 := by
          rw [hkb]; split <;> omega
        refine ⟨?_, ?_, ?_⟩
        · simp only [KeyFits, keyLen]
          split
          · omega
          · rw [hkb]; split <;> omega
        · exact ⟨fun hi => Bool.noConfusion hi, fun ht4 => ht _ ht4, fun _ _ => hne⟩
        · simp only [KeyFull, Bool.false_eq_true, if_false]; exact hne

theorem ret_unitOf (tb : Tables) (b : B) (hb : b.length = 4) : Ret (UnitWF tb) (unitOf tb b) := by
  intro d p u p' h
  unfold unitOf at h
  split at h
  · rename_i hu
    cases h
    exact ⟨hb, by simpa using hu⟩
  · rename_i hu
    split at h
    · rename_i he
      cases h
      exact ⟨hb, by simp only [Bool.false_eq_true, if_false]; exact ⟨he, by simpa using hu⟩⟩
    · simp only [rfail] at h; cases h

theorem ret_readCount {α : Type} {P : α → Prop} {item : R α} (h : Ret P item) (n : Nat) :
    Ret (fun xs => xs.length = n ∧ ∀ x ∈ xs, P x) (readCount item n) :=
  Ret.of_rets (rets_readCount h.rets)

theorem ret_readF64s (n : Nat) : Ret (fun vs => vs.length = n ∧ ∀ b ∈ vs, b < 18446744073709551616) (readF64s n) := by
  intro d p vs p' h
  unfold readF64s at h
  split at h
  · have := ret_readCount (ret_readU 8) n d p vs p' h
    exact ⟨this.1, fun b hb => by have := this.2 b hb; simpa using this⟩
  · cases h

theorem Tag.ofBytes_sound {b : B} {t : Tag} (h : Tag.ofBytes b = some t) : t.bytes = b := by
  unfold Tag.ofBytes at h
  have := List.find?_some h
  simpa using this

theorem ret_tagged {P : DVal → Prop} {rec : Tag → R DVal} (h : ∀ t, Ret P (rec t)) : Ret P (tagged rec) := by
  unfold tagged
  exact (Ret.true readTag).bind fun t _ => h t

/-! ### `OrderedDict(items)` -/

/-- every key satisfies `P`, every value `Q` -/
def AllKV (P : Key → Prop) (Q : DVal → Prop) (items : Items) : Prop := ∀ kv ∈ items, P kv.1 ∧ Q kv.2

theorem allKV_dictInsert {P : Key → Prop} {Q : DVal → Prop} {acc : Items} {x : Key × DVal} (ha : AllKV P Q acc)
    (hx : P x.1 ∧ Q x.2) : AllKV P Q (dictInsert acc x) := by
  unfold dictInsert
  split
  · intro kv hkv
    obtain ⟨y, hy, rfl⟩ := List.mem_map.1 hkv
    split
    · exact ⟨(ha y hy).1, hx.2⟩
    · exact ha y hy
  · intro kv hkv
    rcases List.mem_append.1 hkv with h | h
    · exact ha kv h
    · simp only [List.mem_singleton] at h; subst h; exact hx

theorem length_dictInsert_le (acc : Items) (x : Key × DVal) : (dictInsert acc x).length ≤ acc.length + 1 := by
  unfold dictInsert
  split
  · simp only [List.length_map]; omega
  · simp only [List.length_append, List.length_cons, List.length_nil]; omega

theorem dict_fold {P : Key → Prop} {Q : DVal → Prop} (items acc : Items) (ha : AllKV P Q acc) (hn : KeysNodup acc)
    (hi : AllKV P Q items) :
    AllKV P Q (items.foldl dictInsert acc) ∧ KeysNodup (items.foldl dictInsert acc) ∧
      (items.foldl dictInsert acc).length ≤ acc.length + items.length := by
  induction items generalizing acc with
  | nil => exact ⟨ha, hn, by simp⟩
  | cons x items ih =>
    simp only [List.foldl_cons]
    obtain ⟨a, b, c⟩ := ih (dictInsert acc x) (allKV_dictInsert ha (hi x (List.mem_cons_self)))
      (keysNodup_dictInsert acc x hn) (fun kv hkv => hi kv (List.mem_cons_of_mem _ hkv))
    refine ⟨a, b, ?_⟩
    have := length_dictInsert_le acc x
    simp only [List.length_cons]
    omega

/-- the dictionary built from the items read: keys and values are keys and values that were read, no key twice, not longer
than the list -/
theorem dictOf_ok {P : Key → Prop} {Q : DVal → Prop} {items : Items} (hi : AllKV P Q items) :
    AllKV P Q (dictOf items) ∧ KeysNodup (dictOf items) ∧ (dictOf items).length ≤ items.length := by
  have := dict_fold items [] (fun _ h => by cases h) (by simp [KeysNodup]) hi
  simpa [dictOf] using this

/-! ### the predicates of the model in membership form -/

theorem fitsItems_of_all (tb : Tables) : ∀ (r : Items), AllKV (KeyFits tb) (Fits tb) r → FitsItems tb r
  | [], _ => by simp only [FitsItems]
  | (k, v) :: r, h => by
    simp only [FitsItems]
    exact ⟨(h (k, v) (List.mem_cons_self)).1, (h (k, v) (List.mem_cons_self)).2,
      fitsItems_of_all tb r (fun kv hkv => h kv (List.mem_cons_of_mem _ hkv))⟩

theorem fitsList_of_all (tb : Tables) : ∀ (vs : List DVal), (∀ v ∈ vs, Fits tb v) → FitsList tb vs
  | [], _ => by simp only [FitsList]
  | v :: vs, h => by
    simp only [FitsList]
    exact ⟨h v (List.mem_cons_self), fitsList_of_all tb vs (fun w hw => h w (List.mem_cons_of_mem _ hw))⟩

/-- a value as the reader returns it: writable, and in the domain of C01's round trip -/
def Resavable (tb : Tables) (v : DVal) : Prop := Fits tb v ∧ WF tb v

def ResavableKey (tb : Tables) (k : Key) : Prop := KeyFits tb k ∧ KeyWF tb k

theorem wfList_of_resavable (tb : Tables) : ∀ (vs : List DVal), (∀ v ∈ vs, Resavable tb v) → WFList tb vs
  | [], _ => by simp only [WFList]
  | v :: vs, h => by
    simp only [WFList]
    exact ⟨(h v (List.mem_cons_self)).2, wfList_of_resavable tb vs (fun w hw => h w (List.mem_cons_of_mem _ hw))⟩

theorem wfItems_of_resavable (tb : Tables) : ∀ (r : Items), AllKV (ResavableKey tb) (Resavable tb) r → WFItems tb r
  | [], _ => by simp only [WFItems]
  | (k, v) :: r, h => by
    obtain ⟨⟨_, k1⟩, ⟨_, c⟩⟩ := h (k, v) (List.mem_cons_self)
    simp only [WFItems]
    exact ⟨k1, c, wfItems_of_resavable tb r (fun kv hkv => h kv (List.mem_cons_of_mem _ hkv))⟩

/-! ### the readers -/

/-- what `_read_body` + the `OrderedDict` converter return -/
def ResavableBody (tb : Tables) (x : Str × Key × Items) : Prop :=
  (StrFits x.1 ∧ StrWF x.1) ∧ ResavableKey tb x.2.1 ∧ x.2.2.length < 4294967296 ∧ AllKV (ResavableKey tb) (Resavable tb) x.2.2 ∧
    KeysNodup x.2.2

theorem ret_keyed {tb : Tables} (ht : TermsFour tb) {rec : Tag → R DVal} (h : ∀ t, Ret (Resavable tb) (rec t)) :
    Ret (fun kv => ResavableKey tb kv.1 ∧ Resavable tb kv.2) (keyed tb rec) :=
  (ret_readKey tb ht).bind fun _ hk => (ret_tagged h).bind fun _ hv => Ret.pure ⟨⟨hk.1, hk.2.1⟩, hv⟩

theorem ret_readBody {tb : Tables} (ht : TermsFour tb) {rec : Tag → R DVal} (h : ∀ t, Ret (Resavable tb) (rec t)) :
    Ret (ResavableBody tb) (readBody tb rec) :=
  ret_readStr.bind fun _ hs => (ret_readKey tb ht).bind fun _ hk => (ret_readU 4).bind fun n hn =>
    (ret_readCount (ret_keyed ht h) n).bind fun items hi => Ret.pure (by
      obtain ⟨a, b, c⟩ := dictOf_ok (P := ResavableKey tb) (Q := Resavable tb) (items := items) hi.2
      refine ⟨hs, ⟨hk.1, hk.2.1⟩, ?_, a, b⟩
      have : (256 : Nat) ^ 4 = 4294967296 := by decide
      have := hi.1
      show (dictOf items).length < 4294967296
      omega)

theorem resavable_of_body {tb : Tables} {x : Str × Key × Items} (h : ResavableBody tb x) :
    (StrFits x.1 ∧ KeyFits tb x.2.1 ∧ x.2.2.length < 4294967296 ∧ FitsItems tb x.2.2) ∧
    (StrWF x.1 ∧ KeyWF tb x.2.1 ∧ KeysNodup x.2.2 ∧ WFItems tb x.2.2) := by
  obtain ⟨⟨s1, s2⟩, ⟨k1, k2⟩, hl, hall, hnd⟩ := h
  exact ⟨⟨s1, k1, hl, fitsItems_of_all tb _ (fun kv hkv => ⟨(hall kv hkv).1.1, (hall kv hkv).2.1⟩)⟩,
    s2, k2, hnd, wfItems_of_resavable tb x.2.2 hall⟩

/-- `TYPES[ostype].read(fp)`: every class of the family -/
theorem ret_decWith {tb : Tables} (ht : TermsFour tb) {rec : Tag → R DVal} (h : ∀ t, Ret (Resavable tb) (rec t)) (t : Tag) :
    Ret (Resavable tb) (decWith tb rec t) := by
  have hint : ∀ it, Ret (Resavable tb) (decInt it) := fun it =>
    ret_readI32.bind fun z hz => Ret.pure ⟨by simp only [Fits]; exact hz, by simp only [WF]⟩
  have hcls : ∀ ct, Ret (Resavable tb) (decClass tb ct) := fun ct =>
    ret_readStr.bind fun _ hs => (ret_readKey tb ht).bind fun _ hk => Ret.pure
      ⟨by simp only [Fits]; exact ⟨hs.1, hk.1⟩, by simp only [WF]; exact ⟨hs.2, hk.2.1⟩⟩
  have hraw : ∀ rt, Ret (Resavable tb) (decRaw rt) := fun rt =>
    ret_readLenBlock.bind fun b hb => Ret.pure
      ⟨by simp only [Fits]; have : (256 : Nat) ^ 4 = 4294967296 := by decide
          omega, by simp only [WF]⟩
  have hlist : ∀ lt, Ret (Resavable tb) (decList rec lt) := fun lt =>
    (ret_readU 4).bind fun n hn => (ret_readCount (ret_tagged h) n).bind fun items hi => Ret.pure (by
      refine ⟨?_, by simp only [WF]; exact wfList_of_resavable tb items hi.2⟩
      simp only [Fits]
      have : (256 : Nat) ^ 4 = 4294967296 := by decide
      exact ⟨by have := hi.1; omega, fitsList_of_all tb items (fun v hv => (hi.2 v hv).1)⟩)
  have hdesc : ∀ dt, Ret (Resavable tb) (decDesc tb rec dt) := fun dt =>
    (ret_readBody ht h).bind fun x hx => Ret.pure (by
      obtain ⟨a, b⟩ := resavable_of_body hx
      exact ⟨by simp only [Fits]; exact a, by simp only [WF]; exact b⟩)
  cases t <;> simp only [decWith]
  case integer => exact hint _
  case identifier => exact hint _
  case index => exact hint _
  case largeInteger =>
    exact ret_readI64.bind fun z hz => Ret.pure ⟨by simp only [Fits]; exact hz, by simp only [WF]⟩
  case boolean =>
    exact (Ret.true readBool).bind fun _ _ => Ret.pure ⟨by simp only [Fits], by simp only [WF]⟩
  case double =>
    exact (ret_readU 8).bind fun _ hb => Ret.pure ⟨by simp only [Fits]; simpa using hb, by simp only [WF]⟩
  case unitFloat =>
    exact (ret_readN 4).bind fun u4 h4 => (ret_readU 8).bind fun _ hb => (ret_unitOf tb u4 h4).bind fun _ hu => Ret.pure
      ⟨by simp only [Fits]; simpa using hb, by simp only [WF]; exact hu⟩
  case unitFloats =>
    exact (ret_readN 4).bind fun u4 h4 => (ret_readU 4).bind fun n hn => (ret_unitOf tb u4 h4).bind fun _ hu =>
      (ret_readF64s n).bind fun vs hvs => Ret.pure
        ⟨by simp only [Fits]
            have : (256 : Nat) ^ 4 = 4294967296 := by decide
            exact ⟨by have := hvs.1; omega, hvs.2⟩,
         by simp only [WF]; exact hu⟩
  case string =>
    exact ret_readStr.bind fun _ hs => Ret.pure ⟨by simp only [Fits]; exact hs.1, by simp only [WF]; exact hs.2⟩
  case enumerated =>
    exact (ret_readKey tb ht).bind fun _ h1 => (ret_readKey tb ht).bind fun _ h2 => Ret.pure
      ⟨by simp only [Fits]; exact ⟨h1.1, h2.1⟩, by simp only [WF]; exact ⟨h1.2.1, h2.2.1⟩⟩
  case enumeratedReference =>
    exact ret_readStr.bind fun _ hs => (ret_readKey tb ht).bind fun _ h1 => (ret_readKey tb ht).bind fun _ h2 =>
      (ret_readKey tb ht).bind fun _ h3 => Ret.pure
        ⟨by simp only [Fits]; exact ⟨hs.1, h1.1, h2.1, h3.1⟩, by simp only [WF]; exact ⟨hs.2, h1.2.1, h2.2.1, h3.2.1⟩⟩
  case class1 => exact hcls _
  case class2 => exact hcls _
  case class3 => exact hcls _
  case property =>
    exact ret_readStr.bind fun _ hs => (ret_readKey tb ht).bind fun _ h1 => (ret_readKey tb ht).bind fun _ h2 => Ret.pure
      ⟨by simp only [Fits]; exact ⟨hs.1, h1.1, h2.1⟩, by simp only [WF]; exact ⟨hs.2, h1.2.1, h2.2.1⟩⟩
  case name =>
    exact ret_readStr.bind fun _ hs => (ret_readKey tb ht).bind fun _ h1 => ret_readStr.bind fun _ hv => Ret.pure
      ⟨by simp only [Fits]; exact ⟨hs.1, h1.1, hv.1⟩, by simp only [WF]; exact ⟨hs.2, h1.2.1, hv.2⟩⟩
  case offset =>
    exact ret_readStr.bind fun _ hs => (ret_readKey tb ht).bind fun _ h1 => (ret_readU 4).bind fun n hn => Ret.pure
      ⟨by simp only [Fits, FitsU32]
          have : (256 : Nat) ^ 4 = 4294967296 := by decide
          exact ⟨hs.1, h1.1, by omega, by omega⟩,
       by simp only [WF]; exact ⟨hs.2, h1.2.1⟩⟩
  case rawData => exact hraw _
  case alias => exact hraw _
  case path => exact hraw _
  case list => exact hlist _
  case reference => exact hlist _
  case descriptor => exact hdesc _
  case globalObject => exact hdesc _
  case objectArray =>
    exact (ret_readU 4).bind fun c hc => (ret_readBody ht h).bind fun x hx => Ret.pure (by
      obtain ⟨a, b⟩ := resavable_of_body hx
      have : (256 : Nat) ^ 4 = 4294967296 := by decide
      exact ⟨by simp only [Fits, FitsU32]; exact ⟨⟨by omega, by omega⟩, a⟩, by simp only [WF]; exact b⟩)

theorem ret_decBody {tb : Tables} (ht : TermsFour tb) : ∀ (fuel : Nat) (t : Tag), Ret (Resavable tb) (decBody tb fuel t)
  | 0, _ => by unfold decBody; exact Ret.fail _
  | fuel + 1, t => by
    unfold decBody
    exact ret_decWith ht (ret_decBody ht fuel) t

/-- a value of any of the 25 classes, read on its own stream or at a cursor -/
theorem dec_resavable {tb : Tables} (ht : TermsFour tb) (t : Tag) : Ret (Resavable tb) (dec tb t) :=
  fun d p v p' h => ret_decBody ht (d.length + 1) t d p v p' h

def Block.Resavable (tb : Tables) (b : Block) : Prop := b.Fits tb ∧ b.WF tb
def Block2.Resavable (tb : Tables) (b : Block2) : Prop := b.Fits tb ∧ b.WF tb

theorem Block.dec_resavable {tb : Tables} (ht : TermsFour tb) : Ret (Block.Resavable tb) (Block.dec tb) := by
  intro d p b p' h
  have hr : Ret (Block.Resavable tb) ((readU 4) >>- fun ver => (readBody tb (decBody tb (d.length + 1))) >>- fun x =>
      if ver = 16 then rpure (⟨(ver : Int), x.1, x.2.1, x.2.2⟩ : Block) else rfail .valueError) :=
    (ret_readU 4).bind fun ver hv => (ret_readBody ht (ret_decBody ht (d.length + 1))).bind fun x hx => by
      split
      · rename_i h16
        obtain ⟨a, b'⟩ := resavable_of_body hx
        have : (256 : Nat) ^ 4 = 4294967296 := by decide
        refine Ret.pure ?_
        simp only [Block.Resavable, Block.Fits, Block.WF, FitsU32]
        exact ⟨⟨⟨by omega, by omega⟩, a⟩, by omega, b'⟩
      · exact Ret.fail _
  exact hr d p b p' h

theorem Block2.dec_resavable {tb : Tables} (ht : TermsFour tb) : Ret (Block2.Resavable tb) (Block2.dec tb) := by
  intro d p b p' h
  have hr : Ret (Block2.Resavable tb) ((readU 4) >>- fun ver => (readU 4) >>- fun dv =>
      (readBody tb (decBody tb (d.length + 1))) >>- fun x =>
      if dv = 16 then rpure (⟨(ver : Int), (dv : Int), x.1, x.2.1, x.2.2⟩ : Block2) else rfail .valueError) :=
    (ret_readU 4).bind fun ver hv => (ret_readU 4).bind fun dv hdv =>
      (ret_readBody ht (ret_decBody ht (d.length + 1))).bind fun x hx => by
      split
      · rename_i h16
        obtain ⟨a, b'⟩ := resavable_of_body hx
        have : (256 : Nat) ^ 4 = 4294967296 := by decide
        refine Ret.pure ?_
        simp only [Block2.Resavable, Block2.Fits, Block2.WF, FitsU32]
        exact ⟨⟨⟨by omega, by omega⟩, ⟨by omega, by omega⟩, a⟩, by omega, b'⟩
      · exact Ret.fail _
  exact hr d p b p' h

/-- the tables of the working tree: `_TERMS` holds 4-byte terms only -/
theorem realTables_termsFour : TermsFour realTables := by
  intro b hb
  simp only [realTables, Bool.and_eq_true, beq_iff_eq] at hb
  exact hb.1

end PsdVerif.Descriptor
