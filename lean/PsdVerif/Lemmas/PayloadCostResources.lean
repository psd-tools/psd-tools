/-
C06 — the costed codecs of Model/PayloadCostResources.lean ARE the codecs of Model/Payload3Resources.lean (`cc_c`, by
`rfl`) and are sound (`cc_sound`): the combinator-built ones by composing the `*_sound` lemmas of
Lemmas/PayloadCost2.lean, the hand-written `PrintFlags` and `ThumbnailResource` readers by erasure and the cost judgement.
-/
import PsdVerif.Model.PayloadCostResources
import PsdVerif.Lemmas.PayloadCostSimple

namespace PsdVerif.PayloadCost
open PsdVerif PsdVerif.Codec PsdVerif.PsdCost PsdVerif.Payload PsdVerif.Payload3 PsdVerif.Safe PsdVerif.SafeCost

/-! ## the flat classes -/

theorem AlphaIdentifiers.cc_c : AlphaIdentifiers.cc.c = AlphaIdentifiers.codec := rfl
theorem AlphaIdentifiers.cc_sound : AlphaIdentifiers.cc.Sound := CC.whileR_sound 4 1 (CC.fmt_sound _)

theorem AlphaNamesPascal.cc_c : AlphaNamesPascal.cc.c = AlphaNamesPascal.codec := rfl
theorem AlphaNamesPascal.cc_sound : AlphaNamesPascal.cc.Sound := CC.whileR_sound 1 1 (CC.pascal_sound 1 1)

theorem AlphaNamesUnicode.cc_c : AlphaNamesUnicode.cc.c = AlphaNamesUnicode.codec := rfl
theorem AlphaNamesUnicode.cc_sound : AlphaNamesUnicode.cc.Sound := CC.whileR_sound 1 1 CC.ustr_sound

theorem AlphaChannel.cc_c : AlphaChannel.cc.c = AlphaChannel.codec := rfl
theorem AlphaChannel.cc_sound : AlphaChannel.cc.Sound := CC.checked_sound (CC.fmt_sound _) _ _ (by decide)

theorem DisplayInfo.cc_c : DisplayInfo.cc.c = DisplayInfo.codec := by
  unfold DisplayInfo.cc DisplayInfo.codec
  simp only [CC.seq_c, CC.fmt_c, CC.whileR_c, AlphaChannel.cc_c]
theorem DisplayInfo.cc_sound : DisplayInfo.cc.Sound :=
  CC.seq_sound (CC.fmt_sound _) (CC.whileR_sound 13 1 AlphaChannel.cc_sound)

theorem ResByte.cc_c : ResByte.cc.c = Payload3.Byte.codec := rfl
theorem ResByte.cc_sound : ResByte.cc.Sound := CC.fmt_sound _

theorem GridGuidesInfo.cc_c : GridGuidesInfo.cc.c = GridGuidesInfo.codec := by
  unfold GridGuidesInfo.cc GridGuidesInfo.codec
  simp only [CC.seq_c, CC.fmt_c, CC.counted_c]
theorem GridGuidesInfo.cc_sound : GridGuidesInfo.cc.Sound :=
  CC.seq_sound (CC.fmt_sound _) (CC.counted_sound 4 (CC.fmt_sound _))

theorem HalftoneScreen.cc_c : HalftoneScreen.cc.c = HalftoneScreen.codec := rfl
theorem HalftoneScreen.cc_sound : HalftoneScreen.cc.Sound := CC.fmt_sound _

theorem HalftoneScreens.cc_c : HalftoneScreens.cc.c = HalftoneScreens.codec := rfl
theorem HalftoneScreens.cc_sound : HalftoneScreens.cc.Sound := CC.whileR_sound 18 1 HalftoneScreen.cc_sound

theorem ResInteger.cc_c : ResInteger.cc.c = Payload3.Integer.codec := rfl
theorem ResInteger.cc_sound : ResInteger.cc.Sound := CC.fmt_sound _

theorem LayerGroupEnabledIDs.cc_c : LayerGroupEnabledIDs.cc.c = LayerGroupEnabledIDs.codec := rfl
theorem LayerGroupEnabledIDs.cc_sound : LayerGroupEnabledIDs.cc.Sound := CC.whileR_sound 1 1 (CC.fmt_sound _)

theorem LayerGroupInfo.cc_c : LayerGroupInfo.cc.c = LayerGroupInfo.codec := rfl
theorem LayerGroupInfo.cc_sound : LayerGroupInfo.cc.Sound := CC.whileR_sound 2 1 (CC.fmt_sound _)

theorem LayerSelectionIDs.cc_c : LayerSelectionIDs.cc.c = LayerSelectionIDs.codec := rfl
theorem LayerSelectionIDs.cc_sound : LayerSelectionIDs.cc.Sound := CC.counted_sound 2 (CC.fmt_sound _)

theorem ResShortInteger.cc_c : ResShortInteger.cc.c = Payload3.ShortInteger.codec := rfl
theorem ResShortInteger.cc_sound : ResShortInteger.cc.Sound := CC.fmt_sound _

theorem PascalString.cc_c : PascalString.cc.c = PascalString.codec := rfl
theorem PascalString.cc_sound : PascalString.cc.Sound := CC.pascal_sound 1 2

theorem PixelAspectRatio.cc_c : PixelAspectRatio.cc.c = PixelAspectRatio.codec := rfl
theorem PixelAspectRatio.cc_sound : PixelAspectRatio.cc.Sound := CC.fmt_sound _

theorem PrintFlagsInfo.cc_c : PrintFlagsInfo.cc.c = PrintFlagsInfo.codec := rfl
theorem PrintFlagsInfo.cc_sound : PrintFlagsInfo.cc.Sound := CC.fmt_sound _

theorem PrintScale.cc_c : PrintScale.cc.c = PrintScale.codec := rfl
theorem PrintScale.cc_sound : PrintScale.cc.Sound := CC.checked_sound (CC.fmt_sound _) _ _ (by decide)

theorem ResolutionInfo.cc_c : ResolutionInfo.cc.c = ResolutionInfo.codec := rfl
theorem ResolutionInfo.cc_sound : ResolutionInfo.cc.Sound := CC.fmt_sound _

theorem TransferFunction.cc_c : TransferFunction.cc.c = TransferFunction.codec := rfl
theorem TransferFunction.cc_sound : TransferFunction.cc.Sound := CC.seq_sound (CC.fmt_sound _) (CC.fmt_sound _)

theorem TransferFunctions.cc_c : TransferFunctions.cc.c = TransferFunctions.codec := rfl
theorem TransferFunctions.cc_sound : TransferFunctions.cc.Sound := CC.whileR_sound 28 1 TransferFunction.cc_sound

theorem URLItem.cc_c : URLItem.cc.c = URLItem.codec := rfl
theorem URLItem.cc_sound : URLItem.cc.Sound := CC.seq_sound (CC.fmt_sound _) CC.ustr_sound

theorem URLList.cc_c : URLList.cc.c = URLList.codec := by
  unfold URLList.cc URLList.codec
  simp only [CC.counted_c, URLItem.cc_c]
theorem URLList.cc_sound : URLList.cc.Sound := CC.counted_sound 4 URLItem.cc_sound

theorem VersionInfo.cc_c : VersionInfo.cc.c = VersionInfo.codec := by
  unfold VersionInfo.cc VersionInfo.codec
  simp only [CC.seq_c, CC.fmt_c, CC.ustr_c]
theorem VersionInfo.cc_sound : VersionInfo.cc.Sound :=
  CC.seq_sound (CC.fmt_sound _) (CC.seq_sound CC.ustr_sound (CC.seq_sound CC.ustr_sound (CC.fmt_sound _)))

/-! ## PrintFlags -/

theorem PrintFlags.decC_fst (d : B) (p : Nat) : (PrintFlags.decC d p).1 = PrintFlags.dec d p := by
  simp only [PrintFlags.decC, PrintFlags.dec, fst_bind, ok_fst, ite_fst, except_ok_bind, fmtDecC_fst, isReadableC_fst]

theorem PrintFlags.decC_cost : CostR 1 4 8 PrintFlags.decC := by
  intro d p hp
  apply Cost.mono
  case h =>
    unfold PrintFlags.decC
    cbind (fmtDecC_cost PrintFlags.fmt8)
    apply Cost.step (n := 2)
    case hm => rw [isReadableC_w']; omega
    case hne => intro h; cases h
    case hf =>
      intro r _
      cite
      · cbind (fmtDecC_cost [Q])
        cdone
      · cdone
  cside

theorem PrintFlags.cc_c : PrintFlags.cc.c = PrintFlags.codec := rfl
theorem PrintFlags.cc_sound : PrintFlags.cc.Sound := CC.hand_sound PrintFlags.decC_fst PrintFlags.decC_cost

/-! ## ThumbnailResource -/

theorem Thumbnail.decC_fst (d : B) (p : Nat) : (Thumbnail.decC d p).1 = Thumbnail.dec d p := by
  simp only [Thumbnail.decC, Thumbnail.dec, fst_bind, ok_fst, fmtDecC_fst, readUC_fst, readSizedC_fst]

theorem Thumbnail.decC_cost : CostR 1 4 28 Thumbnail.decC := by
  intro d p hp
  apply Cost.mono
  case h =>
    unfold Thumbnail.decC
    cbind (fmtDecC_cost Thumbnail.headFmt)
    cbind (readUC_cost 4)
    cbind (fmtDecC_cost Thumbnail.tailFmt)
    cbind (readSizedC_cost _)
    cdone
  cside

theorem Thumbnail.cc_c : Thumbnail.cc.c = Thumbnail.codec := rfl
theorem Thumbnail.cc_sound : Thumbnail.cc.Sound := CC.hand_sound Thumbnail.decC_fst Thumbnail.decC_cost

/-! ## the table of the unit -/

def resourcesTable : List (String × Sh) := [
  ("AlphaIdentifiers", AlphaIdentifiers.cc.sh),
  ("AlphaNamesPascal", AlphaNamesPascal.cc.sh),
  ("AlphaNamesUnicode", AlphaNamesUnicode.cc.sh),
  ("AlphaChannel", AlphaChannel.cc.sh),
  ("DisplayInfo", DisplayInfo.cc.sh),
  ("Byte", ResByte.cc.sh),
  ("GridGuidesInfo", GridGuidesInfo.cc.sh),
  ("HalftoneScreen", HalftoneScreen.cc.sh),
  ("HalftoneScreens", HalftoneScreens.cc.sh),
  ("Integer", ResInteger.cc.sh),
  ("LayerGroupEnabledIDs", LayerGroupEnabledIDs.cc.sh),
  ("LayerGroupInfo", LayerGroupInfo.cc.sh),
  ("LayerSelectionIDs", LayerSelectionIDs.cc.sh),
  ("ShortInteger", ResShortInteger.cc.sh),
  ("PascalString", PascalString.cc.sh),
  ("PixelAspectRatio", PixelAspectRatio.cc.sh),
  ("PrintFlags", PrintFlags.cc.sh),
  ("PrintFlagsInfo", PrintFlagsInfo.cc.sh),
  ("PrintScale", PrintScale.cc.sh),
  ("ResoulutionInfo", ResolutionInfo.cc.sh),
  ("ThumbnailResource", Thumbnail.cc.sh),
  ("ThumbnailResourceV4", Thumbnail.cc.sh),
  ("TransferFunction", TransferFunction.cc.sh),
  ("TransferFunctions", TransferFunctions.cc.sh),
  ("URLItem", URLItem.cc.sh),
  ("URLList", URLList.cc.sh),
  ("VersionInfo", VersionInfo.cc.sh)]

theorem resources_body_progress : resourcesTable.all (fun e => e.2.bodyProgress) = true := by decide

end PsdVerif.PayloadCost
