/-
C14 — the primitive mutations keep the caches of attached containers fresh; hence (`Kept.step`, Lemmas/TreeStep2.lean)
every operation keeps the tree well formed with fresh caches (`Good`).
-/
import PsdVerif.Lemmas.TreeFrame
import PsdVerif.Lemmas.TreeHistory

namespace PsdVerif.TreeSt

/-- the repairs the freshness theorems need -/
structure CacheCfg (cfg : Cfg) : Prop where
  self : cfg.itemSelfCheck = true
  climb : cfg.climbToDoc = true
  edit : cfg.invalidateOnEdit = true
  below : cfg.invalidateBelow = true

theorem CacheCfg.current : CacheCfg Cfg.current := ⟨rfl, rfl, rfl, rfl⟩

/-- what `CacheOk` says of a cached box `b` follows `extract_bbox` (the callers have rewritten kind and rectangle) -/
theorem cacheOk_of_extract {k : Kind} {b bx : BBox} {r r' : Except Err BBox}
    (hok : if k = .artboard then b = bx else r = .ok b) (he : r' = r) :
    if k = .artboard then b = bx else r' = .ok b :=
  he ▸ hok

theorem CacheOk.of_cleared {s s' : State} (h : Cleared s s') {g : Id} (c : CacheOk s g) : CacheOk s' g := by
  rcases h.cache g with h0 | h1
  · intro b hb; rw [h0] at hb; cases hb
  · exact c.congr h.same h1

theorem fresh_of_cleared {s s' : State} (h : Cleared s s') (f : Fresh s) : Fresh s' :=
  fresh_of_sameTree h.same (fun _ c => c.of_cleared h) f

/-- after `_update_psd_record` on container `k`: a cache that survives is the old one, and it does
not belong to `k` or to a container `k` is listed below -/
theorem updateRecord_survivor {cfg : Cfg} (hc : CacheCfg cfg) {s : State} (i : Inv s) {k g : Id} {b : BBox}
    (hk : k < s.next) (hg : s.cont g = true) (h : (updateRecord cfg s k).cache g = some b) :
    s.cache g = some b ∧ ¬ (g = k ∨ Reach s g k) := by
  constructor
  · exact (updateRecord_cleared cfg s k).survivor h
  · intro hgk
    unfold updateRecord at h
    rw [if_pos hc.edit, invUp_clears hc.climb i (markDirty_same s k) hgk hg hk] at h
    cases h

theorem fresh_finishRemove_shrink {cfg : Cfg} (hc : CacheCfg cfg) {s : State} (i : Inv s) (f : Fresh s) (k : Id)
    (hk : k < s.next) (l' : List Id) (hnd : l'.Nodup) (hsub : ∀ y, y ∈ l' → y ∈ s.children k) (o : Out) :
    Fresh (finishRemove cfg (setChildren s k l') k o).1 := by
  have i1 := inv_shrink i k l' hnd hsub
  unfold finishRemove
  intro g ha hcont b hb
  have hs := updateRecord_same cfg (setChildren s k l') k
  have hcont1 : (setChildren s k l').cont g = true := by rw [← hs.cont]; exact hcont
  have ha1 : Attached (setChildren s k l') g := ha.congr hs.children.symm hs.kind.symm
  obtain ⟨hcache, hnot⟩ := updateRecord_survivor hc i1 (k := k) (g := g) hk hcont1 hb
  -- fewer memberships: attached before
  have hmono : ∀ c x, x ∈ (setChildren s k l').children c → x ∈ s.children c := by
    intro c x hx
    simp only [setChildren, upd] at hx
    split at hx
    · rename_i e; subst e; exact hsub x hx
    · exact hx
  have ha0 : Attached s g := by
    obtain ⟨d, hd, hgd⟩ := ha1
    exact ⟨d, hd, hgd.elim .inl (fun r => .inr (Reach.mono hmono r))⟩
  have hok := f g ha0 hcont1 b hcache
  rw [hs.kind, hs.box, extractBbox_congr hs]
  show if s.kind g = .artboard then b = s.box g else extractBbox (setChildren s k l') g = .ok b
  refine cacheOk_of_extract hok ?_
  -- the frame lemma read from the new tree: the only difference is the list of `k`, which is not below `g`
  symm
  apply extractBbox_frame (setChildren s k l') s rfl g
  · intro y hy
    refine ⟨?_, rfl⟩
    show s.children y = upd s.children k l' y
    unfold upd
    split
    · rename_i e; subst e; exact absurd (hy.elim (fun e => .inl e.symm) .inr) hnot
    · rfl
  · intro z y _ _
    exact ⟨rfl, rfl, rfl⟩

theorem metadata_fields {cfg : Cfg} (he : cfg.invalidateOnEdit = true) {s1 s2 : State} {k : Id}
    (h : metadata cfg s1 k = (s2, true)) :
    ∃ ds, desc s1 k = .ok ds ∧ s2.children = s1.children ∧ s2.kind = s1.kind ∧ s2.visible = s1.visible ∧
      s2.box = s1.box ∧ s2.next = s1.next ∧ s2.limit = s1.limit ∧
      (∀ y, s2.parent y = if y ∈ s1.children k then some k else s1.parent y) ∧
      (∀ y, s2.cache y = if y ∈ ds ∧ s1.cont y = true then none else s1.cache y) := by
  rcases metadata_cases cfg s1 k with e | ⟨ds, hds, e⟩
  · rw [e] at h; cases h
  · rw [e] at h
    cases h
    exact ⟨ds, hds, rfl, rfl, rfl, rfl, rfl, rfl, fun _ => rfl, fun _ => by simp only [he, if_true]⟩

/-- a path that does not start at `k` and does not lead below `k` only uses lists other than `k`'s -/
theorem reach_avoiding {s s1 : State} {k : Id} (hch : ∀ c, c ≠ k → s1.children c = s.children c) {a b : Id}
    (r : Reach s1 a b) (ha : a ≠ k) (hb : ¬ Reach s1 k b) : Reach s a b := by
  induction r with
  | edge hx => exact .edge (by rw [← hch _ ha]; exact hx)
  | @step c x y hx r' ih =>
    have hxk : x ≠ k := by
      intro e; subst e; exact hb r'
    exact .step (by rw [← hch _ ha]; exact hx) (ih hxk hb)

theorem fresh_finishInsert_relist {cfg : Cfg} (hc : CacheCfg cfg) {s : State} (i : Inv s) (f : Fresh s) (k : Id)
    (l' : List Id) (out : Out) (hg : s.isGroup k = true) (hnd : l'.Nodup)
    (hmem : ∀ y, y ∈ l' → y ∈ s.children k ∨ (Detached s y ∧ s.isLayer y = true ∧ y ≠ k ∧ ¬ Reach s y k))
    (hne : (finishInsert cfg (setChildren s k l') k out).2 ≠ recErr) :
    Fresh (finishInsert cfg (setChildren s k l') k out).1 := by
  obtain ⟨hklive, hkcont⟩ := isGroup_iff.mp hg
  unfold finishInsert at hne ⊢
  split
  · rename_i s2 hm; rw [hm] at hne; exact absurd rfl hne
  · rename_i s2 hm
    have i2 : Inv s2 := inv_metadata_relist i k l' hg hnd hmem hm
    obtain ⟨ds, hds, hch, hkind, hvis, hbox, hnext, hlim, hpar, hcache⟩ := metadata_fields hc.edit hm
    have hch1 : (setChildren s k l').children k = l' := by simp [setChildren, upd]
    have hc1 : ∀ c, (setChildren s k l').children c ≠ [] → (setChildren s k l').cont c = true := by
      intro c hne'
      show s.cont c = true
      by_cases e : c = k
      · subst e; exact hkcont
      · apply i.contOnly c
        simpa [setChildren, upd, e] using hne'
    intro g ha hcont b hb
    have hs := updateRecord_same cfg s2 k
    have hcont2 : s2.cont g = true := by rw [← hs.cont]; exact hcont
    have ha2 : Attached s2 g := ha.congr hs.children.symm hs.kind.symm
    obtain ⟨hcache2, hnot⟩ := updateRecord_survivor hc i2 (k := k) (g := g) (by rw [hnext]; exact hklive) hcont2 hb
    have hcontg : s.cont g = true := by
      have : s2.cont g = s.cont g := by unfold State.cont; rw [hkind]; rfl
      rw [← this]; exact hcont2
    -- not below `k` in the new tree, and the cache is the old one
    have hnotbelow : ¬ Reach s2 k g := by
      intro r
      have r1 : Reach (setChildren s k l') k g := r.congr hch.symm
      have hmem' := (mem_desc_iff hc1 hds g).mpr r1
      rw [hcache g, if_pos ⟨hmem', hcontg⟩] at hcache2
      cases hcache2
    have hcache0 : s.cache g = some b := by
      rw [hcache g] at hcache2
      split at hcache2
      · cases hcache2
      · exact hcache2
    -- attached in the old tree
    have hchk : ∀ c, c ≠ k → s2.children c = s.children c := by
      intro c hck; rw [hch]; simp [setChildren, upd, hck]
    have ha0 : Attached s g := by
      obtain ⟨d, hd, hgd⟩ := ha2
      refine ⟨d, by rw [hkind] at hd; exact hd, ?_⟩
      rcases hgd with e | r
      · exact .inl e
      · refine .inr (reach_avoiding hchk r ?_ hnotbelow)
        intro e; subst e; exact hnotbelow r
    have hok := f g ha0 hcontg b hcache0
    have hk2 : s2.kind g = s.kind g := by rw [hkind]; rfl
    have hb2 : s2.box g = s.box g := by rw [hbox]; rfl
    rw [hs.kind, hs.box, extractBbox_congr hs, hk2, hb2]
    refine cacheOk_of_extract hok ?_
    symm
    -- the frame lemma read from the new tree `s2`
    apply extractBbox_frame s2 s (by rw [hlim]; rfl) g
    · intro y hy
      refine ⟨?_, by rw [hbox]; rfl⟩
      by_cases e : y = k
      · subst e; exact absurd (hy.elim (fun e => .inl e.symm) .inr) hnot
      · exact (hchk y e).symm
    · intro z y hz hy
      refine ⟨by rw [hkind]; rfl, by rw [hvis]; rfl, ?_⟩
      rw [hpar y, hch1]
      split
      · rename_i hyl
        -- a member of the new list among the nodes `extract_bbox(g)` reads (below `g`, or on their parent chains):
        -- impossible unless it was a member before
        rcases hmem y hyl with hold | _
        · exact (i.parentOk k y hold)
        · exfalso
          have hyk : y ∈ s2.children k := by rw [hch, hch1]; exact hyl
          rcases dep_cases i2 hz hy with hb' | hu
          · rcases hb' with e | r
            · subst e; exact hnotbelow (.edge hyk)
            · obtain ⟨c, hc', hgc⟩ := r.last
              have := i2.unique hc' hyk
              subst this
              exact hnot (hgc.elim (fun e => .inl e.symm) .inr)
          · have := (up_is_ancestor i2 ha2 hu).1
            exact hnotbelow (.step hyk this)
      · rfl

theorem clearConts_cache (s : State) (ds : List Id) (y : Id) :
    (clearConts s ds).cache y = if y ∈ ds ∧ s.cont y = true then none else s.cache y := rfl

theorem fresh_opSetVisible {cfg : Cfg} (hc : CacheCfg cfg) {s : State} (i : Inv s) (f : Fresh s) (x : Id) (v : Bool) :
    Fresh (opSetVisible cfg s x v).1 := by
  unfold opSetVisible
  by_cases hl : (!s.isLayer x) = true
  · rw [if_pos hl]; exact f
  · rw [if_neg hl]
    have hx : x < s.next := (isLayer_iff.mp (by simpa using hl)).1
    have hs1 := invUp_same cfg s x
    simp only
    -- the common argument: a surviving cache belongs to a container that neither contains `x` nor is below it
    have key : ∀ (c : Id → Option BBox),
        (∀ g b, c g = some b → s.cont g = true → s.cache g = some b ∧ ¬ (g = x ∨ Reach s g x) ∧ ¬ Reach s x g) →
        Fresh { invUp cfg s x with cache := c, visible := upd (invUp cfg s x).visible x v } := by
      intro c hsurv g ha hcont b hb
      have hcontg : s.cont g = true := by rw [← hs1.cont]; exact hcont
      obtain ⟨hcache, hnot1, hnot2⟩ := hsurv g b hb hcontg
      have ha0 : Attached s g := Attached.congr
        (s := { invUp cfg s x with cache := c, visible := upd (invUp cfg s x).visible x v })
        hs1.children.symm hs1.kind.symm ha
      have hok := f g ha0 hcontg b hcache
      show if (invUp cfg s x).kind g = .artboard then b = (invUp cfg s x).box g else _
      rw [hs1.kind, hs1.box]
      refine cacheOk_of_extract hok ?_
      apply extractBbox_frame s { invUp cfg s x with cache := c, visible := upd (invUp cfg s x).visible x v }
        hs1.limit g
      · intro y _
        exact ⟨congrFun hs1.children y, congrFun hs1.box y⟩
      · intro z y hz hy
        refine ⟨congrFun hs1.kind y, ?_, congrFun hs1.parent y⟩
        show upd (invUp cfg s x).visible x v y = s.visible y
        rw [hs1.visible]
        unfold upd
        split
        · rename_i e
          subst e
          exfalso
          rcases dep_cases i hz hy with hb' | hu
          · exact hnot1 (hb'.elim (fun e => .inl e.symm) .inr)
          · exact hnot2 (up_is_ancestor i ha0 hu).1
        · rfl
    have surv1 : ∀ g b, (invUp cfg s x).cache g = some b → s.cont g = true →
        s.cache g = some b ∧ ¬ (g = x ∨ Reach s g x) := by
      intro g b hb hcontg
      refine ⟨(invUp_cleared cfg s x).survivor hb, fun hgx => ?_⟩
      rw [invUp_clears hc.climb i (SameTree.refl s) hgx hcontg hx] at hb
      cases hb
    by_cases hcx : (invUp cfg s x).cont x = true
    · simp only [hc.below, hcx, Bool.and_self, if_true]
      cases hd : desc (invUp cfg s x) x with
      | error e => simp only; exact fresh_of_cleared (invUp_cleared cfg s x) f
      | ok ds =>
        simp only
        apply key (clearConts (invUp cfg s x) ds).cache
        intro g b hb' hcontg
        rw [clearConts_cache] at hb'
        have hcg1 : (invUp cfg s x).cont g = true := by rw [hs1.cont]; exact hcontg
        split at hb'
        · cases hb'
        · rename_i hnm
          have h1 := surv1 g b hb' hcontg
          refine ⟨h1.1, h1.2, ?_⟩
          intro r
          apply hnm
          refine ⟨?_, hcg1⟩
          have hc1 : ∀ c, (invUp cfg s x).children c ≠ [] → (invUp cfg s x).cont c = true := by
            intro c; rw [hs1.children, hs1.cont]; exact i.contOnly c
          exact (mem_desc_iff hc1 hd g).mpr (r.congr hs1.children)
    · have hcx' : s.cont x ≠ true := by rw [← hs1.cont]; exact hcx
      simp only [hcx, Bool.and_false, Bool.false_eq_true, if_false]
      apply key (invUp cfg s x).cache
      intro g b hb hcontg
      have h1 := surv1 g b hb hcontg
      exact ⟨h1.1, h1.2, fun r => hcx' (reach_cont i.contOnly r)⟩

theorem fresh_setBox {cfg : Cfg} (hc : CacheCfg cfg) {s : State} (i : Inv s) (f : Fresh s) (x : Id) (hx : x < s.next)
    (b' : BBox) : Fresh { invUp cfg s x with box := upd (invUp cfg s x).box x b' } := by
  have hs1 := invUp_same cfg s x
  intro g ha hcont b hb
  have hcontg : s.cont g = true := by
    have : (invUp cfg s x).cont g = s.cont g := hs1.cont g
    rw [← this]; exact hcont
  have hb' : (invUp cfg s x).cache g = some b := hb
  have hcache : s.cache g = some b := (invUp_cleared cfg s x).survivor hb'
  have hnot : ¬ (g = x ∨ Reach s g x) := by
    intro hgx
    have := invUp_clears hc.climb i (SameTree.refl s) hgx hcontg hx
    rw [this] at hb'; cases hb'
  have ha0 : Attached s g := Attached.congr (s := { invUp cfg s x with box := upd (invUp cfg s x).box x b' })
    hs1.children.symm hs1.kind.symm ha
  have hok := f g ha0 hcontg b hcache
  have hgx : g ≠ x := fun e => hnot (.inl e)
  show if (invUp cfg s x).kind g = .artboard then b = upd (invUp cfg s x).box x b' g else _
  rw [hs1.kind, show upd (invUp cfg s x).box x b' g = s.box g by rw [upd, if_neg hgx, hs1.box]]
  refine cacheOk_of_extract hok ?_
  apply extractBbox_frame s { invUp cfg s x with box := upd (invUp cfg s x).box x b' } hs1.limit g
  · intro y hy
    refine ⟨hs1.children ▸ rfl, ?_⟩
    show upd (invUp cfg s x).box x b' y = s.box y
    unfold upd
    split
    · rename_i e; subst e; exact absurd (hy.elim (fun e => .inl e.symm) .inr) hnot
    · rw [hs1.box]
  · intro z y _ _
    exact ⟨hs1.kind ▸ rfl, hs1.visible ▸ rfl, hs1.parent ▸ rfl⟩

theorem fresh_opSetOffset {cfg : Cfg} (hc : CacheCfg cfg) {s : State} (i : Inv s) (f : Fresh s) (x : Id) (h : Bool) (v : Int) :
    Fresh (opSetOffset cfg s x h v).1 := by
  unfold opSetOffset
  by_cases hl : (!(s.isLayer x && s.kind x == .leaf)) = true
  · rw [if_pos hl]; exact f
  · rw [if_neg hl]
    have hl' : s.isLayer x = true ∧ s.kind x = .leaf := by simpa using hl
    exact fresh_setBox hc i f x (isLayer_iff.mp hl'.1).1 _

theorem fresh_alloc {s : State} (i : Inv s) (f : Fresh s) (k : Kind) (p : Option Id) (bx : BBox) :
    Fresh (alloc s k p bx) := by
  have hfresh := i.next_children
  have hch : ∀ c, (alloc s k p bx).children c = s.children c := congrFun (alloc_children i k p bx)
  have hreach : ∀ a b, Reach (alloc s k p bx) a b → Reach s a b := by
    intro a b r
    exact Reach.mono (fun c x hx => by rw [hch] at hx; exact hx) r
  intro g ha hcont b hb
  have hgn : g ≠ s.next := by
    intro e; subst e
    simp [alloc, upd] at hb
  -- attached before
  have ha0 : Attached s g := by
    obtain ⟨d, hd, hgd⟩ := ha
    have hdn : d ≠ s.next := by
      intro e; subst e
      rcases hgd with e' | r
      · exact hgn e'
      · have := hreach _ _ r
        exact this.children_ne hfresh
    refine ⟨d, by simpa [alloc, upd, hdn] using hd, hgd.elim .inl (fun r => .inr (hreach _ _ r))⟩
  have hcontg : s.cont g = true := by simpa [alloc, State.cont, upd, hgn] using hcont
  have hcache : s.cache g = some b := by simpa [alloc, upd, hgn] using hb
  have hok := f g ha0 hcontg b hcache
  have hkg : (alloc s k p bx).kind g = s.kind g := by simp [alloc, upd, hgn]
  have hbg : (alloc s k p bx).box g = s.box g := by simp [alloc, upd, hgn]
  rw [hkg, hbg]
  refine cacheOk_of_extract hok ?_
  -- the new object is not among the nodes `extract_bbox` of an attached container reads
  have hdep : ∀ z y, (z = g ∨ Reach s g z) → (y = z ∨ UpChain s z y) → y ≠ s.next := by
    intro z y hz hy e
    subst e
    rcases dep_cases i hz hy with hb' | hu
    · rcases hb' with e' | r
      · exact hgn e'.symm
      · obtain ⟨c, hc', _⟩ := r.last
        exact Nat.lt_irrefl _ (i.live c _ hc').2
    · exact (up_is_ancestor i ha0 hu).1.children_ne hfresh
  apply extractBbox_frame s (alloc s k p bx) rfl g
  · intro y hy
    have hyn := hdep y y hy (.inl rfl)
    exact ⟨hch y, by simp [alloc, upd, hyn]⟩
  · intro z y hz hy
    have hyn := hdep z y hz hy
    exact ⟨by simp [alloc, upd, hyn], by simp [alloc, upd, hyn], by simp [alloc, upd, hyn]⟩

theorem fresh_updateRecord {cfg : Cfg} {s : State} (f : Fresh s) (k : Id) : Fresh (updateRecord cfg s k) :=
  fresh_of_cleared (updateRecord_cleared cfg s k) f
/-- well-formed tree with fresh caches -/
structure Good (s : State) : Prop where
  inv : Inv s
  fresh : Fresh s

theorem good_shrink {cfg : Cfg} (hc : CacheCfg cfg) {s : State} (h : Good s) (k : Id) (hk : k < s.next) (l' : List Id)
    (hnd : l'.Nodup) (hsub : ∀ y, y ∈ l' → y ∈ s.children k) (o : Out) :
    Good (finishRemove cfg (setChildren s k l') k o).1 :=
  ⟨(updateRecord_same cfg _ k).inv (inv_shrink h.inv k l' hnd hsub),
    fresh_finishRemove_shrink hc h.inv h.fresh k hk l' hnd hsub o⟩

theorem Kept.ofGood {cfg : Cfg} (hc : CacheCfg cfg) : Kept cfg Good where
  self := hc.self
  inv := Good.inv
  read := fun s x h => ⟨(obsBbox_same s x).inv h.inv, fresh_obsBbox x h.fresh⟩
  relist := fun g l' out h hg hnd hmem hne =>
    ⟨inv_finishInsert h.inv g l' out hg hnd hmem hne, fresh_finishInsert_relist hc h.inv h.fresh g l' out hg hnd hmem hne⟩
  shrink := fun k l' o h hk hnd hsub => good_shrink hc h k hk l' hnd hsub o
  record := fun k h => ⟨(updateRecord_same cfg _ k).inv h.inv, fresh_updateRecord h.fresh k⟩
  newObject := fun k p b h => ⟨inv_alloc h.inv k p b, fresh_alloc h.inv h.fresh k p b⟩
  setVisible := fun x v h => ⟨inv_opSetVisible h.inv x v, fresh_opSetVisible hc h.inv h.fresh x v⟩
  setOffset := fun x d v h => ⟨inv_opSetOffset h.inv x d v, fresh_opSetOffset hc h.inv h.fresh x d v⟩
  setBlocks := fun b h => ⟨(sameTree_blocks _ b).inv h.inv,
    fresh_of_sameTree (sameTree_blocks _ b) (fun _ c => c.congr (sameTree_blocks _ b) rfl) h.fresh⟩

/-- **Freshness step**: under the guard and below the recursion limit an operation keeps the tree
well-formed and every cached box of a layer that is in a document fresh. -/
theorem good_step (s : State) (op : Op) (h : Good s) (hg : Guard s op)
    (hne : (step .current s op).2 ≠ .error .recursionError) : Good (step .current s op).1 :=
  (Kept.ofGood CacheCfg.current).keeps_step rfl op h hg hne

theorem good_run (s : State) (ops : List Op) (h : Good s) (hg : Guarded .current s ops) :
    Good (runState .current s ops) :=
  (Kept.ofGood CacheCfg.current).keeps_run rfl ops h hg

end PsdVerif.TreeSt
