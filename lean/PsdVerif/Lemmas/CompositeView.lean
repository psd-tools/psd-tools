/-
Exact viewport independence at a pixel for layers that meet both viewports in the same rectangle (`viewEq`).
-/
import PsdVerif.Lemmas.CompositeTree

namespace PsdVerif.Composite

mutual
/-- the layer and the layers clipped to it meet the two viewports in the same rectangle -/
def viewEq (V' V : Rect) : Node → Prop
  | .leaf pr _ _ _ clips => intersect V' pr.bbox = intersect V pr.bbox ∧ listViewEq V' V clips
  | .group pr _ _ clips => intersect V' pr.bbox = intersect V pr.bbox ∧ listViewEq V' V clips
def listViewEq (V' V : Rect) : List Node → Prop
  | [] => True
  | n :: ns => viewEq V' V n ∧ listViewEq V' V ns
end

theorem finishApply_view (B : Mode → Color → Color → Color) (V' V : Rect) (x y : Int)
    (h' : V'.contains x y = true) (h : V.contains x y = true) (st : PState) (pr : Props) (color : Color) (shape alpha : Rat) :
    finishApply B V' x y st pr color shape alpha = finishApply B V x y st pr color shape alpha := by
  unfold finishApply
  rw [maskFactors_view pr V' V x y h' h]

mutual
/-- **Viewport independence at a pixel**: a layer composites the same way in two viewports that
both contain the pixel, as long as it (and its clip layers) meet both viewports in the same
rectangle — so neither the early-exit test nor a nested group's viewport can differ. -/
theorem applyNode_view (B : Mode → Color → Color → Color) (V' V : Rect) (x y : Int)
    (h' : V'.contains x y = true) (h : V.contains x y = true) (cc : Bool) (st : PState) :
    (n : Node) → viewEq V' V n → applyNode B V' x y cc st n = applyNode B V x y cc st n
  | .leaf pr hasPixels color shape clips, hv => by
    obtain ⟨hb, hc⟩ := hv
    unfold applyNode
    rw [hb, pasteAt_eq V' _ x y h', pasteAt_eq V _ x y h, pasteAt_eq V' _ x y h', pasteAt_eq V _ x y h]
    simp only [finishApply_view B V' V x y h' h]
    have hcl : ∀ s, applyClips B V' x y s clips = applyClips B V x y s clips :=
      fun s => applyClips_view B V' V x y h' h s clips hc
    simp only [hcl]
  | .group pr passThrough children clips, hv => by
    obtain ⟨hb, hc⟩ := hv
    unfold applyNode
    rw [hb]
    simp only [finishApply_view B V' V x y h' h]
    have hcl : ∀ s, applyClips B V' x y s clips = applyClips B V x y s clips :=
      fun s => applyClips_view B V' V x y h' h s clips hc
    simp only [hcl]

theorem applyClips_view (B : Mode → Color → Color → Color) (V' V : Rect) (x y : Int)
    (h' : V'.contains x y = true) (h : V.contains x y = true) (st : PState) :
    (ns : List Node) → listViewEq V' V ns → applyClips B V' x y st ns = applyClips B V x y st ns
  | [], _ => by unfold applyClips; rfl
  | n :: rest, hv => by
    unfold applyClips
    rw [applyNode_view B V' V x y h' h true st n hv.1]
    exact applyClips_view B V' V x y h' h _ rest hv.2
end

theorem applyList_congr_view (B : Mode → Color → Color → Color) (V V' : Rect) (x y : Int) (ns : List Node)
    (h : ∀ n ∈ ns, ∀ st, applyNode B V' x y false st n = applyNode B V x y false st n) (st : PState) :
    applyList B V' x y st ns = applyList B V x y st ns := by
  induction ns generalizing st with
  | nil => rfl
  | cons n ns ih =>
    unfold applyList
    rw [h n (List.mem_cons_self ..) st]
    exact ih (fun m hm => h m (List.mem_cons_of_mem _ hm)) _

end PsdVerif.Composite
