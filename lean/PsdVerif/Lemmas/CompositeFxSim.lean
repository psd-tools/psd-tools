/-
The viewport does not matter at a pixel, for effect-carrying trees (`Model/CompositeFx.lean`): fills,
vector masks, the vector stroke, overlay effects — and stroke effects as long as what is drawn for them
does not depend on the viewport (`fxNodeConst`; on the real code it does: known finding of C13).
-/
import PsdVerif.Lemmas.CompositeFx
import PsdVerif.Lemmas.CompositeSim
import PsdVerif.Lemmas.CompositeRect

namespace PsdVerif.Composite

theorem maskFactorsFx_view (force : Bool) (pr : Props) (fx : Fx) (V' V : Rect) (x y : Int)
    (h' : V'.contains x y = true) (h : V.contains x y = true) :
    maskFactorsFx force pr fx V' x y = maskFactorsFx force pr fx V x y := by
  unfold maskFactorsFx vmaskFactor
  rw [maskFactors_view pr V' V x y h' h, pasteAt_view V' V x y h' h]

theorem overlayShape_view (V' V bbox : Rect) (x y : Int) (h' : V'.contains x y = true) (h : V.contains x y = true)
    (e : Overlay) : overlayShape V' bbox x y e = overlayShape V bbox x y e := by
  unfold overlayShape
  rw [pasteAt_view V' V x y h' h]

theorem leafColor_view (force : Bool) (V' V : Rect) (x y : Int) (h' : V'.contains x y = true) (h : V.contains x y = true)
    (pr : Props) (fx : Fx) (src : ObjSrc) : leafColor force V' x y pr fx src = leafColor force V x y pr fx src := by
  simp only [leafColor, pasteAt_view V' V x y h' h]

theorem leafShape_view (force : Bool) (V' V : Rect) (x y : Int) (h' : V'.contains x y = true) (h : V.contains x y = true)
    (pr : Props) (fx : Fx) (src : ObjSrc) : leafShape force V' x y pr fx src = leafShape force V x y pr fx src := by
  simp only [leafShape, pasteAt_view V' V x y h' h]

theorem strokeObject_view (B : Mode → Color → Color → Color) (V' V : Rect) (x y : Int) (h' : V'.contains x y = true)
    (h : V.contains x y = true) (color : Color) (alpha : Rat) (s : Option VStroke) :
    strokeObject B V' x y color alpha s = strokeObject B V x y color alpha s := by
  cases s with
  | none => rfl
  | some s => simp only [strokeObject, pasteAt_view V' V x y h' h]

/-- what is drawn for the stroke effects does not depend on the viewport -/
def strokeFxConst (fx : Fx) : Prop := ∀ s ∈ fx.strokeFx, ∀ V V', s.shape V = s.shape V'

mutual
def fxNodeConst : FxNode → Prop
  | .leaf _ fx _ _ clips => strokeFxConst fx ∧ fxListConst clips
  | .group _ fx _ children clips => strokeFxConst fx ∧ fxListConst children ∧ fxListConst clips
  | .adjustment _ => True
def fxListConst : List FxNode → Prop
  | [] => True
  | n :: ns => fxNodeConst n ∧ fxListConst ns
end

theorem applyOverlays_sim (B : Mode → Color → Color → Color) (V₁ V₂ bbox : Rect) (x y : Int)
    (h₁ : V₁.contains x y = true) (h₂ : V₂.contains x y = true) (shape alpha : Rat) {s t : PState} (h : Sim s t)
    (es : List Overlay) :
    Sim (applyOverlays B V₁ bbox x y shape alpha s es) (applyOverlays B V₂ bbox x y shape alpha t es) := by
  induction es generalizing s t with
  | nil => exact h
  | cons e es ih =>
    unfold applyOverlays
    rw [overlayShape_view V₁ V₂ bbox x y h₁ h₂ e, pasteAt_view V₁ V₂ x y h₁ h₂]
    exact ih (applySource_sim (B e.mode) h (fun _ => rfl) false)

theorem applyStrokeFx_sim (B : Mode → Color → Color → Color) (V₁ V₂ bbox : Rect) (x y : Int) (lop : Rat)
    (h₁ : V₁.contains x y = true) (h₂ : V₂.contains x y = true) {s t : PState} (h : Sim s t)
    (ss : List StrokeFx) (hc : ∀ f ∈ ss, ∀ V V', f.shape V = f.shape V') :
    Sim (applyStrokeFx B V₁ bbox x y lop s ss) (applyStrokeFx B V₂ bbox x y lop t ss) := by
  induction ss generalizing s t with
  | nil => exact h
  | cons f ss ih =>
    unfold applyStrokeFx
    simp only [hc f (List.mem_cons_self ..) V₁ V₂, pasteAt_view V₁ V₂ x y h₁ h₂]
    exact ih (applySource_sim (B f.mode) h (fun _ => rfl) false) (fun g hg => hc g (List.mem_cons_of_mem _ hg))

theorem finishFx_sim (B : Mode → Color → Color → Color) (force : Bool) (V₁ V₂ : Rect) (x y : Int)
    (h₁ : V₁.contains x y = true) (h₂ : V₂.contains x y = true) {s t : PState} (h : Sim s t) (pr : Props) (fx : Fx)
    (hconst : strokeFxConst fx) {color color' : Color} {shape alpha : Rat} (hc : alpha ≠ 0 → color = color') :
    Sim (finishFx B force V₁ x y s pr fx color shape alpha) (finishFx B force V₂ x y t pr fx color' shape alpha) := by
  unfold finishFx
  rw [maskFactorsFx_view force pr fx V₁ V₂ x y h₁ h₂]
  apply applyStrokeFx_sim B V₁ V₂ pr.bbox x y pr.opacity h₁ h₂ _ _ hconst
  apply applyOverlays_sim B V₁ V₂ pr.bbox x y h₁ h₂
  apply applySource_sim (B pr.mode) h
  intro hne
  apply hc
  intro h0
  apply hne
  rw [h0]; ring

theorem applySrcs_zero_sim (B : Mode → Color → Color → Color) {st : PState} (hst : Inv st) (ss : List PSrc)
    (hz : ∀ s ∈ ss, s.shape = 0 ∧ s.alpha = 0) : Sim (applySrcs B st ss) st := by
  induction ss generalizing st with
  | nil => exact Sim.refl st
  | cons s ss ih =>
    obtain ⟨z1, z2⟩ := hz s (List.mem_cons_self ..)
    unfold applySrcs
    rw [z1, z2]
    exact (ih (applySource_inv_of hst (le_refl _) (le_refl _) zero_le_one s.ko)
      (fun t ht => hz t (List.mem_cons_of_mem _ ht))).trans (applySource_zero_sim _ st hst _ _)

/-- with a zero object, every source of the layer is zero as soon as its stroke effects draw nothing at the pixel -/
theorem finishFx_zero_sim (B : Mode → Color → Color → Color) (force : Bool) (V : Rect) (x y : Int) {st : PState} (hst : Inv st)
    (pr : Props) (fx : Fx) (color : Color) (hstroke : ∀ f ∈ fx.strokeFx, pasteAt V pr.bbox x y (f.shape V) 0 = 0) :
    Sim (finishFx B force V x y st pr fx color 0 0) st := by
  rw [finishFx_eq]
  apply applySrcs_zero_sim B hst
  apply forall_finishFx_srcs
  · simp [ownSrc, maskedShape, maskedAlpha]
  · intro e _; simp [overlaySrc, maskedShape, maskedAlpha]
  · intro f hf; simp [strokeFxSrc, hstroke f hf]

theorem leafShape_outside (force : Bool) (V : Rect) (x y : Int) (hV : V.contains x y = true) (pr : Props) (fx : Fx)
    (src : ObjSrc) (hout : pr.bbox.contains x y = false) : leafShape force V x y pr fx src = 0 := by
  unfold leafShape
  rw [pasteAt_eq V _ x y hV, pasteAt_eq V _ x y hV]
  simp [hout]

theorem fxObj_outside (B : Mode → Color → Color → Color) (force : Bool) (V : Rect) (x y : Int) (hV : V.contains x y = true)
    (bd : Color × Rat) (n : FxNode) (hout : n.props.bbox.contains x y = false) :
    (fxObj B force V x y bd n).2.1 = 0 ∧ (fxObj B force V x y bd n).2.2 = 0 := by
  cases n with
  | adjustment pr => exact ⟨rfl, rfl⟩
  | leaf pr fx src stroke clips =>
    exact ⟨leafShape_outside force V x y hV pr fx src hout, leafShape_outside force V x y hV pr fx src hout⟩
  | group pr fx pt children clips =>
    have hin : (intersect V pr.bbox).contains x y = false := contains_intersect_false hout
    simp only [fxObj, groupResult, hin, Bool.false_eq_true, if_false, and_self]

/-- **Skipped or applied, an effect-carrying layer that does not cover the pixel is invisible there.** -/
theorem applyFxNode_outside_sim (B : Mode → Color → Color → Color) (force : Bool) (V : Rect) (x y : Int)
    (hV : V.contains x y = true) (cc : Bool) (st : PState) (hst : Inv st) (n : FxNode)
    (hout : n.props.bbox.contains x y = false) :
    Sim (applyFxNode B force V x y cc st n) st := by
  rw [applyFxNode_eq]; split
  · exact Sim.refl st
  · obtain ⟨z1, z2⟩ := fxObj_outside B force V x y hV (backdrop st n.props.knockout) n hout
    rw [z1, z2]
    exact finishFx_zero_sim B force V x y hst _ _ _ fun f _ => by rw [pasteAt_eq V _ x y hV, hout]; rfl

theorem fxSkipped_view {V₁ V₂ : Rect} {x y : Int} (h₁ : V₁.contains x y = true) (h₂ : V₂.contains x y = true) (cc : Bool)
    (n : FxNode) (hb : n.props.bbox.contains x y = true) : fxSkipped V₁ cc n = fxSkipped V₂ cc n := by
  cases n with
  | adjustment pr => rfl
  | leaf pr fx src stroke clips =>
    have z₁ : intersect V₁ pr.bbox ≠ Rect.zero := intersect_ne_zero_of_contains h₁ hb
    have z₂ : intersect V₂ pr.bbox ≠ Rect.zero := intersect_ne_zero_of_contains h₂ hb
    simp only [fxSkipped, propsSkipped, z₁, z₂]
  | group pr fx pt children clips =>
    have z₁ : intersect V₁ pr.bbox ≠ Rect.zero := intersect_ne_zero_of_contains h₁ hb
    have z₂ : intersect V₂ pr.bbox ≠ Rect.zero := intersect_ne_zero_of_contains h₂ hb
    simp only [fxSkipped, propsSkipped, z₁, z₂]

/-- the base takes the same colour from its clip run in both viewports, where the base is not fully transparent -/
theorem clippedColor_view {B : Mode → Color → Color → Color} {force : Bool} {V₁ V₂ : Rect} {x y : Int} {color : Color}
    {alpha : Rat} {clips : List FxNode} (hne : alpha ≠ 0)
    (hsim : Sim (applyFxClips B force V₁ x y (PState.init color alpha false) clips)
      (applyFxClips B force V₂ x y (PState.init color alpha false) clips))
    (hinv : Inv (applyFxClips B force V₂ x y (PState.init color alpha false) clips)) :
    clippedColor B force V₁ x y color alpha clips = clippedColor B force V₂ x y color alpha clips := by
  unfold clippedColor; split
  · rfl
  · exact hsim.c (a_ne_zero_of_a0 hinv (by rw [applyFxClips_a0, init_a0_false]; exact hne))

mutual
/-- **The viewport does not matter at a pixel.** In two viewports that both contain the pixel, from indistinguishable
states, a layer (with everything it carries and everything below it) leads to indistinguishable states. Where the
layer's box covers the pixel both runs skip it alike (`fxSkipped_view`), their objects agree wherever the object's alpha
is not zero (the recursion: sub-compositor and clip run), and the tail respects `Sim` (`finishFx_sim`); where it
does not, both runs leave the state indistinguishable (`applyFxNode_outside_sim`). -/
theorem applyFxNode_sim (B : Mode → Color → Color → Color) (force : Bool) (V₁ V₂ : Rect) (x y : Int)
    (h₁ : V₁.contains x y = true) (h₂ : V₂.contains x y = true) (cc : Bool) (s t : PState)
    (hs : Sim s t) (is : Inv s) (it : Inv t) :
    (n : FxNode) → fxNodeOk n → fxNodeConst n →
      Sim (applyFxNode B force V₁ x y cc s n) (applyFxNode B force V₂ x y cc t n)
  | .adjustment _, _, _ => by rw [applyFxNode, applyFxNode]; exact hs
  | .leaf pr fx src stroke clips, hn, hk => by
    by_cases hb : pr.bbox.contains x y = true
    · rw [applyFxNode_eq, applyFxNode_eq, fxSkipped_view h₁ h₂ cc (.leaf pr fx src stroke clips) hb]
      split
      · exact hs
      obtain ⟨hp, hf, hsrc, hstk, hcl⟩ := hn
      simp only [fxObj, FxNode.props, FxNode.fx]
      rw [leafColor_view force V₁ V₂ x y h₁ h₂, leafShape_view force V₁ V₂ x y h₁ h₂,
        strokeObject_view B V₁ V₂ x y h₁ h₂]
      have i0 := inv_init (leafColor_ok force V₂ x y pr fx hsrc) (leafShape_unit force V₂ x y pr fx hsrc) false
      apply finishFx_sim B force V₁ V₂ x y h₁ h₂ hs pr fx hk.1
      intro hne
      rw [clippedColor_view hne (applyFxClips_sim B force V₁ V₂ x y h₁ h₂ _ _ (Sim.refl _) i0 i0 clips hcl hk.2)
        (applyFxClips_inv B force V₂ x y _ i0 clips hcl)]
    · have hb' : pr.bbox.contains x y = false := by simpa using hb
      exact ((applyFxNode_outside_sim B force V₁ x y h₁ cc s is (.leaf pr fx src stroke clips) hb').trans hs).trans
        (applyFxNode_outside_sim B force V₂ x y h₂ cc t it (.leaf pr fx src stroke clips) hb').symm
  | .group pr fx passThrough children clips, hn, hk => by
    by_cases hb : pr.bbox.contains x y = true
    · rw [applyFxNode_eq, applyFxNode_eq, fxSkipped_view h₁ h₂ cc (.group pr fx passThrough children clips) hb]
      split
      · exact hs
      obtain ⟨hp, hf, hch, hcl⟩ := hn
      have in₁ : (intersect V₁ pr.bbox).contains x y = true := by
        rw [contains_intersect (intersect_ne_zero_of_contains h₁ hb), h₁, hb]; rfl
      have in₂ : (intersect V₂ pr.bbox).contains x y = true := by
        rw [contains_intersect (intersect_ne_zero_of_contains h₂ hb), h₂, hb]; rfl
      simp only [fxObj, FxNode.props, FxNode.fx, groupResult, in₁, in₂, if_true]
      obtain ⟨ea, ec⟩ := hs.backdrop pr.knockout
      rw [ea]
      have i₁ := inv_init (is.backdrop pr.knockout).1 (ea ▸ (is.backdrop pr.knockout).2) (!passThrough)
      have i₂ := inv_init (it.backdrop pr.knockout).1 (it.backdrop pr.knockout).2 (!passThrough)
      have hsub := applyFxList_sim B force (intersect V₁ pr.bbox) (intersect V₂ pr.bbox) x y in₁ in₂ _ _
        (init_sim (!passThrough) ec) i₁ i₂ children hch hk.2.1
      have is₂ := applyFxList_inv B force (intersect V₂ pr.bbox) x y _ i₂ children hch
      rw [hsub.sg, hsub.ag]
      apply finishFx_sim B force V₁ V₂ x y h₁ h₂ hs pr fx hk.1
      intro hne
      rw [finishColor_sim hsub is₂ hne]
      have i0 := inv_init (color := finishColor (applyFxList B force (intersect V₂ pr.bbox) x y
        (PState.init (backdrop t pr.knockout).1 (backdrop t pr.knockout).2 (!passThrough)) children))
        (fun _ => clip_unit _) is₂.ag false
      exact clippedColor_view hne (applyFxClips_sim B force V₁ V₂ x y h₁ h₂ _ _ (Sim.refl _) i0 i0 clips hcl hk.2.2)
        (applyFxClips_inv B force V₂ x y _ i0 clips hcl)
    · have hb' : pr.bbox.contains x y = false := by simpa using hb
      exact ((applyFxNode_outside_sim B force V₁ x y h₁ cc s is (.group pr fx passThrough children clips) hb').trans hs).trans
        (applyFxNode_outside_sim B force V₂ x y h₂ cc t it (.group pr fx passThrough children clips) hb').symm

theorem applyFxList_sim (B : Mode → Color → Color → Color) (force : Bool) (V₁ V₂ : Rect) (x y : Int)
    (h₁ : V₁.contains x y = true) (h₂ : V₂.contains x y = true) (s t : PState)
    (hs : Sim s t) (is : Inv s) (it : Inv t) :
    (ns : List FxNode) → fxListOk ns → fxListConst ns →
      Sim (applyFxList B force V₁ x y s ns) (applyFxList B force V₂ x y t ns)
  | [], _, _ => by unfold applyFxList; exact hs
  | n :: rest, h, hk => by
    unfold applyFxList
    exact applyFxList_sim B force V₁ V₂ x y h₁ h₂ _ _ (applyFxNode_sim B force V₁ V₂ x y h₁ h₂ false s t hs is it n h.1 hk.1)
      (applyFxNode_inv B force V₁ x y false s is n h.1) (applyFxNode_inv B force V₂ x y false t it n h.1) rest h.2 hk.2

theorem applyFxClips_sim (B : Mode → Color → Color → Color) (force : Bool) (V₁ V₂ : Rect) (x y : Int)
    (h₁ : V₁.contains x y = true) (h₂ : V₂.contains x y = true) (s t : PState)
    (hs : Sim s t) (is : Inv s) (it : Inv t) :
    (ns : List FxNode) → fxListOk ns → fxListConst ns →
      Sim (applyFxClips B force V₁ x y s ns) (applyFxClips B force V₂ x y t ns)
  | [], _, _ => by unfold applyFxClips; exact hs
  | n :: rest, h, hk => by
    unfold applyFxClips
    exact applyFxClips_sim B force V₁ V₂ x y h₁ h₂ _ _ (applyFxNode_sim B force V₁ V₂ x y h₁ h₂ true s t hs is it n h.1 hk.1)
      (applyFxNode_inv B force V₁ x y true s is n h.1) (applyFxNode_inv B force V₂ x y true t it n h.1) rest h.2 hk.2
end

end PsdVerif.Composite
