/-
Effect-carrying trees: overlays as extra sources at node level, fill layers as pixel layers, irrelevance of
`force`, the zero-opacity law with effects, and the data of the witnesses for the variants that fail (the witness
theorems are in `Props/C11Fx.lean`, `Props/C13Fx.lean`).
-/
import PsdVerif.Lemmas.CompositeFxSim

namespace PsdVerif.Composite

def Fx.strip (fx : Fx) : Fx := { fx with overlays := [], strokeFx := [] }

/-- the same layer without its own overlay and stroke effects (children and clip layers keep theirs) -/
def FxNode.stripFx : FxNode → FxNode
  | .leaf pr fx src stroke clips => .leaf pr fx.strip src stroke clips
  | .group pr fx pt children clips => .group pr fx.strip pt children clips
  | .adjustment pr => .adjustment pr

/-- the effect sources of a layer in the state it meets: none when `apply` skips it, else one per overlay effect with
`shape * shape_e`, `alpha * shape_e * opacity` (the layer's shape and alpha after masks and layer opacity, before fill
opacity), then one per stroke effect -/
def nodeFxSrcs (B : Mode → Color → Color → Color) (force : Bool) (V : Rect) (x y : Int) (cc : Bool) (st : PState) :
    FxNode → List PSrc
  | .adjustment _ => []
  | .leaf pr fx src _ _ =>
    if propsSkipped V cc pr then []
    else fxSrcs force V x y pr fx (leafShape force V x y pr fx src) (leafShape force V x y pr fx src)
  | .group pr fx pt children _ =>
    if propsSkipped V cc pr then []
    else
      let sub := applyFxList B force (intersect V pr.bbox) x y
        (PState.init (if pr.knockout then st.c0 else st.c) (if pr.knockout then st.a0 else st.a) (!pt)) children
      let inside := (intersect V pr.bbox).contains x y
      fxSrcs force V x y pr fx (if inside then sub.sg else 0) (if inside then sub.ag else 0)

theorem finishFx_strip (B : Mode → Color → Color → Color) (force : Bool) (V : Rect) (x y : Int) (st : PState) (pr : Props)
    (fx : Fx) (color : Color) (shape alpha : Rat) :
    finishFx B force V x y st pr fx color shape alpha
      = applySrcs B (finishFx B force V x y st pr fx.strip color shape alpha) (fxSrcs force V x y pr fx shape alpha) := by
  rw [finishFx_eq, finishFx_eq]
  have e : fxSrcs force V x y pr fx.strip shape alpha = [] := by simp [fxSrcs, Fx.strip]
  rw [e]
  rfl

theorem applyFxNode_strip (B : Mode → Color → Color → Color) (force : Bool) (V : Rect) (x y : Int) (cc : Bool) (st : PState)
    (n : FxNode) :
    applyFxNode B force V x y cc st n
      = applySrcs B (applyFxNode B force V x y cc st n.stripFx) (nodeFxSrcs B force V x y cc st n) := by
  rw [applyFxNode_eq, applyFxNode_eq]
  cases n with
  | adjustment pr => rfl
  | leaf pr fx src stroke clips =>
    simp only [FxNode.stripFx, nodeFxSrcs, fxSkipped, FxNode.props, FxNode.fx, fxObj]
    by_cases h : propsSkipped V cc pr = true
    · simp only [h, if_true]; rfl
    · simp only [h]; exact finishFx_strip ..
  | group pr fx pt children clips =>
    simp only [FxNode.stripFx, nodeFxSrcs, fxSkipped, FxNode.props, FxNode.fx, fxObj, groupResult, backdrop]
    by_cases h : propsSkipped V cc pr = true
    · simp only [h, if_true]; rfl
    · simp only [h]; exact finishFx_strip ..

/-- the pixel layer that carries a fill layer's colour and shape as pixels: no fill, no vector mask -/
def asPixelSrc (src : ObjSrc) : ObjSrc :=
  { hasArr := true, pixColor := src.fillColor, pixShape := src.fillShape, fillColor := white, fillShape := 0 }

def asPixelFx (fx : Fx) : Fx := { fx with flags := Flags.plain true }

theorem fill_leaf_eq_pixel_leaf (B : Mode → Color → Color → Color) (force : Bool) (V : Rect) (x y : Int) (cc : Bool)
    (st : PState) (pr : Props) (fx : Fx) (src : ObjSrc) (stroke : Option VStroke) (clips : List FxNode)
    (hV : V.contains x y = true) (hfill : useFill force fx.flags = true)
    (hvm : useVectorMask force fx.flags = true → fx.vmBox.contains x y = true ∧ fx.vmValue = 1) :
    applyFxNode B force V x y cc st (.leaf pr fx src stroke clips)
      = applyFxNode B force V x y cc st (.leaf pr (asPixelFx fx) (asPixelSrc src) stroke clips) := by
  have hm : maskFactorsFx force pr fx V x y = maskFactorsFx force pr (asPixelFx fx) V x y := by
    unfold maskFactorsFx vmaskFactor
    have e2 : useVectorMask force (asPixelFx fx).flags = false := by simp [asPixelFx, useVectorMask, Flags.plain]
    rw [e2]
    by_cases h : useVectorMask force fx.flags = true
    · obtain ⟨hb, hv⟩ := hvm h
      rw [h, pasteAt_eq V _ x y hV, hb, hv]; simp
    · simp [h]
  have hc : leafColor force V x y pr fx src = leafColor force V x y pr (asPixelFx fx) (asPixelSrc src) := by
    unfold leafColor
    have e2 : useFill force (asPixelFx fx).flags = false := by simp [asPixelFx, useFill, Flags.plain]
    rw [hfill, e2]; simp [asPixelSrc]
  have hs : leafShape force V x y pr fx src = leafShape force V x y pr (asPixelFx fx) (asPixelSrc src) := by
    unfold leafShape
    have e2 : useFill force (asPixelFx fx).flags = false := by simp [asPixelFx, useFill, Flags.plain]
    rw [hfill, e2]; simp [asPixelSrc]
  rw [applyFxNode_eq, applyFxNode_eq]
  simp only [fxSkipped, fxObj, FxNode.props, FxNode.fx]
  rw [hc, hs]
  unfold finishFx
  rw [hm]
  rfl

/-- neither of the decisions that read `force` can come out differently -/
def Flags.forceFree (f : Flags) : Prop := f.hasFill = false ∧ f.vmaskEnabled = false

mutual
def forceFree : FxNode → Prop
  | .leaf _ fx _ _ clips => fx.flags.forceFree ∧ listForceFree clips
  | .group _ fx _ children clips => fx.flags.vmaskEnabled = false ∧ listForceFree children ∧ listForceFree clips
  | .adjustment _ => True
def listForceFree : List FxNode → Prop
  | [] => True
  | n :: ns => forceFree n ∧ listForceFree ns
end

theorem finishFx_force (B : Mode → Color → Color → Color) (V : Rect) (x y : Int) (st : PState) (pr : Props) (fx : Fx)
    (h : fx.flags.vmaskEnabled = false) (color : Color) (shape alpha : Rat) :
    finishFx B true V x y st pr fx color shape alpha = finishFx B false V x y st pr fx color shape alpha := by
  unfold finishFx maskFactorsFx vmaskFactor useVectorMask
  simp [h]

mutual
theorem applyFxNode_force (B : Mode → Color → Color → Color) (V : Rect) (x y : Int) (cc : Bool) (st : PState) :
    (n : FxNode) → forceFree n → applyFxNode B true V x y cc st n = applyFxNode B false V x y cc st n
  | .adjustment _, _ => by rw [applyFxNode, applyFxNode]
  | .leaf pr fx src stroke clips, h => by
    obtain ⟨⟨hf, hv⟩, hc⟩ := h
    rw [applyFxNode_eq, applyFxNode_eq]
    have e1 : leafColor true V x y pr fx src = leafColor false V x y pr fx src := by simp [leafColor, useFill, hf]
    have e2 : leafShape true V x y pr fx src = leafShape false V x y pr fx src := by simp [leafShape, useFill, hf]
    have hcl : ∀ s, applyFxClips B true V x y s clips = applyFxClips B false V x y s clips :=
      fun s => applyFxClips_force B V x y s clips hc
    simp only [fxObj, clippedColor, FxNode.props, FxNode.fx, e1, e2, hcl, finishFx_force B V x y _ pr fx hv]
  | .group pr fx pt children clips, h => by
    obtain ⟨hv, hch, hc⟩ := h
    rw [applyFxNode_eq, applyFxNode_eq]
    have hcl : ∀ s, applyFxClips B true V x y s clips = applyFxClips B false V x y s clips :=
      fun s => applyFxClips_force B V x y s clips hc
    have hl : ∀ V' s, applyFxList B true V' x y s children = applyFxList B false V' x y s children :=
      fun V' s => applyFxList_force B V' x y s children hch
    simp only [fxObj, clippedColor, FxNode.props, FxNode.fx, hcl, hl, finishFx_force B V x y _ pr fx hv]

theorem applyFxList_force (B : Mode → Color → Color → Color) (V : Rect) (x y : Int) (st : PState) :
    (ns : List FxNode) → listForceFree ns → applyFxList B true V x y st ns = applyFxList B false V x y st ns
  | [], _ => by unfold applyFxList; rfl
  | n :: rest, h => by
    unfold applyFxList
    rw [applyFxNode_force B V x y false st n h.1, applyFxList_force B V x y _ rest h.2]

theorem applyFxClips_force (B : Mode → Color → Color → Color) (V : Rect) (x y : Int) (st : PState) :
    (ns : List FxNode) → listForceFree ns → applyFxClips B true V x y st ns = applyFxClips B false V x y st ns
  | [], _ => by unfold applyFxClips; rfl
  | n :: rest, h => by
    unfold applyFxClips
    rw [applyFxNode_force B V x y true st n h.1, applyFxClips_force B V x y _ rest h.2]
end

theorem applySrcs_zero_alpha (B : Mode → Color → Color → Color) {st : PState} (hst : Inv st) (ss : List PSrc)
    (hok : ∀ s ∈ ss, s.Ok) (hz : ∀ s ∈ ss, s.alpha = 0 ∧ s.ko = false) :
    (applySrcs B st ss).ag = st.ag ∧ (applySrcs B st ss).a = st.a ∧ (st.a ≠ 0 → ∀ ch, (applySrcs B st ss).c ch = st.c ch) := by
  induction ss generalizing st with
  | nil => exact ⟨rfl, rfl, fun _ _ => rfl⟩
  | cons s ss ih =>
    obtain ⟨z1, z2⟩ := hz s (List.mem_cons_self ..)
    have hs := hok s (List.mem_cons_self ..)
    have hstep := applySource_zero_alpha (B s.mode) st hst s.color s.shape
    have hinv : Inv (applySource (B s.mode) st s.color s.shape 0 false) := by
      have := applySource_inv (bl := B s.mode) hst hs false
      rw [z1] at this; exact this
    obtain ⟨e1, e2, e3⟩ := ih hinv (fun t ht => hok t (List.mem_cons_of_mem _ ht)) (fun t ht => hz t (List.mem_cons_of_mem _ ht))
    unfold applySrcs
    rw [z1, z2]
    obtain ⟨s1, s2, s3⟩ := hstep
    refine ⟨e1.trans s1, e2.trans s2, ?_⟩
    intro ha ch
    rw [e3 (by rw [s2]; exact ha) ch, s3 ha ch]

/-- **Zero opacity with effects**: every source of the layer — its own, one per overlay, one per stroke effect — has
alpha 0: the overlays are painted with the layer's `alpha`, which carries the layer opacity, and the stroke effect's
opacity is multiplied by the layer opacity. -/
theorem finishFx_zero_opacity (B : Mode → Color → Color → Color) (force : Bool) (V : Rect) (x y : Int) {st : PState}
    (hst : Inv st) {pr : Props} {fx : Fx} (hp : PropsOk pr) (hf : FxOk fx) (hko : pr.knockout = false) (hop : pr.opacity = 0)
    {color : Color} {shape alpha : Rat} (ho : SrcOk color shape alpha) :
    let r := finishFx B force V x y st pr fx color shape alpha
    r.ag = st.ag ∧ r.a = st.a ∧ (st.a ≠ 0 → ∀ ch, r.c ch = st.c ch) := by
  intro r
  have hr : r = applySrcs B st (ownSrc force V x y pr fx color shape alpha :: fxSrcs force V x y pr fx shape alpha) :=
    finishFx_eq ..
  rw [hr]
  apply applySrcs_zero_alpha B hst _ (finishFx_srcs_ok force hp hf V x y ho)
  apply forall_finishFx_srcs
  · simp [ownSrc, maskedAlpha, hop, hko]
  · intro e _; simp [overlaySrc, maskedAlpha, hop]
  · intro f _; simp [strokeFxSrc, hop]

/-- the variant in which the overlays are painted with an alpha that omits the layer opacity
(`alpha *= shape_mask * opacity_mask`, the constant factors applied to the layer's own source only) -/
def finishFxOpacityOmitted (B : Mode → Color → Color → Color) (force : Bool) (V : Rect) (x y : Int) (st : PState) (pr : Props)
    (fx : Fx) (color : Color) (shape alpha : Rat) : PState :=
  let m := maskFactorsFx force pr fx V x y
  let shape1 := shape * m.1
  let alpha1 := alpha * (m.1 * m.2)
  let st1 := applySource (B pr.mode) st color (shape1 * pr.fill) (alpha1 * (pr.fill * pr.opacity)) pr.knockout
  applyStrokeFx B V pr.bbox x y pr.opacity (applyOverlays B V pr.bbox x y shape1 alpha1 st1 fx.overlays) fx.strokeFx

def allNormalFx : Mode → Color → Color → Color := fun _ => blNormal

def unitRectFx : Rect := ⟨0, 0, 1, 1⟩

/-- visible, covering the pixel, no mask, normal blending, with the given opacity -/
def plainProps (opacity : Rat) : Props :=
  { visible := true, bbox := unitRectFx, opacity := opacity, fill := 1, hasMask := false, maskBBox := Rect.zero, maskValue := 1,
    maskBackground := 0, maskDensity := 1, mode := 0, knockout := false, clipping := false, hasClipTarget := false }

def blackOverlay : Overlay := { color := black, hasShape := false, shape := 1, opacity := 1, mode := 0 }

def overlayFx : Fx := { Fx.plain true with overlays := [blackOverlay] }

/-- a black stroke effect whose drawn shape is 1 in the unit viewport and 0 in any other -/
def viewportStroke : StrokeFx :=
  { color := black, shape := fun V => if V = unitRectFx then 1 else 0, opacity := 1, mode := 0 }

def strokeFxOnly (s : StrokeFx) : Fx := { Fx.plain true with strokeFx := [s] }

def constStroke : StrokeFx := { color := black, shape := fun _ => 1, opacity := 1, mode := 0 }

def whiteSrc : ObjSrc := { hasArr := true, pixColor := white, pixShape := 1, fillColor := white, fillShape := 0 }

end PsdVerif.Composite
