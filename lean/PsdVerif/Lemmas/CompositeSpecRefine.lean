/-
C11: the code model (`applyNode`, `Model/Composite.lean`) refines the published model (`specNode`,
`Model/CompositeSpec.lean`) on whole layer trees: the effect-free case of `Lemmas/CompositeFxRel.lean`, both
models being conservative extensions (`applyFxNode_embed`, `specFxNode_embed`).
-/
import PsdVerif.Lemmas.CompositeFxRel
import PsdVerif.Lemmas.CompositeTree

namespace PsdVerif.Composite

theorem specFinishFx_plain (k : KoRule) (B : Mode → Color → Color → Color) (force : Bool) (V : Rect) (x y : Int) (σ : SState)
    (pr : Props) (hp : Bool) (Pj : Color) (fj aj : Rat) :
    specFinishFx k B force V x y σ pr (Fx.plain hp) Pj fj aj = specFinish k B V x y σ pr Pj fj aj := by
  unfold specFinishFx specFinish specFactors maskFactorsFx vmaskFactor
  simp only [useVectorMask_plain, Bool.false_eq_true, if_false, mul_one]
  simp [Fx.plain, specOverlays, specStrokeFx, mul_assoc]

mutual
theorem specFxNode_embed (k : KoRule) (B : Mode → Color → Color → Color) (force : Bool) (V : Rect) (x y : Int) (cc : Bool)
    (σ : SState) : (n : Node) → specFxNode k B force V x y cc σ (embed n) = specNode k B V x y cc σ n
  | .leaf pr hasPixels color shape clips => by
    unfold embed specFxNode specNode leafColor leafShape specStrokeObject
    simp only [useFill_plain, Bool.false_eq_true, if_false, specFinishFx_plain]
    have hcl : ∀ s, specFxClips k B force V x y s (embedList clips) = specClips k B V x y s clips :=
      fun s => specFxClips_embed k B force V x y s clips
    simp only [hcl, embedList_isEmpty]
  | .group pr passThrough children clips => by
    unfold embed specFxNode specNode
    simp only [specFinishFx_plain]
    have hcl : ∀ s, specFxClips k B force V x y s (embedList clips) = specClips k B V x y s clips :=
      fun s => specFxClips_embed k B force V x y s clips
    have hch : ∀ V' s, specFxList k B force V' x y s (embedList children) = specList k B V' x y s children :=
      fun V' s => specFxList_embed k B force V' x y s children
    simp only [hcl, hch, embedList_isEmpty]

theorem specFxList_embed (k : KoRule) (B : Mode → Color → Color → Color) (force : Bool) (V : Rect) (x y : Int) (σ : SState) :
    (ns : List Node) → specFxList k B force V x y σ (embedList ns) = specList k B V x y σ ns
  | [] => by unfold embedList specFxList specList; rfl
  | n :: rest => by
    unfold embedList specFxList specList
    rw [specFxNode_embed k B force V x y false σ n, specFxList_embed k B force V x y _ rest]

theorem specFxClips_embed (k : KoRule) (B : Mode → Color → Color → Color) (force : Bool) (V : Rect) (x y : Int) (σ : SState) :
    (ns : List Node) → specFxClips k B force V x y σ (embedList ns) = specClips k B V x y σ ns
  | [] => by unfold embedList specFxClips specClips; rfl
  | n :: rest => by
    unfold embedList specFxClips specClips
    rw [specFxNode_embed k B force V x y true σ n, specFxClips_embed k B force V x y _ rest]
end

/-- the plain compositor refines the plain published model (`KoRule.pdf17`): `applyFxNode_rel` on `embed n` -/
theorem applyNode_rel {B : Mode → Color → Color → Color} (hB : BOk B) (V : Rect) (x y : Int) (cc : Bool)
    (st : PState) (σ : SState) (hst : Inv st) (hr : Rel st σ) (n : Node) (hn : nodeOk n) :
    Rel (applyNode B V x y cc st n) (specNode .pdf17 B V x y cc σ n) := by
  rw [← applyFxNode_embed B false, ← specFxNode_embed .pdf17 B false]
  exact applyFxNode_rel hB false V x y cc st σ hst hr _ (embed_ok n hn)

theorem applyList_rel {B : Mode → Color → Color → Color} (hB : BOk B) (V : Rect) (x y : Int)
    (st : PState) (σ : SState) (hst : Inv st) (hr : Rel st σ) (ns : List Node) (h : listOk ns) :
    Rel (applyList B V x y st ns) (specList .pdf17 B V x y σ ns) := by
  rw [← applyFxList_embed B false, ← specFxList_embed .pdf17 B false]
  exact applyFxList_rel hB false V x y st σ hst hr _ (embedList_ok ns h)

theorem applyClips_rel {B : Mode → Color → Color → Color} (hB : BOk B) (V : Rect) (x y : Int)
    (st : PState) (σ : SState) (hst : Inv st) (hr : Rel st σ) (ns : List Node) (h : listOk ns) :
    Rel (applyClips B V x y st ns) (specClips .pdf17 B V x y σ ns) := by
  rw [← applyFxClips_embed B false, ← specFxClips_embed .pdf17 B false]
  exact applyFxClips_rel hB false V x y st σ hst hr _ (embedList_ok ns h)

theorem compositeDoc_rel {B : Mode → Color → Color → Color} (hB : BOk B) (V : Rect) (x y : Int) {color : Color}
    {alpha : Rat} (hc : ColorOk color) (ha : Unit01 alpha) (layers : List Node) (hl : listOk layers) :
    (compositeDoc B V x y color alpha layers).2.1 = (specDoc .pdf17 B V x y (fun ch => alpha * color ch) alpha layers).2.1 ∧
    (compositeDoc B V x y color alpha layers).2.2 = (specDoc .pdf17 B V x y (fun ch => alpha * color ch) alpha layers).2.2 ∧
    ∀ ch, (compositeDoc B V x y color alpha layers).1 ch * (compositeDoc B V x y color alpha layers).2.2
      = (specDoc .pdf17 B V x y (fun ch => alpha * color ch) alpha layers).1 ch := by
  have h := compositeFxDoc_rel hB false V x y hc ha _ (embedList_ok layers hl)
  rw [compositeFxDoc_embed] at h
  unfold specFxDoc at h
  rw [specFxList_embed] at h
  exact h

end PsdVerif.Composite
