-- GENERATED by harness/gen_lean_roots.py: every module of the library.
import PsdVerif.Generated.AllocSites
import PsdVerif.Generated.Attr
import PsdVerif.Generated.AttrTable
import PsdVerif.Generated.Blend
import PsdVerif.Generated.C02Formats
import PsdVerif.Generated.C02Guards
import PsdVerif.Generated.C03Save
import PsdVerif.Generated.ClipCompositor
import PsdVerif.Generated.ClipCurrent
import PsdVerif.Generated.ClipModes
import PsdVerif.Generated.Codec
import PsdVerif.Generated.CompState
import PsdVerif.Generated.CompositeFx
import PsdVerif.Generated.Compression
import PsdVerif.Generated.Creation
import PsdVerif.Generated.Descriptor
import PsdVerif.Generated.EnginePatterns
import PsdVerif.Generated.FreshTable
import PsdVerif.Generated.Globals
import PsdVerif.Generated.MergedPixels
import PsdVerif.Generated.OpenRegistry
import PsdVerif.Generated.Payload
import PsdVerif.Generated.Payload3
import PsdVerif.Generated.PixelSamples
import PsdVerif.Generated.Pixels
import PsdVerif.Generated.ReadLoops
import PsdVerif.Generated.ReadSeeks
import PsdVerif.Generated.Reopen
import PsdVerif.Generated.Rle
import PsdVerif.Generated.Strings
import PsdVerif.Generated.Switches
import PsdVerif.Generated.Terms
import PsdVerif.Generated.TreeKinds
import PsdVerif.Generated.TreeTable
import PsdVerif.Generated.TypedDoc
import PsdVerif.Generated.WriterTies
import PsdVerif.Lemmas.Attr
import PsdVerif.Lemmas.AttrTable
import PsdVerif.Lemmas.Blend
import PsdVerif.Lemmas.BlendLipschitz
import PsdVerif.Lemmas.BlendNonSep
import PsdVerif.Lemmas.Bytes
import PsdVerif.Lemmas.C03PixelsLengths
import PsdVerif.Lemmas.C03PixelsRle
import PsdVerif.Lemmas.Clip
import PsdVerif.Lemmas.ClipCompositor
import PsdVerif.Lemmas.ClipState
import PsdVerif.Lemmas.Codec
import PsdVerif.Lemmas.CodecLaws
import PsdVerif.Lemmas.CodecPsd1
import PsdVerif.Lemmas.CodecPsd2
import PsdVerif.Lemmas.CodecPsd3
import PsdVerif.Lemmas.CodecSamples
import PsdVerif.Lemmas.CompDelta
import PsdVerif.Lemmas.CompPred
import PsdVerif.Lemmas.CompRle
import PsdVerif.Lemmas.CompShuffle
import PsdVerif.Lemmas.Composite
import PsdVerif.Lemmas.CompositeEval
import PsdVerif.Lemmas.CompositeFx
import PsdVerif.Lemmas.CompositeFxEmbed
import PsdVerif.Lemmas.CompositeFxEval
import PsdVerif.Lemmas.CompositeFxLaws
import PsdVerif.Lemmas.CompositeFxRel
import PsdVerif.Lemmas.CompositeFxSim
import PsdVerif.Lemmas.CompositeGen
import PsdVerif.Lemmas.CompositeRect
import PsdVerif.Lemmas.CompositeSim
import PsdVerif.Lemmas.CompositeSpec
import PsdVerif.Lemmas.CompositeSpecEval
import PsdVerif.Lemmas.CompositeSpecKnockout
import PsdVerif.Lemmas.CompositeSpecRefine
import PsdVerif.Lemmas.CompositeTree
import PsdVerif.Lemmas.CompositeView
import PsdVerif.Lemmas.CostClassTable
import PsdVerif.Lemmas.CostTablesTied
import PsdVerif.Lemmas.Descriptor1
import PsdVerif.Lemmas.Descriptor2
import PsdVerif.Lemmas.Descriptor3
import PsdVerif.Lemmas.Descriptor4
import PsdVerif.Lemmas.DescriptorCost
import PsdVerif.Lemmas.DescriptorRawSize
import PsdVerif.Lemmas.DescriptorResave
import PsdVerif.Lemmas.EngineDataCost
import PsdVerif.Lemmas.EngineDataFloat
import PsdVerif.Lemmas.EngineDataParse
import PsdVerif.Lemmas.EngineDataScalars
import PsdVerif.Lemmas.EngineDataSpec
import PsdVerif.Lemmas.EngineDataString
import PsdVerif.Lemmas.EngineDataTokens
import PsdVerif.Lemmas.EngineDataTree
import PsdVerif.Lemmas.EngineRegexTied
import PsdVerif.Lemmas.FreshTable
import PsdVerif.Lemmas.Globals
import PsdVerif.Lemmas.Lenient1
import PsdVerif.Lemmas.Lenient2
import PsdVerif.Lemmas.LenientSamples
import PsdVerif.Lemmas.Merged
import PsdVerif.Lemmas.MergedPixels
import PsdVerif.Lemmas.MergedQuant
import PsdVerif.Lemmas.OpenCost1
import PsdVerif.Lemmas.OpenCost2
import PsdVerif.Lemmas.OpenCost3
import PsdVerif.Lemmas.OpenDispatch
import PsdVerif.Lemmas.OpenMain
import PsdVerif.Lemmas.OpenSamples
import PsdVerif.Lemmas.Payload3Adjust
import PsdVerif.Lemmas.Payload3Base
import PsdVerif.Lemmas.Payload3Curves
import PsdVerif.Lemmas.Payload3Filter
import PsdVerif.Lemmas.Payload3Resources
import PsdVerif.Lemmas.Payload3SampleFacts
import PsdVerif.Lemmas.Payload3Samples
import PsdVerif.Lemmas.Payload3Typed
import PsdVerif.Lemmas.Payload3Vector
import PsdVerif.Lemmas.PayloadBase
import PsdVerif.Lemmas.PayloadCost1
import PsdVerif.Lemmas.PayloadCost2
import PsdVerif.Lemmas.PayloadCostAdjust
import PsdVerif.Lemmas.PayloadCostDesc
import PsdVerif.Lemmas.PayloadCostEffects
import PsdVerif.Lemmas.PayloadCostFilter
import PsdVerif.Lemmas.PayloadCostPatterns
import PsdVerif.Lemmas.PayloadCostResources
import PsdVerif.Lemmas.PayloadCostSimple
import PsdVerif.Lemmas.PayloadCostVector
import PsdVerif.Lemmas.PayloadDescWrap
import PsdVerif.Lemmas.PayloadEffects
import PsdVerif.Lemmas.PayloadLayerInfo1
import PsdVerif.Lemmas.PayloadLayerInfo2
import PsdVerif.Lemmas.PayloadLinked
import PsdVerif.Lemmas.PayloadPatterns
import PsdVerif.Lemmas.PayloadResave
import PsdVerif.Lemmas.PayloadResave2
import PsdVerif.Lemmas.PayloadResave3
import PsdVerif.Lemmas.PayloadResaveDesc
import PsdVerif.Lemmas.PayloadResaveFmt
import PsdVerif.Lemmas.PayloadResaveSamples
import PsdVerif.Lemmas.PayloadResaveTyped
import PsdVerif.Lemmas.PayloadSampleFacts
import PsdVerif.Lemmas.PayloadSamples
import PsdVerif.Lemmas.PayloadSimple
import PsdVerif.Lemmas.PixelSamples
import PsdVerif.Lemmas.Pixels
import PsdVerif.Lemmas.Reopen
import PsdVerif.Lemmas.ReopenBridge
import PsdVerif.Lemmas.ReopenBytes
import PsdVerif.Lemmas.Rets
import PsdVerif.Lemmas.Rle
import PsdVerif.Lemmas.RleDec
import PsdVerif.Lemmas.Safe1
import PsdVerif.Lemmas.Safe2
import PsdVerif.Lemmas.Safe3
import PsdVerif.Lemmas.SafeCost1
import PsdVerif.Lemmas.SafeCost2
import PsdVerif.Lemmas.SafeCost3
import PsdVerif.Lemmas.SafeCost4
import PsdVerif.Lemmas.SafeSamples
import PsdVerif.Lemmas.TreeBasic
import PsdVerif.Lemmas.TreeDesc
import PsdVerif.Lemmas.TreeFrame
import PsdVerif.Lemmas.TreeFresh
import PsdVerif.Lemmas.TreeFreshPrim
import PsdVerif.Lemmas.TreeHistory
import PsdVerif.Lemmas.TreeInv
import PsdVerif.Lemmas.TreeParse
import PsdVerif.Lemmas.TreeRefine
import PsdVerif.Lemmas.TreeRefuse
import PsdVerif.Lemmas.TreeStep
import PsdVerif.Lemmas.TreeStep2
import PsdVerif.Lemmas.TreeTable
import PsdVerif.Lemmas.TyShCost
import PsdVerif.Lemmas.TypedBlocks1
import PsdVerif.Lemmas.TypedBlocks2
import PsdVerif.Lemmas.TypedDoc
import PsdVerif.Lemmas.TypedEngine
import PsdVerif.Lemmas.TypedSampleFacts
import PsdVerif.Lemmas.TypedSamples
import PsdVerif.Lemmas.Unicode
import PsdVerif.Lemmas.UnsafeLoops
import PsdVerif.Lemmas.Walker
import PsdVerif.Lemmas.WalkerFile
import PsdVerif.Lemmas.WalkerLayers
import PsdVerif.Lemmas.WalkerPayload
import PsdVerif.Model.Attr
import PsdVerif.Model.AttrTable
import PsdVerif.Model.Basic
import PsdVerif.Model.Blend
import PsdVerif.Model.Clip
import PsdVerif.Model.ClipCompositor
import PsdVerif.Model.ClipState
import PsdVerif.Model.Codec
import PsdVerif.Model.Composite
import PsdVerif.Model.CompositeEval
import PsdVerif.Model.CompositeFx
import PsdVerif.Model.CompositeFxEval
import PsdVerif.Model.CompositeFxSpec
import PsdVerif.Model.CompositeSpec
import PsdVerif.Model.CompositeSpecEval
import PsdVerif.Model.Compression
import PsdVerif.Model.CostTables
import PsdVerif.Model.Creation
import PsdVerif.Model.Descriptor
import PsdVerif.Model.DescriptorCost
import PsdVerif.Model.DescriptorKeys
import PsdVerif.Model.DescriptorRaw
import PsdVerif.Model.DescriptorTables
import PsdVerif.Model.EngineData
import PsdVerif.Model.EngineDataCost
import PsdVerif.Model.EngineRegex
import PsdVerif.Model.EngineRegexTables
import PsdVerif.Model.FreshState
import PsdVerif.Model.Globals
import PsdVerif.Model.LegacyName
import PsdVerif.Model.Merged
import PsdVerif.Model.MergedPixels
import PsdVerif.Model.OpenCost
import PsdVerif.Model.OpenDispatch
import PsdVerif.Model.OpenMain
import PsdVerif.Model.Payload3Adjust
import PsdVerif.Model.Payload3Base
import PsdVerif.Model.Payload3Filter
import PsdVerif.Model.Payload3Resources
import PsdVerif.Model.Payload3Tables
import PsdVerif.Model.Payload3Typed
import PsdVerif.Model.Payload3Vector
import PsdVerif.Model.PayloadBase
import PsdVerif.Model.PayloadCost
import PsdVerif.Model.PayloadCostAdjust
import PsdVerif.Model.PayloadCostDesc
import PsdVerif.Model.PayloadCostEffects
import PsdVerif.Model.PayloadCostFilter
import PsdVerif.Model.PayloadCostPatterns
import PsdVerif.Model.PayloadCostResources
import PsdVerif.Model.PayloadCostSimple
import PsdVerif.Model.PayloadCostVector
import PsdVerif.Model.PayloadDescWrap
import PsdVerif.Model.PayloadEffects
import PsdVerif.Model.PayloadLayerInfo
import PsdVerif.Model.PayloadLinked
import PsdVerif.Model.PayloadPatterns
import PsdVerif.Model.PayloadResave
import PsdVerif.Model.PayloadResaveTables
import PsdVerif.Model.PayloadSimple
import PsdVerif.Model.PayloadTables
import PsdVerif.Model.PixelSamples
import PsdVerif.Model.Pixels
import PsdVerif.Model.Psd
import PsdVerif.Model.PsdCost
import PsdVerif.Model.Reopen
import PsdVerif.Model.Rle
import PsdVerif.Model.Switches
import PsdVerif.Model.TreeParse
import PsdVerif.Model.TreeSpec
import PsdVerif.Model.TreeState
import PsdVerif.Model.TreeTable
import PsdVerif.Model.TyShCost
import PsdVerif.Model.TypedBlocks
import PsdVerif.Model.TypedDoc
import PsdVerif.Model.TypedEngine
import PsdVerif.Model.TypedTables
import PsdVerif.Model.Unicode
import PsdVerif.Model.UnsafeLoops
import PsdVerif.Model.Walker
import PsdVerif.Model.WalkerPayload
import PsdVerif.Props.C01
import PsdVerif.Props.C01Descriptor
import PsdVerif.Props.C01Payload
import PsdVerif.Props.C01Payload3
import PsdVerif.Props.C01Typed
import PsdVerif.Props.C02
import PsdVerif.Props.C02Payload
import PsdVerif.Props.C03
import PsdVerif.Props.C03Creation
import PsdVerif.Props.C03Payload
import PsdVerif.Props.C03Pixels
import PsdVerif.Props.C04
import PsdVerif.Props.C05
import PsdVerif.Props.C06
import PsdVerif.Props.C07
import PsdVerif.Props.C07Samples
import PsdVerif.Props.C08
import PsdVerif.Props.C09
import PsdVerif.Props.C09Reopen
import PsdVerif.Props.C10
import PsdVerif.Props.C11
import PsdVerif.Props.C11Fx
import PsdVerif.Props.C11State
import PsdVerif.Props.C12
import PsdVerif.Props.C13
import PsdVerif.Props.C13Fx
import PsdVerif.Props.C14
import PsdVerif.Props.C15
import PsdVerif.Props.C16
import PsdVerif.Props.C17
import PsdVerif.Props.C17Pixels
import PsdVerif.Props.C18
import PsdVerif.Props.C19
import PsdVerif.Props.C20
